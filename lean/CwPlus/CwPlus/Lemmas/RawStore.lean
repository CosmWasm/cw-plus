import CwPlus.Base.RawStore
/-!
# Lemmas about the byte-level key layout (`Base/RawStore.lean`)

Injectivity of every ingredient of a storage key (UTF-8 bytes of a string, 2-byte length, 8-byte height,
length-prefixed components: a prefix-free code), reading a store section by section, and the round trip of
the decimal rendering.  The statements of C09's raw-key clause are in `Props/C09Raw.lean`.  Core only.
-/
namespace CwPlus.RawStore

/-! ## Strings, lengths, heights -/

theorem strBytes_inj {a b : String} (h : strBytes a = strBytes b) : a = b := by
  unfold strBytes at h
  have h1 := (List.map_inj_right (fun x y h => UInt8.toNat_inj.mp h)).mp h
  have h2 : a.toUTF8.data = b.toUTF8.data := Array.toList_inj.mp h1
  have h3 : a.toUTF8 = b.toUTF8 := by
    cases ha : a.toUTF8; cases hb : b.toUTF8; simp_all
  exact String.toByteArray_inj.mp h3

theorem strBytes_lt (s : String) : ∀ b ∈ strBytes s, b < 256 := by
  intro b hb
  unfold strBytes at hb
  simp at hb
  obtain ⟨x, _, rfl⟩ := hb
  exact x.toNat_lt

theorem len2_inj {a b : Nat} (ha : a ≤ 0xFFFF) (hb : b ≤ 0xFFFF) (h : len2 a = len2 b) : a = b := by
  simp [len2] at h
  omega

theorem len2_length (n : Nat) : (len2 n).length = 2 := rfl

theorem be8_length (n : Nat) : (be8 n).length = 8 := rfl

theorem eq_of_digits_eq : ∀ (k : Nat) {a b : Nat}, a < 256 ^ k → b < 256 ^ k →
    (∀ i < k, a / 256 ^ i % 256 = b / 256 ^ i % 256) → a = b
  | 0, a, b, ha, hb, _ => by omega
  | k + 1, a, b, ha, hb, h => by
    rw [Nat.pow_succ'] at ha hb
    have hd : a / 256 = b / 256 :=
      eq_of_digits_eq k (Nat.div_lt_of_lt_mul ha) (Nat.div_lt_of_lt_mul hb) fun i hi => by
        simpa only [Nat.div_div_eq_div_mul, ← Nat.pow_succ'] using h (i + 1) (Nat.succ_lt_succ hi)
    have hm : a % 256 = b % 256 := by simpa using h 0 (Nat.succ_pos k)
    rw [← Nat.div_add_mod a 256, ← Nat.div_add_mod b 256, hd, hm]

theorem be8_inj {a b : Nat} (ha : a < 2 ^ 64) (hb : b < 2 ^ 64) (h : be8 a = be8 b) : a = b := by
  simp only [be8, List.cons.injEq, and_true] at h
  obtain ⟨h7, h6, h5, h4, h3, h2, h1, h0⟩ := h
  -- the entries of `be8` are the digits `a / 256 ^ i % 256`, `i = 7, …, 0` (`2 ^ (8 * i)` is `256 ^ i` by evaluation)
  refine eq_of_digits_eq 8 ha hb fun i hi => ?_
  match i, hi with
  | 0, _ => simpa using h0
  | 1, _ => exact h1
  | 2, _ => exact h2
  | 3, _ => exact h3
  | 4, _ => exact h4
  | 5, _ => exact h5
  | 6, _ => exact h6
  | 7, _ => exact h7

theorem be8_lt (n : Nat) : ∀ b ∈ be8 n, b < 256 := by
  intro b hb
  simp [be8] at hb
  omega

/-! ## Length-prefixed components are a prefix-free code -/

theorem lp_append_inj {a b x y : Bytes} (ha : a.length ≤ 0xFFFF) (hb : b.length ≤ 0xFFFF)
    (h : lp a ++ x = lp b ++ y) : a = b ∧ x = y := by
  unfold lp at h
  rw [List.append_assoc, List.append_assoc] at h
  have h1 := List.append_inj h (by simp [len2_length])
  have hl : a.length = b.length := len2_inj ha hb h1.1
  exact List.append_inj h1.2 hl

theorem flatMap_lp_append_inj : ∀ {ps qs : List Bytes} {x y : Bytes}, ps.length = qs.length →
    (∀ p ∈ ps, p.length ≤ 0xFFFF) → (∀ q ∈ qs, q.length ≤ 0xFFFF) →
    ps.flatMap lp ++ x = qs.flatMap lp ++ y → ps = qs ∧ x = y
  | [], [], _, _, _, _, _, h => ⟨rfl, by simpa using h⟩
  | [], _ :: _, _, _, hl, _, _, _ => by simp at hl
  | _ :: _, [], _, _, hl, _, _, _ => by simp at hl
  | p :: ps, q :: qs, x, y, hl, hp, hq, h => by
    simp only [List.flatMap_cons, List.append_assoc] at h
    obtain ⟨rfl, h'⟩ := lp_append_inj (hp p (by simp)) (hq q (by simp)) h
    obtain ⟨rfl, rfl⟩ := flatMap_lp_append_inj (by simpa using hl)
      (fun p' hp' => hp p' (by simp [hp'])) (fun q' hq' => hq q' (by simp [hq'])) h'
    exact ⟨rfl, rfl⟩

theorem mapKey_eq (ns : Bytes) (parts : List Bytes) (last : Bytes) :
    mapKey ns parts last = lp ns ++ nsKey parts last := by
  simp [mapKey, nsKey]

/-- The first two bytes of a map key are the length of its namespace. -/
theorem mapKey_cons (ns : Bytes) (parts : List Bytes) (last : Bytes) :
    mapKey ns parts last = (ns.length / 256 % 256) :: (ns.length % 256) :: (ns ++ nsKey parts last) := by
  simp [mapKey_eq, lp, len2]

theorem mapKey_ns_inj {ns ns' : Bytes} {ps qs : List Bytes} {k k' : Bytes} (h1 : ns.length ≤ 0xFFFF)
    (h2 : ns'.length ≤ 0xFFFF) (h : mapKey ns ps k = mapKey ns' qs k') : ns = ns' ∧ nsKey ps k = nsKey qs k' := by
  rw [mapKey_eq, mapKey_eq] at h
  exact lp_append_inj h1 h2 h

/-! ## Reading a store -/

theorem get?_append (a b : Store) (k : Bytes) : get? (a ++ b) k = (get? a k).or (get? b k) := by
  induction a with
  | nil => simp [get?]
  | cons e rest ih =>
    obtain ⟨k', v⟩ := e
    by_cases h : k' = k <;> simp [get?, h, ih]

theorem get?_eq_none_iff {st : Store} {k : Bytes} : get? st k = none ↔ k ∉ keys st := by
  induction st with
  | nil => simp [get?, keys]
  | cons e rest ih =>
    obtain ⟨k', v⟩ := e
    by_cases h : k' = k
    · simp [get?, keys, h]
    · simp [get?, h, keys] at ih ⊢
      constructor
      · intro hn; exact ⟨fun e => h e.symm, ih.mp hn⟩
      · intro hn; exact ih.mpr hn.2

theorem get?_eq_none {st : Store} {k : Bytes} (h : ∀ e ∈ st, e.1 ≠ k) : get? st k = none :=
  get?_eq_none_iff.mpr fun hk => by
    obtain ⟨e, he, rfl⟩ := List.mem_map.mp hk
    exact h e he rfl

theorem get?_map_inj {κ ν : Type} [DecidableEq κ] (f : κ → Bytes) (g : ν → Val)
    (hf : ∀ a b, f a = f b → a = b) (m : AMap κ ν) (a : κ) :
    get? (m.map fun p => (f p.1, g p.2)) (f a) = (AMap.get? m a).map g := by
  induction m with
  | nil => rfl
  | cons p rest ih =>
    obtain ⟨k, v⟩ := p
    by_cases h : k = a
    · subst h; simp [get?, AMap.get?]
    · have : f k ≠ f a := fun e => h (hf _ _ e)
      simp [get?, AMap.get?, h, this, ih]

/-! ## Decimal digits -/

theorem parseAcc_append (xs : Bytes) (d acc : Nat) :
    parseAcc (xs ++ [d]) acc = (parseAcc xs acc).bind fun a => if 48 ≤ d ∧ d ≤ 57 then some (a * 10 + (d - 48)) else none := by
  induction xs generalizing acc with
  | nil => simp [parseAcc]
  | cons x xs ih =>
    simp only [List.cons_append, parseAcc]
    split
    · exact ih _
    · rfl

theorem div10_lt {n f : Nat} (h : n < 10 ^ (f + 2)) : n / 10 < 10 ^ (f + 1) := by
  apply Nat.div_lt_of_lt_mul
  rw [Nat.pow_succ] at h
  omega

theorem digitsAux_fuel : ∀ (f g n : Nat), n < 10 ^ (f + 1) → n < 10 ^ (g + 1) → digitsAux f n = digitsAux g n
  | 0, 0, _, _, _ => rfl
  | 0, g + 1, n, h, _ => by
    have : n < 10 := by simpa using h
    simp [digitsAux, this]
  | f + 1, 0, n, _, h => by
    have : n < 10 := by simpa using h
    simp [digitsAux, this]
  | f + 1, g + 1, n, hf, hg => by
    simp only [digitsAux]
    split
    · rfl
    · rw [digitsAux_fuel f g (n / 10) (div10_lt hf) (div10_lt hg)]

theorem lt_ten_pow_succ (n : Nat) : n < 10 ^ (n + 1) :=
  Nat.lt_trans (Nat.lt_pow_self (by decide : 1 < 10)) (Nat.pow_lt_pow_right (by decide) (Nat.lt_succ_self n))

theorem natDigits_unfold (n : Nat) :
    natDigits n = if n < 10 then [48 + n] else natDigits (n / 10) ++ [48 + n % 10] := by
  unfold natDigits
  cases n with
  | zero => rfl
  | succ m =>
    simp only [digitsAux]
    split
    · rfl
    · rename_i h
      rw [digitsAux_fuel m ((m + 1) / 10) ((m + 1) / 10) (div10_lt (lt_ten_pow_succ (m + 1))) (lt_ten_pow_succ _)]

theorem parseAcc_natDigits (n : Nat) : parseAcc (natDigits n) 0 = some n := by
  induction n using Nat.strongRecOn with
  | _ n ih =>
    rw [natDigits_unfold]
    split
    · rename_i h
      simp [parseAcc]
      omega
    · rename_i h
      rw [parseAcc_append, ih (n / 10) (by omega)]
      simp
      omega

theorem natDigits_ne_nil (n : Nat) : natDigits n ≠ [] := by
  rw [natDigits_unfold]
  split <;> simp

theorem parseNat_natDigits (n : Nat) : parseNat (natDigits n) = some n := by
  simp [parseNat, natDigits_ne_nil, parseAcc_natDigits]

theorem natDigits_inj {a b : Nat} (h : natDigits a = natDigits b) : a = b := by
  have := parseNat_natDigits a
  rw [h, parseNat_natDigits] at this
  exact (Option.some.inj this).symm

theorem natDigits_lt (n : Nat) : ∀ b ∈ natDigits n, 48 ≤ b ∧ b ≤ 57 := by
  induction n using Nat.strongRecOn with
  | _ n ih =>
    rw [natDigits_unfold]
    split
    · intro b hb; simp at hb; omega
    · intro b hb
      simp at hb
      rcases hb with hb | hb
      · exact ih (n / 10) (by omega) b hb
      · omega

end CwPlus.RawStore
