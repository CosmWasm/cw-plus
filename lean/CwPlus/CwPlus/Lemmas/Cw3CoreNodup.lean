import CwPlus.Lemmas.Cw3Core
import CwPlus.Lemmas.Paginate
/-!
# cw3 core: `PROPOSALS` never holds an id twice; the proposal listings as pages

* `propose/vote/execute/close_nodup`: the four core operations only `set` entries of `PROPOSALS`, so
  `AMap.NodupKeys c.proposals` is preserved (the ballots of one proposal are covered by `WF.nodup`);
* `pageDesc_eq`: the model's own descending page (`Cw3Core.pageDesc`: filter the ascending listing, reverse,
  take) is `Paginate.pageDesc` on the descending listing;
* `viewAll_eq_map`: when the status of every listed proposal is computable at the query block,
  `viewAll` is a plain `map` (and otherwise it fails: `viewAll_ok_all`).
-/
namespace CwPlus.Cw3Core
open CwPlus CwPlus.Cw3 CwPlus.Paginate

theorem propose_nodup {c c' : Core} {blk : Block} {snd : Addr} {w : Nat} {thr : Threshold} {total : Nat} {maxP : Duration}
    {t d : String} {msgs : List Msg} {latest : Option Expiration} {dep : Option Deposit} {id : Nat}
    (h : propose c blk snd w thr total maxP t d msgs latest dep = .ok (c', id)) (hn : AMap.NodupKeys c.proposals) :
    AMap.NodupKeys c'.proposals := by
  obtain ⟨_, _, _, _, _, _, rfl⟩ := propose_ok h
  exact AMap.nodup_set hn

theorem vote_nodup {c c' : Core} {blk : Block} {snd : Addr} {id : Nat} {v : Vote} {weight : Proposal → Option Nat}
    (h : vote c blk snd id v weight = .ok c') (hn : AMap.NodupKeys c.proposals) : AMap.NodupKeys c'.proposals := by
  obtain ⟨_, _, _, _, _, _, _, _, _, _, _, _, rfl⟩ := vote_ok h
  exact AMap.nodup_set hn

theorem execute_nodup {c c' : Core} {blk : Block} {id : Nat} {auth : Bool} {out : List Msg}
    (h : execute c blk id auth = .ok (c', out)) (hn : AMap.NodupKeys c.proposals) : AMap.NodupKeys c'.proposals := by
  obtain ⟨_, _, _, _, _, rfl⟩ := execute_ok h
  exact AMap.nodup_set hn

theorem close_nodup {c c' : Core} {blk : Block} {id : Nat} (h : close c blk id = .ok c')
    (hn : AMap.NodupKeys c.proposals) : AMap.NodupKeys c'.proposals := by
  obtain ⟨_, _, _, _, _, _, _, _, _, rfl⟩ := close_ok h
  exact AMap.nodup_set hn

theorem nodup_empty : AMap.NodupKeys Core.empty.proposals := List.nodup_nil

theorem pageDesc_eq_reverse {κ ν : Type} (lt : κ → κ → Bool) (xs : List (κ × ν)) (before : Option κ)
    (limit : Option Nat) : Cw3Core.pageDesc lt xs before limit = Paginate.pageDesc lt xs.reverse before limit := by
  cases before with
  | none => rfl
  | some c => simp [Cw3Core.pageDesc, Paginate.pageDesc, page, afterCursor, List.filter_reverse]

theorem mem_pageDesc {κ ν : Type} (lt : κ → κ → Bool) (xs : List (κ × ν)) (before : Option κ) (limit : Option Nat)
    {x : κ × ν} (h : x ∈ Cw3Core.pageDesc lt xs before limit) : x ∈ xs := by
  rw [pageDesc_eq_reverse] at h
  exact List.mem_reverse.mp ((page_sublist _ _ _ _).subset h)

/-- `reverse_proposals` pages through the descending storage order. -/
theorem pageDesc_eq {κ ν : Type} [DecidableEq κ] {lt : κ → κ → Bool} (ht : StrictTotal lt) {m : AMap κ ν}
    (hm : AMap.NodupKeys m) (before : Option κ) (limit : Option Nat) :
    Cw3Core.pageDesc lt (sortedEntries lt m) before limit = Paginate.pageDesc lt (sortedEntriesDesc lt m) before limit := by
  rw [pageDesc_eq_reverse, sortedEntriesDesc_eq_reverse hm ht]

theorem pageDesc_length_le {κ ν : Type} (lt : κ → κ → Bool) (xs : List (κ × ν)) (before : Option κ)
    (limit : Option Nat) : (Cw3Core.pageDesc lt xs before limit).length ≤ effLimit limit := by
  rw [pageDesc_eq_reverse]; exact Paginate.pageDesc_length_le _ _ _ _

/-- The view of a stored proposal whose status is computable (the stored status otherwise; never used then). -/
def viewD (blk : Block) (x : Nat × Proposal) : ProposalView :=
  { id := x.1, title := x.2.title, description := x.2.description, msgs := x.2.msgs,
    status := (match x.2.currentStatus blk with | .ok st => st | .error _ => x.2.status),
    expires := x.2.expires, deposit := x.2.deposit, proposer := x.2.proposer, threshold := x.2.threshold,
    totalWeight := x.2.totalWeight }

@[simp] theorem viewD_id (blk : Block) (x : Nat × Proposal) : (viewD blk x).id = x.1 := rfl

theorem viewOf_eq_viewD {blk : Block} {id : Nat} {p : Proposal} {st : Status} (h : p.currentStatus blk = .ok st) :
    viewOf blk id p = .ok (viewD blk (id, p)) := by
  simp [viewOf, viewD, h, bind, Except.bind, pure, Except.pure]

theorem viewOf_error {blk : Block} {id : Nat} {p : Proposal} {e : String} (h : p.currentStatus blk = .error e) :
    viewOf blk id p = .error e := by
  simp [viewOf, h, bind, Except.bind]

theorem viewAll_eq_map {blk : Block} : ∀ {l : List (Nat × Proposal)},
    (∀ x ∈ l, ∃ st, x.2.currentStatus blk = .ok st) → viewAll blk l = .ok (l.map (viewD blk))
  | [], _ => rfl
  | (id, p) :: rest, h => by
    obtain ⟨st, hst⟩ := h (id, p) (by simp)
    have ih := viewAll_eq_map (blk := blk) (l := rest) (fun x hx => h x (List.mem_cons_of_mem _ hx))
    simp [viewAll, viewOf_eq_viewD hst, ih, bind, Except.bind, pure, Except.pure]

theorem viewAll_ok_all {blk : Block} : ∀ {l : List (Nat × Proposal)} {vs : List ProposalView},
    viewAll blk l = .ok vs → (∀ x ∈ l, ∃ st, x.2.currentStatus blk = .ok st) ∧ vs = l.map (viewD blk)
  | [], vs, h => by simp [viewAll] at h; subst h; simp
  | (id, p) :: rest, vs, h => by
    cases hst : p.currentStatus blk with
    | error e => simp [viewAll, viewOf_error hst, bind, Except.bind] at h
    | ok st =>
      simp only [viewAll, viewOf_eq_viewD hst] at h
      cases hr : viewAll blk rest with
      | error e => simp [hr, bind, Except.bind] at h
      | ok vs' =>
        simp [hr, bind, Except.bind, pure, Except.pure] at h
        obtain ⟨hall, rfl⟩ := viewAll_ok_all hr
        subst h
        refine ⟨?_, by simp⟩
        intro x hx
        rcases List.mem_cons.mp hx with rfl | hx
        · exact ⟨st, hst⟩
        · exact hall x hx

theorem viewAll_length {blk : Block} {l : List (Nat × Proposal)} {vs : List ProposalView}
    (h : viewAll blk l = .ok vs) : vs.length = l.length := by
  rw [(viewAll_ok_all h).2, List.length_map]

end CwPlus.Cw3Core
