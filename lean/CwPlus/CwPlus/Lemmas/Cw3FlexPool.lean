import CwPlus.Lemmas.Cw3Flex
import CwPlus.Lemmas.Cw20
/-!
# cw3-flex world: what the runtime's money movements do to one account

Point-wise effect of the three ways balances change in `Model/Cw3Flex.lean`:

* `Cw3Fixed.bankSend` (a `BankMsg::Send` of one coin; also each coin of `info.funds`): `bankSend_get`,
* `moveFunds` (the funds attached to a transaction, moved before the handler runs): `moveFunds_get_to`,
* `Cw20.execute` on the deposit token, seen from one account `a`:
  - sent by somebody else, while `a` has granted no allowance: `a`'s balance does not decrease and `a` still has
    granted no allowance (`cw20_external`),
  - `Transfer` sent by `a` itself: the balance drops by at most the amount (`cw20_transfer_self`),
  - `TransferFrom { owner, recipient }` with `a` as spender: the owner is not `a` (it granted nothing), `a`'s balance
    grows by the amount when `a` is the recipient (`cw20_transferFrom_self`).

Used by the deposit-pool accounting of `Props/C15.lean`.
-/
namespace CwPlus.Cw3Flex
open CwPlus CwPlus.Cw3 CwPlus.Cw3Core

/-- Exact effect of a successful `bankSend` on every `(account, denom)` entry (covers `frm = to`: net zero). -/
theorem bankSend_get {bank b : AMap (Addr × String) Nat} {frm to : Addr} {amt : Nat} {denom : String}
    (h : Cw3Fixed.bankSend bank frm to amt denom = .ok b) (x : Addr) (d : String) :
    amt ≠ 0 ∧ amt ≤ (bank.get? (frm, denom)).getD 0 ∧
    (b.get? (x, d)).getD 0 =
      if d = denom then
        (if x = to then (if to = frm then (bank.get? (frm, denom)).getD 0 else (bank.get? (to, denom)).getD 0 + amt)
         else if x = frm then (bank.get? (frm, denom)).getD 0 - amt else (bank.get? (x, d)).getD 0)
      else (bank.get? (x, d)).getD 0 := by
  simp [Cw3Fixed.bankSend] at h
  obtain ⟨hne, hle, _, rfl⟩ := h
  refine ⟨hne, hle, ?_⟩
  simp only [AMap.get?_set, Prod.mk.injEq]
  by_cases hd : d = denom
  · subst hd
    by_cases hx : x = to
    · subst hx
      by_cases hf : x = frm
      · subst hf; simp; omega
      · simp [hf, Ne.symm hf]
    · by_cases hf : x = frm
      · subst hf; simp [hx, Ne.symm hx]
      · simp [hx, hf, Ne.symm hx, Ne.symm hf]
  · simp [hd, Ne.symm hd]

/-- A send *by* `a`: `a`'s holding of denom `d` drops by at most the amount, and not at all for another denom. -/
theorem bankSend_from {bank b : AMap (Addr × String) Nat} {a to : Addr} {amt : Nat} {denom : String}
    (h : Cw3Fixed.bankSend bank a to amt denom = .ok b) (d : String) :
    (bank.get? (a, d)).getD 0 ≤ (b.get? (a, d)).getD 0 + (if denom = d then amt else 0) := by
  obtain ⟨_, hle, hg⟩ := bankSend_get h a d
  rw [hg]
  by_cases hd : d = denom
  · subst hd
    by_cases ht : a = to
    · subst ht; simp
    · simp [ht]; omega
  · have : ¬ denom = d := fun e => hd e.symm
    simp [hd, this]

/-- A send *to* `a` by somebody else: `a`'s holding of the coin's denom grows by exactly the amount. -/
theorem bankSend_to {bank b : AMap (Addr × String) Nat} {frm a : Addr} {amt : Nat} {denom : String}
    (h : Cw3Fixed.bankSend bank frm a amt denom = .ok b) (hne : frm ≠ a) (d : String) :
    (b.get? (a, d)).getD 0 = (bank.get? (a, d)).getD 0 + (if denom = d then amt else 0) := by
  obtain ⟨_, _, hg⟩ := bankSend_get h a d
  rw [hg]
  have hne' : ¬ a = frm := fun e => hne e.symm
  by_cases hd : d = denom
  · subst hd; simp [hne']
  · have : ¬ denom = d := fun e => hd e.symm
    simp [hd, this]

/-- Σ of the amounts of the coins of denom `d` in `info.funds`. -/
def fundsOf (d : String) (funds : List Coin) : Nat := ((funds.filter (fun c => c.denom = d)).map (·.amount)).sum

@[simp] theorem fundsOf_nil (d : String) : fundsOf d [] = 0 := rfl

theorem fundsOf_cons (d : String) (c : Coin) (rest : List Coin) :
    fundsOf d (c :: rest) = (if c.denom = d then c.amount else 0) + fundsOf d rest := by
  unfold fundsOf
  by_cases h : c.denom = d <;> simp [h]

theorem moveCoins_get_to {frm a : Addr} (hne : frm ≠ a) (d : String) :
    ∀ (funds : List Coin) (bank b : AMap (Addr × String) Nat), moveCoins bank frm a funds = .ok b →
      (b.get? (a, d)).getD 0 = (bank.get? (a, d)).getD 0 + fundsOf d funds
  | [], bank, b, h => by simp [moveCoins] at h; subst h; simp
  | c :: rest, bank, b, h => by
    simp only [moveCoins, Res.bind_ok] at h
    obtain ⟨b1, h1, h2⟩ := h
    rw [moveCoins_get_to hne d rest b1 b h2, fundsOf_cons]
    by_cases hz : c.amount = 0
    · simp [hz] at h1; subst h1; simp [hz]
    · simp only [hz, if_false] at h1
      rw [bankSend_to h1 hne d]; omega

/-- The funds attached to a transaction by somebody other than the receiving contract `a`: `a`'s holding of every
denom grows by exactly what `info.funds` carries of it. -/
theorem moveFunds_get_to {bank b : AMap (Addr × String) Nat} {frm a : Addr} {funds : List Coin}
    (h : moveFunds bank frm a funds = .ok b) (hne : frm ≠ a) (d : String) :
    (b.get? (a, d)).getD 0 = (bank.get? (a, d)).getD 0 + fundsOf d funds := by
  unfold moveFunds at h
  split at h
  · rename_i he
    simp at h; subst h
    have : funds = [] := by simpa using he
    subst this; simp
  · split at h
    · simp at h
    · exact moveCoins_get_to hne d funds bank b h

/-- `a` has granted no allowance (no `ALLOWANCES` entry with owner `a`). -/
def NoGrant (t : Cw20.State) (a : Addr) : Prop := ∀ sp, t.allow.get? (a, sp) = none

theorem noGrant_set {t : Cw20.State} {a o sp : Addr} (h : NoGrant t a) (ho : o ≠ a) (v : Cw20.Allowance)
    (al : AMap (Addr × Addr) Cw20.Allowance) (hal : al = t.allow.set (o, sp) v) : ∀ sp', al.get? (a, sp') = none := by
  intro sp'
  subst hal
  have : (o, sp) ≠ (a, sp') := by intro e; cases e; exact ho rfl
  rw [AMap.get?_set_ne _ _ _ _ this]; exact h sp'

theorem noGrant_erase {t : Cw20.State} {a : Addr} (h : NoGrant t a) (k : Addr × Addr) :
    ∀ sp', (t.allow.erase k).get? (a, sp') = none := by
  intro sp'
  rw [AMap.get?_erase]; split
  · rfl
  · exact h sp'

/-- `deduct_allowance(owner, spender)` succeeds only for an owner that has granted something. -/
theorem deduct_owner_ne {t t1 : Cw20.State} {blk : Block} {o sp a : Addr} {amt : Nat}
    (h : Cw20.deduct t blk o sp amt = .ok t1) (hn : NoGrant t a) :
    o ≠ a ∧ NoGrant t1 a := by
  obtain ⟨al, al2, h1, _, _, _, _, _, rfl⟩ := Cw20.deduct_ok_iff.mp h
  have ho : o ≠ a := by intro e; subst e; rw [hn sp] at h1; cases h1
  exact ⟨ho, noGrant_set hn ho _ _ rfl⟩

theorem debit_ne {b b' : AMap Addr Nat} {x a : Addr} {amt : Nat} (h : Cw20.debit b x amt = .ok b') (hne : x ≠ a) :
    (b'.get? a).getD 0 = (b.get? a).getD 0 := by
  have hne' : ¬ a = x := fun e => hne e.symm
  rw [Cw20.debit_get h a, if_neg hne']

/-- A debit of somebody else followed by a credit lowers no balance of `a`. -/
theorem move_ge {b b1 b2 : AMap Addr Nat} {x y a : Addr} {amt : Nat} (h1 : Cw20.debit b x amt = .ok b1)
    (h2 : Cw20.credit b1 y amt = .ok b2) (hne : x ≠ a) : (b.get? a).getD 0 ≤ (b2.get? a).getD 0 := by
  have := Cw20.credit_ge h2 a
  rwa [debit_ne h1 hne] at this

/-- **The token seen from an account that granted no allowance, when somebody else sends the message**: whatever the
message (all twelve `ExecuteMsg` variants), the account's balance does not decrease and it still has granted nothing. -/
theorem cw20_external {t t' : Cw20.State} {blk : Block} {snd a : Addr} {m : Cw20.Msg} {out : List Cw20.Out}
    (h : Cw20.execute t blk snd m = .ok (t', out)) (hne : snd ≠ a) (hn : NoGrant t a) :
    NoGrant t' a ∧ Cw20.bal t a ≤ Cw20.bal t' a := by
  obtain ⟨_, hal, _, hbal, _⟩ := Cw20.execute_frame h
  -- a message that writes no allowance, resp. no balance
  have keep : t'.allow = t.allow → NoGrant t' a := fun e sp => e ▸ hn sp
  have same : t'.balances = t.balances → Cw20.bal t a ≤ Cw20.bal t' a := fun e => by simp [Cw20.bal, e]
  cases m with
  | transfer to amt =>
    obtain ⟨_, b1, b2, h1, h2, rfl, _⟩ := Cw20.execTransfer_ok h
    exact ⟨hn, move_ge h1 h2 hne⟩
  | burn amt =>
    obtain ⟨b1, h1, _, rfl, _⟩ := Cw20.execBurn_ok h
    exact ⟨hn, Nat.le_of_eq (debit_ne h1 hne).symm⟩
  | send c amt p =>
    obtain ⟨_, b1, b2, h1, h2, rfl, _⟩ := Cw20.execSend_ok h
    exact ⟨hn, move_ge h1 h2 hne⟩
  | mint to amt =>
    obtain ⟨b, h1, hb, _⟩ := Cw20.execMint_ok h
    refine ⟨keep hal.1, ?_⟩
    simp only [Cw20.bal, hb]; exact Cw20.credit_ge h1 a
  | updateMinter new => exact ⟨keep hal.1, same hbal.1⟩
  | updateMarketing p d mk => exact ⟨keep hal.1, same hbal.1⟩
  | uploadLogo l => exact ⟨keep hal.1, same hbal.1⟩
  | increaseAllowance sp amt e =>
    obtain ⟨_, _, _, _, _, rfl, _⟩ := Cw20.execIncreaseAllowance_ok h
    exact ⟨noGrant_set hn hne _ _ rfl, Nat.le_refl _⟩
  | decreaseAllowance sp amt e =>
    obtain ⟨_, _, old, _, _, hc⟩ := Cw20.execDecreaseAllowance_ok h
    rcases hc with ⟨_, _, rfl⟩ | ⟨_, rfl⟩
    · exact ⟨noGrant_set hn hne _ _ rfl, Nat.le_refl _⟩
    · exact ⟨noGrant_erase hn _, Nat.le_refl _⟩
  | transferFrom o to amt =>
    obtain ⟨_, _, s1, b1, b2, hd, h1, h2, rfl, _⟩ := Cw20.execTransferFrom_ok h
    obtain ⟨ho, hn1⟩ := deduct_owner_ne hd hn
    exact ⟨hn1, move_ge h1 h2 ho⟩
  | burnFrom o amt =>
    obtain ⟨_, s1, b1, hd, h1, _, rfl, _⟩ := Cw20.execBurnFrom_ok h
    obtain ⟨ho, hn1⟩ := deduct_owner_ne hd hn
    exact ⟨hn1, Nat.le_of_eq (debit_ne h1 ho).symm⟩
  | sendFrom o c amt p =>
    obtain ⟨_, _, s1, b1, b2, hd, h1, h2, rfl, _⟩ := Cw20.execSendFrom_ok h
    obtain ⟨ho, hn1⟩ := deduct_owner_ne hd hn
    exact ⟨hn1, move_ge h1 h2 ho⟩

/-- `Transfer { recipient, amount }` sent by `a` itself: the balance drops by at most the amount (not at all when
`a` is the recipient), the debit was covered, no allowance changes. -/
theorem cw20_transfer_self {t t' : Cw20.State} {blk : Block} {a : Addr} {to : Cw20.AddrArg} {amt : Nat}
    {out : List Cw20.Out} (h : Cw20.execute t blk a (.transfer to amt) = .ok (t', out)) :
    t'.allow = t.allow ∧ amt ≤ Cw20.bal t a ∧ Cw20.bal t a ≤ Cw20.bal t' a + amt := by
  obtain ⟨_, b1, b2, h1, h2, rfl, _⟩ := Cw20.execTransfer_ok h
  obtain ⟨hle, hg⟩ := Cw20.move_get h1 h2 a
  refine ⟨rfl, hle, ?_⟩
  simp only [Cw20.bal, hg]
  by_cases e : a = to.text
  · simp [e]
  · simp [e]; omega

/-- `TransferFrom { owner, recipient, amount }` with `a` as the *spender*, while `a` has granted no allowance: the
owner is not `a`; `a`'s balance grows by exactly the amount when `a` is the recipient and is unchanged otherwise. -/
theorem cw20_transferFrom_self {t t' : Cw20.State} {blk : Block} {a : Addr} {o to : Cw20.AddrArg} {amt : Nat}
    {out : List Cw20.Out} (h : Cw20.execute t blk a (.transferFrom o to amt) = .ok (t', out)) (hn : NoGrant t a) :
    o.text ≠ a ∧ NoGrant t' a ∧ Cw20.bal t' a = Cw20.bal t a + (if to.text = a then amt else 0) := by
  obtain ⟨_, _, s1, b1, b2, hd, h1, h2, rfl, _⟩ := Cw20.execTransferFrom_ok h
  obtain ⟨ho, hn1⟩ := deduct_owner_ne hd hn
  have ho' : ¬ a = o.text := fun e => ho e.symm
  refine ⟨ho, hn1, ?_⟩
  simp only [Cw20.bal]
  rw [Cw20.credit_get h2 a]
  by_cases e : a = to.text
  · have e' : to.text = a := e.symm
    rw [if_pos e, if_pos e', ← e, debit_ne h1 ho]
  · have e' : ¬ to.text = a := fun x => e x.symm
    rw [if_neg e, if_neg e', debit_ne h1 ho]; rfl

end CwPlus.Cw3Flex
