import CwPlus.Lemmas.Ics20Ledger
/-!
# Packets in flight and the honest counterparty (cw20-ics20)

Part 1 relates the ghost `g.inflight` of `runG` to the ledgers: for a current-version contract, on every
admissible history, `failed + ackedOk + Σ in flight + sent₀ = sent` per channel and denomination
(`runG_inflight`), hence `outstanding + redeemed = outstanding₀ + ackedOk + Σ in flight`.

Part 2 is an explicit model of an **honest counterparty chain**.  A history is annotated with the
counterparty's own events: `HEv.deliver chan p` = "the counterparty received the packet `p` we sent on
`chan`, accepted it and minted vouchers" (nothing happens on our side).  The counterparty state
(`CpState`) splits the packets in flight into `pending` (not accepted by the counterparty: they may still
time out or come back with an error acknowledgement) and `delivered` (accepted; the success
acknowledgement is on its way), and counts the vouchers it minted per (our channel, denomination).
`honestEv` says what an honest counterparty and IBC core do:

* a success acknowledgement only for a delivered packet, an error acknowledgement or a timeout only for a
  pending one (IBC core proves non-receipt for a timeout), each with the original packet data and a
  decodable acknowledgement;
* vouchers come back (`Op.recv`) only as far as they were minted: `redeemed + amount ≤ minted` for the
  packet's (destination channel, denomination) — note that vouchers may come back *before* the success
  acknowledgement of the transfer that minted them has been relayed;
* everything else (transfers by anybody, governance, migrations, handshakes, fault flags) is unconstrained.

`HInv` is the invariant of honest histories of a current-version contract; `hinv_pending_covered` is its
consequence: every pending packet's amount is covered by the channel balance of its denomination, so its
refund is never refused for lack of channel balance.
-/
namespace CwPlus.Ics20
open CwPlus

/-! ## Sums over packet lists -/

/-- Σ amounts of the packets of `l` sent on channel `k.1` with denomination `k.2`. -/
def pktSum : List (String × Packet) → Key → Nat
  | [], _ => 0
  | e :: rest, k => (if k = (e.1, e.2.denom) then e.2.amount else 0) + pktSum rest k

/-- Σ amounts of the packets in flight on a channel for a denomination. -/
def inflightSum (g : Ghost) (k : Key) : Nat := pktSum g.inflight k

theorem pktSum_erase {l : List (String × Packet)} {a : String × Packet} (h : a ∈ l) (k : Key) :
    pktSum (l.erase a) k + (if k = (a.1, a.2.denom) then a.2.amount else 0) = pktSum l k := by
  induction l with
  | nil => cases h
  | cons b rest ih =>
    by_cases hb : a = b
    · subst hb; rw [List.erase_cons_head]; simp only [pktSum]; omega
    · have := ih ((List.mem_cons.mp h).resolve_left hb)
      rw [List.erase_cons_tail (by simpa using Ne.symm hb)]
      simp only [pktSum]; omega

theorem pktSum_mem {l : List (String × Packet)} {a : String × Packet} (h : a ∈ l) :
    a.2.amount ≤ pktSum l (a.1, a.2.denom) := by
  have := pktSum_erase h (a.1, a.2.denom)
  simp at this; omega

/-- Taking a packet off a list and booking its amount on a ledger keeps ledger plus list sum. -/
theorem bump_pktSum_erase {l : List (String × Packet)} {chan : String} {p : Packet} (hm : (chan, p) ∈ l)
    (f : Key → Nat) (k : Key) :
    bump f (chan, p.denom) p.amount k + pktSum (l.erase (chan, p)) k = f k + pktSum l k := by
  have h := pktSum_erase hm k
  simp only at h
  rw [bump_apply]
  by_cases hk : k = (chan, p.denom)
  · rw [if_pos hk] at h ⊢; omega
  · rw [if_neg hk] at h ⊢; omega

/-! ## Part 1: `g.inflight` and the ledgers on admissible histories -/

/-- The amount a processed success acknowledgement confirms on key `k`. -/
def ackedBy (op : Op) (k : Key) : Nat :=
  match op with
  | .ack chan (some p) (some true) _ _ _ => if k = (chan, p.denom) then p.amount else 0
  | _ => 0

/-- Σ amounts of the packets whose success acknowledgement was processed along `runG`. -/
def ackedOf (wg : World × Ghost) : List (Block × Op) → Key → Nat
  | [], _ => 0
  | (blk, op) :: rest, k =>
    (if admissible wg.2 op then
      (match wg.1.exec blk op with
       | .ok _ => ackedBy op k
       | .error _ => 0)
     else 0) + ackedOf (stepG wg blk op) rest k

theorem ackedBy_of_not_ack {op : Op} (h : op.touchesPackets = false ∨ op.isTransfer = true) (k : Key) :
    ackedBy op k = 0 := by
  cases op <;> first | rfl | (rcases h with h | h <;> cases h)

/-- An admissible refund is the refund of a packet in flight. -/
theorem mem_inflight_of_admissible {g : Ghost} {op : Op} {chan : String} {p : Packet} {sv tv f : Bool}
    (hop : op = .ack chan (some p) (some false) sv tv f ∨ op = .timeout chan (some p) sv tv f)
    (ha : admissible g op = true) : (chan, p) ∈ g.inflight := by
  rcases hop with rfl | rfl <;> simpa [admissible] using ha

/-- One admissible transaction of a current-version contract: the packets in flight, the failures and the
success acknowledgements account for exactly what the transaction escrowed. -/
theorem update_inflight_delta {w w' : World} {g : Ghost} {blk : Block} {op : Op} {o : Outcome}
    (ha : admissible g op = true) (h : w.exec blk op = .ok (w', o)) (k : Key) :
    (g.update w' op o).failed k + ackedBy op k + pktSum (g.update w' op o).inflight k
      = escrowedBy op o k + g.failed k + pktSum g.inflight k := by
  cases exec_tx h with
  | quiet s' hw _ _ _ hop hg _ _ =>
    rw [hg, ackedBy_of_not_ack (Or.inl hop), escrowedBy_of_not_transfer (Op.isTransfer_of_not_touches hop)]; omega
  | migrate gas s' hop _ _ _ => subst hop; show g.failed k + 0 + pktSum g.inflight k = 0 + _ + _; omega
  | escrow w1 out ch hop _ _ _ _ _ _ _ _ _ ho =>
    subst ho
    rw [Ghost.update_transfer hop, escrowedBy_transfer hop, ackedBy_of_not_ack (Or.inr hop)]
    show g.failed k + 0 + ((if k = (out.channel, out.packet.denom) then out.packet.amount else 0) + pktSum g.inflight k) = _
    omega
  | redeem p rv tv f d amt ch sub hop _ _ _ _ _ ho =>
    subst hop
    simp only [Ghost.update, ho.1, ho.2]
    show g.failed k + 0 + _ = 0 + _ + _
    omega
  | refund chan p sv tv f ch sub hop _ _ _ _ _ =>
    have he := bump_pktSum_erase (mem_inflight_of_admissible hop ha) g.failed k
    obtain ⟨_, e2, _, e4⟩ := failure_fields g chan p o
    rw [Ghost.update_refund hop, e2, e4]
    have h0 : ackedBy op k + escrowedBy op o k = 0 := by rcases hop with rfl | rfl <;> rfl
    omega
  | acked chan p sv tv f hop _ _ =>
    subst hop
    have he := pktSum_erase (a := (chan, p)) (by simpa [admissible] using ha) k
    simp only at he
    show g.failed k + (if k = (chan, p.denom) then p.amount else 0) + pktSum (g.inflight.erase (chan, p)) k = 0 + _ + _
    omega

theorem stepG_fst_postV3S {wg : World × Ghost} (blk : Block) (op : Op) (hv : PostV3S wg.1.st) :
    PostV3S (stepG wg blk op).1.st :=
  stepG_cases (P := fun wg => PostV3S wg.1.st) blk op hv (fun _ _ h => exec_postV3S hv h)

/-- **In-flight accounting** on every admissible history of a current-version contract (migrations
anywhere): per channel and denomination, what was sent is what failed, what was acknowledged with success
and what is still in flight (difference form, from any consistent start). -/
theorem runG_inflight {wg : World × Ghost} (ops : List (Block × Op)) (hv : PostV3S wg.1.st) (hi : LedgerInv wg) (k : Key) :
    (runG wg ops).2.failed k + ackedOf wg ops k + inflightSum (runG wg ops).2 k + wg.2.sent k
      = (runG wg ops).2.sent k + wg.2.failed k + inflightSum wg.2 k := by
  induction ops generalizing wg with
  | nil => simp [runG, ackedOf]; omega
  | cons op rest ih =>
    obtain ⟨blk, op⟩ := op
    have ih := ih (wg := stepG wg blk op) (stepG_fst_postV3S blk op hv) (stepG_ledger blk op hi)
    simp only [runG, List.foldl_cons, ackedOf] at ih ⊢
    by_cases ha : admissible wg.2 op = true
    · cases hx : wg.1.exec blk op with
      | error e => simp only [stepG, ha, hx, if_true] at ih ⊢; omega
      | ok r =>
        obtain ⟨w', o⟩ := r
        have h1 := update_inflight_delta ha hx k
        have h2 := update_sent_postV3 hv hi hx k
        simp only [stepG, ha, hx, if_true, inflightSum] at ih ⊢
        omega
    · simp only [stepG, ha, Bool.false_eq_true, if_false] at ih ⊢; omega

/-! ## Part 2: the honest counterparty -/

/-- An event of an annotated history: a transaction on our chain, or the counterparty accepting a packet
we sent (it mints vouchers; nothing happens on our side). -/
inductive HEv where
  | op (blk : Block) (op : Op)
  | deliver (chan : String) (p : Packet)
  deriving Repr, Inhabited

/-- The transactions of an annotated history (the counterparty's own events erased). -/
def opsOf : List HEv → List (Block × Op)
  | [] => []
  | .op blk op :: rest => (blk, op) :: opsOf rest
  | .deliver _ _ :: rest => opsOf rest

/-- The counterparty's view of the packets we sent. -/
structure CpState where
  /-- sent, not accepted by the counterparty (in transit, or refused by it) -/
  pending : List (String × Packet)
  /-- accepted by the counterparty; the success acknowledgement has not been relayed back yet -/
  delivered : List (String × Packet)
  /-- vouchers minted by the counterparty, per (our channel, denomination) -/
  minted : Key → Nat
  /-- Σ amounts of the success acknowledgements relayed back -/
  acked : Key → Nat

def CpState.init : CpState := ⟨[], [], fun _ => 0, fun _ => 0⟩

/-- Counterparty bookkeeping after a successful transaction on our chain. -/
def CpState.update (c : CpState) (op : Op) (o : Outcome) : CpState :=
  match op with
  | .transferNative .. | .sendCw20 .. | .hook .. =>
    (match o.sent with
     | [out] => { c with pending := (out.channel, out.packet) :: c.pending }
     | _ => c)
  | .ack chan (some p) (some true) _ _ _ =>
    { c with delivered := c.delivered.erase (chan, p), acked := bump c.acked (chan, p.denom) p.amount }
  | .ack chan (some p) (some false) _ _ _ => { c with pending := c.pending.erase (chan, p) }
  | .timeout chan (some p) _ _ _ => { c with pending := c.pending.erase (chan, p) }
  | _ => c

structure HState where
  w : World
  g : Ghost
  c : CpState

def HState.init (w : World) : HState := ⟨w, Ghost.init w, CpState.init⟩

/-- One event (no filter: every transaction is executed). -/
def stepH (x : HState) : HEv → HState
  | .op blk op =>
    (match x.w.exec blk op with
     | .ok (w', o) => ⟨w', x.g.update w' op o, x.c.update op o⟩
     | .error _ => x)
  | .deliver chan p =>
    { x with c := { x.c with pending := x.c.pending.erase (chan, p), delivered := (chan, p) :: x.c.delivered,
                             minted := bump x.c.minted (chan, p.denom) p.amount } }

def runH (x : HState) (evs : List HEv) : HState := evs.foldl stepH x

/-- What an honest counterparty chain (and IBC core) can do in state `x`. -/
def honestEv (x : HState) : HEv → Prop
  | .deliver chan p => (chan, p) ∈ x.c.pending
  | .op _ (.ack chan (some p) (some true) _ _ _) => (chan, p) ∈ x.c.delivered
  | .op _ (.ack chan (some p) (some false) _ _ _) => (chan, p) ∈ x.c.pending
  | .op _ (.ack _ _ _ _ _ _) => False
  | .op _ (.timeout chan (some p) _ _ _) => (chan, p) ∈ x.c.pending
  | .op _ (.timeout _ none _ _ _) => False
  | .op _ (.recv p _ _ _) =>
    ∀ amt port ch d, p.amount = some amt → p.voucher = some (port, ch, d) →
      x.g.redeemed (p.destChan, d) + amt ≤ x.c.minted (p.destChan, d)
  | _ => True

/-- Every event of the history is honest at the point where it happens. -/
def HonestFrom (x : HState) : List HEv → Prop
  | [] => True
  | e :: rest => honestEv x e ∧ HonestFrom (stepH x e) rest

theorem stepH_w (x : HState) (e : HEv) :
    (stepH x e).w = match e with | .op blk op => x.w.step blk op | .deliver _ _ => x.w := by
  cases e with
  | deliver chan p => rfl
  | op blk op =>
    simp only [stepH, World.step]
    split <;> simp_all

/-- The world of an annotated history is the plain history of its transactions. -/
theorem runH_w (x : HState) (evs : List HEv) :
    (runH x evs).w = (opsOf evs).foldl (fun w o => w.step o.1 o.2) x.w := by
  induction evs generalizing x with
  | nil => rfl
  | cons e rest ih =>
    simp only [runH, List.foldl_cons] at ih ⊢
    rw [ih, stepH_w]
    cases e <;> rfl

/-- The invariant of honest histories of a current-version contract (`base` = what was outstanding at the
start). -/
structure HInv (base : Key → Nat) (x : HState) : Prop where
  ledger : LedgerInv (x.w, x.g)
  postV3 : PostV3S x.w.st
  /-- sent = failed + acknowledged + pending + delivered (+ start) -/
  sent_split : ∀ k, x.g.failed k + x.c.acked k + pktSum x.c.pending k + pktSum x.c.delivered k + base k = x.g.sent k
  /-- the counterparty minted exactly what it accepted -/
  minted_eq : ∀ k, x.c.minted k = x.c.acked k + pktSum x.c.delivered k
  /-- only minted vouchers came back -/
  redeemed_le : ∀ k, x.g.redeemed k ≤ x.c.minted k
  /-- the packets in flight are the pending and the delivered ones (by `count`: the same packet may be in flight
  twice) -/
  inflight_count : ∀ a, x.g.inflight.count a = x.c.pending.count a + x.c.delivered.count a
  /-- no empty packets -/
  pending_pos : ∀ a ∈ x.c.pending, a.2.amount ≠ 0

theorem hinv_init (w : World) (hv : PostV3S w.st) : HInv (outAt w.st.chan) (HState.init w) where
  ledger := ledgerInv_init w
  postV3 := hv
  sent_split := by intro k; simp [HState.init, Ghost.init, CpState.init, pktSum]
  minted_eq := by intro k; simp [HState.init, CpState.init, pktSum]
  redeemed_le := by intro k; simp [HState.init, Ghost.init]
  inflight_count := by intro a; simp [HState.init, Ghost.init, CpState.init]
  pending_pos := by intro a ha; simp [HState.init, CpState.init] at ha

/-- **Coverage**: under the invariant, the channel balance of a denomination is what was outstanding at
the start, plus the pending packets, plus the vouchers minted and not yet returned. -/
theorem hinv_outstanding {base : Key → Nat} {x : HState} (hI : HInv base x) (k : Key) :
    outAt x.w.st.chan k + x.g.redeemed k = base k + pktSum x.c.pending k + x.c.minted k := by
  have h1 := hI.ledger.1 k
  have h2 := hI.sent_split k
  have h3 := hI.minted_eq k
  simp only at h1
  omega

/-- Every pending packet is covered by the channel balance of its denomination, which therefore has an
entry. -/
theorem hinv_pending_covered {base : Key → Nat} {x : HState} (hI : HInv base x) {chan : String} {p : Packet}
    (hm : (chan, p) ∈ x.c.pending) :
    ∃ cs, x.w.st.chan.get? (chan, p.denom) = some cs ∧ p.amount ≤ cs.outstanding := by
  have h1 := hinv_outstanding hI (chan, p.denom)
  have h2 := hI.redeemed_le (chan, p.denom)
  have h3 := pktSum_mem hm
  have h4 := hI.pending_pos _ hm
  simp only at h3 h4
  have h5 : p.amount ≤ outAt x.w.st.chan (chan, p.denom) := by omega
  unfold outAt at h5
  cases hg : x.w.st.chan.get? (chan, p.denom) with
  | none => simp [hg] at h5; omega
  | some cs => simp [hg] at h5; exact ⟨cs, rfl, h5⟩

theorem hinv_mem_inflight {base : Key → Nat} {x : HState} (hI : HInv base x) {a : String × Packet}
    (ha : a ∈ x.c.pending ∨ a ∈ x.c.delivered) : a ∈ x.g.inflight := by
  have := hI.inflight_count a
  rcases ha with ha | ha <;> have := List.count_pos_iff.mpr ha <;> (apply List.count_pos_iff.mp; omega)

/-- Under the invariant an honest acknowledgement / timeout is admissible in the sense of `runG`. -/
theorem hinv_honest_admissible {base : Key → Nat} {x : HState} (hI : HInv base x) {blk : Block} {op : Op}
    (hh : honestEv x (.op blk op)) : admissible x.g op = true := by
  cases op with
  | ack chan data ackOk sv tv f =>
    cases data with
    | none => exact hh.elim
    | some p =>
      cases ackOk with
      | none => exact hh.elim
      | some b =>
        cases b
        · simpa [admissible] using hinv_mem_inflight hI (Or.inl hh)
        · simpa [admissible] using hinv_mem_inflight hI (Or.inr hh)
  | timeout chan data sv tv f =>
    cases data with
    | none => exact hh.elim
    | some p => simpa [admissible] using hinv_mem_inflight hI (Or.inl hh)
  | _ => rfl

/-! ### The invariant is preserved by every honest event -/

theorem count_erase_add {l : List (String × Packet)} {a b : String × Packet} (h : b ∈ l) :
    (l.erase b).count a + (if a = b then 1 else 0) = l.count a := by
  by_cases hab : a = b
  · subst hab
    have := List.count_pos_iff.mpr h
    rw [List.count_erase_self]; simp; omega
  · rw [List.count_erase_of_ne hab]; simp [hab]

theorem count_cons_add (l : List (String × Packet)) (a b : String × Packet) :
    (b :: l).count a = l.count a + (if a = b then 1 else 0) := by
  simp [List.count_cons, @eq_comm _ b a]

/-- The counterparty accepts a pending packet. -/
theorem stepH_deliver_inv {base : Key → Nat} {x : HState} {chan : String} {p : Packet} (hI : HInv base x)
    (hh : (chan, p) ∈ x.c.pending) : HInv base (stepH x (.deliver chan p)) where
  ledger := hI.ledger
  postV3 := hI.postV3
  sent_split := by
    intro k
    have h1 := hI.sent_split k
    have h2 := pktSum_erase hh k
    simp only at h2
    show x.g.failed k + x.c.acked k + pktSum (x.c.pending.erase (chan, p)) k +
      ((if k = (chan, p.denom) then p.amount else 0) + pktSum x.c.delivered k) + base k = x.g.sent k
    omega
  minted_eq := by
    intro k
    have h1 := hI.minted_eq k
    show bump x.c.minted (chan, p.denom) p.amount k =
      x.c.acked k + ((if k = (chan, p.denom) then p.amount else 0) + pktSum x.c.delivered k)
    rw [bump_apply]
    split <;> omega
  redeemed_le := by
    intro k
    have h1 := hI.redeemed_le k
    show x.g.redeemed k ≤ bump x.c.minted (chan, p.denom) p.amount k
    rw [bump_apply]
    split <;> omega
  inflight_count := by
    intro a
    have h1 := hI.inflight_count a
    have h2 := count_erase_add (a := a) hh
    have h3 := count_cons_add x.c.delivered a (chan, p)
    show x.g.inflight.count a = (x.c.pending.erase (chan, p)).count a + ((chan, p) :: x.c.delivered).count a
    omega
  pending_pos := fun a ha => hI.pending_pos a (List.mem_of_mem_erase ha)

/-- A transaction that changes neither `sent`, `failed` nor the packets in flight. -/
theorem hinv_frame {base : Key → Nat} {x : HState} {w' : World} {g' : Ghost} (hI : HInv base x)
    (hl : LedgerInv (w', g')) (hv : PostV3S w'.st) (e1 : ∀ k, g'.sent k = x.g.sent k) (e2 : g'.failed = x.g.failed)
    (e3 : ∀ k, g'.redeemed k ≤ x.c.minted k) (e4 : g'.inflight = x.g.inflight) : HInv base ⟨w', g', x.c⟩ where
  ledger := hl
  postV3 := hv
  sent_split := by intro k; have := hI.sent_split k; simp only [e1 k, e2]; exact this
  minted_eq := hI.minted_eq
  redeemed_le := e3
  inflight_count := by intro a; simp only [e4]; exact hI.inflight_count a
  pending_pos := hI.pending_pos

/-- An accepted transfer: the emitted packet is pending. -/
theorem hinv_transfer {base : Key → Nat} {x : HState} {w' : World} {g' : Ghost} {out : SendOut} (hI : HInv base x)
    (hl : LedgerInv (w', g')) (hv : PostV3S w'.st) (hne : out.packet.amount ≠ 0)
    (e1 : g'.sent = bump x.g.sent (out.channel, out.packet.denom) out.packet.amount) (e2 : g'.failed = x.g.failed)
    (e3 : g'.redeemed = x.g.redeemed) (e4 : g'.inflight = (out.channel, out.packet) :: x.g.inflight) :
    HInv base ⟨w', g', { x.c with pending := (out.channel, out.packet) :: x.c.pending }⟩ where
  ledger := hl
  postV3 := hv
  sent_split := by
    intro k
    have := hI.sent_split k
    show g'.failed k + x.c.acked k + ((if k = (out.channel, out.packet.denom) then out.packet.amount else 0) +
      pktSum x.c.pending k) + pktSum x.c.delivered k + base k = g'.sent k
    rw [e1, e2, bump_apply]
    split <;> omega
  minted_eq := hI.minted_eq
  redeemed_le := by intro k; rw [e3]; exact hI.redeemed_le k
  inflight_count := by
    intro a
    have h1 := hI.inflight_count a
    have h2 := count_cons_add x.g.inflight a (out.channel, out.packet)
    have h3 := count_cons_add x.c.pending a (out.channel, out.packet)
    show g'.inflight.count a = ((out.channel, out.packet) :: x.c.pending).count a + x.c.delivered.count a
    rw [e4]
    omega
  pending_pos := by
    intro a ha
    rcases List.mem_cons.mp ha with rfl | ha
    · exact hne
    · exact hI.pending_pos a ha

/-- A processed success acknowledgement of a delivered packet. -/
theorem hinv_ackOk {base : Key → Nat} {x : HState} {w' : World} {g' : Ghost} {chan : String} {p : Packet} (hI : HInv base x)
    (hl : LedgerInv (w', g')) (hv : PostV3S w'.st) (hm : (chan, p) ∈ x.c.delivered)
    (e1 : g'.sent = x.g.sent) (e2 : g'.failed = x.g.failed) (e3 : g'.redeemed = x.g.redeemed)
    (e4 : g'.inflight = x.g.inflight.erase (chan, p)) :
    HInv base ⟨w', g', { x.c with delivered := x.c.delivered.erase (chan, p),
                                  acked := bump x.c.acked (chan, p.denom) p.amount }⟩ where
  ledger := hl
  postV3 := hv
  sent_split := by
    intro k
    have h1 := hI.sent_split k
    have h2 := bump_pktSum_erase hm x.c.acked k
    show g'.failed k + bump x.c.acked (chan, p.denom) p.amount k + pktSum x.c.pending k +
      pktSum (x.c.delivered.erase (chan, p)) k + base k = g'.sent k
    rw [e1, e2]
    omega
  minted_eq := by
    intro k
    have h1 := hI.minted_eq k
    have h2 := bump_pktSum_erase hm x.c.acked k
    show x.c.minted k = bump x.c.acked (chan, p.denom) p.amount k + pktSum (x.c.delivered.erase (chan, p)) k
    omega
  redeemed_le := by intro k; rw [e3]; exact hI.redeemed_le k
  inflight_count := by
    intro a
    have h1 := hI.inflight_count a
    have h2 := count_erase_add (a := a) hm
    have h3 := count_erase_add (a := a) (hinv_mem_inflight hI (Or.inr hm))
    show g'.inflight.count a = x.c.pending.count a + (x.c.delivered.erase (chan, p)).count a
    rw [e4]
    omega
  pending_pos := hI.pending_pos

/-- A processed failure (error acknowledgement or timeout) of a pending packet. -/
theorem hinv_failure {base : Key → Nat} {x : HState} {w' : World} {g' : Ghost} {chan : String} {p : Packet} (hI : HInv base x)
    (hl : LedgerInv (w', g')) (hv : PostV3S w'.st) (hm : (chan, p) ∈ x.c.pending)
    (e1 : g'.sent = x.g.sent) (e2 : g'.failed = bump x.g.failed (chan, p.denom) p.amount) (e3 : g'.redeemed = x.g.redeemed)
    (e4 : g'.inflight = x.g.inflight.erase (chan, p)) :
    HInv base ⟨w', g', { x.c with pending := x.c.pending.erase (chan, p) }⟩ where
  ledger := hl
  postV3 := hv
  sent_split := by
    intro k
    have h1 := hI.sent_split k
    have h2 := bump_pktSum_erase hm x.g.failed k
    show g'.failed k + x.c.acked k + pktSum (x.c.pending.erase (chan, p)) k + pktSum x.c.delivered k + base k = g'.sent k
    rw [e1, e2]
    omega
  minted_eq := hI.minted_eq
  redeemed_le := by intro k; rw [e3]; exact hI.redeemed_le k
  inflight_count := by
    intro a
    have h1 := hI.inflight_count a
    have h2 := count_erase_add (a := a) hm
    have h3 := count_erase_add (a := a) (hinv_mem_inflight hI (Or.inl hm))
    show g'.inflight.count a = (x.c.pending.erase (chan, p)).count a + x.c.delivered.count a
    rw [e4]
    omega
  pending_pos := fun a ha => hI.pending_pos a (List.mem_of_mem_erase ha)

theorem CpState.update_of_not_touches {op : Op} (h : op.touchesPackets = false) (c : CpState) (o : Outcome) :
    c.update op o = c := by
  cases op <;> first | rfl | cases h

theorem CpState.update_transfer {op : Op} (h : op.isTransfer = true) (c : CpState) (out : SendOut) :
    c.update op { sent := [out] } = { c with pending := (out.channel, out.packet) :: c.pending } := by
  cases op <;> first | rfl | cases h

theorem stepH_op_inv {base : Key → Nat} {x : HState} {blk : Block} {op : Op} (hI : HInv base x)
    (hh : honestEv x (.op blk op)) : HInv base (stepH x (.op blk op)) := by
  simp only [stepH]
  cases hx : x.w.exec blk op with
  | error e => exact hI
  | ok r =>
    obtain ⟨w', o⟩ := r
    have hl := exec_ledger hI.ledger hx
    have hv := exec_postV3S hI.postV3 hx
    simp only
    cases exec_tx hx with
    | quiet s' hw _ _ _ hop hg _ _ =>
      rw [CpState.update_of_not_touches hop]
      rw [hg] at hl ⊢
      exact hinv_frame hI hl hv (fun _ => rfl) rfl hI.redeemed_le rfl
    | migrate gas s' hop _ _ _ =>
      subst hop
      have hs := fun k => update_sent_postV3 hI.postV3 hI.ledger hx k
      exact hinv_frame hI hl hv (fun k => by simpa [escrowedBy] using hs k) rfl hI.redeemed_le rfl
    | escrow w1 out ch hop _ _ hne _ _ _ _ _ _ ho =>
      subst ho
      rw [CpState.update_transfer hop]
      rw [Ghost.update_transfer hop] at hl ⊢
      exact hinv_transfer hI hl hv hne rfl rfl rfl rfl
    | redeem p rv tv f d amt ch sub hop hpkt _ hsub _ _ ho =>
      subst hop
      simp only [Ghost.update, ho.1, ho.2, hsub.1, hsub.2.1] at hl ⊢
      refine hinv_frame (x := x) hI hl hv (fun _ => rfl) rfl (fun k => ?_) rfl
      -- the counterparty lets vouchers come back only as far as it minted them
      show bump x.g.redeemed (p.destChan, d) amt k ≤ _
      rw [bump_apply]
      split
      · next hk => subst hk; exact hh amt _ _ d hpkt.1 hpkt.2
      · exact hI.redeemed_le k
    | refund chan p sv tv f ch sub hop _ _ _ _ _ =>
      obtain ⟨e1, e2, e3, e4⟩ := failure_fields x.g chan p o
      rw [Ghost.update_refund hop] at hl ⊢
      rcases hop with rfl | rfl <;> exact hinv_failure hI hl hv hh e1 e2 e3 e4
    | acked chan p sv tv f hop _ _ =>
      subst hop
      exact hinv_ackOk hI hl hv hh rfl rfl rfl rfl

theorem stepH_inv {base : Key → Nat} {x : HState} {e : HEv} (hI : HInv base x) (hh : honestEv x e) :
    HInv base (stepH x e) := by
  cases e with
  | op blk op => exact stepH_op_inv hI hh
  | deliver chan p => exact stepH_deliver_inv hI hh

theorem runH_inv {base : Key → Nat} {x : HState} (evs : List HEv) (hI : HInv base x) (hh : HonestFrom x evs) :
    HInv base (runH x evs) := by
  induction evs generalizing x with
  | nil => exact hI
  | cons e rest ih => exact ih (stepH_inv hI hh.1) hh.2

/-! ### Refunds -/

/-- The dispatch of a refund never aborts: a failing sub-call is rolled back and `reply` only reports it. -/
theorem dispatch_failure_ok (w : World) {sub : SubMsg} (hid : sub.replyId = ACK_FAILURE_ID) (sv f : Bool) :
    ∃ w' d, w.dispatch (some sub) sv f none = .ok (w', d) := by
  have hne : ACK_FAILURE_ID ≠ RECEIVE_ID := by decide
  cases hp : w.payout sub sv f with
  | some w2 => exact ⟨w2, none, by simp [World.dispatch, hp]⟩
  | none => exact ⟨w, some .error, by simp [World.dispatch, hp, reply, hid, hne, bind, Except.bind, pure, Except.pure]⟩

/-- If `on_packet_failure` accepts, the whole timeout transaction goes through (a failing refund sub-call
is swallowed by `reply`). -/
theorem exec_timeout_ok {w : World} {chan : String} {p : Packet} {tv : Bool} {s1 : State} {sub : SubMsg}
    (hf : onPacketFailure w.st chan (some p) tv = .ok (s1, sub)) (blk : Block) (sv f : Bool) :
    ∃ w' o, w.exec blk (.timeout chan (some p) sv tv f) = .ok (w', o) ∧ o.sub = some sub := by
  obtain ⟨_, _, _, _, _, _, _, _, hid⟩ := onPacketFailure_ok hf
  obtain ⟨w', d, hd⟩ := dispatch_failure_ok { w with st := s1 } hid sv f
  exact ⟨w', { ack := d, sub := some sub },
    by simp [World.exec, ibcPacketTimeout, hf, hd, bind, Except.bind, pure, Except.pure], rfl⟩

/-- The same for an error acknowledgement. -/
theorem exec_ackFail_ok {w : World} {chan : String} {p : Packet} {tv : Bool} {s1 : State} {sub : SubMsg}
    (hf : onPacketFailure w.st chan (some p) tv = .ok (s1, sub)) (blk : Block) (sv f : Bool) :
    ∃ w' o, w.exec blk (.ack chan (some p) (some false) sv tv f) = .ok (w', o) ∧ o.sub = some sub := by
  obtain ⟨_, _, _, _, _, _, _, _, hid⟩ := onPacketFailure_ok hf
  obtain ⟨w', d, hd⟩ := dispatch_failure_ok { w with st := s1 } hid sv f
  exact ⟨w', { ack := d, sub := some sub },
    by simp [World.exec, ibcPacketAck, hf, hd, bind, Except.bind, pure, Except.pure], rfl⟩

/-- If the gas check refuses the denomination, the refund transaction is aborted as a whole: neither a
timeout nor an error acknowledgement of that packet can be processed. -/
theorem refund_aborts_of_gas_error {w : World} {chan : String} {p : Packet} {tv : Bool} {e : String}
    (hg : checkGasLimit w.st p.denom tv = .error e) (blk : Block) (sv f : Bool) :
    (∃ e', w.exec blk (.timeout chan (some p) sv tv f) = .error e') ∧
    (∃ e', w.exec blk (.ack chan (some p) (some false) sv tv f) = .error e') := by
  have hf : ∃ e', onPacketFailure w.st chan (some p) tv = .error e' := by
    simp only [onPacketFailure]
    cases hr : reduceBalance w.st.chan chan p.denom p.amount with
    | error e' => exact ⟨e', by simp [bind, Except.bind]⟩
    | ok ch => exact ⟨e, by simp [hg, bind, Except.bind]⟩
  obtain ⟨e', hf⟩ := hf
  constructor
  · exact ⟨e', by simp [World.exec, ibcPacketTimeout, hf, bind, Except.bind]⟩
  · exact ⟨e', by simp [World.exec, ibcPacketAck, hf, bind, Except.bind]⟩

/-- Honest annotated histories are admissible histories of their transactions: world and ghosts are
those of `runG` (so everything proved over `runG` applies to them). -/
theorem runH_eq_runG {base : Key → Nat} {x : HState} (evs : List HEv) (hI : HInv base x) (hh : HonestFrom x evs) :
    ((runH x evs).w, (runH x evs).g) = runG (x.w, x.g) (opsOf evs) := by
  induction evs generalizing x with
  | nil => rfl
  | cons e rest ih =>
    have hI' := stepH_inv hI hh.1
    have := ih hI' hh.2
    simp only [runH, List.foldl_cons] at this ⊢
    rw [this]
    cases e with
    | deliver chan p => rfl
    | op blk op =>
      have ha := hinv_honest_admissible hI hh.1
      simp only [opsOf, runG, List.foldl_cons]
      congr 1
      rw [stepG_eq_stepU ha]
      simp only [stepH, stepU]
      split <;> simp_all

end CwPlus.Ics20
