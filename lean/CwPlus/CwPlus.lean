import CwPlus.Base.AMap
import CwPlus.Base.Expiration
import CwPlus.Base.Json
import CwPlus.Base.NativeBalance
import CwPlus.Base.Num
import CwPlus.Base.Paginate
import CwPlus.Base.RawStore
import CwPlus.Base.Snapshot
import CwPlus.Base.Wire
import CwPlus.Driver.All
import CwPlus.Driver.Common
import CwPlus.Driver.Cw1
import CwPlus.Driver.Cw20
import CwPlus.Driver.Cw3Fixed
import CwPlus.Driver.Cw3Flex
import CwPlus.Driver.Cw3Lib
import CwPlus.Driver.Cw4Group
import CwPlus.Driver.Cw4Stake
import CwPlus.Driver.Ics20
import CwPlus.Driver.Pkg
import CwPlus.Lemmas.Cw1
import CwPlus.Lemmas.Cw1SubkeysNodup
import CwPlus.Lemmas.Cw20
import CwPlus.Lemmas.Cw20Allow
import CwPlus.Lemmas.Cw20Marketing
import CwPlus.Lemmas.Cw20Nodup
import CwPlus.Lemmas.Cw3Arith
import CwPlus.Lemmas.Cw3Core
import CwPlus.Lemmas.Cw3CoreNodup
import CwPlus.Lemmas.Cw3Fixed
import CwPlus.Lemmas.Cw3FixedAt
import CwPlus.Lemmas.Cw3FixedNodup
import CwPlus.Lemmas.Cw3Flex
import CwPlus.Lemmas.Cw3FlexAt
import CwPlus.Lemmas.Cw3FlexInv
import CwPlus.Lemmas.Cw3FlexNodup
import CwPlus.Lemmas.Cw3FlexPool
import CwPlus.Lemmas.Cw3Status
import CwPlus.Lemmas.Cw3StatusTotal
import CwPlus.Lemmas.Cw4Group
import CwPlus.Lemmas.Cw4GroupNodup
import CwPlus.Lemmas.Cw4Raw
import CwPlus.Lemmas.Cw4Stake
import CwPlus.Lemmas.Cw4StakeNodup
import CwPlus.Lemmas.History
import CwPlus.Lemmas.Ics20
import CwPlus.Lemmas.Ics20Env
import CwPlus.Lemmas.Ics20Honest
import CwPlus.Lemmas.Ics20Ledger
import CwPlus.Lemmas.Ics20Migrate
import CwPlus.Lemmas.Ics20Nodup
import CwPlus.Lemmas.Ics20TotalSent
import CwPlus.Lemmas.Json
import CwPlus.Lemmas.JsonFuel
import CwPlus.Lemmas.MsgWire
import CwPlus.Lemmas.NativeBalanceSub
import CwPlus.Lemmas.Paginate
import CwPlus.Lemmas.RawStore
import CwPlus.Lemmas.Snapshot
import CwPlus.Lemmas.StrBytes
import CwPlus.Model.Cw1Subkeys
import CwPlus.Model.Cw1Whitelist
import CwPlus.Model.Cw20
import CwPlus.Model.Cw3
import CwPlus.Model.Cw3Core
import CwPlus.Model.Cw3Fixed
import CwPlus.Model.Cw3Flex
import CwPlus.Model.Cw4Group
import CwPlus.Model.Cw4Raw
import CwPlus.Model.Cw4Stake
import CwPlus.Model.Ics20
import CwPlus.Model.Ics20Wire
import CwPlus.Model.MsgWire
import CwPlus.Model.Pkg
import CwPlus.Props.C01
import CwPlus.Props.C02
import CwPlus.Props.C03
import CwPlus.Props.C03Flex
import CwPlus.Props.C04
import CwPlus.Props.C05
import CwPlus.Props.C05Flex
import CwPlus.Props.C06
import CwPlus.Props.C06Flex
import CwPlus.Props.C07
import CwPlus.Props.C07Sem
import CwPlus.Props.C08
import CwPlus.Props.C09
import CwPlus.Props.C09Raw
import CwPlus.Props.C09Stake
import CwPlus.Props.C10
import CwPlus.Props.C11
import CwPlus.Props.C12
import CwPlus.Props.C13
import CwPlus.Props.C14
import CwPlus.Props.C14Stake
import CwPlus.Props.C15
import CwPlus.Props.C16
import CwPlus.Props.C17
import CwPlus.Props.C18
import CwPlus.Props.C19
import CwPlus.Props.C20
import CwPlus.Props.C20Listings
import CwPlus.Props.Cw1Monitor
import CwPlus.Props.Cw1SubkeysMigrate
import CwPlus.Props.Cw20Marketing
import CwPlus.Props.Cw20Mixed
import CwPlus.Props.Ics20Channels
import CwPlus.Props.Ics20Wire
import CwPlus.Props.Ics20WireExamples
import CwPlus.Props.MsgWire
import CwPlus.Props.MsgWireDecodeExamples
import CwPlus.Props.MsgWireFlex
import CwPlus.Props.MsgWireIcs20
import CwPlus.Props.Pkg
