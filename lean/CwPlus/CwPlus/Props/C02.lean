import CwPlus.Props.Cw20Mixed
/-!
# C02 — cw20: balances move only by the holder or within a valid allowance

Step theorems hold for every state, block, sender and message; they rest on `draw_inv` (what any successful `*From`
call did) and on the frame and inversion lemmas of `Lemmas/Cw20.lean`.  History theorems hold after every accepted
instantiation and every finite history of calls by any senders: a ghost ledger (`G`: granted / drawn / moved per
pair) is threaded through the run and `GInv` is its invariant; a second set of ghost sums books, per owner, where its
tokens went.
-/
namespace CwPlus.Props.C02
open CwPlus CwPlus.Cw20

/-- The three calls by which a holder moves its *own* tokens: `Transfer`, `Send`, `Burn`. -/
def isHolderMove : Msg → Bool
  | .transfer _ _ => true
  | .send _ _ _ => true
  | .burn _ => true
  | _ => false

/-- `some (owner, amount)` exactly for the three allowance draws `TransferFrom`, `BurnFrom`, `SendFrom`. -/
def drawOf : Msg → Option (AddrArg × Nat)
  | .transferFrom o _ amt => some (o, amt)
  | .burnFrom o amt => some (o, amt)
  | .sendFrom o _ amt _ => some (o, amt)
  | _ => none

/-- Who receives the tokens of a draw: the recipient / contract, `none` for `BurnFrom` (and for non-draws). -/
def drawRecipient : Msg → Option AddrArg
  | .transferFrom _ r _ => some r
  | .sendFrom _ c _ _ => some c
  | _ => none

/-- `some (spender, amount)` exactly for `IncreaseAllowance`. -/
def grantOf : Msg → Option (AddrArg × Nat)
  | .increaseAllowance sp amt _ => some (sp, amt)
  | _ => none

/-- `some spender` exactly for `IncreaseAllowance` / `DecreaseAllowance`. -/
def allowanceEditOf : Msg → Option AddrArg
  | .increaseAllowance sp _ _ => some sp
  | .decreaseAllowance sp _ _ => some sp
  | _ => none

theorem isHolderMove_iff (msg : Msg) :
    isHolderMove msg = true ↔
      (∃ to amt, msg = .transfer to amt) ∨ (∃ c amt p, msg = .send c amt p) ∨ (∃ amt, msg = .burn amt) := by
  cases msg <;> simp [isHolderMove]

theorem drawOf_iff (msg : Msg) (o : AddrArg) (amt : Nat) :
    drawOf msg = some (o, amt) ↔
      (∃ r, msg = .transferFrom o r amt) ∨ msg = .burnFrom o amt ∨ (∃ c p, msg = .sendFrom o c amt p) := by
  cases msg <;> simp [drawOf] <;> grind

theorem allowanceEditOf_iff (msg : Msg) (sp : AddrArg) :
    allowanceEditOf msg = some sp ↔
      (∃ amt e, msg = .increaseAllowance sp amt e) ∨ (∃ amt e, msg = .decreaseAllowance sp amt e) := by
  cases msg <;> simp [allowanceEditOf]

theorem draw_not_other {msg : Msg} {x : AddrArg × Nat} (hd : drawOf msg = some x) :
    isHolderMove msg = false ∧ grantOf msg = none := by
  cases msg <;> first | exact ⟨rfl, rfl⟩ | cases hd

/-- What `query Allowance{owner, spender}` reports for the pair `p = (owner, spender)`. -/
def allowance (s : State) (p : Addr × Addr) : Allowance := (s.allow.get? p).getD Allowance.default

theorem bal_def (s : State) (a : Addr) : bal s a = (s.balances.get? a).getD 0 := rfl

/-! ## The core inversion: what any successful draw did -/

/-- Any successful `*From` call, uniformly: both allowance entries existed, were unexpired and
sufficient; both were rewritten with the amount lowered by `amt`; the owner was debited `amt`; the
recipient (if any) was credited `amt`, else the supply was lowered by `amt`. -/
theorem draw_inv {s s' : State} {blk : Block} {snd : Addr} {msg : Msg} {out : List Out}
    {o : AddrArg} {amt : Nat}
    (h : execute s blk snd msg = .ok (s', out)) (hd : drawOf msg = some (o, amt)) :
    o.valid = true ∧ ∃ al al2 b1,
      s.allow.get? (o.text, snd) = some al ∧ al.expires.isExpired blk = false ∧ amt ≤ al.amount ∧
      s.allowSp.get? (snd, o.text) = some al2 ∧ al2.expires.isExpired blk = false ∧ amt ≤ al2.amount ∧
      s'.allow = s.allow.set (o.text, snd) ⟨al.amount - amt, al.expires⟩ ∧
      s'.allowSp = s.allowSp.set (snd, o.text) ⟨al2.amount - amt, al2.expires⟩ ∧
      s'.mint = s.mint ∧
      debit s.balances o.text amt = .ok b1 ∧
      ((∃ r, drawRecipient msg = some r ∧ r.valid = true ∧ credit b1 r.text amt = .ok s'.balances ∧
          s'.supply = s.supply) ∨
       (drawRecipient msg = none ∧ s'.balances = b1 ∧ amt ≤ s.supply ∧ s'.supply = s.supply - amt)) := by
  obtain ⟨_, hal, hm, htok, _⟩ := execute_frame h
  cases msg <;> simp only [drawOf, Option.some.injEq, Prod.mk.injEq, reduceCtorEq] at hd
  all_goals
    obtain ⟨rfl, rfl⟩ := hd
    obtain ⟨ho, s1, hded, e7, e8⟩ := hal
    obtain ⟨al, al2, e1, e2, e3, e4, e5, e6, rfl⟩ := deduct_ok_iff.mp hded
  case transferFrom | sendFrom =>
    obtain ⟨hr, b1, h1, h2, hs⟩ := htok
    exact ⟨ho, al, al2, b1, e1, e2, e3, e4, e5, e6, e7, e8, hm, h1, .inl ⟨_, rfl, hr, h2, hs⟩⟩
  case burnFrom =>
    exact ⟨ho, al, al2, _, e1, e2, e3, e4, e5, e6, e7, e8, hm, htok.1, .inr ⟨rfl, rfl, htok.2⟩⟩

theorem draw_bal {s s' : State} {blk : Block} {snd : Addr} {msg : Msg} {out : List Out}
    {o : AddrArg} {amt : Nat}
    (h : execute s blk snd msg = .ok (s', out)) (hd : drawOf msg = some (o, amt)) (a : Addr) :
    (bal s' a < bal s a → a = o.text) ∧ bal s a - bal s' a ≤ amt := by
  obtain ⟨_, al, al2, b1, _, _, _, _, _, _, _, _, _, h1, hrest⟩ := draw_inv h hd
  -- the debit `b1` is followed by a credit (which lowers nothing) or is the result
  have hge : (b1.get? a).getD 0 ≤ bal s' a := by
    rcases hrest with ⟨r, _, _, h2, _⟩ | ⟨_, hb, _, _⟩
    · exact credit_ge h2 a
    · rw [bal_def, hb]; exact Nat.le_refl _
  have := debit_le_add h1 a
  exact ⟨fun hlt => debit_lt h1 (Nat.lt_of_le_of_lt hge hlt), by rw [bal_def s a]; omega⟩

theorem nondraw_bal {s s' : State} {blk : Block} {snd : Addr} {msg : Msg} {out : List Out}
    (h : execute s blk snd msg = .ok (s', out)) (hd : drawOf msg = none) (a : Addr)
    (hlt : bal s' a < bal s a) : snd = a ∧ isHolderMove msg = true := by
  simp only [bal_def] at hlt
  have htok := (execute_frame h).2.2.2.1
  cases msg
  case transfer | send =>
    obtain ⟨_, b1, h1, h2, _⟩ := htok
    exact ⟨(debit_lt h1 (Nat.lt_of_le_of_lt (credit_ge h2 a) hlt)).symm, rfl⟩
  case burn => exact ⟨(debit_lt htok.1 hlt).symm, rfl⟩
  case mint => exact absurd (credit_ge htok.1 a) (Nat.not_le_of_lt hlt)
  case transferFrom | burnFrom | sendFrom => cases hd
  -- the other kinds leave every balance as it was
  all_goals
    rw [htok.1] at hlt
    exact absurd hlt (Nat.lt_irrefl _)

/-! ## Clause 1: a balance decreases only by the holder or within a valid allowance -/

/-- **C02, debit authorisation.** If a successful call lowers the balance of `a`, then either `a`
itself sent a `Transfer`/`Send`/`Burn`, or the call is a `TransferFrom`/`SendFrom`/`BurnFrom` on owner
`a` by a spender `snd` that held an allowance `al` from `a` which was unexpired at `blk` and at least
the amount `amt`; the allowance is lowered by exactly `amt` and `a` loses at most `amt`. -/
theorem debit_authorised {s s' : State} {blk : Block} {snd : Addr} {msg : Msg} {out : List Out} {a : Addr}
    (h : execute s blk snd msg = .ok (s', out)) (hlt : bal s' a < bal s a) :
    (snd = a ∧ isHolderMove msg = true) ∨
    (∃ o amt al, drawOf msg = some (o, amt) ∧ o.text = a ∧
      s.allow.get? (a, snd) = some al ∧ al.expires.isExpired blk = false ∧ amt ≤ al.amount ∧
      s'.allow.get? (a, snd) = some ⟨al.amount - amt, al.expires⟩ ∧
      bal s a - bal s' a ≤ amt) := by
  cases hd : drawOf msg with
  | none => exact .inl (nondraw_bal h hd a hlt)
  | some p =>
    obtain ⟨o, amt⟩ := p
    right
    obtain ⟨hown, hle⟩ := draw_bal h hd a
    have ha := hown hlt
    subst ha
    obtain ⟨_, al, al2, b1, e1, e2, e3, _, _, _, e7, _⟩ := draw_inv h hd
    exact ⟨o, amt, al, rfl, rfl, e1, e2, e3, by rw [e7]; simp, hle⟩

/-! ## Clause 2: a draw needs a valid allowance, lowers it by exactly the amount, moves exactly the amount -/

/-- **C02, draw requires (converse of authorisation).** A successful `TransferFrom`/`SendFrom`/`BurnFrom`
on `o` for `amt` by `snd` implies: the allowance `(o, snd)` was present, unexpired at `blk` and at least
`amt` (in the owner-keyed map and in its spender-keyed mirror), and the owner's balance covered `amt`. -/
theorem draw_requires {s s' : State} {blk : Block} {snd : Addr} {msg : Msg} {out : List Out}
    {o : AddrArg} {amt : Nat}
    (h : execute s blk snd msg = .ok (s', out)) (hd : drawOf msg = some (o, amt)) :
    o.valid = true ∧ amt ≤ bal s o.text ∧
    (∃ al, s.allow.get? (o.text, snd) = some al ∧ al.expires.isExpired blk = false ∧ amt ≤ al.amount) ∧
    (∃ al2, s.allowSp.get? (snd, o.text) = some al2 ∧ al2.expires.isExpired blk = false ∧ amt ≤ al2.amount) := by
  obtain ⟨hv, al, al2, b1, e1, e2, e3, e4, e5, e6, _, _, _, h1, _⟩ := draw_inv h hd
  exact ⟨hv, (debit_ok_iff.mp h1).1, ⟨al, e1, e2, e3⟩, ⟨al2, e4, e5, e6⟩⟩

/-- Exactly `amt` moved from `frm` to `to` (net zero when they coincide); nobody else changed. -/
def Moved (s s' : State) (frm to : Addr) (amt : Nat) : Prop :=
  amt ≤ bal s frm ∧
  (frm ≠ to → bal s' frm + amt = bal s frm ∧ bal s' to = bal s to + amt) ∧
  (frm = to → bal s' frm = bal s frm) ∧
  (∀ x, x ≠ frm → x ≠ to → bal s' x = bal s x) ∧
  s'.supply = s.supply

/-- Exactly `amt` left `frm` and the supply; nobody else changed. -/
def Burned (s s' : State) (frm : Addr) (amt : Nat) : Prop :=
  amt ≤ bal s frm ∧ bal s' frm + amt = bal s frm ∧ (∀ x, x ≠ frm → bal s' x = bal s x) ∧
  amt ≤ s.supply ∧ s'.supply + amt = s.supply

theorem moved_of {s s' : State} {frm : Addr} {to : AddrArg} {amt : Nat} (h : Moves s s' frm to amt) :
    Moved s s' frm to.text amt := by
  obtain ⟨_, b1, h1, h2, hs⟩ := h
  have hm := move_get h1 h2
  have hle := (hm frm).1
  simp only [Moved, bal_def]
  refine ⟨hle, ?_, ?_, ?_, hs⟩
  · intro hne
    have hne' : ¬ to.text = frm := fun e => hne e.symm
    rw [(hm frm).2, (hm to.text).2]
    simp [hne, hne']; omega
  · intro he; subst he
    rw [(hm to.text).2]; simp
  · intro x h1 h2
    rw [(hm x).2]; simp [h1, h2]

theorem burned_of {s s' : State} {frm : Addr} {amt : Nat} (h : Burns s s' frm amt) : Burned s s' frm amt := by
  obtain ⟨h1, hle, hs⟩ := h
  have hle' := (debit_ok_iff.mp h1).1
  simp only [Burned, bal_def]
  refine ⟨hle', ?_, ?_, hle, by omega⟩
  · rw [debit_get h1 frm]; simp; omega
  · intro x hx; rw [debit_get h1 x]; simp [hx]

/-- **C02, draw exactness (all three `*From` kinds at once).** A successful draw of `amt` on owner `o`
by spender `snd` lowers the allowance by exactly `amt` in BOTH maps (expiry untouched) and moves exactly
`amt`: to the recipient for `TransferFrom`/`SendFrom` (`Moved`, supply unchanged), out of the supply for
`BurnFrom` (`Burned`). -/
theorem draw_exact {s s' : State} {blk : Block} {snd : Addr} {msg : Msg} {out : List Out}
    {o : AddrArg} {amt : Nat}
    (h : execute s blk snd msg = .ok (s', out)) (hd : drawOf msg = some (o, amt)) :
    (∃ al, s.allow.get? (o.text, snd) = some al ∧ amt ≤ al.amount ∧
      s'.allow.get? (o.text, snd) = some ⟨al.amount - amt, al.expires⟩) ∧
    (∃ al2, s.allowSp.get? (snd, o.text) = some al2 ∧ amt ≤ al2.amount ∧
      s'.allowSp.get? (snd, o.text) = some ⟨al2.amount - amt, al2.expires⟩) ∧
    ((∃ r, drawRecipient msg = some r ∧ Moved s s' o.text r.text amt) ∨
     (drawRecipient msg = none ∧ Burned s s' o.text amt)) := by
  obtain ⟨hv, al, al2, b1, e1, e2, e3, e4, e5, e6, e7, e8, _, h1, hrest⟩ := draw_inv h hd
  refine ⟨⟨al, e1, e3, by rw [e7]; simp⟩, ⟨al2, e4, e6, by rw [e8]; simp⟩, ?_⟩
  rcases hrest with ⟨r, hr, hv', h2, hs⟩ | ⟨hr, hb, hle, hs⟩
  · exact .inl ⟨r, hr, moved_of ⟨hv', b1, h1, h2, hs⟩⟩
  · exact .inr ⟨hr, burned_of ⟨hb ▸ h1, hle, hs⟩⟩

/-- `draw_exact` spelled out for `TransferFrom`. -/
theorem draw_exact_transferFrom {s s' : State} {blk : Block} {snd : Addr} {o r : AddrArg} {amt : Nat}
    {out : List Out} (h : execute s blk snd (.transferFrom o r amt) = .ok (s', out)) :
    (∃ al, s.allow.get? (o.text, snd) = some al ∧ amt ≤ al.amount ∧
      s'.allow.get? (o.text, snd) = some ⟨al.amount - amt, al.expires⟩) ∧
    (∃ al2, s.allowSp.get? (snd, o.text) = some al2 ∧ amt ≤ al2.amount ∧
      s'.allowSp.get? (snd, o.text) = some ⟨al2.amount - amt, al2.expires⟩) ∧
    Moved s s' o.text r.text amt := by
  obtain ⟨h1, h2, ⟨_, hr, hm⟩ | ⟨hr, _⟩⟩ := draw_exact h (o := o) (amt := amt) rfl
  · cases hr; exact ⟨h1, h2, hm⟩
  · cases hr

/-- `draw_exact` spelled out for `SendFrom`. -/
theorem draw_exact_sendFrom {s s' : State} {blk : Block} {snd : Addr} {o c : AddrArg} {amt : Nat}
    {p : String} {out : List Out} (h : execute s blk snd (.sendFrom o c amt p) = .ok (s', out)) :
    (∃ al, s.allow.get? (o.text, snd) = some al ∧ amt ≤ al.amount ∧
      s'.allow.get? (o.text, snd) = some ⟨al.amount - amt, al.expires⟩) ∧
    (∃ al2, s.allowSp.get? (snd, o.text) = some al2 ∧ amt ≤ al2.amount ∧
      s'.allowSp.get? (snd, o.text) = some ⟨al2.amount - amt, al2.expires⟩) ∧
    Moved s s' o.text c.text amt := by
  obtain ⟨h1, h2, ⟨_, hr, hm⟩ | ⟨hr, _⟩⟩ := draw_exact h (o := o) (amt := amt) rfl
  · cases hr; exact ⟨h1, h2, hm⟩
  · cases hr

/-- `draw_exact` spelled out for `BurnFrom`: owner −amt and supply −amt. -/
theorem draw_exact_burnFrom {s s' : State} {blk : Block} {snd : Addr} {o : AddrArg} {amt : Nat}
    {out : List Out} (h : execute s blk snd (.burnFrom o amt) = .ok (s', out)) :
    (∃ al, s.allow.get? (o.text, snd) = some al ∧ amt ≤ al.amount ∧
      s'.allow.get? (o.text, snd) = some ⟨al.amount - amt, al.expires⟩) ∧
    (∃ al2, s.allowSp.get? (snd, o.text) = some al2 ∧ amt ≤ al2.amount ∧
      s'.allowSp.get? (snd, o.text) = some ⟨al2.amount - amt, al2.expires⟩) ∧
    Burned s s' o.text amt := by
  obtain ⟨h1, h2, ⟨_, hr, _⟩ | ⟨_, hb⟩⟩ := draw_exact h (o := o) (amt := amt) rfl
  · cases hr
  · exact ⟨h1, h2, hb⟩

/-- **C02, holder moves are exact too** (the amount named in the notification of `Send` is the amount
actually moved): `Transfer`/`Send` move exactly `amt` from the sender, `Burn` burns exactly `amt` of the
sender's; none of them touches any allowance. -/
theorem holder_move_exact {s s' : State} {blk : Block} {snd : Addr} {msg : Msg} {out : List Out}
    (h : execute s blk snd msg = .ok (s', out)) :
    (∀ r amt, msg = .transfer r amt → r.valid = true ∧ Moved s s' snd r.text amt) ∧
    (∀ c amt p, msg = .send c amt p → c.valid = true ∧ Moved s s' snd c.text amt) ∧
    (∀ amt, msg = .burn amt → Burned s s' snd amt) ∧
    (isHolderMove msg = true → s'.allow = s.allow ∧ s'.allowSp = s.allowSp) := by
  have htok := (execute_frame h).2.2.2.1
  refine ⟨?_, ?_, ?_, ?_⟩
  · rintro r amt rfl
    exact ⟨htok.1, moved_of htok⟩
  · rintro c amt p rfl
    exact ⟨htok.1, moved_of htok⟩
  · rintro amt rfl
    exact burned_of htok
  · intro hm
    cases msg <;> first | exact (execute_frame h).2.1 | cases hm

theorem nonallowance_frame {s s' : State} {blk : Block} {snd : Addr} {msg : Msg} {out : List Out}
    (h : execute s blk snd msg = .ok (s', out)) (hd : drawOf msg = none) (he : allowanceEditOf msg = none) :
    s'.allow = s.allow ∧ s'.allowSp = s.allowSp := by
  cases msg
  case increaseAllowance | decreaseAllowance => cases he
  case transferFrom | burnFrom | sendFrom => cases hd
  all_goals exact (execute_frame h).2.1

theorem of_pair_or_mirror {x y x' y' : Addr} (h : (x, y) = (x', y') ∨ (y, x) = (y', x')) : x = x' ∧ y = y' := by
  rcases h with h | h <;> cases h <;> exact ⟨rfl, rfl⟩

/-- Frame of both allowance maps at once: the entry of the pair `(o, sp)` — `allow (o, sp)` or its mirror
`allowSp (sp, o)` — is changed by a successful call only if the sender is `o` and the call is an
`Increase`/`DecreaseAllowance` for spender `sp`, or the sender is `sp` and the call is a `*From` on `o`. -/
theorem allowance_frame_both {s s' : State} {blk : Block} {snd : Addr} {msg : Msg} {out : List Out}
    {o sp : Addr} (h : execute s blk snd msg = .ok (s', out))
    (hne : s'.allow.get? (o, sp) ≠ s.allow.get? (o, sp) ∨ s'.allowSp.get? (sp, o) ≠ s.allowSp.get? (sp, o)) :
    (snd = o ∧ ∃ spArg, allowanceEditOf msg = some spArg ∧ spArg.text = sp) ∨
    (snd = sp ∧ ∃ oArg amt, drawOf msg = some (oArg, amt) ∧ oArg.text = o) := by
  cases hd : drawOf msg with
  | some p =>
    obtain ⟨oArg, amt⟩ := p
    obtain ⟨_, al, al2, b1, _, _, _, _, _, _, e7, e8, _⟩ := draw_inv h hd
    rw [e7, e8] at hne
    have hk := of_pair_or_mirror (hne.imp AMap.eq_of_get?_set_ne AMap.eq_of_get?_set_ne)
    exact .inr ⟨hk.2, oArg, amt, rfl, hk.1⟩
  | none =>
    left
    cases he : allowanceEditOf msg with
    | none =>
      obtain ⟨e1, e2⟩ := nonallowance_frame h hd he
      rw [e1, e2] at hne
      exact (hne.elim (fun h => h rfl) (fun h => h rfl)).elim
    | some spArg =>
      have hk : snd = o ∧ spArg.text = sp := by
        rcases (allowanceEditOf_iff msg spArg).mp he with ⟨amt, e, rfl⟩ | ⟨amt, e, rfl⟩
        · obtain ⟨_, _, _, _, _, rfl, _⟩ := execIncreaseAllowance_ok h
          exact of_pair_or_mirror (hne.imp AMap.eq_of_get?_set_ne AMap.eq_of_get?_set_ne)
        · obtain ⟨_, _, old, _, _, ⟨_, _, rfl⟩ | ⟨_, rfl⟩⟩ := execDecreaseAllowance_ok h
          · exact of_pair_or_mirror (hne.imp AMap.eq_of_get?_set_ne AMap.eq_of_get?_set_ne)
          · exact of_pair_or_mirror (hne.imp AMap.eq_of_get?_erase_ne AMap.eq_of_get?_erase_ne)
      exact ⟨hk.1, spArg, rfl, hk.2⟩

/-- **C02, allowance frame** (the map behind `query Allowance` / `AllAllowances`): the allowance of
`(o, sp)` is changed by a successful call only by `o`'s own `Increase`/`DecreaseAllowance` for `sp`, or by
`sp`'s own `TransferFrom`/`SendFrom`/`BurnFrom` on `o`.  (Failed calls change nothing: `step` rolls back.) -/
theorem allowance_frame {s s' : State} {blk : Block} {snd : Addr} {msg : Msg} {out : List Out}
    {o sp : Addr} (h : execute s blk snd msg = .ok (s', out))
    (hne : s'.allow.get? (o, sp) ≠ s.allow.get? (o, sp)) :
    (snd = o ∧ ∃ spArg, allowanceEditOf msg = some spArg ∧ spArg.text = sp) ∨
    (snd = sp ∧ ∃ oArg amt, drawOf msg = some (oArg, amt) ∧ oArg.text = o) :=
  allowance_frame_both h (.inl hne)

/-- The same frame for the spender-keyed mirror map (behind `AllSpenderAllowances`). -/
theorem allowanceSp_frame {s s' : State} {blk : Block} {snd : Addr} {msg : Msg} {out : List Out}
    {o sp : Addr} (h : execute s blk snd msg = .ok (s', out))
    (hne : s'.allowSp.get? (sp, o) ≠ s.allowSp.get? (sp, o)) :
    (snd = o ∧ ∃ spArg, allowanceEditOf msg = some spArg ∧ spArg.text = sp) ∨
    (snd = sp ∧ ∃ oArg amt, drawOf msg = some (oArg, amt) ∧ oArg.text = o) :=
  allowance_frame_both h (.inr hne)

/-! ## Clause 5: increase is exact, decrease saturates at zero, self / past-expiry rejected -/

/-- **C02, increase is exact.** A successful `IncreaseAllowance{sp, amt, e}` by `snd` sets the entry of
`(snd, sp)` to old amount (0 if absent) `+ amt` — which fits `u128` — with expiry `e` if given (and then
unexpired) else the old one (`Never` if absent), in both maps; balances and supply are untouched. -/
theorem increase_exact {s s' : State} {blk : Block} {snd : Addr} {sp : AddrArg} {amt : Nat}
    {e : Option Expiration} {out : List Out}
    (h : execute s blk snd (.increaseAllowance sp amt e) = .ok (s', out)) :
    sp.valid = true ∧ sp.text ≠ snd ∧ (∀ x, e = some x → x.isExpired blk = false) ∧
    (allowance s (snd, sp.text)).amount + amt ≤ U128_MAX ∧
    s'.allow.get? (snd, sp.text) =
      some ⟨(allowance s (snd, sp.text)).amount + amt, e.getD (allowance s (snd, sp.text)).expires⟩ ∧
    s'.allowSp.get? (sp.text, snd) =
      some ⟨((s.allowSp.get? (sp.text, snd)).getD Allowance.default).amount + amt,
            e.getD ((s.allowSp.get? (sp.text, snd)).getD Allowance.default).expires⟩ ∧
    s'.balances = s.balances ∧ s'.supply = s.supply := by
  obtain ⟨hv, hne, he, h1, _, rfl, _⟩ := execIncreaseAllowance_ok h
  exact ⟨hv, hne, he, h1, by simp [allowance], by simp, rfl, rfl⟩

/-- **C02, decrease saturates at zero.** A successful `DecreaseAllowance{sp, amt, e}` by `snd` needs an
existing entry `old`; if `amt < old.amount` the entry becomes `old.amount - amt` (expiry `e` if given, and
then unexpired, else unchanged) in both maps; otherwise both entries are removed.  In either case the
point query reports amount `old.amount - amt` (truncated subtraction, i.e. saturating at 0). -/
theorem decrease_saturates {s s' : State} {blk : Block} {snd : Addr} {sp : AddrArg} {amt : Nat}
    {e : Option Expiration} {out : List Out}
    (h : execute s blk snd (.decreaseAllowance sp amt e) = .ok (s', out)) :
    sp.valid = true ∧ sp.text ≠ snd ∧ ∃ old, s.allow.get? (snd, sp.text) = some old ∧
      (amt < old.amount → (∀ x, e = some x → x.isExpired blk = false) ∧
        s'.allow.get? (snd, sp.text) = some ⟨old.amount - amt, e.getD old.expires⟩ ∧
        s'.allowSp.get? (sp.text, snd) = some ⟨old.amount - amt, e.getD old.expires⟩) ∧
      (old.amount ≤ amt → s'.allow.get? (snd, sp.text) = none ∧ s'.allowSp.get? (sp.text, snd) = none) ∧
      (allowance s' (snd, sp.text)).amount = old.amount - amt ∧
      s'.balances = s.balances ∧ s'.supply = s.supply := by
  obtain ⟨hv, hne, old, hold, _, hc⟩ := execDecreaseAllowance_ok h
  refine ⟨hv, hne, old, hold, ?_⟩
  rcases hc with ⟨hlt, he, rfl⟩ | ⟨hge, rfl⟩
  · exact ⟨fun _ => ⟨he, by simp, by simp⟩, fun hc => by omega, by simp [allowance], rfl, rfl⟩
  · refine ⟨fun hc => by omega, fun _ => ⟨by simp, by simp⟩, ?_, rfl, rfl⟩
    simp [allowance, Allowance.default]; omega

/-- **C02, self-allowance rejected**: nobody can grant (or reduce) an allowance to itself. -/
theorem self_allowance_rejected {s : State} {blk : Block} {snd : Addr} {sp : AddrArg} {amt : Nat}
    {e : Option Expiration} (hself : sp.text = snd) (r : State × List Out) :
    execute s blk snd (.increaseAllowance sp amt e) ≠ .ok r ∧
    execute s blk snd (.decreaseAllowance sp amt e) ≠ .ok r := by
  obtain ⟨s', out⟩ := r
  exact ⟨fun h => (execIncreaseAllowance_ok h).2.1 hself, fun h => (execDecreaseAllowance_ok h).2.1 hself⟩

/-- **C02, past expiry rejected (increase)**: an `IncreaseAllowance` carrying an expiry that is already
expired at `blk` fails. -/
theorem past_expiry_rejected_increase {s : State} {blk : Block} {snd : Addr} {sp : AddrArg} {amt : Nat}
    {x : Expiration} (hx : x.isExpired blk = true) (r : State × List Out) :
    execute s blk snd (.increaseAllowance sp amt (some x)) ≠ .ok r := by
  obtain ⟨s', out⟩ := r
  intro h
  have := (execIncreaseAllowance_ok h).2.2.1 x rfl
  rw [hx] at this; cases this

/-- **C02, past expiry rejected (decrease)**: a `DecreaseAllowance` that leaves a positive remainder
(`amt < old.amount`) and carries an already expired expiry fails.  (When `old.amount ≤ amt` the entry is
removed and the expiry argument is ignored — see `decrease_ignores_expiry_on_removal`.) -/
theorem past_expiry_rejected_decrease {s : State} {blk : Block} {snd : Addr} {sp : AddrArg} {amt : Nat}
    {x : Expiration} {old : Allowance} (hold : s.allow.get? (snd, sp.text) = some old)
    (hlt : amt < old.amount) (hx : x.isExpired blk = true) (r : State × List Out) :
    execute s blk snd (.decreaseAllowance sp amt (some x)) ≠ .ok r := by
  obtain ⟨s', out⟩ := r
  intro h
  have h' : execDecreaseAllowance s blk snd sp amt (some x) = .ok (s', out) := h
  obtain ⟨_, _, old', hold', _, hc⟩ := execDecreaseAllowance_ok h'
  rw [hold] at hold'; cases hold'
  rcases hc with ⟨_, he, _⟩ | ⟨hge, _⟩
  · have := he x rfl; rw [hx] at this; cases this
  · omega

/-! ## Clause 6: `Send` / `SendFrom` notify the receiving contract exactly once -/

/-- The messages a successful call must emit: one `Cw20ReceiveMsg{sender, amount, msg}` to the contract
for `Send`/`SendFrom` — `sender` is the caller (for `SendFrom` the spender, the true initiator, not the
owner) — and nothing for every other kind. -/
def expectedOut (snd : Addr) : Msg → List Out
  | .send c amt p => [⟨c.text, snd, amt, p⟩]
  | .sendFrom _ c amt p => [⟨c.text, snd, amt, p⟩]
  | _ => []

/-- **C02, notification.** On success `out = expectedOut snd msg`: exactly one notification for
`Send`/`SendFrom`, to the named contract, naming the caller, the amount (which by `holder_move_exact` /
`draw_exact_sendFrom` is the amount actually moved) and the attached payload; no message otherwise. -/
theorem send_notifies_once {s s' : State} {blk : Block} {snd : Addr} {msg : Msg} {out : List Out}
    (h : execute s blk snd msg = .ok (s', out)) : out = expectedOut snd msg := by
  cases msg <;> exact (execute_frame h).2.2.2.2

/-! ## Clause 3: over any history a spender never moves more than the owner cumulatively granted

A ghost ledger is threaded through the run.  It is pure bookkeeping: `gstep_state` / `grun_state` show
the contract state of the ghost run is exactly the plain run. -/

/-- Ledger lookup (0 if absent). -/
def tot (m : AMap (Addr × Addr) Nat) (p : Addr × Addr) : Nat := (m.get? p).getD 0

/-- Add `n` to the ledger entry of `p` when `k = some (p, n)`. -/
def bumpOpt (m : AMap (Addr × Addr) Nat) (k : Option ((Addr × Addr) × Nat)) : AMap (Addr × Addr) Nat :=
  match k with
  | some (p, n) => m.set p (tot m p + n)
  | none => m

/-- The increment `bumpOpt m k` applies at pair `p`. -/
def incOpt (k : Option ((Addr × Addr) × Nat)) (p : Addr × Addr) : Nat :=
  match k with
  | some (q, n) => if q = p then n else 0
  | none => 0

theorem tot_bumpOpt (m : AMap (Addr × Addr) Nat) (k : Option ((Addr × Addr) × Nat)) (p : Addr × Addr) :
    tot (bumpOpt m k) p = tot m p + incOpt k p := by
  cases k with
  | none => simp [bumpOpt, incOpt]
  | some qn =>
    obtain ⟨q, n⟩ := qn
    simp only [bumpOpt, incOpt, tot, AMap.get?_set]
    by_cases e : q = p
    · subst e; simp
    · simp [e]

/-- The pair `(owner, spender)` and amount granted by this call: `IncreaseAllowance{sp, amt}` by `snd`. -/
def grantKey (snd : Addr) (msg : Msg) : Option ((Addr × Addr) × Nat) :=
  (grantOf msg).map fun x => ((snd, x.1.text), x.2)

/-- The pair `(owner, spender)` and amount drawn by this call: a `*From{owner, amt}` by `snd`. -/
def drawKey (snd : Addr) (msg : Msg) : Option ((Addr × Addr) × Nat) :=
  (drawOf msg).map fun x => ((x.1.text, snd), x.2)

/-- The pair and the number of tokens that actually left the owner's balance in this call. -/
def movedKey (s s' : State) (snd : Addr) (msg : Msg) : Option ((Addr × Addr) × Nat) :=
  (drawOf msg).map fun x => ((x.1.text, snd), bal s x.1.text - bal s' x.1.text)

/-- Ghost-augmented state: the contract state plus three ledgers keyed `(owner, spender)`:
`granted` = Σ amounts of successful `IncreaseAllowance` by owner for spender,
`drawn` = Σ amounts of successful `TransferFrom`/`SendFrom`/`BurnFrom` by spender on owner,
`moved` = Σ tokens that actually left owner's balance in those draws. -/
structure G where
  s : State
  granted : AMap (Addr × Addr) Nat
  drawn : AMap (Addr × Addr) Nat
  moved : AMap (Addr × Addr) Nat

/-- One transaction on the ghost state: commit and book on success, roll back on error. -/
def gstep (g : G) (blk : Block) (snd : Addr) (msg : Msg) : G :=
  match execute g.s blk snd msg with
  | .ok (s', _) =>
    { s := s'
      granted := bumpOpt g.granted (grantKey snd msg)
      drawn := bumpOpt g.drawn (drawKey snd msg)
      moved := bumpOpt g.moved (movedKey g.s s' snd msg) }
  | .error _ => g

/-- Histories: any list of (block, sender, message); failed calls roll back. -/
def run (s : State) (ops : List (Block × Addr × Msg)) : State :=
  ops.foldl (fun s op => step s op.1 op.2.1 op.2.2) s

def grun (g : G) (ops : List (Block × Addr × Msg)) : G :=
  ops.foldl (fun g op => gstep g op.1 op.2.1 op.2.2) g

/-- Fresh ledgers around a freshly instantiated state. -/
def ginit (s : State) : G := ⟨s, [], [], []⟩

theorem gstep_state (g : G) (blk : Block) (snd : Addr) (msg : Msg) :
    (gstep g blk snd msg).s = step g.s blk snd msg := by
  unfold gstep step
  split <;> simp_all

theorem run_eq_runOps (s : State) (ops : List (Block × Addr × Msg)) :
    run s ops = C19.runOps s (ops.map fun op => .exec op.1 op.2.1 op.2.2) := by
  unfold run C19.runOps
  rw [List.foldl_map]
  rfl

open CwPlus.Props.C19 (Op stepOp runOps) in
/-- One transaction of a mixed history on the ghost state: `migrate` books nothing (it moves no token and
touches no owner-keyed allowance). -/
def gstepOp (g : G) : Op → G
  | .exec blk snd msg => gstep g blk snd msg
  | .migrate => { g with s := stepOp g.s .migrate }

open CwPlus.Props.C19 (Op stepOp runOps) in
def grunOps (g : G) (ops : List Op) : G := ops.foldl gstepOp g

open CwPlus.Props.C19 (Op stepOp runOps) in
theorem grunOps_state (g : G) (ops : List Op) : (grunOps g ops).s = runOps g.s ops := by
  refine (List.foldl_hom G.s (g₁ := gstepOp) (g₂ := stepOp) fun g op => ?_).symm
  cases op with
  | exec blk snd msg => simp only [gstepOp, gstep_state]; rfl
  | migrate => rfl

/-- A ghost run over execute calls is a ghost run over a mixed history without `migrate`. -/
theorem grun_eq_grunOps (g : G) (ops : List (Block × Addr × Msg)) :
    grun g ops = grunOps g (ops.map fun op => .exec op.1 op.2.1 op.2.2) := by
  unfold grun grunOps
  rw [List.foldl_map]
  rfl

/-- The ghost ledgers do not influence the contract: the state of the ghost run is the plain run. -/
theorem grun_state (g : G) (ops : List (Block × Addr × Msg)) : (grun g ops).s = run g.s ops := by
  rw [grun_eq_grunOps, grunOps_state, run_eq_runOps]

/-- What the ledgers record, made explicit: a failing call books nothing; a successful call adds its
`amt` to `granted (snd, sp)` iff it is `IncreaseAllowance{sp, amt}`, to `drawn (o, snd)` iff it is a
`*From{o, amt}`. -/
theorem ghost_meaning (g : G) (blk : Block) (snd : Addr) (msg : Msg) (p : Addr × Addr) :
    (∀ e, execute g.s blk snd msg = .error e → gstep g blk snd msg = g) ∧
    (∀ r, execute g.s blk snd msg = .ok r →
      tot (gstep g blk snd msg).granted p = tot g.granted p + incOpt (grantKey snd msg) p ∧
      tot (gstep g blk snd msg).drawn p = tot g.drawn p + incOpt (drawKey snd msg) p ∧
      tot (gstep g blk snd msg).moved p = tot g.moved p + incOpt (movedKey g.s r.1 snd msg) p) := by
  constructor
  · intro e h; simp [gstep, h]
  · intro r h
    obtain ⟨s', out⟩ := r
    simp [gstep, h, tot_bumpOpt]

/-- Per-call accounting of the allowance of any pair `p`: what a successful call leaves plus what it
draws is at most what was there plus what it grants (equality except for `DecreaseAllowance`). -/
theorem allowance_step {s s' : State} {blk : Block} {snd : Addr} {msg : Msg} {out : List Out}
    (h : execute s blk snd msg = .ok (s', out)) (p : Addr × Addr) :
    (allowance s' p).amount + incOpt (drawKey snd msg) p ≤
      (allowance s p).amount + incOpt (grantKey snd msg) p := by
  cases hd : drawOf msg with
  | some x =>
    obtain ⟨o, amt⟩ := x
    have hg := (draw_not_other hd).2
    obtain ⟨_, al, al2, b1, e1, _, e3, _, _, _, e7, _⟩ := draw_inv h hd
    simp only [drawKey, grantKey, hd, hg, incOpt, Option.map_some, Option.map_none, allowance, e7,
      AMap.get?_set]
    by_cases e : (o.text, snd) = p
    · subst e; simp [e1]; omega
    · simp [e]
  | none =>
    simp only [drawKey, hd, Option.map_none, incOpt, Nat.add_zero]
    cases he : allowanceEditOf msg with
    | none =>
      rw [allowance, (nonallowance_frame h hd he).1]
      exact Nat.le_add_right _ _
    | some spArg =>
      rcases (allowanceEditOf_iff msg spArg).mp he with ⟨amt, e, rfl⟩ | ⟨amt, e, rfl⟩
      · obtain ⟨_, _, _, _, _, rfl, _⟩ := execIncreaseAllowance_ok h
        simp only [grantKey, grantOf, Option.map_some, allowance, AMap.get?_set]
        by_cases e : (snd, spArg.text) = p
        · subst e; simp
        · simp [e]
      · obtain ⟨_, _, old, hold, _, ⟨_, _, rfl⟩ | ⟨_, rfl⟩⟩ := execDecreaseAllowance_ok h
        · simp only [grantKey, grantOf, Option.map_none, allowance, AMap.get?_set]
          by_cases e : (snd, spArg.text) = p
          · subst e; simp [hold]
          · simp [e]
        · simp only [grantKey, grantOf, Option.map_none, allowance, AMap.get?_erase]
          by_cases e : (snd, spArg.text) = p
          · subst e; simp [Allowance.default]
          · simp [e]

theorem moved_step {s s' : State} {blk : Block} {snd : Addr} {msg : Msg} {out : List Out}
    (h : execute s blk snd msg = .ok (s', out)) (p : Addr × Addr) :
    incOpt (movedKey s s' snd msg) p ≤ incOpt (drawKey snd msg) p := by
  cases hd : drawOf msg with
  | none => simp [movedKey, drawKey, hd, incOpt]
  | some x =>
    obtain ⟨o, amt⟩ := x
    have := (draw_bal h hd o.text).2
    simp only [movedKey, drawKey, hd, incOpt, Option.map_some]
    split <;> simp [this]

/-- Per pair (owner, spender): drawn + still allowed ≤ granted, and moved ≤ drawn. -/
def GInv (g : G) : Prop :=
  ∀ p, tot g.drawn p + (allowance g.s p).amount ≤ tot g.granted p ∧ tot g.moved p ≤ tot g.drawn p

theorem instantiate_allow {m : InstMsg} {s : State} (h : instantiate m = .ok s) : s.allow = [] := by
  obtain ⟨_, _, _, _, _, _, _, _, rfl⟩ := instantiate_ok h
  rfl

theorem ginit_inv {m : InstMsg} {s : State} (h : instantiate m = .ok s) : GInv (ginit s) := by
  intro p
  simp [ginit, tot, allowance, Allowance.default, instantiate_allow h]

theorem gstep_inv {g : G} (blk : Block) (snd : Addr) (msg : Msg) (hi : GInv g) :
    GInv (gstep g blk snd msg) := by
  unfold gstep
  split
  · rename_i s' out h
    intro p
    have h1 := allowance_step h p
    have h2 := moved_step h p
    have := hi p
    simp only [tot_bumpOpt]
    omega
  · exact hi

open CwPlus.Props.C19 (Op stepOp runOps) in
theorem gstepOp_inv {g : G} (op : Op) (hi : GInv g) : GInv (gstepOp g op) := by
  cases op with
  | exec blk snd msg => exact gstep_inv blk snd msg hi
  | migrate =>
    intro p
    have := hi p
    have ha : (stepOp g.s .migrate).allow = g.s.allow := (Cw20Mixed.stepOp_migrate_frame g.s).2.2.2
    simp only [gstepOp, allowance, ha]
    exact this

open CwPlus.Props.C19 (Op stepOp runOps) in
theorem grunOps_inv {g : G} (ops : List Op) (hi : GInv g) : GInv (grunOps g ops) :=
  foldl_invariant GInv (fun _ hi op _ => gstepOp_inv op hi) hi

open CwPlus.Props.C19 (Op stepOp runOps) in
/-- **C02, cumulative bound over histories with migrations**: after any accepted instantiation and any history
of execute and `migrate` calls in any order, for every pair: drawn + remaining allowance ≤ granted, and the
tokens that actually left the owner through the spender's draws ≤ granted. -/
theorem cumulative_bound_mixed {m : InstMsg} {s0 : State} (h : instantiate m = .ok s0) (ops : List Op)
    (p : Addr × Addr) :
    tot (grunOps (ginit s0) ops).drawn p + (allowance (runOps s0 ops) p).amount ≤ tot (grunOps (ginit s0) ops).granted p
    ∧ tot (grunOps (ginit s0) ops).moved p ≤ tot (grunOps (ginit s0) ops).granted p := by
  have hg := grunOps_inv ops (ginit_inv h) p
  rw [grunOps_state] at hg
  exact ⟨hg.1, by have := hg.1; have := hg.2; omega⟩

/-- **C02, cumulative bound.** After any accepted instantiation (allowances start empty) and any finite
history of execute calls — any senders, any messages, any blocks, failed calls rolled back — for every
pair `p = (owner, spender)`: everything the spender has drawn so far plus the allowance it still holds
is at most everything the owner ever granted.  A chain executes calls one at a time, so every
interleaving of several actors (including the reduce-allowance vs spend race, in either order) is one of
these histories. -/
theorem cumulative_bound {m : InstMsg} {s0 : State} (h : instantiate m = .ok s0)
    (ops : List (Block × Addr × Msg)) (p : Addr × Addr) :
    tot (grun (ginit s0) ops).drawn p + (allowance (run s0 ops) p).amount ≤
      tot (grun (ginit s0) ops).granted p := by
  have := (cumulative_bound_mixed h (ops.map fun op => .exec op.1 op.2.1 op.2.2) p).1
  rwa [← grun_eq_grunOps, ← run_eq_runOps] at this

/-- **C02, corollary**: over any history a spender never draws more than the owner cumulatively granted. -/
theorem drawn_le_granted {m : InstMsg} {s0 : State} (h : instantiate m = .ok s0)
    (ops : List (Block × Addr × Msg)) (p : Addr × Addr) :
    tot (grun (ginit s0) ops).drawn p ≤ tot (grun (ginit s0) ops).granted p := by
  have := cumulative_bound h ops p; omega

/-- **C02, corollary in tokens**: the tokens a spender's draws actually removed from the owner's balance
never exceed what the owner cumulatively granted to that spender. -/
theorem moved_le_granted {m : InstMsg} {s0 : State} (h : instantiate m = .ok s0)
    (ops : List (Block × Addr × Msg)) (p : Addr × Addr) :
    tot (grun (ginit s0) ops).moved p ≤ tot (grun (ginit s0) ops).granted p := by
  have := (cumulative_bound_mixed h (ops.map fun op => .exec op.1 op.2.1 op.2.2) p).2
  rwa [← grun_eq_grunOps] at this

/-! ## Converse of clause 2: exactly when a draw succeeds -/

/-- The condition on the pre-state under which a draw of `amt` on owner `o` by spender `snd` goes through: the
owner validates and holds `amt`, and the allowance `(o, snd)` is present, unexpired at `blk` and at least `amt`
— in the owner-keyed map and in its spender-keyed mirror (the code checks each map on its own value). -/
def DrawReady (s : State) (blk : Block) (snd : Addr) (o : AddrArg) (amt : Nat) : Prop :=
  o.valid = true ∧ amt ≤ bal s o.text ∧
  (∃ al, s.allow.get? (o.text, snd) = some al ∧ al.expires.isExpired blk = false ∧ amt ≤ al.amount) ∧
  (∃ al2, s.allowSp.get? (snd, o.text) = some al2 ∧ al2.expires.isExpired blk = false ∧ amt ≤ al2.amount)

/-- **C02, clause 2 as an equivalence** (under the C01 invariant `supply = Σ balances ≤ u128`): a
`TransferFrom` / `SendFrom` / `BurnFrom` on `o` for `amt` by `snd` succeeds **iff** `DrawReady` holds and the
recipient (if any) validates.  "Only if" is `draw_requires`; "if" says a draw within a valid allowance can
not be blocked by anything else — the credit cannot overflow and the supply subtraction cannot underflow,
because balances are part of the supply. -/
theorem draw_ok_iff {s : State} (hi : C01.Inv s) {blk : Block} {snd : Addr} {msg : Msg} {o : AddrArg} {amt : Nat}
    (hd : drawOf msg = some (o, amt)) :
    (∃ r, execute s blk snd msg = .ok r) ↔
      (DrawReady s blk snd o amt ∧ ∀ r, drawRecipient msg = some r → r.valid = true) := by
  constructor
  · rintro ⟨⟨s', out⟩, h⟩
    refine ⟨draw_requires h hd, ?_⟩
    intro r hr
    obtain ⟨_, _, _, _, _, _, _, _, _, _, _, _, _, _, hrest⟩ := draw_inv h hd
    rcases hrest with ⟨r', hr', hv, _⟩ | ⟨hn, _⟩
    · rw [hr] at hr'; cases hr'; exact hv
    · rw [hr] at hn; cases hn
  · rintro ⟨⟨hv, hbal, ⟨al, e1, e2, e3⟩, ⟨al2, e4, e5, e6⟩⟩, hrec⟩
    have hded : deduct s blk o.text snd amt = .ok { s with
        allow := s.allow.set (o.text, snd) ⟨al.amount - amt, al.expires⟩,
        allowSp := s.allowSp.set (snd, o.text) ⟨al2.amount - amt, al2.expires⟩ } :=
      deduct_ok_iff.mpr ⟨al, al2, e1, e2, e3, e4, e5, e6, rfl⟩
    have hdeb : debit s.balances o.text amt = .ok (s.balances.set o.text ((s.balances.get? o.text).getD 0 - amt)) :=
      debit_ok_iff.mpr ⟨hbal, rfl⟩
    rcases (drawOf_iff msg o amt).mp hd with ⟨r, rfl⟩ | rfl | ⟨c, p, rfl⟩
    · exact C01.transferFrom_credit_ok hi (hrec r rfl) hv hded hdeb
    · exact ⟨_, execBurnFrom_ok_iff.mpr ⟨hv, _, hded, _, hdeb, Nat.le_trans hbal (C01.bal_le_supply hi _), rfl⟩⟩
    · exact C01.sendFrom_credit_ok hi (hrec c rfl) hv hded hdeb

/-- `draw_ok_iff` when the two allowance maps agree (C19's invariant, which holds in every reachable state):
the mirror conjunct collapses and the condition is the one a user reads off the `Allowance` and `Balance`
queries. -/
theorem draw_ok_iff_of_inv19 {s : State} (hi : C01.Inv s) (h19 : C19.Inv19 s) {blk : Block} {snd : Addr} {msg : Msg}
    {o : AddrArg} {amt : Nat} (hd : drawOf msg = some (o, amt)) :
    (∃ r, execute s blk snd msg = .ok r) ↔
      (o.valid = true ∧ amt ≤ bal s o.text ∧
       (∃ al, s.allow.get? (o.text, snd) = some al ∧ al.expires.isExpired blk = false ∧ amt ≤ al.amount) ∧
       ∀ r, drawRecipient msg = some r → r.valid = true) := by
  rw [draw_ok_iff hi hd]
  constructor
  · rintro ⟨⟨hv, hb, ha, _⟩, hr⟩; exact ⟨hv, hb, ha, hr⟩
  · rintro ⟨hv, hb, ⟨al, e1, e2, e3⟩, hr⟩
    exact ⟨⟨hv, hb, ⟨al, e1, e2, e3⟩, ⟨al, by rw [← h19]; exact e1, e2, e3⟩⟩, hr⟩

/-- **A valid draw cannot be blocked**, on reachable states: after any accepted instantiation and any history,
a `*From` call succeeds iff the owner validates and holds the amount, the spender's allowance is present,
unexpired and sufficient, and the recipient validates. -/
theorem draw_ok_iff_reach {m : InstMsg} {s0 : State} (h : instantiate m = .ok s0) (ops : List (Block × Addr × Msg))
    {blk : Block} {snd : Addr} {msg : Msg} {o : AddrArg} {amt : Nat} (hd : drawOf msg = some (o, amt)) :
    (∃ r, execute (C01.run s0 ops) blk snd msg = .ok r) ↔
      (o.valid = true ∧ amt ≤ bal (C01.run s0 ops) o.text ∧
       (∃ al, (C01.run s0 ops).allow.get? (o.text, snd) = some al ∧ al.expires.isExpired blk = false
          ∧ amt ≤ al.amount) ∧
       ∀ r, drawRecipient msg = some r → r.valid = true) :=
  draw_ok_iff_of_inv19 (C01.reach_inv h ops) (C19.reach_inv19 h ops).1 hd

/-! ## Clause 1 over histories: a holder who never signs and never grants never loses -/

/-- One successful call keeps "owner `a` has granted nothing" (no entry `(a, ·)` in `ALLOWANCES`), unless it is
`a`'s own `IncreaseAllowance`: a `DecreaseAllowance` needs an existing entry, and so does a draw. -/
theorem no_grant_preserved {s s' : State} {blk : Block} {snd : Addr} {msg : Msg} {out : List Out} {a : Addr}
    (h : execute s blk snd msg = .ok (s', out)) (hnone : ∀ sp, s.allow.get? (a, sp) = none)
    (hq : snd = a → grantOf msg = none) : ∀ sp, s'.allow.get? (a, sp) = none := by
  intro sp
  by_cases hne : s'.allow.get? (a, sp) = s.allow.get? (a, sp)
  · rw [hne]; exact hnone sp
  · rcases allowance_frame h hne with ⟨hs, spArg, he, hsp⟩ | ⟨hs, oArg, amt, hd, ho⟩
    · rcases (allowanceEditOf_iff msg spArg).mp he with ⟨amt, e, rfl⟩ | ⟨amt, e, rfl⟩
      · cases hq hs
      · obtain ⟨_, _, old, hold, _⟩ := execDecreaseAllowance_ok h
        rw [hs, hsp, hnone sp] at hold; cases hold
    · obtain ⟨_, al, _, _, e1, _⟩ := draw_inv h hd
      rw [ho, hs, hnone sp] at e1; cases e1

/-- One successful call cannot lower the balance of a holder who has granted nothing, unless the holder itself
sent a `Transfer` / `Send` / `Burn`. -/
theorem no_grant_no_loss_step {s s' : State} {blk : Block} {snd : Addr} {msg : Msg} {out : List Out} {a : Addr}
    (h : execute s blk snd msg = .ok (s', out)) (hnone : ∀ sp, s.allow.get? (a, sp) = none)
    (hq : snd = a → isHolderMove msg = false) : bal s a ≤ bal s' a := by
  by_cases hlt : bal s' a < bal s a
  · rcases debit_authorised h hlt with ⟨hs, hm⟩ | ⟨o, amt, al, _, _, e1, _⟩
    · rw [hq hs] at hm; cases hm
    · rw [hnone snd] at e1; cases e1
  · omega

/-! ## Per-owner ledger: where an owner's tokens went, over any history

For an account `a`, every token that leaves its balance in a history is booked either as sent by `a` itself
(`Transfer` / `Send` / `Burn` signed by `a`) or as drawn through an allowance `a` granted; nothing else ever
lowers the balance (`owner_ledger`).  The drawn part is bounded by what `a` cumulatively granted
(`owner_drawn_le_granted`).  Ghost sums over the history, computed from the run itself. -/

/-- Tokens account `a` loses / gains in one transaction (0 for a failing, rolled-back call). -/
def lossAt (s : State) (op : Block × Addr × Msg) (a : Addr) : Nat := bal s a - bal (step s op.1 op.2.1 op.2.2) a
def gainAt (s : State) (op : Block × Addr × Msg) (a : Addr) : Nat := bal (step s op.1 op.2.1 op.2.2) a - bal s a

/-- The call is a `*From` on owner `a`. -/
def isDrawOn (msg : Msg) (a : Addr) : Bool :=
  match drawOf msg with
  | some (o, _) => decide (o.text = a)
  | none => false

/-- The part of `a`'s loss in this transaction that `a` signed itself (`Transfer`/`Send`/`Burn` by `a`). -/
def ownAt (s : State) (op : Block × Addr × Msg) (a : Addr) : Nat :=
  if op.2.1 = a ∧ isHolderMove op.2.2 = true then lossAt s op a else 0

/-- The part of `a`'s loss in this transaction that a spender drew through an allowance. -/
def drawnAt (s : State) (op : Block × Addr × Msg) (a : Addr) : Nat :=
  if isDrawOn op.2.2 a = true then lossAt s op a else 0

/-- What `a` grants in this transaction: the amount of a successful `IncreaseAllowance` signed by `a`. -/
def grantAt (s : State) (op : Block × Addr × Msg) (a : Addr) : Nat :=
  match grantOf op.2.2 with
  | some (_, amt) => if op.2.1 = a ∧ (execute s op.1 op.2.1 op.2.2).isOk = true then amt else 0
  | none => 0

/-- Sum of a per-transaction quantity along the run of a history from `s`. -/
def sumOver (f : State → Block × Addr × Msg → Nat) (s : State) : List (Block × Addr × Msg) → Nat
  | [] => 0
  | op :: rest => f s op + sumOver f (step s op.1 op.2.1 op.2.2) rest

/-- Tokens `a` itself sent away (or burned) over the history. -/
def sentOwn (s : State) (ops : List (Block × Addr × Msg)) (a : Addr) : Nat := sumOver (fun s op => ownAt s op a) s ops
/-- Tokens spenders drew from `a` over the history. -/
def drawnFrom (s : State) (ops : List (Block × Addr × Msg)) (a : Addr) : Nat := sumOver (fun s op => drawnAt s op a) s ops
/-- Tokens `a` received over the history (transfers, sends, mints to it). -/
def received (s : State) (ops : List (Block × Addr × Msg)) (a : Addr) : Nat := sumOver (fun s op => gainAt s op a) s ops
/-- Everything `a` granted over the history (to all spenders together). -/
def grantedBy (s : State) (ops : List (Block × Addr × Msg)) (a : Addr) : Nat := sumOver (fun s op => grantAt s op a) s ops

/-- One transaction: whatever `a` loses is either signed by `a` or drawn through an allowance of `a`. -/
theorem step_owner_ledger (s : State) (op : Block × Addr × Msg) (a : Addr) :
    bal (step s op.1 op.2.1 op.2.2) a + ownAt s op a + drawnAt s op a = bal s a + gainAt s op a := by
  obtain ⟨blk, snd, msg⟩ := op
  simp only [ownAt, drawnAt, gainAt, lossAt]
  by_cases hlt : bal (step s blk snd msg) a < bal s a
  · cases hx : execute s blk snd msg with
    | error e => simp [step, hx] at hlt
    | ok r =>
      obtain ⟨s', out⟩ := r
      have hs : step s blk snd msg = s' := by simp [step, hx]
      rw [hs] at hlt ⊢
      rcases debit_authorised hx hlt with ⟨h1, h2⟩ | ⟨o, amt, al, hd, ho, _⟩
      · have hnd : isDrawOn msg a = false := by
          cases hd : drawOf msg with
          | none => simp [isDrawOn, hd]
          | some x => rw [(draw_not_other hd).1] at h2; cases h2
        simp [h1, h2, hnd]; omega
      · have hnh := (draw_not_other hd).1
        have hdo : isDrawOn msg a = true := by simp [isDrawOn, hd, ho]
        simp [hnh, hdo]; omega
  · have h0 : bal s a - bal (step s blk snd msg) a = 0 := by omega
    simp only [h0, ite_self]
    omega

/-- **C02, per-owner ledger**: over any history from any state, for every account `a`:
`balance + sent by a itself + drawn through a's allowances = initial balance + received`.  So a balance is
lowered by nothing but the holder's own moves and spenders' draws — over whole histories, with exact amounts. -/
theorem owner_ledger (s : State) (ops : List (Block × Addr × Msg)) (a : Addr) :
    bal (run s ops) a + sentOwn s ops a + drawnFrom s ops a = bal s a + received s ops a := by
  induction ops generalizing s with
  | nil => rfl
  | cons op rest ih =>
    have h1 := step_owner_ledger s op a
    have h2 := ih (step s op.1 op.2.1 op.2.2)
    show bal (run (step s op.1 op.2.1 op.2.2) rest) a
        + (ownAt s op a + sentOwn (step s op.1 op.2.1 op.2.2) rest a)
        + (drawnAt s op a + drawnFrom (step s op.1 op.2.1 op.2.2) rest a)
      = bal s a + (gainAt s op a + received (step s op.1 op.2.1 op.2.2) rest a)
    omega

/-- The amount a draw on owner `a` names (0 for any other call). -/
def drawAmtOn (msg : Msg) (a : Addr) : Nat :=
  match drawOf msg with
  | some (o, amt) => if o.text = a then amt else 0
  | none => 0

/-- The amount an `IncreaseAllowance` by `a` names (0 for any other call or sender). -/
def grantAmtBy (snd : Addr) (msg : Msg) (a : Addr) : Nat :=
  match grantOf msg with
  | some (_, amt) => if snd = a then amt else 0
  | none => 0

/-- Per call, for the sum of all allowances granted by `a`: what is left plus what is drawn from `a` is at most
what was there plus what `a` grants (equality except for `DecreaseAllowance`). -/
theorem ownerSum_step {s s' : State} {blk : Block} {snd : Addr} {msg : Msg} {out : List Out}
    (h : execute s blk snd msg = .ok (s', out)) (a : Addr) :
    ownerSum s'.allow a + drawAmtOn msg a ≤ ownerSum s.allow a + grantAmtBy snd msg a := by
  cases hd : drawOf msg with
  | some x =>
    obtain ⟨o, amt⟩ := x
    have hg := (draw_not_other hd).2
    obtain ⟨_, al, al2, b1, e1, _, e3, _, _, _, e7, _⟩ := draw_inv h hd
    have hs := ownerSum_set s.allow o.text snd ⟨al.amount - amt, al.expires⟩ a
    rw [e1] at hs
    simp only [drawAmtOn, grantAmtBy, hd, hg, e7]
    by_cases e : o.text = a
    · simp only [e, if_true, Option.getD_some] at hs ⊢; omega
    · simp only [e, if_false] at hs ⊢; omega
  | none =>
    simp only [drawAmtOn, hd, Nat.add_zero]
    cases he : allowanceEditOf msg with
    | none =>
      rw [(nonallowance_frame h hd he).1]
      exact Nat.le_add_right _ _
    | some spArg =>
      rcases (allowanceEditOf_iff msg spArg).mp he with ⟨amt, e, rfl⟩ | ⟨amt, e, rfl⟩
      · obtain ⟨_, _, _, _, _, rfl, _⟩ := execIncreaseAllowance_ok h
        have hs := ownerSum_set s.allow snd spArg.text
          ⟨((s.allow.get? (snd, spArg.text)).getD Allowance.default).amount + amt,
            e.getD ((s.allow.get? (snd, spArg.text)).getD Allowance.default).expires⟩ a
        simp only [grantAmtBy, grantOf]
        by_cases e' : snd = a
        · simp only [e', if_true] at hs ⊢; omega
        · simp only [e', if_false] at hs ⊢; omega
      · obtain ⟨_, _, old, hold, _, ⟨_, _, rfl⟩ | ⟨_, rfl⟩⟩ := execDecreaseAllowance_ok h
        · have hs := ownerSum_set s.allow snd spArg.text ⟨old.amount - amt, e.getD old.expires⟩ a
          rw [hold] at hs
          by_cases e' : snd = a
          · simp only [e', if_true, Option.getD_some] at hs ⊢; omega
          · simp only [e', if_false] at hs ⊢; omega
        · exact Nat.le_trans (ownerSum_erase_le s.allow (snd, spArg.text) a) (Nat.le_add_right _ _)

theorem step_owner_grants (s : State) (op : Block × Addr × Msg) (a : Addr) :
    drawnAt s op a + ownerSum (step s op.1 op.2.1 op.2.2).allow a ≤ ownerSum s.allow a + grantAt s op a := by
  obtain ⟨blk, snd, msg⟩ := op
  cases hx : execute s blk snd msg with
  | error e =>
    have hs : step s blk snd msg = s := by simp [step, hx]
    simp only [drawnAt, lossAt, hs]
    split <;> omega
  | ok r =>
    obtain ⟨s', out⟩ := r
    have hs : step s blk snd msg = s' := by simp [step, hx]
    have h1 := ownerSum_step hx a
    have h2 : drawnAt s (blk, snd, msg) a ≤ drawAmtOn msg a := by
      simp only [drawnAt, lossAt, hs, isDrawOn, drawAmtOn]
      cases hd : drawOf msg with
      | none => simp
      | some x =>
        obtain ⟨o, amt⟩ := x
        have := (draw_bal hx hd a).2
        by_cases e : o.text = a
        · simp [e]; omega
        · simp [e]
    have h3 : grantAt s (blk, snd, msg) a = grantAmtBy snd msg a := by
      simp only [grantAt, grantAmtBy, hx, Res.isOk]
      cases grantOf msg with
      | none => rfl
      | some x => simp
    rw [hs]; omega

theorem owner_drawn_le_granted_from (s : State) (ops : List (Block × Addr × Msg)) (a : Addr) :
    drawnFrom s ops a + ownerSum (run s ops).allow a ≤ ownerSum s.allow a + grantedBy s ops a := by
  induction ops generalizing s with
  | nil => show 0 + ownerSum s.allow a ≤ ownerSum s.allow a + 0; omega
  | cons op rest ih =>
    have h1 := step_owner_grants s op a
    have h2 := ih (step s op.1 op.2.1 op.2.2)
    show (drawnAt s op a + drawnFrom (step s op.1 op.2.1 op.2.2) rest a)
        + ownerSum (run (step s op.1 op.2.1 op.2.2) rest).allow a
      ≤ ownerSum s.allow a + (grantAt s op a + grantedBy (step s op.1 op.2.1 op.2.2) rest a)
    omega

/-- **C02, an owner's total exposure**: after any accepted instantiation and any history, for every account
`a`: the tokens spenders drew from `a` (all spenders together) plus all allowances `a` still has outstanding
never exceed what `a` granted in total; hence what `a` had or received is still in its balance except for what
`a` sent itself and at most what `a` granted. -/
theorem owner_drawn_le_granted {m : InstMsg} {s0 : State} (h : instantiate m = .ok s0)
    (ops : List (Block × Addr × Msg)) (a : Addr) :
    drawnFrom s0 ops a + ownerSum (run s0 ops).allow a ≤ grantedBy s0 ops a
    ∧ bal s0 a + received s0 ops a ≤ bal (run s0 ops) a + sentOwn s0 ops a + grantedBy s0 ops a := by
  have h0 : ownerSum s0.allow a = 0 := by rw [instantiate_allow h]; rfl
  have h1 := owner_drawn_le_granted_from s0 ops a
  have h2 := owner_ledger s0 ops a
  constructor <;> omega

open CwPlus.Props.C19 (Op stepOp runOps) in
/-- **C02, clause 1 over histories (passive holder)**: from any state in which `a` has no outstanding
allowance to anybody, over every history of execute and `migrate` calls in which `a` itself sends no `Transfer` /
`Send` / `Burn` and no `IncreaseAllowance` — whatever everybody else does, in any order, at any block — the balance
of `a` never drops (it can only grow by transfers and mints to it), at the end and at every point in between (every
prefix of the history is such a history), and `a` still has granted nothing.  A `migrate` moves no token and creates
no owner-keyed allowance. -/
theorem passive_holder_never_loses_mixed {s : State} (a : Addr) (hnone : ∀ sp, s.allow.get? (a, sp) = none)
    (ops : List Op)
    (hq : ∀ blk snd msg, Op.exec blk snd msg ∈ ops → snd = a → isHolderMove msg = false ∧ grantOf msg = none) :
    bal s a ≤ bal (runOps s ops) a ∧ ∀ sp, (runOps s ops).allow.get? (a, sp) = none := by
  refine foldl_invariant (fun s' => bal s a ≤ bal s' a ∧ ∀ sp, s'.allow.get? (a, sp) = none)
    (fun s' ⟨hle, hnone⟩ op hop => ?_) ⟨Nat.le_refl _, hnone⟩
  cases op with
  | exec blk snd msg =>
    have hq0 := hq blk snd msg hop
    show bal s a ≤ bal (step s' blk snd msg) a ∧ ∀ sp, (step s' blk snd msg).allow.get? (a, sp) = none
    unfold step
    cases hx : execute s' blk snd msg with
    | error e => exact ⟨hle, hnone⟩
    | ok r =>
      obtain ⟨s'', out⟩ := r
      exact ⟨Nat.le_trans hle (no_grant_no_loss_step hx hnone (fun e => (hq0 e).1)),
        no_grant_preserved hx hnone (fun e => (hq0 e).2)⟩
  | migrate =>
    obtain ⟨hb, _, _, ha⟩ := Cw20Mixed.stepOp_migrate_frame s'
    exact ⟨by simp only [bal_def, hb]; exact hle, by rw [ha]; exact hnone⟩

theorem passive_holder_never_loses_from {s : State} (a : Addr) (hnone : ∀ sp, s.allow.get? (a, sp) = none)
    (ops : List (Block × Addr × Msg))
    (hq : ∀ op ∈ ops, op.2.1 = a → isHolderMove op.2.2 = false ∧ grantOf op.2.2 = none) :
    bal s a ≤ bal (run s ops) a ∧ ∀ sp, (run s ops).allow.get? (a, sp) = none := by
  rw [run_eq_runOps]
  refine passive_holder_never_loses_mixed a hnone _ fun blk snd msg hm => ?_
  obtain ⟨op, hop, he⟩ := List.mem_map.mp hm
  cases he
  exact hq op hop

/-- **C02, clause 1 over histories, from instantiation**: after any accepted instantiation, a holder who never
signs a `Transfer` / `Send` / `Burn` and never grants an allowance never loses a token, over any history of
calls by anybody else. -/
theorem passive_holder_never_loses {m : InstMsg} {s0 : State} (h : instantiate m = .ok s0)
    (ops : List (Block × Addr × Msg)) (a : Addr)
    (hq : ∀ op ∈ ops, op.2.1 = a → isHolderMove op.2.2 = false ∧ grantOf op.2.2 = none) :
    bal s0 a ≤ bal (run s0 ops) a := by
  have hnone : ∀ sp, s0.allow.get? (a, sp) = none := by rw [instantiate_allow h]; exact fun _ => rfl
  exact (passive_holder_never_loses_from a hnone ops hq).1

/-! ## The hypotheses are satisfiable: a concrete history (evaluated by the kernel)

`alice` holds 100, `carol` 7.  At height 10 alice grants bob 50 until height 20; bob moves 30 of alice's
tokens to carol; then the classic race: alice reduces by 25 while bob tries to spend 20 more. -/
namespace Ex

def im : InstMsg where
  name := "Token"
  symbol := "TKN"
  decimals := 6
  initial := [(⟨true, "alice"⟩, 100), (⟨true, "carol"⟩, 7)]
  mint := none

def blk : Block := ⟨10, 1000⟩
def late : Block := ⟨20, 2000⟩
def alice : AddrArg := ⟨true, "alice"⟩
def bob : AddrArg := ⟨true, "bob"⟩
def carol : AddrArg := ⟨true, "carol"⟩
def until20 : Expiration := .atHeight 20

def s0 : State where
  supply := 107
  mint := none
  balances := [("alice", 100), ("carol", 7)]
  allow := []
  allowSp := []
  version := ⟨CONTRACT_NAME, 2, 0, 0, none⟩

/-- after `IncreaseAllowance{bob, 50, AtHeight 20}` by alice -/
def s1 : State :=
  { s0 with allow := [(("alice", "bob"), ⟨50, until20⟩)], allowSp := [(("bob", "alice"), ⟨50, until20⟩)] }

/-- after `TransferFrom{alice, carol, 30}` by bob -/
def s2 : State :=
  { s0 with balances := [("alice", 70), ("carol", 37)],
            allow := [(("alice", "bob"), ⟨20, until20⟩)], allowSp := [(("bob", "alice"), ⟨20, until20⟩)] }

example : instantiate im = .ok s0 := rfl
example : execute s0 blk "alice" (.increaseAllowance bob 50 (some until20)) = .ok (s1, []) := rfl
example : execute s1 blk "bob" (.transferFrom alice carol 30) = .ok (s2, []) := rfl
/-- the hypotheses of `debit_authorised` hold on this step, in its allowance branch … -/
example : bal s2 "alice" < bal s1 "alice" := by decide +kernel
example : drawOf (.transferFrom alice carol 30) = some (alice, 30) := rfl
/-- … and in its holder branch -/
example : ∃ s' out, execute s2 blk "carol" (.send bob 37 "hook") = .ok (s', out) ∧
    bal s' "carol" < bal s2 "carol" ∧ out = [⟨"bob", "carol", 37, "hook"⟩] := ⟨_, _, rfl, by decide, rfl⟩
/-- `SendFrom` names the spender (bob), not the owner (alice), as initiator -/
example : ∃ s', execute s1 blk "bob" (.sendFrom alice carol 30 "hook") = .ok (s', [⟨"carol", "bob", 30, "hook"⟩]) :=
  ⟨_, rfl⟩
/-- beyond the allowance, at / after the expiry, or without any allowance: rejected -/
example : (execute s2 blk "bob" (.transferFrom alice carol 21)).isOk = false := rfl
example : (execute s2 late "bob" (.transferFrom alice carol 1)).isOk = false := rfl
example : (execute s2 blk "carol" (.burnFrom alice 1)).isOk = false := rfl
example : (execute s2 blk "bob" (.burnFrom alice 20)).isOk = true := rfl
/-- self-allowance and past expiry: rejected -/
example : (execute s0 blk "alice" (.increaseAllowance alice 5 none)).isOk = false := rfl
example : (execute s0 late "alice" (.increaseAllowance bob 5 (some until20))).isOk = false := rfl
example : (execute s2 late "alice" (.decreaseAllowance bob 5 (some until20))).isOk = false := rfl

/-- The reduce-vs-spend race, order 1: alice's `DecreaseAllowance 25` lands first (saturates: entry removed),
bob's `TransferFrom 20` then fails.  Order 2: bob's draw lands first, the decrease then removes the rest.
In both orders `drawn + remaining ≤ granted = 50`. -/
def race1 : List (Block × Addr × Msg) :=
  [(blk, "alice", .increaseAllowance bob 50 (some until20)), (blk, "bob", .transferFrom alice carol 30),
   (blk, "alice", .decreaseAllowance bob 25 none), (blk, "bob", .transferFrom alice carol 20)]
def race2 : List (Block × Addr × Msg) :=
  [(blk, "alice", .increaseAllowance bob 50 (some until20)), (blk, "bob", .transferFrom alice carol 30),
   (blk, "bob", .transferFrom alice carol 20), (blk, "alice", .decreaseAllowance bob 25 none)]

example : tot (grun (ginit s0) race1).granted ("alice", "bob") = 50 ∧
    tot (grun (ginit s0) race1).drawn ("alice", "bob") = 30 ∧
    tot (grun (ginit s0) race1).moved ("alice", "bob") = 30 ∧
    bal (run s0 race1) "alice" = 70 ∧ (run s0 race1).allow.get? ("alice", "bob") = none := by decide +kernel
example : tot (grun (ginit s0) race2).granted ("alice", "bob") = 50 ∧
    tot (grun (ginit s0) race2).drawn ("alice", "bob") = 50 ∧
    tot (grun (ginit s0) race2).moved ("alice", "bob") = 50 ∧
    bal (run s0 race2) "alice" = 50 ∧ (run s0 race2).allow.get? ("alice", "bob") = none := by decide +kernel

end Ex

/-- The exact guard of `past_expiry_rejected_decrease` matters: when the decrease removes the entry
(`old.amount ≤ amt`) the code ignores the expiry argument, so an already expired one is accepted
(closed instance, evaluated by the kernel). -/
theorem decrease_ignores_expiry_on_removal :
    (execute Ex.s2 Ex.late "alice" (.decreaseAllowance Ex.bob 20 (some Ex.until20))).isOk = true ∧
    (step Ex.s2 Ex.late "alice" (.decreaseAllowance Ex.bob 20 (some Ex.until20))).allow.get? ("alice", "bob") = none := by
  decide +kernel


/-! ### Non-vacuity of `draw_ok_iff`, the passive-holder and per-owner theorems, `cumulative_bound_mixed` (on the token of `Ex`) -/
theorem ex_s1_inv : C01.Inv Ex.s1 := ⟨by decide +kernel, by decide +kernel⟩

namespace Ex2
open Ex

/-- `draw_ok_iff`: with 50 granted until height 20, bob's `TransferFrom 30` at height 10 is ready, hence succeeds
— and at height 20 (expired) or for 51 it is not. -/
example : ∃ r, execute s1 blk "bob" (.transferFrom alice carol 30) = .ok r :=
  (draw_ok_iff ex_s1_inv (msg := .transferFrom alice carol 30) rfl).mpr
    ⟨⟨rfl, by decide, ⟨_, rfl, by decide, by decide⟩, ⟨_, rfl, by decide, by decide⟩⟩,
     by intro r hr; cases hr; rfl⟩
example : ¬ ∃ r, execute s1 late "bob" (.burnFrom alice 30) = .ok r := by
  intro h
  obtain ⟨⟨_, _, ⟨al, e1, e2, _⟩, _⟩, _⟩ := (draw_ok_iff ex_s1_inv (msg := .burnFrom alice 30) rfl).mp h
  cases e1; revert e2; decide
example : DrawReady s1 blk "bob" alice 50 ∧ ¬ DrawReady s1 blk "bob" alice 51 := by
  refine ⟨⟨rfl, by decide, ⟨_, rfl, by decide, by decide⟩, ⟨_, rfl, by decide, by decide⟩⟩, ?_⟩
  rintro ⟨_, _, ⟨al, e1, _, e3⟩, _⟩
  cases e1; revert e3; decide

/-- `passive_holder_never_loses`: in both race histories carol never signs anything; her balance only grows. -/
example : bal s0 "carol" ≤ bal (run s0 race1) "carol" :=
  passive_holder_never_loses (m := im) rfl race1 "carol" (by decide +kernel)
example : bal s0 "carol" = 7 ∧ bal (run s0 race1) "carol" = 37 := by decide +kernel
/-- alice does sign (she grants): the hypothesis fails for her, and she does lose tokens. -/
example : bal (run s0 race1) "alice" < bal s0 "alice" := by decide +kernel

/-- `owner_ledger` / `owner_drawn_le_granted` on race 2: alice granted 50, bob drew 50 of her tokens, she sent
nothing herself and received nothing: 50 + 0 + 50 = 100 + 0. -/
example : sentOwn s0 race2 "alice" = 0 ∧ drawnFrom s0 race2 "alice" = 50 ∧ received s0 race2 "alice" = 0
    ∧ grantedBy s0 race2 "alice" = 50 ∧ received s0 race2 "carol" = 50 := by decide +kernel
example : bal (run s0 race2) "alice" + sentOwn s0 race2 "alice" + drawnFrom s0 race2 "alice"
    = bal s0 "alice" + received s0 race2 "alice" := owner_ledger s0 race2 "alice"
example : drawnFrom s0 race2 "alice" + ownerSum (run s0 race2).allow "alice" ≤ grantedBy s0 race2 "alice" :=
  (owner_drawn_le_granted (m := im) rfl race2 "alice").1

/-- A mixed history: grant, migrate, draw, migrate; the cumulative bound holds (`cumulative_bound_mixed`). -/
def mixed : List C19.Op :=
  [.exec blk "alice" (.increaseAllowance bob 50 (some until20)), .migrate,
   .exec blk "bob" (.transferFrom alice carol 30), .migrate]
example : tot (grunOps (ginit s0) mixed).drawn ("alice", "bob") = 30
    ∧ tot (grunOps (ginit s0) mixed).granted ("alice", "bob") = 50
    ∧ (allowance (C19.runOps s0 mixed) ("alice", "bob")).amount = 20 := by decide +kernel
example : tot (grunOps (ginit s0) mixed).drawn ("alice", "bob") + (allowance (C19.runOps s0 mixed) ("alice", "bob")).amount
    ≤ tot (grunOps (ginit s0) mixed).granted ("alice", "bob") :=
  (cumulative_bound_mixed (m := im) rfl mixed ("alice", "bob")).1

end Ex2

end CwPlus.Props.C02
