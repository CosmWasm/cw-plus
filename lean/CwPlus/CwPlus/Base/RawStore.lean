import CwPlus.Base.AMap
/-!
# Byte-level storage: the cw-storage-plus 2.0.0 key layout and the JSON text of stored numbers

What `deps.storage` really holds is a map from byte strings to byte strings.  This file models that level
for the cw4 contracts (cw4-group, cw4-stake), transcribed from

* cosmwasm-std 2.0.2 `storage_keys/length_prefixed.rs`: `encode_length` (the length as `u32`, bytes 2 and 3
  of its big-endian form; the Rust code *panics* for a component longer than `0xFFFF`), `to_length_prefixed`,
  `namespace_with_key(namespace: &[&[u8]], key) = concat(to_length_prefixed(c) for c in namespace) ++ key`;
* cw-storage-plus 2.0.0 `item.rs` (`Item::save`: `store.set(self.storage_key.as_slice(), ..)` — an `Item` lives
  under the *raw* bytes of its namespace string), `map.rs` `Map::key` → `path.rs` `Path::new(namespace, keys)`
  `= namespace_with_key([namespace] ++ keys[0..l-1], keys[l-1])` (every key part but the last is length-prefixed,
  like the namespace), `keys.rs` (`&Addr`/`Addr`/`&str`: the UTF-8 bytes; `u64`: `to_cw_bytes` = 8 bytes
  big-endian; a pair `(a, b)`: the parts of `a` followed by the parts of `b`; `()`: no part),
  `snapshot/mod.rs` (`changelog: Map<(K, u64), ChangeSet<T>>`, `checkpoints: Map<u64, u32>`; with
  `Strategy::EveryBlock` nothing ever writes a checkpoint), `snapshot/item.rs` (`Snapshot<(), T>`: the changelog
  key of a `SnapshotItem` is the height alone), `snapshot/map.rs`;
* `packages/cw4/src/query.rs`: `TOTAL_KEY`, `MEMBERS_KEY`, `…_CHECKPOINTS`, `…_CHANGELOG`,
  `member_key(addr) = [b"\x00", &[MEMBERS_KEY.len() as u8], MEMBERS_KEY.as_bytes()].concat() ++ addr.as_bytes()`;
* `contracts/cw4-group/src/state.rs`, `contracts/cw4-stake/src/state.rs`, cw-controllers 2.0.0 (`Admin`, `Hooks`
  are `Item`s, `Claims` is a `Map<&Addr, Vec<Claim>>`), cw2 2.0.0 (`CONTRACT: Item = "contract_info"`).

Values are `to_json_vec(data)` (serde-json-wasm): a `u64` is its decimal digits, a `Uint128` the decimal digits
in double quotes, `ChangeSet { old: Option<u64> }` is `{"old":null}` / `{"old":<digits>}`.  Values whose JSON
text is not modelled (admin, hooks, config, claims, cw2 version) are `Val.opaque`: their *keys* are exact.

Bytes are natural numbers `< 256` (lists of `Nat` prove more easily than `UInt8`; `strBytes_lt`,
`be8_lt`, `natDigits_lt` give the bound where it matters).  Core only: linked into the `driver` executable.
-/
namespace CwPlus.RawStore

/-- A byte string; every element is `< 256`. -/
abbrev Bytes := List Nat

/-- The UTF-8 bytes of a string (`str::as_bytes`). -/
def strBytes (s : String) : Bytes := s.toUTF8.data.toList.map (·.toNat)

/-- `encode_length`: the length as a 2-byte big-endian integer (bytes 2 and 3 of the `u32`).  The Rust code
panics for lengths above `0xFFFF`; below that bound the encoding is injective (`len2_inj`). -/
def len2 (n : Nat) : Bytes := [n / 256 % 256, n % 256]

/-- `to_length_prefixed(component)` -/
def lp (b : Bytes) : Bytes := len2 b.length ++ b

/-- `namespace_with_key(namespace, key)` -/
def nsKey (components : List Bytes) (key : Bytes) : Bytes := components.flatMap lp ++ key

/-- Storage key of an `Item` with namespace `ns`: the namespace bytes themselves. -/
def itemKey (ns : Bytes) : Bytes := ns

/-- Storage key of a `Map` entry (`Path::new(ns, parts ++ [last])`): the namespace and every key part but the
last are length-prefixed; the last part is appended raw. -/
def mapKey (ns : Bytes) (parts : List Bytes) (last : Bytes) : Bytes := nsKey (ns :: parts) last

/-- `u64::to_cw_bytes` = `to_be_bytes`: 8 bytes, big-endian. -/
def be8 (n : Nat) : Bytes :=
  [n / 2 ^ 56 % 256, n / 2 ^ 48 % 256, n / 2 ^ 40 % 256, n / 2 ^ 32 % 256,
   n / 2 ^ 24 % 256, n / 2 ^ 16 % 256, n / 2 ^ 8 % 256, n % 256]

/-! ## JSON text of the stored numbers -/

/-- `digitsAux fuel n`: the decimal digits of `n`, most significant first, by structural recursion on `fuel`
(so that concrete instances reduce in the kernel); exact whenever `n < 10 ^ (fuel + 1)`. -/
def digitsAux : Nat → Nat → Bytes
  | 0, n => [48 + n]
  | f + 1, n => if n < 10 then [48 + n] else digitsAux f (n / 10) ++ [48 + n % 10]

/-- Decimal digits of a number as ASCII bytes (`to_json_vec(&u64)`): no sign, no leading zero, `0` is `"0"`.
Satisfies `natDigits n = if n < 10 then [48 + n] else natDigits (n / 10) ++ [48 + n % 10]`
(`natDigits_unfold`). -/
def natDigits (n : Nat) : Bytes := digitsAux n n

/-- Reading decimal digits, most significant first, into an accumulator; `none` on any other byte. -/
def parseAcc : Bytes → Nat → Option Nat
  | [], acc => some acc
  | d :: ds, acc => if 48 ≤ d ∧ d ≤ 57 then parseAcc ds (acc * 10 + (d - 48)) else none

/-- Parse a non-empty string of ASCII digits. -/
def parseNat (b : Bytes) : Option Nat := if b = [] then none else parseAcc b 0

/-- `Uint128` serialises as a JSON string: `"<digits>"`. -/
def quotedDigits (n : Nat) : Bytes := 34 :: (natDigits n ++ [34])

/-- `to_json_vec(&ChangeSet { old })` for a numeric `old`: `{"old":null}` / `{"old":<digits>}`. -/
def changeSetJson (old : Option Nat) : Bytes :=
  strBytes "{\"old\":" ++ (match old with | none => strBytes "null" | some v => natDigits v) ++ strBytes "}"

/-! ## The store -/

/-- A stored value: its exact bytes, or a value whose JSON text is not modelled (only its key is). -/
inductive Val where
  | bytes (b : Bytes)
  | opaque
  deriving Repr, DecidableEq, Inhabited

/-- The raw image of a contract's storage: `(key, value)` entries.  Reading takes the first entry of a key
(`get?`); the images built by `encode` have no key twice on reachable states (`Props/C09Raw.lean`). -/
abbrev Store := List (Bytes × Val)

/-- `Storage::get(key)` -/
def get? : Store → Bytes → Option Val
  | [], _ => none
  | (k', v) :: rest, k => if k' = k then some v else get? rest k

/-- All keys, in the order of the entries. -/
def keys (st : Store) : List Bytes := st.map (·.1)

/-- `from_json::<u64>` of what a raw query returns: absent key, opaque value and unparsable bytes give `none`. -/
def readNat (st : Store) (k : Bytes) : Option Nat :=
  match get? st k with
  | some (.bytes b) => parseNat b
  | _ => none

/-! ## The namespaces of the cw4 contracts (every string checked against the Rust sources) -/

namespace NS
/-- `cw4::TOTAL_KEY` -/
def total : Bytes := strBytes "total"
/-- `cw4::TOTAL_KEY_CHECKPOINTS` -/
def totalCheckpoints : Bytes := strBytes "total__checkpoints"
/-- `cw4::TOTAL_KEY_CHANGELOG` -/
def totalChangelog : Bytes := strBytes "total__changelog"
/-- `cw4::MEMBERS_KEY` -/
def members : Bytes := strBytes "members"
/-- `cw4::MEMBERS_CHECKPOINTS` -/
def membersCheckpoints : Bytes := strBytes "members__checkpoints"
/-- `cw4::MEMBERS_CHANGELOG` -/
def membersChangelog : Bytes := strBytes "members__changelog"
/-- `ADMIN: Admin = Admin::new("admin")` (both contracts) -/
def admin : Bytes := strBytes "admin"
/-- `HOOKS: Hooks = Hooks::new("cw4-hooks")` (both contracts) -/
def hooks : Bytes := strBytes "cw4-hooks"
/-- cw2 `CONTRACT: Item<ContractVersion> = Item::new("contract_info")` (both contracts call `set_contract_version`) -/
def contractInfo : Bytes := strBytes "contract_info"
/-- cw4-stake `CONFIG: Item<Config> = Item::new("config")` -/
def config : Bytes := strBytes "config"
/-- cw4-stake `STAKE: Map<&Addr, Uint128> = Map::new("stake")` -/
def stake : Bytes := strBytes "stake"
/-- cw4-stake `CLAIMS: Claims = Claims::new("claims")` (a `Map<&Addr, Vec<Claim>>`) -/
def claims : Bytes := strBytes "claims"

/-- Namespaces used as `Item`s by cw4-group / cw4-stake. -/
def items : List Bytes := [total, admin, hooks, contractInfo, config]
/-- Namespaces used as `Map`s by cw4-group / cw4-stake (primary maps, changelogs, checkpoints). -/
def maps : List Bytes :=
  [members, membersChangelog, membersCheckpoints, totalChangelog, totalCheckpoints, stake, claims]
end NS

/-- The raw key of the total weight: `cw4::TOTAL_KEY.as_bytes()`. -/
def totalKey : Bytes := itemKey NS.total

/-- `cw4::member_key(addr)` exactly as written in `packages/cw4/src/query.rs`:
`[b"\x00", &[MEMBERS_KEY.len() as u8], MEMBERS_KEY.as_bytes()].concat()` followed by the address bytes. -/
def memberKey (addr : String) : Bytes := [0] ++ [NS.members.length % 256] ++ NS.members ++ strBytes addr

/-- `MEMBERS.key(&addr)`: the primary key of the snapshot map as cw-storage-plus builds it. -/
def membersPrimaryKey (addr : String) : Bytes := mapKey NS.members [] (strBytes addr)

/-- `MEMBERS.changelog().key((&addr, height))` -/
def membersChangelogKey (addr : String) (h : Nat) : Bytes := mapKey NS.membersChangelog [strBytes addr] (be8 h)

/-- `TOTAL.changelog().key(height)` (cw4-group: `SnapshotItem`) -/
def totalChangelogKey (h : Nat) : Bytes := mapKey NS.totalChangelog [] (be8 h)

/-- A checkpoint key (`Map<u64, u32>` under `<ns>__checkpoints`); never written with `Strategy::EveryBlock`. -/
def checkpointKey (ns : Bytes) (h : Nat) : Bytes := mapKey ns [] (be8 h)

/-- `STAKE.key(&addr)` (cw4-stake) -/
def stakeKey (addr : String) : Bytes := mapKey NS.stake [] (strBytes addr)

/-- `CLAIMS` entry of `addr` (cw4-stake) -/
def claimsKey (addr : String) : Bytes := mapKey NS.claims [] (strBytes addr)

/-! ## Rendering (driver side): hex, byte order, FNV-1a -/

def hexDigit (n : Nat) : Char := if n < 10 then Char.ofNat (48 + n) else Char.ofNat (87 + n)

/-- Lower-case hex, two digits per byte. -/
def hex (b : Bytes) : String :=
  b.foldl (fun s x => (s.push (hexDigit (x / 16 % 16))).push (hexDigit (x % 16))) ""

def renderVal : Val → String
  | .bytes b => hex b
  | .opaque => "*"

/-- Rendered entries in ascending key order.  The order of a `BTreeMap<Vec<u8>, _>` / of the chain's KV store is
the lexicographic order of the byte strings, which is the lexicographic order of their fixed-width hex texts. -/
def sortedRendered (st : Store) : List String :=
  ((st.map fun e => (hex e.1, renderVal e.2)).mergeSort fun a b => decide (a.1 ≤ b.1)).map fun p => p.1 ++ ":" ++ p.2

/-- FNV-1a (64 bit) of the UTF-8 bytes of a string, as 16 hex digits (`common::hash_str`). -/
def fnv1a (s : String) : String :=
  let h : UInt64 := s.toUTF8.data.foldl (fun h b => (h ^^^ b.toUInt64) * 0x100000001b3) 0xcbf29ce484222325
  let n := h.toNat
  String.ofList ((List.range 16).map fun i => hexDigit (n / 16 ^ (15 - i) % 16))

/-- Entries under a snapshot changelog namespace (`members__changelog`, `total__changelog`). -/
def isChangelogKey (k : Bytes) : Bool :=
  (lp NS.membersChangelog).isPrefixOf k || (lp NS.totalChangelog).isPrefixOf k

/-- A dump of entries: in full up to `cap` entries, else `#<count>.<fnv1a of the full text>`. -/
def renderDump (cap : Nat) (st : Store) : String :=
  let full := ",".intercalate (sortedRendered st)
  if st.length ≤ cap then full else s!"#{st.length}.{fnv1a full}"

/-- The observation field `rawkeys`: the published keys as the model lays them out (`T.` total key, `M.`
`member_key` of the probe addresses, `P.` primary key of `MEMBERS` for the same addresses), the complete dump
of the non-changelog entries (`D.`: key and value of every entry, `*` for an unmodelled value) and the dump of
the changelog entries (`C.`: in full up to 16 entries, else count and hash). -/
def renderRawKeys (probes : List String) (st : Store) : String :=
  let prim := st.filter fun e => !isChangelogKey e.1
  let logs := st.filter fun e => isChangelogKey e.1
  s!"T.{hex totalKey}/M.{"+".intercalate (probes.map fun a => hex (memberKey a))}/P.{"+".intercalate (probes.map fun a => hex (membersPrimaryKey a))}/D.{renderDump 1000000 prim}/C.{renderDump 16 logs}"

end CwPlus.RawStore
