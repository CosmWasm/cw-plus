import CwPlus.Lemmas.Cw3Flex
/-!
# cw3-flex: the strengthened state invariant `Inv'` and the ghost-log guard `CleanStart`

`Inv` (Lemmas/Cw3Flex.lean) says nothing about the threshold of a stored proposal.  `Inv'` adds

* every stored proposal carries the configured threshold (`propThr`),
* the configured threshold passed `Threshold::validate` for some total (`cfgValid`: the total at instantiation),
* for an `AbsoluteCount k` proposal either `k ≤ total_weight` or the proposer's own ballot already weighs `k`
  (`countOk`: `Propose` stores `current_status`, which for `AbsoluteCount` either finds the proposal passed by the
  proposer's weight or evaluates `total_weight - k`, a checked `u64` subtraction).

`Inv'` is preserved by every handler call (`execute_inv'`) and holds in every reachable world (`reachable_inv'`).

`CleanStart log id h` is the guard that excludes the known same-block finding (D3): in the ghost log no group write
at height `h` precedes the `Propose` that created proposal `id`.
-/
namespace CwPlus.Cw3Flex
open CwPlus CwPlus.Cw3 CwPlus.Cw3Core

/-- `Threshold::validate` depends on the total only through `AbsoluteCount`'s `weight ≤ total`. -/
theorem validate_of_validate {thr : Threshold} {t0 total : Nat} (h : thr.validate t0 = .ok ())
    (hk : ∀ k, thr = .absoluteCount k → k ≤ total) : thr.validate total = .ok () := by
  cases thr with
  | absoluteCount k =>
    have := hk k rfl
    simp [Threshold.validate] at h ⊢
    exact ⟨h.1, this⟩
  | absolutePercentage p => simpa [Threshold.validate] using h
  | thresholdQuorum t q => simpa [Threshold.validate] using h

/-- What `Propose` learns from `current_status` of a fresh `AbsoluteCount k` proposal answering at all: passed by the
proposer's own weight, or `total - k` did not underflow. -/
theorem count_of_fresh_status {p0 : Proposal} {blk : Block} {st : Status} {k : Nat} (ho : p0.status = .open)
    (ht : p0.threshold = .absoluteCount k) (h : p0.currentStatus blk = .ok st) :
    k ≤ p0.totalWeight ∨ k ≤ p0.votes.yes := by
  rcases cs_of_open (t := p0.tally) (by simp [Proposal.tally, ho]) h with ⟨hp, _⟩ | ⟨_, rej, hr, _⟩
  · right
    simp only [Cw3.isPassed, Proposal.tally, ht] at hp
    split at hp
    · cases hp
    · simpa using hp
  · left
    simp only [Cw3.isRejected, Proposal.tally, ht] at hr
    simp at hr
    obtain ⟨_, ⟨h1, _⟩, _⟩ := hr
    exact h1

/-- `Inv` strengthened by what `Inv` lacks about thresholds (see the module text). -/
structure Inv' (s : State) : Prop where
  inv : Inv s
  propThr : ∀ id p, s.core.proposals.get? id = some p → p.threshold = s.cfg.threshold
  cfgValid : ∃ t0, s.cfg.threshold.validate t0 = .ok ()
  countOk : ∀ id p k, s.core.proposals.get? id = some p → p.threshold = .absoluteCount k →
    k ≤ p.totalWeight ∨ ∃ b, (ballotsOf s.core id).get? p.proposer = some b ∧ k ≤ b.weight

theorem instantiate_inv' {m : InstMsg} {g : Option Cw4Group.State} {s : State} (h : instantiate m g = .ok s) : Inv' s := by
  obtain ⟨hc, hv, _⟩ := instantiate_ok h
  exact ⟨instantiate_inv h, fun id p hp => (by rw [hc] at hp; cases hp), hv, fun id p k hp => (by rw [hc] at hp; cases hp)⟩

theorem execute_inv' {s s' : State} {g : Cw4Group.State} {self : Addr} {blk : Block} {snd : Addr} {funds : List Coin}
    {m : ExecMsg} {out : List Out} (hi : Inv' s) (h : execute s g self blk snd funds m = .ok (s', out)) : Inv' s' := by
  have hcfg := (execute_cases h).1
  refine ⟨execute_inv hi.inv h, fun id p' hp' => ?_, hcfg ▸ hi.cfgValid, fun id p' k hp' ht => ?_⟩
  · rw [hcfg]
    cases execute_slot hi.inv.wf h hp' with
    | kept p hp hf _ => exact (fixedPart_fields hf).2.2.2.2.2.1.trans (hi.propThr id p hp)
    | voted p _ _ hp hf => exact (fixedPart_fields hf).2.2.2.2.2.1.trans (hi.propThr id p hp)
    | created _ _ _ ht => exact ht
  · -- the proposer's ballot, once there, is never replaced: a voter has no ballot yet
    have old : ∀ p, s.core.proposals.get? id = some p → p'.fixedPart = p.fixedPart →
        (∀ b, (ballotsOf s.core id).get? p.proposer = some b → (ballotsOf s'.core id).get? p.proposer = some b) →
        k ≤ p'.totalWeight ∨ ∃ b, (ballotsOf s'.core id).get? p'.proposer = some b ∧ k ≤ b.weight := by
      intro p hp hf hb
      obtain ⟨_, _, _, _, _, hth, htw, hpr, _⟩ := fixedPart_fields hf
      rw [htw, hpr]
      rcases hi.countOk id p k hp (hth.symm.trans ht) with h1 | ⟨b, hb1, h1⟩
      · exact .inl h1
      · exact .inr ⟨b, hb _ hb1, h1⟩
    cases execute_slot hi.inv.wf h hp' with
    | kept p hp hf hbs => exact old p hp hf (fun b hb => hbs ▸ hb)
    | voted p v w hp hf hnb _ _ hbs =>
      refine old p hp hf (fun b hb => ?_)
      rw [hbs, AMap.get?_set_ne _ _ _ _ (fun e => by rw [e, hb] at hnb; cases hnb)]
      exact hb
    | created w _ _ _ _ _ hpr _ _ hbs hv hst =>
      rcases count_of_fresh_status (p0 := { p' with status := .open }) rfl ht hst with h1 | h1
      · exact .inl h1
      · exact .inr ⟨⟨w, .yes⟩, by rw [hbs, hpr]; simp [AMap.get?], by rw [hv] at h1; exact h1⟩

theorem reachable_inv' {ext : Ext} {fuel : Nat} {w : World} (h : Reachable ext fuel w) : Inv' w.flex :=
  (reachable_state_inv (P := Inv') instantiate_inv' (fun _ hi he => execute_inv' hi he) h).2

theorem weight_le_weightSum : ∀ {bs : AMap Addr Ballot} {a : Addr} {b : Ballot}, bs.get? a = some b → b.weight ≤ weightSum bs
  | [], _, _, h => by simp [AMap.get?] at h
  | (a', b') :: rest, a, b, h => by
    simp only [weightSum, List.map_cons, List.sum_cons]
    by_cases e : a' = a
    · simp [AMap.get?, e] at h; subst h; omega
    · simp [AMap.get?, e] at h
      have := weight_le_weightSum (bs := rest) h
      simp only [weightSum] at this
      omega

/-- The event records the creation of proposal `id`. -/
def Event.isProposed (id : Nat) : Event → Bool
  | .proposed id' _ => id' == id
  | _ => false

/-- On the log read newest-first: every `proposed id` event has no `groupWrite h` among the older events. -/
def cleanRev (id h : Nat) : List Event → Bool
  | [] => true
  | e :: older => (!(Event.isProposed id e) || !(older.contains (.groupWrite h))) && cleanRev id h older

/-- **The guard that excludes the same-block finding.**  In the ghost log no group write at height `h` precedes the
`Propose` that created proposal `id` (vacuously true when `id` was never proposed).  Used with `h = start_height`:
no membership change earlier in the proposal's own block. -/
def CleanStart (log : List Event) (id h : Nat) : Prop := cleanRev id h log.reverse = true

instance (log : List Event) (id h : Nat) : Decidable (CleanStart log id h) := by unfold CleanStart; infer_instance

theorem cleanStart_snoc (log : List Event) (e : Event) (id h : Nat) :
    CleanStart (log ++ [e]) id h ↔ (Event.isProposed id e = true → Event.groupWrite h ∉ log) ∧ CleanStart log id h := by
  unfold CleanStart
  rw [List.reverse_append]
  simp only [List.reverse_cons, List.reverse_nil, List.nil_append, List.singleton_append, cleanRev, Bool.and_eq_true,
    Bool.or_eq_true, Bool.not_eq_true', List.contains_eq_mem, List.mem_reverse, decide_eq_false_iff_not]
  constructor
  · rintro ⟨h1, h2⟩
    refine ⟨fun he => ?_, h2⟩
    rcases h1 with h1 | h1
    · rw [he] at h1; cases h1
    · exact h1
  · rintro ⟨h1, h2⟩
    refine ⟨?_, h2⟩
    cases he : Event.isProposed id e
    · exact Or.inl rfl
    · exact Or.inr (h1 he)

theorem cleanStart_nil (id h : Nat) : CleanStart [] id h := rfl

/-- A flex handler call logs `proposed id` only for a Propose and only with the fresh id `count + 1`. -/
theorem eventOf_isProposed (s : State) (snd : Addr) (m : ExecMsg) (id : Nat) :
    Event.isProposed id (eventOf s snd m) = true ↔ (∃ t d msgs latest, m = .propose t d msgs latest) ∧ id = s.core.count + 1 := by
  cases m with
  | propose t d msgs latest =>
    simp only [eventOf, Event.isProposed, beq_iff_eq]
    exact ⟨fun h => ⟨⟨t, d, msgs, latest, rfl⟩, h.symm⟩, fun h => h.2.symm⟩
  | vote id' v => simp [eventOf, Event.isProposed]
  | execute id' => simp [eventOf, Event.isProposed]
  | close id' => simp [eventOf, Event.isProposed]
  | memberChangedHook => simp [eventOf, Event.isProposed]

end CwPlus.Cw3Flex
