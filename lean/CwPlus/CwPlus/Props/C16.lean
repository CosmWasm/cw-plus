import CwPlus.Props.C07
import CwPlus.Props.C17
import CwPlus.Props.C08
/-!
# C16 — cw1: CanExecute predicts Execute

For every state, block, sender and message the `CanExecute` query answers `true`
exactly when `Execute{msgs: [msg]}` by that sender on the same state succeeds.
In cw1-subkeys the two are separate code paths (`can_execute` vs the loop of
`execute_execute`); the theorem relates them for every *valid* sender address, and
`Sk.canExecute_invalid_sender` states exactly what happens for strings that do not
validate.
-/
namespace CwPlus.Props.C16
open CwPlus
open CwPlus.Cw1Whitelist (AddrArg CosmosMsg StakingKind DistrKind AdminList)
open CwPlus.Cw1Subkeys (Allowance Permissions)
open CwPlus.Props.C07 (covers coveredFrom coveredSeq stakingFlag distrFlag)

/-- C16 (whitelist): the query never fails and answers `true` exactly when the `Execute` of that one
message by that sender succeeds.  The whitelist query does not validate the sender string, so this holds
for invalid strings too. -/
theorem Wl.canExecute_iff_execute_ok (s : Cw1Whitelist.State) (blk : Block) (snd : AddrArg) (m : CosmosMsg) :
    Cw1Whitelist.queryCanExecute s blk snd m = .ok true ↔
      (Cw1Whitelist.execute s blk snd.text (.execute [m])).isOk = true := by
  rw [C07.Wl.execute_ok_iff]
  simp [Cw1Whitelist.queryCanExecute, AdminList.isAdmin]

/-- C16 (whitelist): the query always answers. -/
theorem Wl.canExecute_total (s : Cw1Whitelist.State) (blk : Block) (snd : AddrArg) (m : CosmosMsg) :
    ∃ b, Cw1Whitelist.queryCanExecute s blk snd m = .ok b := ⟨_, rfl⟩

/-- The query path of cw1-subkeys for a non-admin valid sender computes "the grants cover this one message". -/
theorem Sk.query_nonadmin (s : Cw1Subkeys.State) (blk : Block) (snd : AddrArg) (m : CosmosMsg)
    (hna : s.cfg.isAdmin snd.text = false) (hv : snd.valid = true) :
    Cw1Subkeys.queryCanExecute s blk snd m =
      .ok (covers (s.permissions.get? snd.text) blk (s.allowances.get? snd.text) m).isSome := by
  simp only [Cw1Subkeys.queryCanExecute, hna, hv, check, Bool.false_eq_true, if_false, if_true, bind, Except.bind]
  cases m with
  | bankSend to coins =>
    simp only [covers]
    cases s.allowances.get? snd.text with
    | none => rfl
    | some a =>
      dsimp only
      cases a.expires.isExpired blk
      · cases a.balance.subCoins coins <;> rfl
      · rfl
  | staking k p =>
    simp only [covers]
    cases s.permissions.get? snd.text with
    | none => rfl
    | some q =>
      obtain ⟨tag, h⟩ := C07.checkStaking_eq_check k q
      dsimp only
      rw [h]; cases stakingFlag k q <;> rfl
  | distribution k p =>
    simp only [covers]
    cases s.permissions.get? snd.text with
    | none => rfl
    | some q =>
      obtain ⟨tag, h⟩ := C07.checkDistribution_eq_check k q
      dsimp only
      rw [h]; cases distrFlag k q <;> rfl
  | _ => rfl

/-- Whoever is literally in the admin list gets `true`; the lookup precedes validation. -/
theorem Sk.query_admin (s : Cw1Subkeys.State) (blk : Block) (snd : AddrArg) (m : CosmosMsg)
    (ha : s.cfg.isAdmin snd.text = true) : Cw1Subkeys.queryCanExecute s blk snd m = .ok true := by
  unfold Cw1Subkeys.queryCanExecute; rw [if_pos ha]

theorem Sk.query_invalid (s : Cw1Subkeys.State) (blk : Block) (snd : AddrArg) (m : CosmosMsg)
    (hna : s.cfg.isAdmin snd.text = false) (hv : snd.valid = false) :
    Cw1Subkeys.queryCanExecute s blk snd m = .error "addr" := by
  unfold Cw1Subkeys.queryCanExecute; rw [if_neg (by rw [hna]; exact Bool.false_ne_true), hv]; rfl

/-- C16 (subkeys), main theorem: for every state (expired and empty allowances included), every block,
every *valid* sender and every message, `CanExecute` answers `true` exactly when `Execute{[msg]}` by that
sender succeeds on the same state. -/
theorem Sk.canExecute_iff_execute_ok (s : Cw1Subkeys.State) (blk : Block) (snd : AddrArg) (m : CosmosMsg)
    (hv : snd.valid = true) :
    Cw1Subkeys.queryCanExecute s blk snd m = .ok true ↔
      (Cw1Subkeys.execute s blk snd.text (.execute [m])).isOk = true := by
  rw [C07.Sk.execute_ok_iff]
  cases ha : s.cfg.isAdmin snd.text
  · rw [Sk.query_nonadmin s blk snd m ha hv]
    simp only [coveredSeq, coveredFrom, Bool.false_eq_true, false_or]
    cases covers (s.permissions.get? snd.text) blk (s.allowances.get? snd.text) m <;> simp
  · simp [Sk.query_admin s blk snd m ha]

/-- C16 (subkeys): for a valid sender the query always answers (never errors). -/
theorem Sk.canExecute_total (s : Cw1Subkeys.State) (blk : Block) (snd : AddrArg) (m : CosmosMsg)
    (hv : snd.valid = true) : ∃ b, Cw1Subkeys.queryCanExecute s blk snd m = .ok b := by
  cases ha : s.cfg.isAdmin snd.text
  · exact ⟨_, Sk.query_nonadmin s blk snd m ha hv⟩
  · exact ⟨true, Sk.query_admin s blk snd m ha⟩

/-- C16 (subkeys), sender strings that do not validate: the query answers `true` if the raw string is
literally in the admin list (the lookup precedes validation; `Execute` by that sender succeeds as well),
and fails with an error otherwise — it never answers `true` for a non-admin, so `CanExecute = true` still
implies that `Execute` succeeds.  The converse can fail only for an invalid string that nevertheless holds
grants, which no history produces: grants are stored under validated addresses only
(see `C17.Sk.grant_keys_valid`). -/
theorem Sk.canExecute_invalid_sender (s : Cw1Subkeys.State) (blk : Block) (snd : AddrArg) (m : CosmosMsg)
    (hv : snd.valid = false) :
    (s.cfg.isAdmin snd.text = true → Cw1Subkeys.queryCanExecute s blk snd m = .ok true ∧
        (Cw1Subkeys.execute s blk snd.text (.execute [m])).isOk = true) ∧
    (s.cfg.isAdmin snd.text = false → ∃ e, Cw1Subkeys.queryCanExecute s blk snd m = .error e) := by
  constructor
  · intro ha
    refine ⟨Sk.query_admin s blk snd m ha, ?_⟩
    rw [C07.Sk.execute_ok_iff]; exact Or.inl ha
  · intro ha
    exact ⟨"addr", Sk.query_invalid s blk snd m ha hv⟩

/-- C16 (subkeys), one direction for *every* sender string: `CanExecute = true` implies `Execute` succeeds. -/
theorem Sk.canExecute_true_sound (s : Cw1Subkeys.State) (blk : Block) (snd : AddrArg) (m : CosmosMsg)
    (h : Cw1Subkeys.queryCanExecute s blk snd m = .ok true) :
    (Cw1Subkeys.execute s blk snd.text (.execute [m])).isOk = true := by
  cases hv : snd.valid
  · cases ha : s.cfg.isAdmin snd.text
    · obtain ⟨e, he⟩ := (Sk.canExecute_invalid_sender s blk snd m hv).2 ha
      rw [he] at h; cases h
    · exact ((Sk.canExecute_invalid_sender s blk snd m hv).1 ha).2
  · exact (Sk.canExecute_iff_execute_ok s blk snd m hv).mp h

/-- C16 (subkeys) on reachable states, for *every* sender string: if grants are stored under validated addresses
only (`C17.Sk.grant_keys_valid`: true after every history from instantiation) and the sender string is either
valid or not a well-formed address, then `CanExecute = true` exactly when `Execute{[msg]}` succeeds. -/
theorem Sk.canExecute_iff_reachable {V : String → Prop} {s : Cw1Subkeys.State} (hk : C17.KeysOk V s)
    (blk : Block) (snd : AddrArg) (m : CosmosMsg) (hsnd : snd.valid = false → ¬ V snd.text) :
    Cw1Subkeys.queryCanExecute s blk snd m = .ok true ↔
      (Cw1Subkeys.execute s blk snd.text (.execute [m])).isOk = true := by
  cases hv : snd.valid
  · refine ⟨Sk.canExecute_true_sound s blk snd m, fun h => ?_⟩
    rw [C07.Sk.execute_ok_iff] at h
    rcases h with ha | hc
    · exact ((Sk.canExecute_invalid_sender s blk snd m hv).1 ha).1
    · exfalso
      have h1 : s.allowances.get? snd.text = none := by
        cases hg : s.allowances.get? snd.text with
        | none => rfl
        | some a => exact absurd (hk.1 snd.text (by rw [hg]; simp)) (hsnd hv)
      have h2 : s.permissions.get? snd.text = none := by
        cases hg : s.permissions.get? snd.text with
        | none => rfl
        | some a => exact absurd (hk.2 snd.text (by rw [hg]; simp)) (hsnd hv)
      simp [coveredSeq, coveredFrom, h1, h2, C07.covers_without_grants] at hc
  · exact Sk.canExecute_iff_execute_ok s blk snd m hv

/-- C16 (subkeys), closed form over histories: after **every** history from instantiation whose validated address
arguments are well-formed addresses (`V`: the oracle behind `addr_validate`), for every block, message and sender
string that is either valid or not a well-formed address, `CanExecute` answers `true` exactly when `Execute{[msg]}`
by that sender succeeds.  (`canExecute_iff_reachable` composed with `C17.Sk.grant_keys_valid`.) -/
theorem Sk.canExecute_iff_run (V : String → Prop) {m0 : Cw1Subkeys.InstMsg} {s0 : Cw1Subkeys.State}
    (h0 : Cw1Subkeys.instantiate m0 = .ok s0) (ops : List (Block × Addr × Cw1Subkeys.Msg))
    (hops : ∀ op ∈ ops, C17.argsOk V op.2.2) (blk : Block) (snd : AddrArg) (m : CosmosMsg)
    (hsnd : snd.valid = false → ¬ V snd.text) :
    Cw1Subkeys.queryCanExecute (C17.Sk.run s0 ops) blk snd m = .ok true ↔
      (Cw1Subkeys.execute (C17.Sk.run s0 ops) blk snd.text (.execute [m])).isOk = true :=
  Sk.canExecute_iff_reachable (C17.Sk.grant_keys_valid V h0 ops hops) blk snd m hsnd

theorem ok_false_iff {α : Type} {q : Res Bool} {r : Res α} (hiff : q = .ok true ↔ r.isOk = true)
    (htot : ∃ b, q = .ok b) : q = .ok false ↔ ∃ e, r = .error e := by
  rw [← Res.isOk_false_iff_exists]
  obtain ⟨b, rfl⟩ := htot
  cases b with
  | true => rw [hiff.mp rfl]; exact ⟨nofun, nofun⟩
  | false =>
    cases hr : r.isOk with
    | false => exact ⟨fun _ => rfl, fun _ => rfl⟩
    | true => exact absurd (hiff.mpr hr) nofun

/-- C16 (subkeys), the `false` answer: for a valid sender the query answers `false` exactly when `Execute{[msg]}`
fails.  This is the form the monitor `C16/query-vs-execute` tests. -/
theorem Sk.canExecute_false_iff (s : Cw1Subkeys.State) (blk : Block) (snd : AddrArg) (m : CosmosMsg)
    (hv : snd.valid = true) :
    Cw1Subkeys.queryCanExecute s blk snd m = .ok false ↔
      ∃ e, Cw1Subkeys.execute s blk snd.text (.execute [m]) = .error e :=
  ok_false_iff (Sk.canExecute_iff_execute_ok s blk snd m hv) (Sk.canExecute_total s blk snd m hv)

/-- C16 (whitelist), the `false` answer. -/
theorem Wl.canExecute_false_iff (s : Cw1Whitelist.State) (blk : Block) (snd : AddrArg) (m : CosmosMsg) :
    Cw1Whitelist.queryCanExecute s blk snd m = .ok false ↔
      ∃ e, Cw1Whitelist.execute s blk snd.text (.execute [m]) = .error e :=
  ok_false_iff (Wl.canExecute_iff_execute_ok s blk snd m) (Wl.canExecute_total s blk snd m)

/-- C16 (whitelist): the answer depends neither on the message nor on the block. -/
theorem Wl.canExecute_ignores_msg_and_block (s : Cw1Whitelist.State) (blk blk' : Block) (snd : AddrArg) (m m' : CosmosMsg) :
    Cw1Whitelist.queryCanExecute s blk snd m = Cw1Whitelist.queryCanExecute s blk' snd m' := rfl

theorem sentCoins_of_mem {to : String} {cs : List Coin} {msgs : List CosmosMsg} (h : CosmosMsg.bankSend to cs ∈ msgs) :
    ∃ pre post, C08.sentCoins msgs = pre ++ (cs ++ post) := by
  induction msgs with
  | nil => cases h
  | cons m ms ih =>
    rcases List.mem_cons.mp h with rfl | h
    · exact ⟨[], C08.sentCoins ms, rfl⟩
    · obtain ⟨pre, post, e⟩ := ih h
      exact ⟨C08.msgCoins m ++ pre, post, by rw [C08.sentCoins_cons, e, List.append_assoc]⟩

/-- Each message of a covered list is covered on its own: its kind is allowed, and with unique denoms what can be
subtracted after the earlier bank sends of the list can be subtracted from the full balance. -/
theorem coveredFrom_each {perm : Option Permissions} {blk : Block} {al : Option Allowance} {msgs : List CosmosMsg}
    (hu : ∀ a, al = some a → NativeBalance.UniqueDenoms a.balance) (h : coveredFrom perm blk al msgs = true) :
    ∀ m ∈ msgs, (covers perm blk al m).isSome = true := by
  obtain ⟨hp, hal, b', hb'⟩ := C08.coveredFrom_iff_subCoins.mp h
  intro m hm
  cases hbk : C07.isBankSend m with
  | false => rw [C07.covers_of_not_bank perm blk al hbk, if_pos (hp m hm)]; rfl
  | true =>
    cases m with
    | bankSend to cs =>
      obtain ⟨a, rfl, hx⟩ := hal ⟨to, cs, hm⟩
      obtain ⟨pre, post, e⟩ := sentCoins_of_mem hm
      obtain ⟨b, hb⟩ := (Res.isOk_iff_exists _).mp (NativeBalance.subCoins_isOk_of_append (hu a rfl) (e ▸ hb'))
      simp only [covers, hx, hb]; rfl
    | _ => cases hbk

/-- C16 (subkeys), lists: on a well-formed state (`C08.wf_run`: every reachable one), if a valid sender's
`Execute{msgs}` succeeds then `CanExecute` answers `true` for every single message of the list.  The converse fails
(each message may be affordable alone but not together, see the example below), and so does the statement without
well-formedness (with the balance `[(a,1),(a,5)]` the list `a1, a5` succeeds but `a5` alone does not). -/
theorem Sk.execute_list_each {s : Cw1Subkeys.State} (hw : C08.WF s) (blk : Block) (snd : AddrArg) (msgs : List CosmosMsg)
    (hv : snd.valid = true) (h : (Cw1Subkeys.execute s blk snd.text (.execute msgs)).isOk = true) :
    ∀ m ∈ msgs, Cw1Subkeys.queryCanExecute s blk snd m = .ok true := by
  intro m hm
  cases ha : s.cfg.isAdmin snd.text with
  | true => exact Sk.query_admin s blk snd _ ha
  | false =>
    rw [Sk.query_nonadmin s blk snd m ha hv]
    rcases (C07.Sk.execute_ok_iff s blk snd.text msgs).mp h with h1 | h1
    · rw [ha] at h1; cases h1
    · rw [coveredFrom_each (hw _) h1 m hm]

open CwPlus.Props.C07 (exState blk50 blk100)

example : (Cw1Subkeys.queryCanExecute exState blk50 ⟨true, "sub"⟩ (.bankSend "x" [("ua", 10)])).toOption = some true := by decide +kernel
example : (Cw1Subkeys.execute exState blk50 "sub" (.execute [.bankSend "x" [("ua", 10)]])).isOk = true := by decide +kernel
example : (Cw1Subkeys.queryCanExecute exState blk50 ⟨true, "sub"⟩ (.bankSend "x" [("ua", 11)])).toOption = some false := by decide +kernel
example : (Cw1Subkeys.execute exState blk50 "sub" (.execute [.bankSend "x" [("ua", 11)]])).isOk = false := by decide +kernel
/-- expired allowance: both say no -/
example : (Cw1Subkeys.queryCanExecute exState blk100 ⟨true, "sub"⟩ (.bankSend "x" [("ua", 1)])).toOption = some false := by decide +kernel
example : (Cw1Subkeys.execute exState blk100 "sub" (.execute [.bankSend "x" [("ua", 1)]])).isOk = false := by decide +kernel
/-- a zero coin of a denom the allowance lacks is refused by both paths -/
example : (Cw1Subkeys.queryCanExecute exState blk50 ⟨true, "sub"⟩ (.bankSend "x" [("uc", 0)])).toOption = some false := by decide +kernel
example : (Cw1Subkeys.execute exState blk50 "sub" (.execute [.bankSend "x" [("uc", 0)]])).isOk = false := by decide +kernel
example : (Cw1Subkeys.queryCanExecute exState blk50 ⟨true, "sub"⟩ (.distribution .withdrawDelegatorReward "v")).toOption = some true := by decide +kernel
example : (Cw1Subkeys.queryCanExecute exState blk50 ⟨true, "sub"⟩ (.distribution .other "v")).toOption = some false := by decide +kernel
example : (Cw1Subkeys.queryCanExecute exState blk50 ⟨false, "NotAnAddress"⟩ (.wasm "w")).isOk = false := by decide +kernel
example : (Cw1Subkeys.queryCanExecute exState blk50 ⟨true, "admin"⟩ (.wasm "w")).toOption = some true := by decide +kernel

/-- `canExecute_false_iff` on the running example -/
example : ∃ e, Cw1Subkeys.execute exState blk50 "sub" (.execute [.bankSend "x" [("ua", 11)]]) = .error e :=
  (Sk.canExecute_false_iff exState blk50 ⟨true, "sub"⟩ _ rfl).mp rfl
/-- `execute_list_each`: the list succeeds, so each message can execute; the converse fails: 6 ua twice is each
affordable alone, but not together -/
example : ∀ m ∈ [CosmosMsg.bankSend "x" [("ua", 4)], .staking .delegate "v", .bankSend "y" [("ua", 6), ("ub", 1)]],
    Cw1Subkeys.queryCanExecute exState blk50 ⟨true, "sub"⟩ m = .ok true :=
  Sk.execute_list_each C08.exState_wf blk50 ⟨true, "sub"⟩ _ rfl (by decide)
example : (∀ m ∈ [CosmosMsg.bankSend "x" [("ua", 6)], .bankSend "y" [("ua", 6)]],
      (Cw1Subkeys.queryCanExecute exState blk50 ⟨true, "sub"⟩ m).toOption = some true) ∧
    (Cw1Subkeys.execute exState blk50 "sub" (.execute [.bankSend "x" [("ua", 6)], .bankSend "y" [("ua", 6)]])).isOk = false := by
  decide
/-- without unique denoms the list statement fails -/
example : let s : Cw1Subkeys.State := { exState with allowances := [("sub", ⟨[("a", 1), ("a", 5)], .never⟩)] }
    (Cw1Subkeys.execute s blk50 "sub" (.execute [.bankSend "x" [("a", 1)], .bankSend "y" [("a", 5)]])).isOk = true ∧
    (Cw1Subkeys.queryCanExecute s blk50 ⟨true, "sub"⟩ (.bankSend "y" [("a", 5)])).toOption = some false := by decide +kernel

end CwPlus.Props.C16
