import CwPlus.Lemmas.Cw3Fixed
import CwPlus.Lemmas.Cw3Status
/-!
# cw3-fixed: further histories with non-decreasing blocks, block-indexed invariants

Every handler call is one `CoreStep`; inside `Inv` every tally meets the premise of C04.  `ReachableFrom fuel w0 b1 w b`:
`w` is reached from `w0` by a further history whose blocks start at or after `b1` and never go back, `b` being the block
of its last operation (`b1` for the empty history).  A block-indexed state predicate that is monotone in the block and
preserved by every handler call holds along such a history.
-/
namespace CwPlus.Cw3Fixed
open CwPlus CwPlus.Cw3 CwPlus.Cw3Core CwPlus.Props

theorem execute_coreStep {s s' : State} {blk : Block} {snd : Addr} {m : ExecMsg} {out : List Msg}
    (h : execute s blk snd m = .ok (s', out)) : CoreStep blk s.core s'.core := by
  obtain ⟨_, _, hc⟩ := execute_cases h
  rcases hc with ⟨t, d, msgs, latest, w, id, _, _, _, hp⟩ | ⟨id, v, _, _, hv⟩ | ⟨id, _, he⟩ | ⟨id, _, _, hcl⟩
  · exact CoreStep.propose _ _ _ _ _ _ _ _ _ _ _ hp
  · exact CoreStep.vote _ _ _ _ hv
  · exact CoreStep.execute _ _ _ he
  · exact CoreStep.close _ hcl

/-- Inside the invariant every proposal's tally meets the premise of the threshold arithmetic (C04):
tally ≤ total (C06), total in `u64`, threshold validated for this total. -/
theorem premise_of_inv {s : State} (hi : Inv s) {id : Nat} {p : Proposal} (hp : s.core.proposals.get? id = some p) :
    C04.Premise (openT p) := by
  obtain ⟨h1, h2, _⟩ := hi.propCfg id p hp
  refine ⟨?_, ?_, ?_⟩
  · have := hi.tally_le hp
    simpa [openT, C04.cast] using this
  · show p.totalWeight ≤ U64_MAX
    rw [h1]; exact hi.totalU64
  · show p.threshold.validate p.totalWeight = .ok ()
    rw [h1, h2]; exact hi.thrValid

theorem blockLe_refl (b : Block) : blockLe b b := ⟨Nat.le_refl _, Nat.le_refl _⟩
theorem blockLe_trans {a b c : Block} (h1 : blockLe a b) (h2 : blockLe b c) : blockLe a c :=
  ⟨Nat.le_trans h1.1 h2.1, Nat.le_trans h1.2 h2.2⟩

/-- `w` is reached from `w0` by a further history whose first block is at or after `b1` and whose
blocks never go back; the last argument is the block of the last operation (`b1` if there is none). -/
inductive ReachableFrom (fuel : Nat) (w0 : World) (b1 : Block) : World → Block → Prop
  | refl : ReachableFrom fuel w0 b1 w0 b1
  | step {w : World} {b : Block} (op : Op) : ReachableFrom fuel w0 b1 w b → blockLe b op.blk →
      ReachableFrom fuel w0 b1 (step fuel w op) op.blk

theorem ReachableFrom.le {fuel : Nat} {w0 w : World} {b1 b : Block} (h : ReachableFrom fuel w0 b1 w b) : blockLe b1 b := by
  induction h with
  | refl => exact blockLe_refl _
  | step op _ hb ih => exact blockLe_trans ih hb

/-- a further history of a world reached with blocks in order, starting at or after its last block, is again such a
history — or empty -/
theorem ReachableAt.extend {fuel : Nat} {w0 w : World} {b0 b1 b : Block} (hr : ReachableAt fuel w0 b0)
    (h01 : blockLe b0 b1) (hf : ReachableFrom fuel w0 b1 w b) : ReachableAt fuel w b ∨ (w = w0 ∧ b = b1) := by
  induction hf with
  | refl => exact Or.inr ⟨rfl, rfl⟩
  | @step w b op _ hb ih =>
    left
    rcases ih with h | ⟨rfl, rfl⟩
    · exact ReachableAt.step op h hb
    · exact ReachableAt.step op hr (blockLe_trans h01 hb)

theorem ReachableAt.extend_reachable {fuel : Nat} {w0 w : World} {b0 b1 b : Block} (hr : ReachableAt fuel w0 b0)
    (h01 : blockLe b0 b1) (hf : ReachableFrom fuel w0 b1 w b) : Reachable fuel w := by
  rcases ReachableAt.extend hr h01 hf with h | ⟨rfl, _⟩
  · exact h.reachable
  · exact hr.reachable

theorem reachableFrom_inv (P : Block → State → Prop)
    (hmono : ∀ b b2 s, blockLe b b2 → P b s → P b2 s)
    (hstep : ∀ b s snd m s' out, P b s → execute s b snd m = .ok (s', out) → P b s')
    {fuel : Nat} {w0 w : World} {b1 b : Block} (h0 : P b1 w0.ms) (hf : ReachableFrom fuel w0 b1 w b) : P b w.ms := by
  induction hf with
  | refl => exact h0
  | @step w b op _ hb ih =>
    exact step_state_inv (P op.blk) fuel w op (hstep op.blk) (hmono _ _ _ hb ih)

theorem reachableAt_inv (P : Block → State → Prop)
    (hmono : ∀ b b2 s, blockLe b b2 → P b s → P b2 s)
    (hstep : ∀ b s snd m s' out, P b s → execute s b snd m = .ok (s', out) → P b s')
    (hinit : ∀ m s b, instantiate m = .ok s → P b s)
    {fuel : Nat} {w : World} {b : Block} (h : ReachableAt fuel w b) : P b w.ms := by
  induction h with
  | init self bank sink b hi => exact hinit _ _ b hi
  | @step w b op _ hb ih =>
    exact step_state_inv (P op.blk) fuel w op (hstep op.blk) (hmono _ _ _ hb ih)

/-- In every reachable state (any history, blocks in any order) a proposal stored Open and not expired at a
block is reported Open at that block. -/
theorem reachable_openOk {fuel : Nat} {w : World} (hr : Reachable fuel w) :
    AllP (fun _ p => ∀ b, OpenOk b p) w.ms.core :=
  reachable_ind (fun s => AllP (fun _ p => ∀ b, OpenOk b p) s.core)
    (fun _ _ hi => by rw [instantiate_core hi]; exact allP_empty _)
    (fun _ _ _ _ _ _ hi ha he => allP_step hi.wf (fun _ _ _ hold hs => openOk_all_step hold hs) ha (execute_coreStep he)) hr

/-- a further history of a reachable world leads to a reachable world -/
theorem Reachable.extend {fuel : Nat} {w0 w : World} {b1 b : Block} (hr : Reachable fuel w0)
    (hf : ReachableFrom fuel w0 b1 w b) : Reachable fuel w := by
  induction hf with
  | refl => exact hr
  | step op _ _ ih => exact reachable_step ih op

end CwPlus.Cw3Fixed
