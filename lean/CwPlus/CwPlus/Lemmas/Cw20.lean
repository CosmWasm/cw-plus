import CwPlus.Model.Cw20
import CwPlus.Lemmas.Cw20Marketing
import CwPlus.Lemmas.History
/-!
# Lemmas about the model `Model/Cw20.lean`

Exact characterisations (`… = .ok r ↔ …`) of `debit`, `credit`, `deduct`, `migrate` and the token handlers (the two
allowance edits: one-way `_ok` only), what an accepted `instantiate` built, and the principle by which an
invariant of successful calls holds over every history.  The property files reason from these and do not unfold the handlers.  (The two marketing handlers:
`Lemmas/Cw20Marketing.lean`.)
-/
namespace CwPlus.Cw20
open CwPlus

theorem debit_ok_iff {b b' : AMap Addr Nat} {a : Addr} {amt : Nat} :
    debit b a amt = .ok b' ↔ amt ≤ (b.get? a).getD 0 ∧ b' = b.set a ((b.get? a).getD 0 - amt) := by
  simp [debit, eq_comm]

theorem credit_ok_iff {b b' : AMap Addr Nat} {a : Addr} {amt : Nat} :
    credit b a amt = .ok b' ↔
      (b.get? a).getD 0 + amt ≤ U128_MAX ∧ b' = b.set a ((b.get? a).getD 0 + amt) := by
  simp [credit, eq_comm]

theorem debit_sum {b b' : AMap Addr Nat} {a : Addr} {amt : Nat} (h : debit b a amt = .ok b') :
    AMap.sum b' + amt = AMap.sum b := by
  obtain ⟨hle, rfl⟩ := debit_ok_iff.mp h
  have := AMap.sum_set b a ((b.get? a).getD 0 - amt)
  omega

theorem credit_sum {b b' : AMap Addr Nat} {a : Addr} {amt : Nat} (h : credit b a amt = .ok b') :
    AMap.sum b' = AMap.sum b + amt := by
  obtain ⟨_, rfl⟩ := credit_ok_iff.mp h
  have := AMap.sum_set b a ((b.get? a).getD 0 + amt)
  omega

theorem move_sum {b b1 b2 : AMap Addr Nat} {frm to : Addr} {amt : Nat}
    (h1 : debit b frm amt = .ok b1) (h2 : credit b1 to amt = .ok b2) : AMap.sum b2 = AMap.sum b := by
  have := debit_sum h1
  have := credit_sum h2
  omega

theorem debit_get {b b' : AMap Addr Nat} {a : Addr} {amt : Nat} (h : debit b a amt = .ok b') (x : Addr) :
    (b'.get? x).getD 0 = if x = a then (b.get? a).getD 0 - amt else (b.get? x).getD 0 := by
  obtain ⟨_, rfl⟩ := debit_ok_iff.mp h
  exact AMap.getD_set b a x _ 0

theorem credit_get {b b' : AMap Addr Nat} {a : Addr} {amt : Nat} (h : credit b a amt = .ok b') (x : Addr) :
    (b'.get? x).getD 0 = if x = a then (b.get? a).getD 0 + amt else (b.get? x).getD 0 := by
  obtain ⟨_, rfl⟩ := credit_ok_iff.mp h
  exact AMap.getD_set b a x _ 0

theorem credit_ge {b b' : AMap Addr Nat} {a : Addr} {amt : Nat} (h : credit b a amt = .ok b') (x : Addr) :
    (b.get? x).getD 0 ≤ (b'.get? x).getD 0 := by
  rw [credit_get h x]
  split
  · subst x; omega
  · exact Nat.le_refl _

theorem debit_lt {b b' : AMap Addr Nat} {a x : Addr} {amt : Nat} (h : debit b a amt = .ok b')
    (hlt : (b'.get? x).getD 0 < (b.get? x).getD 0) : x = a := by
  rw [debit_get h x] at hlt
  split at hlt
  · assumption
  · omega

theorem debit_le_add {b b' : AMap Addr Nat} {a : Addr} {amt : Nat} (h : debit b a amt = .ok b') (x : Addr) :
    (b.get? x).getD 0 ≤ (b'.get? x).getD 0 + amt := by
  rw [debit_get h x]
  split
  · subst x; omega
  · omega

/-- `debit from` then `credit to` by the same amount: exact balance of every account afterwards.
Covers `from = to` (net zero). -/
theorem move_get {b b1 b2 : AMap Addr Nat} {frm to : Addr} {amt : Nat}
    (h1 : debit b frm amt = .ok b1) (h2 : credit b1 to amt = .ok b2) (x : Addr) :
    amt ≤ (b.get? frm).getD 0 ∧
    (b2.get? x).getD 0 =
      if x = to then (if to = frm then (b.get? frm).getD 0 else (b.get? to).getD 0 + amt)
      else if x = frm then (b.get? frm).getD 0 - amt else (b.get? x).getD 0 := by
  have hle := (debit_ok_iff.mp h1).1
  refine ⟨hle, ?_⟩
  rw [credit_get h2 x, debit_get h1 to]
  by_cases e1 : x = to
  · subst e1
    by_cases e2 : x = frm
    · subst e2; simp; omega
    · simp [e2]
  · simp [e1, debit_get h1 x]

theorem deductFn_ok_iff {blk : Block} {amt : Nat} {cur : Option Allowance} {a' : Allowance} :
    deductFn blk amt cur = .ok a' ↔
      ∃ al, cur = some al ∧ al.expires.isExpired blk = false ∧ amt ≤ al.amount ∧
        a' = ⟨al.amount - amt, al.expires⟩ := by
  unfold deductFn
  split
  · simp
  · rename_i a
    simp only [check_bind_ok, subU128_bind_ok, Res.pure_ok, Bool.not_eq_true', Option.some.injEq]
    constructor
    · rintro ⟨h1, h2, rfl⟩; exact ⟨a, rfl, h1, h2, rfl⟩
    · rintro ⟨al, rfl, h1, h2, rfl⟩; exact ⟨h1, h2, rfl⟩

/-- `deduct_allowance`, characterised exactly: both entries exist, are unexpired and sufficient
(each judged on its own stored value), and both are rewritten with the amount lowered. -/
theorem deduct_ok_iff {s s1 : State} {blk : Block} {o sp : Addr} {amt : Nat} :
    deduct s blk o sp amt = .ok s1 ↔
      ∃ al al2, s.allow.get? (o, sp) = some al ∧ al.expires.isExpired blk = false ∧ amt ≤ al.amount ∧
        s.allowSp.get? (sp, o) = some al2 ∧ al2.expires.isExpired blk = false ∧ amt ≤ al2.amount ∧
        s1 = { s with allow := s.allow.set (o, sp) ⟨al.amount - amt, al.expires⟩,
                      allowSp := s.allowSp.set (sp, o) ⟨al2.amount - amt, al2.expires⟩ } := by
  simp only [deduct, Res.bind_ok, Res.pure_ok, deductFn_ok_iff]
  constructor
  · rintro ⟨a1, ⟨al, h1, h2, h3, rfl⟩, a2, ⟨al2, h4, h5, h6, rfl⟩, rfl⟩
    exact ⟨al, al2, h1, h2, h3, h4, h5, h6, rfl⟩
  · rintro ⟨al, al2, h1, h2, h3, h4, h5, h6, rfl⟩
    exact ⟨_, ⟨al, h1, h2, h3, rfl⟩, _, ⟨al2, h4, h5, h6, rfl⟩, rfl⟩

theorem incFn_ok_iff {blk : Block} {amt : Nat} {expires : Option Expiration} {old : Option Allowance}
    {a' : Allowance} :
    incFn blk amt expires old = .ok a' ↔
      (∀ e, expires = some e → e.isExpired blk = false) ∧
      (old.getD Allowance.default).amount + amt ≤ U128_MAX ∧
      a' = ⟨(old.getD Allowance.default).amount + amt, expires.getD (old.getD Allowance.default).expires⟩ := by
  unfold incFn
  cases expires with
  | none => simp; intro _; exact eq_comm
  | some e => simp; intro _ _; exact eq_comm

theorem deduct_frame {s s1 : State} {blk : Block} {o sp : Addr} {amt : Nat} (h : deduct s blk o sp amt = .ok s1) :
    ∃ al al2, s1 = { s with allow := al, allowSp := al2 } := by
  obtain ⟨_, _, _, _, _, _, _, _, rfl⟩ := deduct_ok_iff.mp h
  exact ⟨_, _, rfl⟩

theorem createAccounts_nil_ok_iff {b : AMap Addr Nat} {t : Nat} {r : AMap Addr Nat × Nat} :
    createAccounts [] b t = .ok r ↔ r = (b, t) := by
  simp [createAccounts, @eq_comm _ r]

theorem createAccounts_cons_ok_iff {a : AddrArg} {amt : Nat} {rest : List (AddrArg × Nat)} {b : AMap Addr Nat} {t : Nat}
    {r : AMap Addr Nat × Nat} :
    createAccounts ((a, amt) :: rest) b t = .ok r ↔
      a.valid = true ∧ t + amt ≤ U128_MAX ∧ createAccounts rest (b.set a.text amt) (t + amt) = .ok r := by
  simp [createAccounts]

theorem instantiate_ok {m : InstMsg} {s : State} (h : instantiate m = .ok s) :
    (m.initial.map (·.1.text)).Nodup ∧ ∃ bals total mk logo,
      createAccounts m.initial [] 0 = .ok (bals, total) ∧
      (∀ a c, m.mint = some (a, some c) → total ≤ c) ∧
      instMarketing m.marketing = .ok (mk, logo) ∧
      s = { supply := total, mint := m.mint.map fun p => ⟨p.1.text, p.2⟩, balances := bals, allow := [],
            allowSp := [], version := ⟨CONTRACT_NAME, 2, 0, 0, none⟩, marketing := mk, logo := logo } := by
  -- one `bind` of the handler at a time (`simp [instantiate]` does the same at five times the cost)
  unfold instantiate at h
  obtain ⟨_, _, h⟩ := (Res.bind_ok _ _ _).mp h
  obtain ⟨_, hnd, h⟩ := (Res.bind_ok _ _ _).mp h
  obtain ⟨⟨bals, total⟩, hc, h⟩ := (Res.bind_ok _ _ _).mp h
  obtain ⟨_, hcap, h⟩ := (Res.bind_ok _ _ _).mp h
  obtain ⟨mint, hmint, h⟩ := (Res.bind_ok _ _ _).mp h
  obtain ⟨⟨mk, logo⟩, hmk, h⟩ := (Res.bind_ok _ _ _).mp h
  cases h
  refine ⟨of_decide_eq_true (check_ok.mp hnd), bals, total, mk, logo, hc, ?_, hmk, ?_⟩
  · intro a c hm
    rw [hm] at hcap
    exact of_decide_eq_true (check_ok.mp hcap)
  · cases hm : m.mint with
    | none => rw [hm] at hmint; cases hmint; rfl
    | some p =>
      rw [hm] at hmint
      obtain ⟨_, _, h⟩ := (Res.bind_ok _ _ _).mp hmint
      cases h; rfl

/-- `migrate`, characterised exactly: accepted iff the cw2 record names this contract and is not newer than the
code; it writes the version and, below 0.14.0, rebuilds the spender-keyed map from the owner-keyed one. -/
theorem migrate_ok {s s' : State} :
    migrate s = .ok s' ↔
      s.version.name = CONTRACT_NAME ∧ verLt (relKey CONTRACT_VERSION) s.version.key = false ∧
      s' = { s with
        version := if verLt s.version.key (relKey CONTRACT_VERSION) then ⟨CONTRACT_NAME, 2, 0, 0, none⟩ else s.version,
        allowSp := if verLt s.version.key (relKey (0, 14, 0)) then
            s.allow.foldl (fun acc (p : (Addr × Addr) × Allowance) => acc.set (p.1.2, p.1.1) p.2) s.allowSp
          else s.allowSp } := by
  unfold migrate
  by_cases hv : verLt s.version.key (relKey (0, 14, 0)) = true
  · simp [hv, @eq_comm _ s']
  · simp [hv, @eq_comm _ s']

/-! ## The handlers: exactly when a call succeeds, and with what -/

theorem execTransfer_ok_iff {s : State} {snd : Addr} {to : AddrArg} {amt : Nat} {r : State × List Out} :
    execTransfer s snd to amt = .ok r ↔
      to.valid = true ∧ ∃ b1, debit s.balances snd amt = .ok b1 ∧ ∃ b2, credit b1 to.text amt = .ok b2 ∧
        r = ({ s with balances := b2 }, []) := by
  simp only [execTransfer, Res.bind_ok, check_ok, exists_const, Res.pure_ok, @eq_comm _ r]

theorem execSend_ok_iff {s : State} {snd : Addr} {c : AddrArg} {amt : Nat} {p : String} {r : State × List Out} :
    execSend s snd c amt p = .ok r ↔
      c.valid = true ∧ ∃ b1, debit s.balances snd amt = .ok b1 ∧ ∃ b2, credit b1 c.text amt = .ok b2 ∧
        r = ({ s with balances := b2 }, [⟨c.text, snd, amt, p⟩]) := by
  simp only [execSend, Res.bind_ok, check_ok, exists_const, Res.pure_ok, @eq_comm _ r]

theorem execBurn_ok_iff {s : State} {snd : Addr} {amt : Nat} {r : State × List Out} :
    execBurn s snd amt = .ok r ↔
      ∃ b1, debit s.balances snd amt = .ok b1 ∧ amt ≤ s.supply ∧
        r = ({ s with balances := b1, supply := s.supply - amt }, []) := by
  simp only [execBurn, Res.bind_ok, subU128_ok, and_assoc, exists_and_left, exists_eq_left, Res.pure_ok, @eq_comm _ r]

theorem execMint_ok_iff {s : State} {snd : Addr} {to : AddrArg} {amt : Nat} {r : State × List Out} :
    execMint s snd to amt = .ok r ↔
      ∃ m, s.mint = some m ∧ m.minter = snd ∧ s.supply + amt ≤ U128_MAX ∧ (∀ c, m.cap = some c → s.supply + amt ≤ c) ∧
        to.valid = true ∧ ∃ b, credit s.balances to.text amt = .ok b ∧
        r = ({ s with supply := s.supply + amt, balances := b }, []) := by
  unfold execMint
  cases s.mint with
  | none => simp
  | some m =>
    cases hc : m.cap <;> simp [hc, @eq_comm _ r]

theorem execUpdateMinter_ok_iff {s : State} {snd : Addr} {new : Option AddrArg} {r : State × List Out} :
    execUpdateMinter s snd new = .ok r ↔
      ∃ m, s.mint = some m ∧ m.minter = snd ∧ (∀ a, new = some a → a.valid = true) ∧
        r = ({ s with mint := new.map fun a => ⟨a.text, m.cap⟩ }, []) := by
  unfold execUpdateMinter
  cases s.mint with
  | none => simp
  | some m => cases new <;> simp [@eq_comm _ r]

theorem execTransferFrom_ok_iff {s : State} {blk : Block} {snd : Addr} {o to : AddrArg} {amt : Nat}
    {r : State × List Out} :
    execTransferFrom s blk snd o to amt = .ok r ↔
      to.valid = true ∧ o.valid = true ∧ ∃ s1, deduct s blk o.text snd amt = .ok s1 ∧
        ∃ b1, debit s1.balances o.text amt = .ok b1 ∧ ∃ b2, credit b1 to.text amt = .ok b2 ∧
        r = ({ s1 with balances := b2 }, []) := by
  simp only [execTransferFrom, Res.bind_ok, check_ok, exists_const, Res.pure_ok, @eq_comm _ r]

theorem execSendFrom_ok_iff {s : State} {blk : Block} {snd : Addr} {o c : AddrArg} {amt : Nat} {p : String}
    {r : State × List Out} :
    execSendFrom s blk snd o c amt p = .ok r ↔
      c.valid = true ∧ o.valid = true ∧ ∃ s1, deduct s blk o.text snd amt = .ok s1 ∧
        ∃ b1, debit s1.balances o.text amt = .ok b1 ∧ ∃ b2, credit b1 c.text amt = .ok b2 ∧
        r = ({ s1 with balances := b2 }, [⟨c.text, snd, amt, p⟩]) := by
  simp only [execSendFrom, Res.bind_ok, check_ok, exists_const, Res.pure_ok, @eq_comm _ r]

theorem execBurnFrom_ok_iff {s : State} {blk : Block} {snd : Addr} {o : AddrArg} {amt : Nat} {r : State × List Out} :
    execBurnFrom s blk snd o amt = .ok r ↔
      o.valid = true ∧ ∃ s1, deduct s blk o.text snd amt = .ok s1 ∧
        ∃ b1, debit s1.balances o.text amt = .ok b1 ∧ amt ≤ s1.supply ∧
        r = ({ s1 with balances := b1, supply := s1.supply - amt }, []) := by
  simp only [execBurnFrom, Res.bind_ok, check_ok, exists_const, subU128_ok, and_assoc, exists_and_left, exists_eq_left, Res.pure_ok,
    @eq_comm _ r]

/-! ## Inversion lemmas: what a successful call of each handler did

For the three draws the debit is stated on `s.balances`, not on `s1.balances` as in `_ok_iff` (`deduct` leaves the
balances alone: `deduct_frame`). -/

theorem execTransfer_ok {s s' : State} {snd : Addr} {to : AddrArg} {amt : Nat} {out : List Out}
    (h : execTransfer s snd to amt = .ok (s', out)) :
    to.valid = true ∧ ∃ b1 b2, debit s.balances snd amt = .ok b1 ∧ credit b1 to.text amt = .ok b2 ∧
      s' = { s with balances := b2 } ∧ out = [] := by
  obtain ⟨hv, b1, h1, b2, h2, hr⟩ := execTransfer_ok_iff.mp h
  cases hr
  exact ⟨hv, b1, b2, h1, h2, rfl, rfl⟩

theorem execSend_ok {s s' : State} {snd : Addr} {c : AddrArg} {amt : Nat} {p : String} {out : List Out}
    (h : execSend s snd c amt p = .ok (s', out)) :
    c.valid = true ∧ ∃ b1 b2, debit s.balances snd amt = .ok b1 ∧ credit b1 c.text amt = .ok b2 ∧
      s' = { s with balances := b2 } ∧ out = [⟨c.text, snd, amt, p⟩] := by
  obtain ⟨hv, b1, h1, b2, h2, hr⟩ := execSend_ok_iff.mp h
  cases hr
  exact ⟨hv, b1, b2, h1, h2, rfl, rfl⟩

theorem execBurn_ok {s s' : State} {snd : Addr} {amt : Nat} {out : List Out}
    (h : execBurn s snd amt = .ok (s', out)) :
    ∃ b1, debit s.balances snd amt = .ok b1 ∧ amt ≤ s.supply ∧
      s' = { s with balances := b1, supply := s.supply - amt } ∧ out = [] := by
  obtain ⟨b1, h1, hle, hr⟩ := execBurn_ok_iff.mp h
  cases hr
  exact ⟨b1, h1, hle, rfl, rfl⟩

theorem execMint_ok {s s' : State} {snd : Addr} {to : AddrArg} {amt : Nat} {out : List Out}
    (h : execMint s snd to amt = .ok (s', out)) :
    ∃ b, credit s.balances to.text amt = .ok b ∧ s'.balances = b ∧ s'.allow = s.allow ∧
      s'.allowSp = s.allowSp ∧ out = [] := by
  obtain ⟨_, _, _, _, _, _, b, h1, hr⟩ := execMint_ok_iff.mp h
  cases hr
  exact ⟨b, h1, rfl, rfl, rfl, rfl⟩

theorem execIncreaseAllowance_ok {s s' : State} {blk : Block} {snd : Addr} {sp : AddrArg} {amt : Nat}
    {e : Option Expiration} {out : List Out}
    (h : execIncreaseAllowance s blk snd sp amt e = .ok (s', out)) :
    sp.valid = true ∧ sp.text ≠ snd ∧ (∀ x, e = some x → x.isExpired blk = false) ∧
      ((s.allow.get? (snd, sp.text)).getD Allowance.default).amount + amt ≤ U128_MAX ∧
      ((s.allowSp.get? (sp.text, snd)).getD Allowance.default).amount + amt ≤ U128_MAX ∧
      s' = { s with
        allow := s.allow.set (snd, sp.text)
          ⟨((s.allow.get? (snd, sp.text)).getD Allowance.default).amount + amt,
            e.getD ((s.allow.get? (snd, sp.text)).getD Allowance.default).expires⟩,
        allowSp := s.allowSp.set (sp.text, snd)
          ⟨((s.allowSp.get? (sp.text, snd)).getD Allowance.default).amount + amt,
            e.getD ((s.allowSp.get? (sp.text, snd)).getD Allowance.default).expires⟩ } ∧
      out = [] := by
  simp [execIncreaseAllowance, incFn_ok_iff] at h
  obtain ⟨hv, hne, a1, ⟨he, h1, rfl⟩, a2, ⟨_, h2, rfl⟩, rfl, rfl⟩ := h
  exact ⟨hv, hne, he, h1, h2, rfl, rfl⟩

theorem execDecreaseAllowance_ok {s s' : State} {blk : Block} {snd : Addr} {sp : AddrArg} {amt : Nat}
    {e : Option Expiration} {out : List Out}
    (h : execDecreaseAllowance s blk snd sp amt e = .ok (s', out)) :
    sp.valid = true ∧ sp.text ≠ snd ∧ ∃ old, s.allow.get? (snd, sp.text) = some old ∧ out = [] ∧
      ((amt < old.amount ∧ (∀ x, e = some x → x.isExpired blk = false) ∧
          s' = { s with allow := s.allow.set (snd, sp.text) ⟨old.amount - amt, e.getD old.expires⟩,
                        allowSp := s.allowSp.set (sp.text, snd) ⟨old.amount - amt, e.getD old.expires⟩ }) ∨
       (old.amount ≤ amt ∧
          s' = { s with allow := s.allow.erase (snd, sp.text),
                        allowSp := s.allowSp.erase (sp.text, snd) })) := by
  unfold execDecreaseAllowance at h
  simp at h
  obtain ⟨hv, hne, h⟩ := h
  refine ⟨hv, hne, ?_⟩
  split at h
  · simp at h
  · rename_i old hold
    refine ⟨old, hold, ?_⟩
    split at h
    · rename_i hlt
      cases e with
      | none =>
        simp at h
        obtain ⟨rfl, rfl⟩ := h
        exact ⟨rfl, .inl ⟨hlt, by simp, rfl⟩⟩
      | some x =>
        simp at h
        obtain ⟨hx, rfl, rfl⟩ := h
        exact ⟨rfl, .inl ⟨hlt, by simpa using hx, rfl⟩⟩
    · rename_i hge
      simp at h
      obtain ⟨rfl, rfl⟩ := h
      exact ⟨rfl, .inr ⟨by omega, rfl⟩⟩

theorem execTransferFrom_ok {s s' : State} {blk : Block} {snd : Addr} {o r : AddrArg} {amt : Nat}
    {out : List Out} (h : execTransferFrom s blk snd o r amt = .ok (s', out)) :
    r.valid = true ∧ o.valid = true ∧ ∃ s1 b1 b2, deduct s blk o.text snd amt = .ok s1 ∧
      debit s.balances o.text amt = .ok b1 ∧ credit b1 r.text amt = .ok b2 ∧
      s' = { s1 with balances := b2 } ∧ out = [] := by
  obtain ⟨hr, ho, s1, hd, b1, h1, b2, h2, he⟩ := execTransferFrom_ok_iff.mp h
  cases he
  obtain ⟨_, _, rfl⟩ := deduct_frame hd
  exact ⟨hr, ho, _, b1, b2, hd, h1, h2, rfl, rfl⟩

theorem execSendFrom_ok {s s' : State} {blk : Block} {snd : Addr} {o c : AddrArg} {amt : Nat}
    {p : String} {out : List Out} (h : execSendFrom s blk snd o c amt p = .ok (s', out)) :
    c.valid = true ∧ o.valid = true ∧ ∃ s1 b1 b2, deduct s blk o.text snd amt = .ok s1 ∧
      debit s.balances o.text amt = .ok b1 ∧ credit b1 c.text amt = .ok b2 ∧
      s' = { s1 with balances := b2 } ∧ out = [⟨c.text, snd, amt, p⟩] := by
  obtain ⟨hr, ho, s1, hd, b1, h1, b2, h2, he⟩ := execSendFrom_ok_iff.mp h
  cases he
  obtain ⟨_, _, rfl⟩ := deduct_frame hd
  exact ⟨hr, ho, _, b1, b2, hd, h1, h2, rfl, rfl⟩

theorem execBurnFrom_ok {s s' : State} {blk : Block} {snd : Addr} {o : AddrArg} {amt : Nat}
    {out : List Out} (h : execBurnFrom s blk snd o amt = .ok (s', out)) :
    o.valid = true ∧ ∃ s1 b1, deduct s blk o.text snd amt = .ok s1 ∧
      debit s.balances o.text amt = .ok b1 ∧ amt ≤ s.supply ∧
      s' = { s1 with balances := b1, supply := s.supply - amt } ∧ out = [] := by
  obtain ⟨ho, s1, hd, b1, h1, hle, he⟩ := execBurnFrom_ok_iff.mp h
  cases he
  obtain ⟨_, _, rfl⟩ := deduct_frame hd
  exact ⟨ho, _, b1, hd, h1, hle, rfl, rfl⟩

/-! ## What each kind of call may write -/

/-- `amt` is debited from `frm` and credited to the validated `to`; the supply stays. -/
def Moves (s s' : State) (frm : Addr) (to : AddrArg) (amt : Nat) : Prop :=
  to.valid = true ∧ ∃ b1, debit s.balances frm amt = .ok b1 ∧ credit b1 to.text amt = .ok s'.balances ∧
    s'.supply = s.supply

/-- `amt` is debited from `frm` and taken off the supply. -/
def Burns (s s' : State) (frm : Addr) (amt : Nat) : Prop :=
  debit s.balances frm amt = .ok s'.balances ∧ amt ≤ s.supply ∧ s'.supply = s.supply - amt

/-- **Frame.**  What a successful call of each kind writes, field by field.  Marketing info and logo: only the two
marketing messages.  The two allowance maps: a draw leaves what `deduct_allowance` wrote, the two allowance edits write
them (`execIncreaseAllowance_ok`, `execDecreaseAllowance_ok`), every other kind leaves them alone.  The minter record:
only `UpdateMinter`.  Balances and supply: a transfer or send moves `amt` from the sender (from the owner, for a draw),
a burn takes it off the supply, a mint credits the recipient and raises the supply.  Messages: the one `Receive`
notification of `Send` / `SendFrom` (naming the caller) and nothing else. -/
theorem execute_frame {s s' : State} {blk : Block} {snd : Addr} {msg : Msg} {out : List Out}
    (h : execute s blk snd msg = .ok (s', out)) :
    (match msg with
      | .updateMarketing .. | .uploadLogo _ => True
      | _ => s'.marketing = s.marketing ∧ s'.logo = s.logo) ∧
    (match msg with
      | .increaseAllowance .. | .decreaseAllowance .. => True
      | .transferFrom o _ amt | .burnFrom o amt | .sendFrom o _ amt _ =>
        o.valid = true ∧ ∃ s1, deduct s blk o.text snd amt = .ok s1 ∧ s'.allow = s1.allow ∧ s'.allowSp = s1.allowSp
      | _ => s'.allow = s.allow ∧ s'.allowSp = s.allowSp) ∧
    (match msg with
      | .updateMinter _ => True
      | _ => s'.mint = s.mint) ∧
    (match msg with
      | .transfer to amt | .send to amt _ => Moves s s' snd to amt
      | .transferFrom o to amt | .sendFrom o to amt _ => Moves s s' o.text to amt
      | .burn amt => Burns s s' snd amt
      | .burnFrom o amt => Burns s s' o.text amt
      | .mint to amt =>
        credit s.balances to.text amt = .ok s'.balances ∧ s.supply + amt ≤ U128_MAX ∧ s'.supply = s.supply + amt
      | _ => s'.balances = s.balances ∧ s'.supply = s.supply) ∧
    out = (match msg with
      | .send c amt p | .sendFrom _ c amt p => [⟨c.text, snd, amt, p⟩]
      | _ => []) := by
  cases msg
  case transfer to amt =>
    obtain ⟨hv, b1, b2, h1, h2, rfl, rfl⟩ := execTransfer_ok h
    exact ⟨⟨rfl, rfl⟩, ⟨rfl, rfl⟩, rfl, ⟨hv, b1, h1, h2, rfl⟩, rfl⟩
  case burn amt =>
    obtain ⟨b1, h1, hle, rfl, rfl⟩ := execBurn_ok h
    exact ⟨⟨rfl, rfl⟩, ⟨rfl, rfl⟩, rfl, ⟨h1, hle, rfl⟩, rfl⟩
  case send c amt p =>
    obtain ⟨hv, b1, b2, h1, h2, rfl, rfl⟩ := execSend_ok h
    exact ⟨⟨rfl, rfl⟩, ⟨rfl, rfl⟩, rfl, ⟨hv, b1, h1, h2, rfl⟩, rfl⟩
  case mint to amt =>
    obtain ⟨_, _, _, hle, _, _, b, h1, hr⟩ := execMint_ok_iff.mp h
    cases hr
    exact ⟨⟨rfl, rfl⟩, ⟨rfl, rfl⟩, rfl, ⟨h1, hle, rfl⟩, rfl⟩
  case updateMinter new =>
    obtain ⟨_, _, _, _, hr⟩ := execUpdateMinter_ok_iff.mp h
    cases hr
    exact ⟨⟨rfl, rfl⟩, ⟨rfl, rfl⟩, trivial, ⟨rfl, rfl⟩, rfl⟩
  case increaseAllowance sp amt e =>
    obtain ⟨_, _, _, _, _, rfl, rfl⟩ := execIncreaseAllowance_ok h
    exact ⟨⟨rfl, rfl⟩, trivial, rfl, ⟨rfl, rfl⟩, rfl⟩
  case decreaseAllowance sp amt e =>
    obtain ⟨_, _, old, _, rfl, ⟨_, _, rfl⟩ | ⟨_, rfl⟩⟩ := execDecreaseAllowance_ok h
    · exact ⟨⟨rfl, rfl⟩, trivial, rfl, ⟨rfl, rfl⟩, rfl⟩
    · exact ⟨⟨rfl, rfl⟩, trivial, rfl, ⟨rfl, rfl⟩, rfl⟩
  case transferFrom o to amt =>
    obtain ⟨hv, ho, s1, b1, b2, hd, h1, h2, rfl, rfl⟩ := execTransferFrom_ok h
    obtain ⟨_, _, rfl⟩ := deduct_frame hd
    exact ⟨⟨rfl, rfl⟩, ⟨ho, _, hd, rfl, rfl⟩, rfl, ⟨hv, b1, h1, h2, rfl⟩, rfl⟩
  case burnFrom o amt =>
    obtain ⟨ho, s1, b1, hd, h1, hle, rfl, rfl⟩ := execBurnFrom_ok h
    obtain ⟨_, _, rfl⟩ := deduct_frame hd
    exact ⟨⟨rfl, rfl⟩, ⟨ho, _, hd, rfl, rfl⟩, rfl, ⟨h1, hle, rfl⟩, rfl⟩
  case sendFrom o c amt p =>
    obtain ⟨hv, ho, s1, b1, b2, hd, h1, h2, rfl, rfl⟩ := execSendFrom_ok h
    obtain ⟨_, _, rfl⟩ := deduct_frame hd
    exact ⟨⟨rfl, rfl⟩, ⟨ho, _, hd, rfl, rfl⟩, rfl, ⟨hv, b1, h1, h2, rfl⟩, rfl⟩
  case updateMarketing p d m =>
    obtain ⟨mk, rfl, rfl⟩ := execUpdateMarketing_frame h
    exact ⟨trivial, ⟨rfl, rfl⟩, rfl, ⟨rfl, rfl⟩, rfl⟩
  case uploadLogo l =>
    obtain ⟨mk, rfl, rfl⟩ := execUploadLogo_frame h
    exact ⟨trivial, ⟨rfl, rfl⟩, rfl, ⟨rfl, rfl⟩, rfl⟩

/-- What a successful call does to the two allowance maps: nothing, a `set` at mirrored keys (of the same value if
the two old entries agreed), or an `erase` at mirrored keys. -/
theorem execute_allow {s s' : State} {blk : Block} {snd : Addr} {msg : Msg} {out : List Out}
    (h : execute s blk snd msg = .ok (s', out)) :
    (s'.allow = s.allow ∧ s'.allowSp = s.allowSp)
    ∨ (∃ o sp a a2, s'.allow = s.allow.set (o, sp) a ∧ s'.allowSp = s.allowSp.set (sp, o) a2 ∧
        (s.allow.get? (o, sp) = s.allowSp.get? (sp, o) → a = a2))
    ∨ (∃ o sp, s'.allow = s.allow.erase (o, sp) ∧ s'.allowSp = s.allowSp.erase (sp, o)) := by
  cases msg
  case increaseAllowance sp amt e =>
    obtain ⟨_, _, _, _, _, rfl, _⟩ := execIncreaseAllowance_ok h
    exact .inr (.inl ⟨snd, sp.text, _, _, rfl, rfl, fun e => by rw [e]⟩)
  case decreaseAllowance sp amt e =>
    obtain ⟨_, _, old, _, _, ⟨_, _, rfl⟩ | ⟨_, rfl⟩⟩ := execDecreaseAllowance_ok h
    · exact .inr (.inl ⟨snd, sp.text, _, _, rfl, rfl, fun _ => rfl⟩)
    · exact .inr (.inr ⟨snd, sp.text, rfl, rfl⟩)
  case transferFrom | burnFrom | sendFrom =>
    obtain ⟨_, s1, hd, e1, e2⟩ := (execute_frame h).2.1
    obtain ⟨al, al2, h1, _, _, h2, _, _, rfl⟩ := deduct_ok_iff.mp hd
    exact .inr (.inl ⟨_, _, _, _, e1, e2, fun e => by rw [h1, h2] at e; cases e; rfl⟩)
  all_goals exact .inl (execute_frame h).2.1

theorem step_preserves {P : State → Prop}
    (hexec : ∀ {s s' blk snd msg out}, P s → execute s blk snd msg = .ok (s', out) → P s')
    {s : State} (blk : Block) (snd : Addr) (msg : Msg) (hi : P s) : P (step s blk snd msg) := by
  unfold step
  split
  · exact hexec hi ‹_›
  · exact hi

/-- What every successful call preserves, every history preserves (`C01.run`, `C02.run`, `C20.run` are this fold). -/
theorem run_preserves {P : State → Prop}
    (hexec : ∀ {s s' blk snd msg out}, P s → execute s blk snd msg = .ok (s', out) → P s')
    (ops : List (Block × Addr × Msg)) {s : State} (hi : P s) :
    P (ops.foldl (fun s op => step s op.1 op.2.1 op.2.2) s) :=
  foldl_invariant P (fun _ hs _ _ => step_preserves hexec _ _ _ hs) hi

/-- Σ of the amounts of all `ALLOWANCES` entries whose owner is `a`. -/
def ownerSum (m : AMap (Addr × Addr) Allowance) (a : Addr) : Nat :=
  match m with
  | [] => 0
  | (k, v) :: rest => (if k.1 = a then v.amount else 0) + ownerSum rest a

theorem ownerSum_set (m : AMap (Addr × Addr) Allowance) (o sp : Addr) (v : Allowance) (a : Addr) :
    ownerSum (m.set (o, sp) v) a + (if o = a then ((m.get? (o, sp)).getD Allowance.default).amount else 0)
      = ownerSum m a + (if o = a then v.amount else 0) := by
  induction m with
  | nil => simp [AMap.set, ownerSum, AMap.get?, Allowance.default]
  | cons p rest ih =>
    obtain ⟨k, v'⟩ := p
    by_cases h : k = (o, sp)
    · subst h
      simp only [AMap.set, AMap.get?, if_true, ownerSum, Option.getD_some]
      split <;> omega
    · simp only [AMap.set, AMap.get?, if_neg h, ownerSum]
      omega

theorem ownerSum_erase_le (m : AMap (Addr × Addr) Allowance) (k : Addr × Addr) (a : Addr) :
    ownerSum (m.erase k) a ≤ ownerSum m a := by
  induction m with
  | nil => simp [AMap.erase, ownerSum]
  | cons p rest ih =>
    obtain ⟨k', v'⟩ := p
    by_cases h : k' = k
    · simp only [AMap.erase, if_pos h, ownerSum]; omega
    · simp only [AMap.erase, if_neg h, ownerSum]; omega

/-- Every single allowance of the owner is part of the owner's sum. -/
theorem get?_le_ownerSum (m : AMap (Addr × Addr) Allowance) (a sp : Addr) :
    ((m.get? (a, sp)).getD Allowance.default).amount ≤ ownerSum m a := by
  induction m with
  | nil => simp [AMap.get?, Allowance.default]
  | cons p rest ih =>
    obtain ⟨k, v'⟩ := p
    by_cases h : k = (a, sp)
    · subst h; simp [AMap.get?, ownerSum]
    · simp only [AMap.get?, if_neg h, ownerSum]; omega

end CwPlus.Cw20
