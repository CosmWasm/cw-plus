import CwPlus.Model.Cw3
/-!
# Arithmetic of `votes_needed` (helper lemmas for C04; core Lean only)

`votesNeeded w a = ⌈ ⌊10^9·w·a / 10^18⌋ / 10^9 ⌉ as u64`.  The only non-linear term is the product `w·a`; it is generalised
once, in `vnRaw_le_iff` (`votes_needed ≤ y ↔ w·a < y·10^18 + 10^9`), and `omega` does the rest (division by literals is
linear).  Bound, monotonicity, the one-vote distance to the exact ceiling and the complement law are read off that.
-/
namespace CwPlus.Cw3
open CwPlus

/-- `votes_needed` before the `as u64` cast. -/
def vnRaw (w a : Nat) : Nat := (PRECISION_FACTOR * w * a / DEC_ONE + PRECISION_FACTOR - 1) / PRECISION_FACTOR

/-- The exact requirement: `⌈w·a / 10^18⌉`. -/
def exactCeil (w a : Nat) : Nat := (w * a + DEC_ONE - 1) / DEC_ONE

theorem votesNeeded_eq_cast (w a : Nat) : votesNeeded w a = castU64 (vnRaw w a) := rfl

theorem pf_mul (w a : Nat) : PRECISION_FACTOR * w * a = PRECISION_FACTOR * (w * a) := Nat.mul_assoc _ _ _

theorem mul_le_one {w a : Nat} (ha : a ≤ DEC_ONE) : w * a ≤ w * DEC_ONE := Nat.mul_le_mul_left _ ha

/-- The requirement is at most `y` exactly when `w·a < y + 10^-9` (in units of `10^-18`): the library floors `w·a` to nine
decimals, then rounds up.  Everything else about `votes_needed` follows from this. -/
theorem vnRaw_le_iff (w a y : Nat) : vnRaw w a ≤ y ↔ w * a < y * DEC_ONE + PRECISION_FACTOR := by
  unfold vnRaw; rw [pf_mul]
  generalize w * a = Q
  simp only [PRECISION_FACTOR, DEC_ONE]
  omega

theorem exactCeil_le_iff (w a y : Nat) : exactCeil w a ≤ y ↔ w * a ≤ y * DEC_ONE := by
  unfold exactCeil; simp only [DEC_ONE]; omega

theorem vnRaw_le {w a : Nat} (ha : a ≤ DEC_ONE) : vnRaw w a ≤ w :=
  (vnRaw_le_iff w a w).mpr (Nat.lt_of_le_of_lt (mul_le_one ha) (Nat.lt_add_of_pos_right (by decide)))

/-- … hence the `as u64` cast loses nothing -/
theorem vn_eq_raw {w a : Nat} (ha : a ≤ DEC_ONE) (hw : w ≤ U64_MAX) : votesNeeded w a = vnRaw w a := by
  have h := vnRaw_le (w := w) ha
  rw [votesNeeded_eq_cast]; unfold castU64
  simp only [U64_MAX] at hw
  omega

/-- the intermediate values of the Rust code fit their types: `10^9 · w` is a `u128`
and `mul_floor`'s result fits `Uint128` -/
theorem vn_intermediate_fits {w a : Nat} (ha : a ≤ DEC_ONE) (hw : w ≤ U64_MAX) :
    PRECISION_FACTOR * w ≤ U128_MAX ∧ PRECISION_FACTOR * w * a / DEC_ONE ≤ U128_MAX := by
  have h := mul_le_one (w := w) ha
  rw [pf_mul]
  generalize w * a = Q at *
  simp only [PRECISION_FACTOR, DEC_ONE, U64_MAX, U128_MAX] at *
  omega

theorem vnRaw_mono {w w' a : Nat} (h : w ≤ w') : vnRaw w a ≤ vnRaw w' a :=
  (vnRaw_le_iff _ _ _).mpr (Nat.lt_of_le_of_lt (Nat.mul_le_mul_right _ h) ((vnRaw_le_iff _ _ _).mp (Nat.le_refl _)))

theorem vnRaw_exact (w p : Nat) : vnRaw w (PRECISION_FACTOR * p) = (w * p + PRECISION_FACTOR - 1) / PRECISION_FACTOR := by
  have e : PRECISION_FACTOR * w * (PRECISION_FACTOR * p) = DEC_ONE * (w * p) := by
    have : DEC_ONE = PRECISION_FACTOR * PRECISION_FACTOR := by decide
    rw [this]; simp only [Nat.mul_left_comm, Nat.mul_comm]
  unfold vnRaw; rw [e, Nat.mul_div_cancel_left _ (by decide : 0 < DEC_ONE)]

theorem vnRaw_within_one (w a : Nat) : vnRaw w a ≤ exactCeil w a ∧ exactCeil w a ≤ vnRaw w a + 1 := by
  have h1 := (exactCeil_le_iff w a _).mp (Nat.le_refl _)
  have h2 := (vnRaw_le_iff w a _).mp (Nat.le_refl _)
  refine ⟨(vnRaw_le_iff _ _ _).mpr ?_, (exactCeil_le_iff _ _ _).mpr ?_⟩
  · exact Nat.lt_of_le_of_lt h1 (Nat.lt_add_of_pos_right (by decide))
  · simp only [PRECISION_FACTOR, DEC_ONE] at h2 ⊢; omega

/-- `w·a + w·(1 - a) = w`, and each requirement exceeds its product by less than `10^-9`. -/
theorem vnRaw_compl {w a : Nat} (ha : a ≤ DEC_ONE) : w ≤ vnRaw w a + vnRaw w (DEC_ONE - a) := by
  have h1 := (vnRaw_le_iff w a _).mp (Nat.le_refl _)
  have h2 := (vnRaw_le_iff w (DEC_ONE - a) _).mp (Nat.le_refl _)
  have e : w * a + w * (DEC_ONE - a) = w * DEC_ONE := by rw [← Nat.mul_add, Nat.add_sub_cancel' ha]
  generalize vnRaw w a = A at *
  generalize vnRaw w (DEC_ONE - a) = B at *
  generalize w * a = Q1 at *
  generalize w * (DEC_ONE - a) = Q2 at *
  simp only [PRECISION_FACTOR, DEC_ONE] at *
  omega

/-! ### `subU64` / `oneMinus` under `>>=`, as plain `rw` lemmas (`simp` with `bind` unfolded is slow on the
nested `if`s of `isPassed`) -/

theorem subU64_bind_of_le {β : Type} {a b : Nat} (h : b ≤ a) (f : Nat → Res β) :
    (subU64 a b >>= f) = f (a - b) := by
  unfold subU64; rw [if_pos h, Res.ok_bind]

theorem subU64_bind_of_lt {β : Type} {a b : Nat} (h : a < b) (f : Nat → Res β) :
    (subU64 a b >>= f) = .error "underflow.u64" := by
  unfold subU64; rw [if_neg (by omega), Res.error_bind]

theorem oneMinus_bind_of_le {β : Type} {a : Nat} (h : a ≤ DEC_ONE) (f : Nat → Res β) :
    (oneMinus a >>= f) = f (DEC_ONE - a) := by
  unfold oneMinus; rw [if_pos h, Res.ok_bind]

end CwPlus.Cw3
