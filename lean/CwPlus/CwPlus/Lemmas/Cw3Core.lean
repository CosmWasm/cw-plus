import CwPlus.Model.Cw3Core
/-!
# Lemmas about the shared cw3 core (`Model/Cw3Core.lean`)

Everything here is generic in the two parameters of the core (the voting-weight function passed to
`vote`, the proposer weight passed to `propose`, the `auth` flag of `execute`), so both the
cw3-fixed and the cw3-flex instantiation can use it:

* `*_iff` / `*_ok` — inversion lemmas: when `propose / vote / execute / close` succeed and what they did,
* `WF` — the structural invariant of the core (ids `1..count`, ballots only for existing proposals, one ballot per key,
  stored tally = sum of the ballots) and its preservation,
* `edge` — the order on stored statuses and the per-operation status lemmas,
* `Later` — what never changes: the counter grows, proposals keep their `fixedPart`, ballots stay.
-/
namespace CwPlus

namespace Cw3Core
open CwPlus.Cw3

/-- The weight a ballot contributes to option `k`. -/
def wOf (k : Vote) (b : Ballot) : Nat := if b.vote = k then b.weight else 0

def sumK (k : Vote) (bs : AMap Addr Ballot) : Nat := (bs.map (fun e => wOf k e.2)).sum

/-- The tally implied by a ballot map: per option, the sum of the weights of its ballots. -/
def tallyOf (bs : AMap Addr Ballot) : Votes := ⟨sumK .yes bs, sumK .no bs, sumK .abstain bs, sumK .veto bs⟩

def weightSum (bs : AMap Addr Ballot) : Nat := (bs.map (fun e => e.2.weight)).sum

@[simp] theorem sumK_nil (k : Vote) : sumK k [] = 0 := rfl
@[simp] theorem weightSum_nil : weightSum [] = 0 := rfl

theorem sumK_append (k : Vote) (xs ys : AMap Addr Ballot) : sumK k (xs ++ ys) = sumK k xs + sumK k ys := by
  simp [sumK, List.map_append, List.sum_append]

theorem sumK_set_new {bs : AMap Addr Ballot} {a : Addr} {b : Ballot} (k : Vote) (h : bs.get? a = none) :
    sumK k (bs.set a b) = sumK k bs + wOf k b := by
  rw [AMap.set_of_get?_none h, sumK_append]; simp [sumK]

theorem weightSum_set_new {bs : AMap Addr Ballot} {a : Addr} {b : Ballot} (h : bs.get? a = none) :
    weightSum (bs.set a b) = weightSum bs + b.weight := by
  rw [AMap.set_of_get?_none h]; simp [weightSum, List.map_append, List.sum_append]

theorem wOf_sum (b : Ballot) : wOf .yes b + wOf .no b + wOf .abstain b + wOf .veto b = b.weight := by
  rcases b with ⟨w, v⟩; cases v <;> simp [wOf]

theorem weightSum_eq (bs : AMap Addr Ballot) :
    weightSum bs = sumK .yes bs + sumK .no bs + sumK .abstain bs + sumK .veto bs := by
  induction bs with
  | nil => rfl
  | cons p rest ih =>
    simp only [weightSum, sumK, List.map_cons, List.sum_cons] at *
    have := wOf_sum p.2
    omega

/-- `Votes::add_vote` without overflow adds the ballot's weight to its option. -/
theorem add_eq {v v' : Votes} {k : Vote} {w : Nat} (h : v.add k w = .ok v') :
    v' = ⟨v.yes + wOf .yes ⟨w, k⟩, v.no + wOf .no ⟨w, k⟩, v.abstain + wOf .abstain ⟨w, k⟩, v.veto + wOf .veto ⟨w, k⟩⟩ := by
  cases k <;> simp [Votes.add, wOf] at h ⊢ <;> obtain ⟨x, ⟨_, hx⟩, rfl⟩ := h <;> simp [hx]

theorem tallyOf_set_new {bs : AMap Addr Ballot} {a : Addr} {k : Vote} {w : Nat} {v' : Votes}
    (hn : bs.get? a = none) (h : (tallyOf bs).add k w = .ok v') : v' = tallyOf (bs.set a ⟨w, k⟩) := by
  rw [add_eq h]
  simp [tallyOf, sumK_set_new _ hn]

/-- The ballots weigh at most the sum, over their keys, of any per-address bound on their weights. -/
theorem weightSum_le_keys (f : Addr → Nat) : ∀ (bs : AMap Addr Ballot),
    (∀ a b, (a, b) ∈ bs → b.weight ≤ f a) → weightSum bs ≤ ((AMap.keys bs).map f).sum
  | [], _ => Nat.le_refl _
  | (a, b) :: rest, h => by
    have h1 := h a b (List.mem_cons_self ..)
    have ih := weightSum_le_keys f rest (fun a' b' hm => h a' b' (List.mem_cons_of_mem _ hm))
    simp only [weightSum, AMap.keys, List.map_cons, List.sum_cons] at ih ⊢
    omega

/-- If every ballot's weight is the weight its voter has in a weight map, and no voter has two ballots, the ballots
together weigh at most the sum of the map. -/
theorem weightSum_le_sum (bs : AMap Addr Ballot) (voters : AMap Addr Nat) (hn : AMap.NodupKeys bs)
    (_ : AMap.NodupKeys voters) (h : ∀ a b, bs.get? a = some b → voters.get? a = some b.weight) :
    weightSum bs ≤ AMap.sum voters :=
  Nat.le_trans
    (weightSum_le_keys (fun a => (voters.get? a).getD 0) bs fun a b hm => by
      rw [h a b ((AMap.get?_eq_some_iff hn).mpr hm)]; exact Nat.le_refl _)
    (AMap.sum_get?_le_sum voters _ hn)

theorem ballotsOf_set (c : Core) (id id' : Nat) (a : Addr) (b : Ballot) (cnt : Nat) (ps : AMap Nat Proposal) :
    ballotsOf { count := cnt, proposals := ps, ballots := setBallot c id a b } id' =
      if id = id' then (ballotsOf c id).set a b else ballotsOf c id' := by
  unfold ballotsOf setBallot
  rw [AMap.get?_set]
  split <;> simp_all [ballotsOf]

theorem ballotsOf_set_some {c : Core} {id id' : Nat} {a a' : Addr} {b b' : Ballot} {cnt : Nat} {ps : AMap Nat Proposal}
    (h : (ballotsOf { count := cnt, proposals := ps, ballots := setBallot c id a b } id').get? a' = some b') :
    (id = id' ∧ a = a' ∧ b' = b) ∨ (ballotsOf c id').get? a' = some b' := by
  rw [ballotsOf_set] at h
  by_cases e : id = id'
  · rw [if_pos e] at h
    rcases AMap.get?_set_some h with ⟨ea, eb⟩ | ⟨_, h⟩
    · exact Or.inl ⟨e, ea, eb⟩
    · exact Or.inr (e ▸ h)
  · rw [if_neg e] at h; exact Or.inr h

/-- Recording a ballot under a key that has none keeps every recorded ballot. -/
theorem ballotsOf_set_keep {c : Core} {id id' : Nat} {a a' : Addr} {b b' : Ballot} {cnt : Nat} {ps : AMap Nat Proposal}
    (hnew : (ballotsOf c id).get? a = none) (hb : (ballotsOf c id').get? a' = some b') :
    (ballotsOf { count := cnt, proposals := ps, ballots := setBallot c id a b } id').get? a' = some b' := by
  rw [ballotsOf_set]
  by_cases e : id = id'
  · subst e
    rw [if_pos rfl, AMap.get?_set_ne _ _ _ _ (fun e => by rw [e, hb] at hnew; cases hnew)]; exact hb
  · rw [if_neg e]; exact hb

@[simp] theorem ballotsOf_frame (c : Core) (id : Nat) (cnt : Nat) (ps : AMap Nat Proposal) :
    ballotsOf { count := cnt, proposals := ps, ballots := c.ballots } id = ballotsOf c id := rfl

theorem votable_iff {s : Status} :
    votable s = true ↔ (s = .open ∨ s = .passed ∨ s = .rejected) ∧ s ≠ .executed := by
  cases s <;> simp [votable]

theorem afterChecked_ok {d : Duration} {blk : Block} {e : Expiration} (h : afterChecked d blk = .ok e) : e = d.after blk := by
  unfold afterChecked at h
  split at h <;> simp at h <;> simp [h]

theorem chooseExpiry_le {maxE e : Expiration} {latest : Option Expiration} (h : chooseExpiry maxE latest = .ok e) :
    e.cmp? maxE = some .lt ∨ e.cmp? maxE = some .eq := by
  unfold chooseExpiry at h
  split at h
  · simp at h; subst h
    cases maxE <;> simp [Expiration.cmp?]
  · rename_i o ho hne
    simp at h; subst h
    cases o <;> simp_all
  · simp at h

theorem propose_ok_iff {c c' : Core} {blk : Block} {snd : Addr} {w : Nat} {thr : Threshold} {total : Nat} {maxP : Duration}
    {t d : String} {msgs : List Msg} {latest : Option Expiration} {dep : Option Deposit} {id : Nat} :
    propose c blk snd w thr total maxP t d msgs latest dep = .ok (c', id) ↔
    (afterChecked maxP blk).isOk = true ∧ ∃ expires st,
      chooseExpiry (maxP.after blk) latest = .ok expires ∧
      Proposal.currentStatus
        { title := t, description := d, startHeight := blk.height, expires, msgs, status := .open, threshold := thr,
          totalWeight := total, votes := Votes.ofYes w, proposer := snd, deposit := dep } blk = .ok st ∧
      id = c.count + 1 ∧ id ≤ U64_MAX ∧
      c' = { count := id,
             proposals := c.proposals.set id
               { title := t, description := d, startHeight := blk.height, expires, msgs, status := st, threshold := thr,
                 totalWeight := total, votes := Votes.ofYes w, proposer := snd, deposit := dep },
             ballots := setBallot c id snd ⟨w, .yes⟩ } := by
  simp only [propose, Res.bind_ok, addU64_ok, Res.pure_ok, Prod.mk.injEq]
  constructor
  · rintro ⟨maxE, h1, expires, h2, st, h3, id', ⟨hle, rfl⟩, rfl, rfl⟩
    have := afterChecked_ok h1; subst this
    exact ⟨by rw [h1]; rfl, expires, st, h2, h3, rfl, hle, rfl⟩
  · rintro ⟨h1, expires, st, h2, h3, rfl, hle, rfl⟩
    obtain ⟨maxE, h1⟩ := (Res.isOk_iff_exists _).mp h1
    have := afterChecked_ok h1; subst this
    exact ⟨_, h1, expires, h2, st, h3, _, ⟨hle, rfl⟩, rfl, rfl⟩

theorem propose_ok {c c' : Core} {blk : Block} {snd : Addr} {w : Nat} {thr : Threshold} {total : Nat} {maxP : Duration}
    {t d : String} {msgs : List Msg} {latest : Option Expiration} {dep : Option Deposit} {id : Nat}
    (h : propose c blk snd w thr total maxP t d msgs latest dep = .ok (c', id)) :
    ∃ expires st,
      chooseExpiry (maxP.after blk) latest = .ok expires ∧
      Proposal.currentStatus
        { title := t, description := d, startHeight := blk.height, expires, msgs, status := .open, threshold := thr,
          totalWeight := total, votes := Votes.ofYes w, proposer := snd, deposit := dep } blk = .ok st ∧
      id = c.count + 1 ∧ id ≤ U64_MAX ∧
      c' = { count := id,
             proposals := c.proposals.set id
               { title := t, description := d, startHeight := blk.height, expires, msgs, status := st, threshold := thr,
                 totalWeight := total, votes := Votes.ofYes w, proposer := snd, deposit := dep },
             ballots := setBallot c id snd ⟨w, .yes⟩ } :=
  (propose_ok_iff.mp h).2

theorem vote_ok_iff {c c' : Core} {blk : Block} {snd : Addr} {id : Nat} {v : Vote} {weight : Proposal → Option Nat} :
    vote c blk snd id v weight = .ok c' ↔
    ∃ p w votes st,
      c.proposals.get? id = some p ∧ votable p.status = true ∧ p.expires.isExpired blk = false ∧
      weight p = some w ∧ 1 ≤ w ∧ (ballotsOf c id).get? snd = none ∧ p.votes.add v w = .ok votes ∧
      Proposal.currentStatus { p with votes := votes } blk = .ok st ∧
      c' = { c with proposals := c.proposals.set id { p with votes := votes, status := st },
                    ballots := setBallot c id snd ⟨w, v⟩ } := by
  simp only [vote, Res.bind_ok, load_ok, check_ok, requireWeight_ok, Res.pure_ok, Bool.not_eq_eq_eq_not, Bool.not_true,
    Option.isNone_iff_eq_none]
  constructor
  · rintro ⟨p, hp, _, hv, _, he, w, ⟨hw, hw1⟩, _, hb, votes, hadd, st, hst, rfl⟩
    exact ⟨p, w, votes, st, hp, hv, he, hw, hw1, hb, hadd, hst, rfl⟩
  · rintro ⟨p, w, votes, st, hp, hv, he, hw, hw1, hb, hadd, hst, rfl⟩
    exact ⟨p, hp, (), hv, (), he, w, ⟨hw, hw1⟩, (), hb, votes, hadd, st, hst, rfl⟩

theorem vote_ok {c c' : Core} {blk : Block} {snd : Addr} {id : Nat} {v : Vote} {weight : Proposal → Option Nat}
    (h : vote c blk snd id v weight = .ok c') :
    ∃ p w votes st,
      c.proposals.get? id = some p ∧ votable p.status = true ∧ p.expires.isExpired blk = false ∧
      weight p = some w ∧ 1 ≤ w ∧ (ballotsOf c id).get? snd = none ∧ p.votes.add v w = .ok votes ∧
      Proposal.currentStatus { p with votes := votes } blk = .ok st ∧
      c' = { c with proposals := c.proposals.set id { p with votes := votes, status := st },
                    ballots := setBallot c id snd ⟨w, v⟩ } :=
  vote_ok_iff.mp h

theorem execute_ok_iff {c c' : Core} {blk : Block} {id : Nat} {auth : Bool} {out : List Msg} :
    execute c blk id auth = .ok (c', out) ↔
    ∃ p, c.proposals.get? id = some p ∧ p.currentStatus blk = .ok .passed ∧ auth = true ∧ out = p.msgs ∧
      c' = { c with proposals := c.proposals.set id { p with status := .executed } } := by
  simp only [execute, Res.bind_ok, load_ok, check_ok, Res.pure_ok, decide_eq_true_eq, Prod.mk.injEq]
  constructor
  · rintro ⟨p, hp, st, hst, _, rfl, _, hauth, rfl, rfl⟩
    exact ⟨p, hp, hst, hauth, rfl, rfl⟩
  · rintro ⟨p, hp, hst, hauth, rfl, rfl⟩
    exact ⟨p, hp, _, hst, (), rfl, (), hauth, rfl, rfl⟩

theorem execute_ok {c c' : Core} {blk : Block} {id : Nat} {auth : Bool} {out : List Msg}
    (h : execute c blk id auth = .ok (c', out)) :
    ∃ p, c.proposals.get? id = some p ∧ p.currentStatus blk = .ok .passed ∧ auth = true ∧ out = p.msgs ∧
      c' = { c with proposals := c.proposals.set id { p with status := .executed } } :=
  execute_ok_iff.mp h

theorem close_ok_iff {c c' : Core} {blk : Block} {id : Nat} : close c blk id = .ok c' ↔
    ∃ p st, c.proposals.get? id = some p ∧ p.status ≠ .executed ∧ p.status ≠ .rejected ∧ p.status ≠ .passed ∧
      p.currentStatus blk = .ok st ∧ st ≠ .passed ∧ p.expires.isExpired blk = true ∧
      c' = { c with proposals := c.proposals.set id { p with status := .rejected } } := by
  simp only [close, Res.bind_ok, load_ok, check_ok, Res.pure_ok, decide_eq_true_eq, Bool.not_eq_true', Bool.or_eq_false_iff,
    decide_eq_false_iff_not, ne_eq]
  constructor
  · rintro ⟨p, hp, _, hs, st, hst, _, hne, _, hexp, rfl⟩
    exact ⟨p, st, hp, hs.1.1, hs.1.2, hs.2, hst, hne, hexp, rfl⟩
  · rintro ⟨p, st, hp, h1, h2, h3, hst, hne, hexp, rfl⟩
    exact ⟨p, hp, (), ⟨⟨h1, h2⟩, h3⟩, st, hst, (), hne, (), hexp, rfl⟩

theorem close_ok {c c' : Core} {blk : Block} {id : Nat} (h : close c blk id = .ok c') :
    ∃ p st, c.proposals.get? id = some p ∧ p.status ≠ .executed ∧ p.status ≠ .rejected ∧ p.status ≠ .passed ∧
      p.currentStatus blk = .ok st ∧ st ≠ .passed ∧ p.expires.isExpired blk = true ∧
      c' = { c with proposals := c.proposals.set id { p with status := .rejected } } :=
  close_ok_iff.mp h

/-! ## stored status: `current_status`, the order of statuses -/

theorem status_eq_open {s : Status} (h0 : s ≠ .pending) (h1 : s ≠ .executed) (h2 : s ≠ .rejected) (h3 : s ≠ .passed) :
    s = .open := by
  cases s <;> first | rfl | contradiction

theorem cs_of_ne_open {t : Tally} {blk : Block} (h : t.status ≠ .open) : Cw3.currentStatus t blk = .ok t.status := by
  simp [Cw3.currentStatus, h]

/-- A stored status other than `Open` is what `current_status` reports. -/
theorem stored_of_ne_open {p : Proposal} {blk : Block} {st : Status} (hn : p.status ≠ .open)
    (h : p.currentStatus blk = .ok st) : st = p.status :=
  Except.ok.inj (h.symm.trans (cs_of_ne_open (t := p.tally) hn))

/-- `current_status` of a proposal stored `Open`: `Passed` iff `is_passed`; otherwise `Rejected` iff
`is_rejected` or expired; otherwise `Open`. -/
theorem cs_of_open {t : Tally} {blk : Block} {st : Status} (ho : t.status = .open) (h : Cw3.currentStatus t blk = .ok st) :
    (Cw3.isPassed t blk = .ok true ∧ st = .passed) ∨
    (Cw3.isPassed t blk = .ok false ∧ ∃ rej, Cw3.isRejected t blk = .ok rej ∧
      ((rej = true ∨ t.expires.isExpired blk = true) ∧ st = .rejected ∨
       (rej = false ∧ t.expires.isExpired blk = false) ∧ st = .open)) := by
  simp only [Cw3.currentStatus, ho, ne_eq, not_true_eq_false, if_false] at h
  simp only [Res.bind_ok] at h
  obtain ⟨passed, hp, h⟩ := h
  cases passed with
  | true => simp at h; exact Or.inl ⟨hp, h.symm⟩
  | false =>
    simp only [Bool.false_eq_true, if_false, Res.bind_ok] at h
    obtain ⟨rej, hr, h⟩ := h
    refine Or.inr ⟨hp, rej, hr, ?_⟩
    cases rej <;> cases he : t.expires.isExpired blk <;> simp [he] at h ⊢ <;> exact h.symm

/-- The order in which a stored status may move: `Open → Passed → Executed`, `Open → Rejected`
(and `Open → Executed` in one step, when `Execute` finds the current status `Passed`). -/
def edge (s s' : Status) : Bool :=
  s == s' || (s == .open && (s' == .passed || s' == .rejected || s' == .executed)) || (s == .passed && s' == .executed)

theorem edge_refl (s : Status) : edge s s = true := by cases s <;> rfl

theorem edge_iff_cases (a b : Status) : edge a b = true ↔
    a = b ∨ (a = .open ∧ (b = .passed ∨ b = .rejected ∨ b = .executed)) ∨ (a = .passed ∧ b = .executed) := by
  cases a <;> cases b <;> decide

/-- Executed and Rejected are final: the only `edge` out of them is to themselves. -/
theorem edge_final {a b : Status} (h : edge a b = true) (ha : a = .executed ∨ a = .rejected) : b = a := by
  rcases ha with rfl | rfl <;> cases b <;> first | rfl | exact absurd h (by decide)

theorem edge_trans {a b c : Status} (h1 : edge a b = true) (h2 : edge b c = true) : edge a c = true := by
  rcases (edge_iff_cases a b).mp h1 with rfl | ⟨rfl, _⟩ | ⟨rfl, rfl⟩
  · exact h2
  · -- from Open: a second proper step can only be Passed → Executed
    rcases (edge_iff_cases b c).mp h2 with rfl | ⟨rfl, _⟩ | ⟨_, rfl⟩
    · exact h1
    · exact h2
    · rfl
  · rw [edge_final h2 (Or.inl rfl)]; rfl

/-- `current_status` moves the stored status along `edge` (never to `Executed`). -/
theorem cs_edge {t : Tally} {blk : Block} {st : Status} (h : Cw3.currentStatus t blk = .ok st) :
    edge t.status st = true ∧ (st = .executed → t.status = .executed) := by
  by_cases ho : t.status = .open
  · rcases cs_of_open ho h with ⟨_, rfl⟩ | ⟨_, rej, _, ⟨_, rfl⟩ | ⟨_, rfl⟩⟩ <;> simp [edge, ho]
  · rw [cs_of_ne_open ho] at h; cases h; simp [edge_refl]

theorem cs_ne_pending {t : Tally} {blk : Block} {st : Status} (h : Cw3.currentStatus t blk = .ok st)
    (hn : t.status ≠ .pending) : st ≠ .pending := by
  by_cases ho : t.status = .open
  · rcases cs_of_open ho h with ⟨_, rfl⟩ | ⟨_, rej, _, ⟨_, rfl⟩ | ⟨_, rfl⟩⟩ <;> simp
  · rw [cs_of_ne_open ho] at h; cases h; exact hn

/-- Ids are exactly `1..count`; ballots exist only for existing proposals; one ballot per
`(proposal, voter)` key; the stored tally of every proposal is the sum of its ballots.
That `c.proposals` holds every id once is not a field: only the listings need it (Lemmas/Cw3CoreNodup.lean). -/
structure WF (c : Core) : Prop where
  ids : ∀ id, (c.proposals.get? id).isSome = true ↔ (1 ≤ id ∧ id ≤ c.count)
  noBallots : ∀ id, c.proposals.get? id = none → ballotsOf c id = []
  nodup : ∀ id, AMap.NodupKeys (ballotsOf c id)
  tally : ∀ id p, c.proposals.get? id = some p → p.votes = tallyOf (ballotsOf c id)
  notPending : ∀ id p, c.proposals.get? id = some p → p.status ≠ .pending

theorem wf_empty : WF Core.empty := by
  refine ⟨?_, ?_, ?_, ?_, ?_⟩ <;> intros <;> simp_all [Core.empty, ballotsOf, AMap.NodupKeys, AMap.keys] <;> omega

theorem WF.fresh {c : Core} (h : WF c) {id : Nat} (hid : c.count < id) : c.proposals.get? id = none := by
  have := (h.ids id)
  cases hg : c.proposals.get? id with
  | none => rfl
  | some p => rw [hg] at this; simp at this; omega

/-- `WF` after an operation that writes one proposal `p'` under `id` and records one new ballot for it (Propose, Vote). -/
theorem wf_set_ballot {c : Core} (hw : WF c) {id cnt : Nat} {p' : Proposal} {a : Addr} {b : Ballot}
    (hids : ∀ id', ((c.proposals.set id p').get? id').isSome = true ↔ 1 ≤ id' ∧ id' ≤ cnt)
    (htally : p'.votes = tallyOf ((ballotsOf c id).set a b)) (hnp : p'.status ≠ .pending) :
    WF { count := cnt, proposals := c.proposals.set id p', ballots := setBallot c id a b } := by
  refine ⟨hids, fun id' hn => ?_, fun id' => ?_, fun id' p hp => ?_, fun id' p hp => ?_⟩
  · obtain ⟨e, hn⟩ := AMap.get?_set_none hn
    rw [ballotsOf_set, if_neg e]; exact hw.noBallots id' hn
  · rw [ballotsOf_set]
    split
    · exact AMap.nodup_set (hw.nodup id)
    · exact hw.nodup id'
  · rw [ballotsOf_set]
    rcases AMap.get?_set_some hp with ⟨rfl, rfl⟩ | ⟨e, hp⟩
    · rw [if_pos rfl]; exact htally
    · rw [if_neg e]; exact hw.tally id' p hp
  · rcases AMap.get?_set_some hp with ⟨rfl, rfl⟩ | ⟨_, hp⟩
    · exact hnp
    · exact hw.notPending id' p hp

theorem propose_wf {c c' : Core} {blk : Block} {snd : Addr} {w : Nat} {thr : Threshold} {total : Nat} {maxP : Duration}
    {t d : String} {msgs : List Msg} {latest : Option Expiration} {dep : Option Deposit} {id : Nat}
    (hw : WF c) (h : propose c blk snd w thr total maxP t d msgs latest dep = .ok (c', id)) : WF c' := by
  obtain ⟨expires, st, _, hst, hid, _, rfl⟩ := propose_ok h
  have hnone : c.proposals.get? id = none := hw.fresh (by omega)
  refine wf_set_ballot hw (fun id' => ?_) ?_ (cs_ne_pending hst (by simp [Proposal.tally]))
  · rw [AMap.get?_set]
    by_cases e : id = id'
    · subst e; simp; omega
    · rw [if_neg e, hw.ids id']; omega
  · simp [hw.noBallots id hnone, AMap.set, tallyOf, sumK, wOf, Votes.ofYes]

theorem vote_wf {c c' : Core} {blk : Block} {snd : Addr} {id : Nat} {v : Vote} {weight : Proposal → Option Nat}
    (hw : WF c) (h : vote c blk snd id v weight = .ok c') : WF c' := by
  obtain ⟨p, w, votes, st, hp, _, _, _, _, hnb, hadd, hst, rfl⟩ := vote_ok h
  exact wf_set_ballot hw (fun id' => by rw [AMap.isSome_get?_set (by rw [hp]; rfl)]; exact hw.ids id')
    (tallyOf_set_new hnb (hw.tally id p hp ▸ hadd)) (cs_ne_pending hst (hw.notPending id p hp))

theorem wf_set_status {c : Core} {id : Nat} {p : Proposal} (hw : WF c) (hp : c.proposals.get? id = some p) (s : Status)
    (hs : s ≠ .pending) :
    WF { c with proposals := c.proposals.set id { p with status := s } } := by
  refine ⟨fun id' => ?_, fun id' hn => hw.noBallots id' (AMap.get?_set_none hn).2, hw.nodup,
    fun id' p' hp' => ?_, fun id' p' hp' => ?_⟩
  · rw [AMap.isSome_get?_set (by rw [hp]; rfl)]; exact hw.ids id'
  · rcases AMap.get?_set_some hp' with ⟨rfl, rfl⟩ | ⟨_, hp'⟩
    · exact hw.tally id p hp
    · exact hw.tally id' p' hp'
  · rcases AMap.get?_set_some hp' with ⟨rfl, rfl⟩ | ⟨_, hp'⟩
    · exact hs
    · exact hw.notPending id' p' hp'

theorem execute_wf {c c' : Core} {blk : Block} {id : Nat} {auth : Bool} {out : List Msg}
    (hw : WF c) (h : execute c blk id auth = .ok (c', out)) : WF c' := by
  obtain ⟨p, hp, _, _, _, rfl⟩ := execute_ok h
  exact wf_set_status hw hp _ (by simp)

theorem close_wf {c c' : Core} {blk : Block} {id : Nat} (hw : WF c) (h : close c blk id = .ok c') : WF c' := by
  obtain ⟨p, _, hp, _, _, _, _, _, _, rfl⟩ := close_ok h
  exact wf_set_status hw hp _ (by simp)

/-! ## what never changes: `Later` -/

/-- The fields of a proposal other than the stored status and the tally. -/
def Proposal.fixedPart (p : Proposal) : Proposal := { p with status := .open, votes := ⟨0, 0, 0, 0⟩ }

theorem fixedPart_fields {p q : Proposal} (h : p.fixedPart = q.fixedPart) :
    p.title = q.title ∧ p.description = q.description ∧ p.startHeight = q.startHeight ∧ p.expires = q.expires ∧
    p.msgs = q.msgs ∧ p.threshold = q.threshold ∧ p.totalWeight = q.totalWeight ∧ p.proposer = q.proposer ∧
    p.deposit = q.deposit := by
  simpa [Proposal.fixedPart] using h

/-- `c'` is a later state of `c`: the counter did not decrease, every proposal is still there with
the same content (title, description, start height, expiry, messages, threshold, total weight,
proposer, deposit) and a status reachable along `edge`, and every ballot is still there unchanged. -/
structure Later (c c' : Core) : Prop where
  count : c.count ≤ c'.count
  props : ∀ id p, c.proposals.get? id = some p →
    ∃ p', c'.proposals.get? id = some p' ∧ p'.fixedPart = p.fixedPart ∧ edge p.status p'.status = true
  ballots : ∀ id a b, (ballotsOf c id).get? a = some b → (ballotsOf c' id).get? a = some b

theorem later_refl (c : Core) : Later c c :=
  ⟨Nat.le_refl _, fun _ p h => ⟨p, h, rfl, edge_refl _⟩, fun _ _ _ h => h⟩

theorem later_trans {a b c : Core} (h1 : Later a b) (h2 : Later b c) : Later a c := by
  refine ⟨Nat.le_trans h1.count h2.count, ?_, fun id x y h => h2.ballots id x y (h1.ballots id x y h)⟩
  intro id p hp
  obtain ⟨p1, hp1, e1, s1⟩ := h1.props id p hp
  obtain ⟨p2, hp2, e2, s2⟩ := h2.props id p1 hp1
  exact ⟨p2, hp2, e2.trans e1, edge_trans s1 s2⟩

theorem later_update {c : Core} {id : Nat} {p : Proposal} (hp : c.proposals.get? id = some p)
    (st : Status) (votes : Votes) (he : edge p.status st = true) (bs : AMap Nat (AMap Addr Ballot))
    (hb : ∀ id' a b, (ballotsOf c id').get? a = some b →
      (ballotsOf { count := c.count, proposals := c.proposals.set id { p with status := st, votes := votes }, ballots := bs } id').get? a = some b) :
    Later c { count := c.count, proposals := c.proposals.set id { p with status := st, votes := votes }, ballots := bs } := by
  refine ⟨Nat.le_refl _, ?_, hb⟩
  intro id' p' hp'
  simp only [AMap.get?_set]
  by_cases e : id = id'
  · subst e; rw [hp] at hp'; cases hp'
    exact ⟨{ p with status := st, votes := votes }, by simp, rfl, he⟩
  · exact ⟨p', by simp [e, hp'], rfl, edge_refl _⟩

theorem propose_later {c c' : Core} {blk : Block} {snd : Addr} {w : Nat} {thr : Threshold} {total : Nat} {maxP : Duration}
    {t d : String} {msgs : List Msg} {latest : Option Expiration} {dep : Option Deposit} {id : Nat}
    (hw : WF c) (h : propose c blk snd w thr total maxP t d msgs latest dep = .ok (c', id)) : Later c c' := by
  obtain ⟨expires, st, _, _, hid, _, rfl⟩ := propose_ok h
  have hnone : c.proposals.get? id = none := hw.fresh (by omega)
  refine ⟨by simp; omega, fun id' p' hp' => ?_,
    fun _ _ _ hb => ballotsOf_set_keep (by rw [hw.noBallots id hnone]; rfl) hb⟩
  have e : id ≠ id' := by intro e; subst e; rw [hnone] at hp'; cases hp'
  exact ⟨p', by simp [e, hp'], rfl, edge_refl _⟩

theorem vote_later {c c' : Core} {blk : Block} {snd : Addr} {id : Nat} {v : Vote} {weight : Proposal → Option Nat}
    (h : vote c blk snd id v weight = .ok c') : Later c c' := by
  obtain ⟨p, w, votes, st, hp, _, _, _, _, hnb, _, hst, rfl⟩ := vote_ok h
  exact later_update hp st votes (cs_edge hst).1 _ (fun _ _ _ hb => ballotsOf_set_keep hnb hb)

theorem execute_later {c c' : Core} {blk : Block} {id : Nat} {auth : Bool} {out : List Msg}
    (h : execute c blk id auth = .ok (c', out)) : Later c c' := by
  obtain ⟨p, hp, hst, _, _, rfl⟩ := execute_ok h
  have he : edge p.status .executed = true := edge_trans (b := .passed) (cs_edge hst).1 rfl
  exact later_update hp .executed p.votes he c.ballots (fun _ _ _ hb => hb)

theorem close_later {c c' : Core} {blk : Block} {id : Nat} (hw : WF c) (h : close c blk id = .ok c') : Later c c' := by
  obtain ⟨p, st, hp, h1, h2, h3, hst, _, _, rfl⟩ := close_ok h
  have he : edge p.status .rejected = true := by
    rw [status_eq_open (hw.notPending id p hp) h1 h2 h3]; rfl
  exact later_update hp .rejected p.votes he c.ballots (fun _ _ _ hb => hb)

end Cw3Core
end CwPlus
