import CwPlus.Lemmas.Json
import CwPlus.Model.MsgWire
/-!
Lemmas about `Model/MsgWire.lean`: base64 decoding undoes encoding on every byte string, `deserialize_u64` reads
back what `serialize_u64` writes, one iteration of the generic field loop `parseObj`, the envelope of a newtype
variant.
-/
namespace CwPlus.MsgWire
open CwPlus CwPlus.Json

theorem b64Val_b64Sym : ∀ v, v < 64 → b64Val (b64Sym v) = some v := by decide +kernel

theorem b64Sym_plain : ∀ v, v < 64 → escapeByte (b64Sym v) = [b64Sym v] ∧ b64Sym v < 0x80 := by decide +kernel

/-- the symbols of the encoding, without the padding -/
def b64Body : Bytes → Bytes
  | [] => []
  | [a] => [b64Sym (a.toNat / 4), b64Sym (a.toNat % 4 * 16)]
  | [a, b] => [b64Sym (a.toNat / 4), b64Sym (a.toNat % 4 * 16 + b.toNat / 16), b64Sym (b.toNat % 16 * 4)]
  | a :: b :: c :: r =>
    b64Sym (a.toNat / 4) :: b64Sym (a.toNat % 4 * 16 + b.toNat / 16) :: b64Sym (b.toNat % 16 * 4 + c.toNat / 64) ::
      b64Sym (c.toNat % 64) :: b64Body r

/-- the four 6-bit values of three bytes are below 64, and give the bytes back (used with `b = 0` / `c = 0` for
the last, incomplete group) -/
theorem sextets (a b c : Nat) (ha : a < 256) (hb : b < 256) (hc : c < 256) :
    a / 4 < 64 ∧ a % 4 * 16 + b / 16 < 64 ∧ b % 16 * 4 + c / 64 < 64 ∧ c % 64 < 64 ∧
    a / 4 * 4 + (a % 4 * 16 + b / 16) / 16 = a ∧ (a % 4 * 16 + b / 16) % 16 * 16 + (b % 16 * 4 + c / 64) / 4 = b ∧
    (b % 16 * 4 + c / 64) % 4 * 64 + c % 64 = c := by omega

/-- `b64Enc` behind a whole number of groups of symbols is accepted, and its symbols are those of `b64Body` (the
groups already read are carried along, because `validBase64` looks at the whole run of symbols) -/
theorem valid_b64Enc (bs : Bytes) : ∀ pre : Bytes, (∀ x ∈ pre, (b64Val x).isSome = true) → pre.length % 4 = 0 →
    validBase64 (pre ++ b64Enc bs) = true ∧
      (pre ++ b64Enc bs).takeWhile (fun b => (b64Val b).isSome) = pre ++ b64Body bs := by
  have hpad : b64Val 0x3d = none := by decide
  fun_induction b64Enc bs with
  | case1 =>
    intro pre hp hl
    have := List.takeWhile_append_of_pos (l₂ := []) hp
    have := List.dropWhile_append_of_pos (l₂ := []) hp
    simp_all [validBase64, b64Body]
  | case2 a =>
    intro pre hp hl
    have := sextets a.toNat 0 0 a.toNat_lt (by decide) (by decide)
    simp only [Nat.zero_div, Nat.add_zero] at this
    have : (pre.length + 2) % 4 = 2 := by omega
    simp [validBase64, b64Body, List.takeWhile_append_of_pos hp, List.dropWhile_append_of_pos hp, b64Val_b64Sym, *]
  | case3 a b =>
    intro pre hp hl
    have := sextets a.toNat b.toNat 0 a.toNat_lt b.toNat_lt (by decide)
    simp only [Nat.zero_div, Nat.add_zero] at this
    have : (pre.length + 3) % 4 = 3 := by omega
    simp [validBase64, b64Body, List.takeWhile_append_of_pos hp, List.dropWhile_append_of_pos hp, b64Val_b64Sym, *]
  | case4 a b c r ih =>
    intro pre hp hl
    have hs := sextets a.toNat b.toNat c.toNat a.toNat_lt b.toNat_lt c.toNat_lt
    have := ih (pre ++ [b64Sym (a.toNat / 4), b64Sym (a.toNat % 4 * 16 + b.toNat / 16),
      b64Sym (b.toNat % 16 * 4 + c.toNat / 64), b64Sym (c.toNat % 64)])
      (by simp [or_imp, forall_and, b64Val_b64Sym, hs]; exact hp) (by simp; omega)
    simpa [b64Body] using this

theorem b64DecSyms_b64Body (bs : Bytes) : b64DecSyms (b64Body bs) = bs := by
  fun_induction b64Body bs with
  | case1 => rfl
  | case2 a =>
    have := sextets a.toNat 0 0 a.toNat_lt (by decide) (by decide)
    simp only [Nat.zero_div, Nat.add_zero] at this
    obtain ⟨h1, h2, -, -, e1, -⟩ := this
    simp only [b64DecSyms, b64Val_b64Sym _ h1, b64Val_b64Sym _ h2, Option.getD_some, e1, UInt8.ofNat_toNat]
  | case3 a b =>
    have := sextets a.toNat b.toNat 0 a.toNat_lt b.toNat_lt (by decide)
    simp only [Nat.zero_div, Nat.add_zero] at this
    obtain ⟨h1, h2, h3, -, e1, e2, -⟩ := this
    simp only [b64DecSyms, b64Val_b64Sym _ h1, b64Val_b64Sym _ h2, b64Val_b64Sym _ h3, Option.getD_some, e1, e2,
      UInt8.ofNat_toNat]
  | case4 a b c r ih =>
    obtain ⟨h1, h2, h3, h4, e1, e2, e3⟩ := sextets a.toNat b.toNat c.toNat a.toNat_lt b.toNat_lt c.toNat_lt
    simp only [b64DecSyms, b64Val_b64Sym _ h1, b64Val_b64Sym _ h2, b64Val_b64Sym _ h3, b64Val_b64Sym _ h4,
      Option.getD_some, e1, e2, e3, UInt8.ofNat_toNat, ih]

/-- `Binary::from_base64(binary.to_base64()) = Ok(binary)` for every byte string -/
theorem b64Dec_b64Enc (bs : Bytes) : b64Dec (b64Enc bs) = some bs := by
  obtain ⟨hv, ht⟩ := valid_b64Enc bs [] nofun rfl
  simp only [List.nil_append] at hv ht
  simp [b64Dec, hv, ht, b64DecSyms_b64Body]

theorem b64Enc_mem (bs : Bytes) : ∀ x ∈ b64Enc bs, escapeByte x = [x] ∧ x < 0x80 := by
  have hp : escapeByte 0x3d = [0x3d] ∧ (0x3d : UInt8) < 0x80 := by decide
  fun_induction b64Enc bs with
  | case1 => nofun
  | case2 a =>
    have := sextets a.toNat 0 0 a.toNat_lt (by decide) (by decide)
    simp only [Nat.zero_div, Nat.add_zero] at this
    simp only [List.forall_mem_cons]
    exact ⟨b64Sym_plain _ this.1, b64Sym_plain _ this.2.1, hp, hp, nofun⟩
  | case3 a b =>
    have := sextets a.toNat b.toNat 0 a.toNat_lt b.toNat_lt (by decide)
    simp only [Nat.zero_div, Nat.add_zero] at this
    simp only [List.forall_mem_cons]
    exact ⟨b64Sym_plain _ this.1, b64Sym_plain _ this.2.1, b64Sym_plain _ this.2.2.1, hp, nofun⟩
  | case4 a b c r ih =>
    obtain ⟨h1, h2, h3, h4, -⟩ := sextets a.toNat b.toNat c.toNat a.toNat_lt b.toNat_lt c.toNat_lt
    simp only [List.forall_mem_cons]
    exact ⟨b64Sym_plain _ h1, b64Sym_plain _ h2, b64Sym_plain _ h3, b64Sym_plain _ h4, ih⟩

theorem isText_b64Enc (bs : Bytes) : IsText (b64Enc bs) := isText_ascii _ fun b hb => (b64Enc_mem bs b hb).2

theorem parseBinaryValue_binaryTok (bs rest : Bytes) : parseBinaryValue (binaryTok bs ++ rest) = .ok (bs, rest) := by
  obtain ⟨s, hs⟩ := isText_b64Enc bs
  have he : escape (strBytes s) = b64Enc bs := by
    rw [hs]; exact escape_id _ fun x hx => (b64Enc_mem bs x hx).1
  have : binaryTok bs = encStr s := by simp [binaryTok, encStr, he]
  simp [parseBinaryValue, this, parseStringValue_encStr, hs, b64Dec_b64Enc]

/-- the step of `digitsVal` -/
def dstep (v : Nat) (d : UInt8) : Nat := 10 * v + (d.toNat - 0x30)

theorem digitsVal_eq (ds : Bytes) : digitsVal ds = ds.foldl dstep 0 := rfl

theorem foldl_dstep_ge (ds : Bytes) : ∀ acc, acc ≤ ds.foldl dstep acc := by
  induction ds with
  | nil => intro acc; simp
  | cons d r ih =>
    intro acc
    simp only [List.foldl_cons]
    have := ih (dstep acc d)
    simp only [dstep] at this ⊢
    omega

theorem digitLoop_digits (ds : Bytes) (c : UInt8) (rest : Bytes) (hc : isDigit c = false) :
    ∀ acc, (∀ d ∈ ds, isDigit d = true) → ds.foldl dstep acc < 2 ^ 64 →
      digitLoop acc (ds ++ c :: rest) = .ok (ds.foldl dstep acc, c :: rest) := by
  induction ds with
  | nil => intro acc _ _; simp [digitLoop, hc]
  | cons d r ih =>
    intro acc hd hlt
    have h1 := hd d (by simp)
    simp only [List.foldl_cons] at hlt ⊢
    have hge := foldl_dstep_ge r (dstep acc d)
    have hlt' : 10 * acc + (d.toNat - 0x30) < 2 ^ 64 := by
      have : dstep acc d < 2 ^ 64 := by omega
      simpa only [dstep] using this
    simp only [List.cons_append, digitLoop, h1, if_true, hlt']
    exact ih (dstep acc d) (fun x hx => hd x (by simp [hx])) hlt

/-- the most significant digit of a number is not `0`, except for the number `0` itself -/
theorem revDigits_reverse_head : ∀ (f n : Nat), n < f →
    ∃ d ds, (revDigits f n).reverse = d :: ds ∧ (d = 0 → n = 0 ∧ ds = []) := by
  intro f
  induction f with
  | zero => intro n h; omega
  | succ f ih =>
    intro n h
    simp only [revDigits]
    split
    · exact ⟨n, [], by simp, fun h0 => ⟨h0, rfl⟩⟩
    · obtain ⟨d, ds, he, h0⟩ := ih (n / 10) (by omega)
      refine ⟨d, ds ++ [n % 10], by simp [he], fun hd => ?_⟩
      have := (h0 hd).1
      omega

theorem digitByte_facts2 : ∀ d, d < 10 →
    isWs (digitByte d) = false ∧ digitByte d ≠ 0x6e ∧ (d = 0 → digitByte d = 0x30) ∧
    (d ≠ 0 → digitByte d ≠ 0x30 ∧ 0x31 ≤ digitByte d ∧ digitByte d ≤ 0x39) := by
  decide +kernel

/-- `deserialize_u64` reads back what `serialize_u64` wrote, when no digit follows -/
theorem parseU64Value_u64Tok (n : Nat) (c : UInt8) (rest : Bytes) (h : n < 2 ^ 64) (hc : isDigit c = false) :
    parseU64Value (u64Tok n ++ c :: rest) = .ok (n, c :: rest) := by
  obtain ⟨d, ds, he, h0⟩ := revDigits_reverse_head (n + 1) n (by omega)
  have hlt : ∀ x ∈ d :: ds, x < 10 := by
    intro x hx
    exact revDigits_lt (n + 1) n x (by rw [← List.mem_reverse, he]; exact hx)
  have hd := hlt d (by simp)
  have htok : u64Tok n = digitByte d :: ds.map digitByte := by
    simp [u64Tok, decDigits_eq, he]
  have hval : digitsVal (u64Tok n) = n := digitsVal_decDigits n
  obtain ⟨hws, _, hz, hnz⟩ := digitByte_facts2 d hd
  unfold parseU64Value
  rw [htok, List.cons_append, skipWs_cons _ _ hws]
  by_cases hd0 : d = 0
  · obtain ⟨rfl, rfl⟩ := h0 hd0
    simp [hz hd0]
  · obtain ⟨hn30, hlo, hhi⟩ := hnz hd0
    simp only [if_neg hn30, hlo, hhi, and_self, if_true]
    have hdv : (digitByte d).toNat - 0x30 = d := (digitByte_facts d hd).1
    have hfold : (ds.map digitByte).foldl dstep ((digitByte d).toNat - 0x30) = n := by
      rw [← hval, htok, digitsVal_eq, List.foldl_cons]
      simp [dstep]
    have := digitLoop_digits (ds.map digitByte) c rest hc ((digitByte d).toNat - 0x30)
      (by
        intro x hx
        simp only [List.mem_map] at hx
        obtain ⟨y, hy, rfl⟩ := hx
        exact (digitByte_facts y (hlt y (by simp [hy]))).2.1)
      (by rw [hfold]; exact h)
    rw [this, hfold]

theorem u64Tok_cons (n : Nat) : ∃ b r, u64Tok n = b :: r ∧ isWs b = false ∧ b ≠ 0x6e := by
  obtain ⟨d, ds, he, _⟩ := revDigits_reverse_head (n + 1) n (by omega)
  have hd : d < 10 := revDigits_lt (n + 1) n d (by rw [← List.mem_reverse, he]; simp)
  obtain ⟨hws, hn, _, _⟩ := digitByte_facts2 d hd
  exact ⟨digitByte d, ds.map digitByte, by simp [u64Tok, decDigits_eq, he], hws, hn⟩

/-- the range of a `u64` field -/
def OptU64 : Option Nat → Prop
  | none => True
  | some n => n < 2 ^ 64

theorem parseOptU64Value_optU64Tok (o : Option Nat) (c : UInt8) (rest : Bytes) (h : OptU64 o)
    (hc : isDigit c = false) : parseOptU64Value (optU64Tok o ++ c :: rest) = .ok (o, c :: rest) := by
  cases o with
  | none => simp [parseOptU64Value, optU64Tok, nullTok, skipWs_cons, isWs, parseIdent]
  | some n =>
    have hp := parseU64Value_u64Tok n c rest h hc
    obtain ⟨b, r, hb, hws, hn⟩ := u64Tok_cons n
    simp only [optU64Tok]
    rw [hb] at hp ⊢
    simp only [List.cons_append] at hp ⊢
    simp only [parseOptU64Value, skipWs_cons _ _ hws, if_neg hn, hp]

/-- a field whose key is the string `k`, at the start of the object: the loop is at the value -/
theorem parseObj_first {α : Type} (fv : α → String → Bytes → Except DecodeErr (α × Bytes)) (f : Nat) (acc : α)
    (k : String) (val : Bytes) :
    parseObj fv (f + 1) true acc (field (escape (strBytes k)) val) =
      match fv acc k val with
      | .error e => .error e
      | .ok (acc', rest) => parseObj fv f false acc' rest := by
  simp only [field]
  rw [parseObj, nextKey_first]
  simp only [parseStrTok_encStr, parseColon_colon]
  rfl

/-- … after a comma -/
theorem parseObj_next {α : Type} (fv : α → String → Bytes → Except DecodeErr (α × Bytes)) (f : Nat) (acc : α)
    (k : String) (val : Bytes) :
    parseObj fv (f + 1) false acc (0x2c :: field (escape (strBytes k)) val) =
      match fv acc k val with
      | .error e => .error e
      | .ok (acc', rest) => parseObj fv f false acc' rest := by
  simp only [field]
  rw [parseObj, nextKey_comma]
  simp only [parseStrTok_encStr, parseColon_colon]
  rfl

theorem parseObj_end {α : Type} (fv : α → String → Bytes → Except DecodeErr (α × Bytes)) (f : Nat) (first : Bool)
    (acc : α) (rest : Bytes) : parseObj fv (f + 1) first acc (0x7d :: rest) = .ok (acc, 0x7d :: rest) := by
  rw [parseObj, nextKey_end]

theorem endMap_close (rest : Bytes) : endMap (0x7d :: rest) = .ok rest := by
  simp [endMap, skipWs_cons, isWs]

/-- the variant names and the field names are plain text: written without escaping, read back as these strings -/
theorem variantKeys_escape :
    keyReceive = escape (strBytes "receive") ∧ keyMemberChangedHook = escape (strBytes "member_changed_hook") ∧
    keyTransfer = escape (strBytes "transfer") ∧ keyTransferFrom = escape (strBytes "transfer_from") := by
  decide +kernel

theorem fieldKeys_escape :
    keySender = escape (strBytes "sender") ∧ keyAmount = escape (strBytes "amount") ∧
    keyMsg = escape (strBytes "msg") ∧ keyDiffs = escape (strBytes "diffs") ∧ keyKey = escape (strBytes "key") ∧
    keyOld = escape (strBytes "old") ∧ keyNew = escape (strBytes "new") ∧
    keyRecipient = escape (strBytes "recipient") ∧ keyOwner = escape (strBytes "owner") := by
  decide +kernel

/-- the envelope `{"variant":value}` is read back when the value is -/
theorem decodeNewtypeVariant_encode {α : Type} (variant : String) (value : Bytes → Except DecodeErr (α × Bytes))
    (x : α) (body : Bytes) (hv : value (body ++ [0x7d]) = .ok (x, [0x7d])) :
    decodeNewtypeVariant variant value (0x7b :: (field (escape (strBytes variant)) body ++ [0x7d])) = .ok x := by
  unfold decodeNewtypeVariant
  rw [skipWs_cons _ _ (by decide)]
  simp only [field, List.cons_append, List.append_assoc, if_true, parseStringValue_key, parseColon_colon, hv]
  simp [skipWs, isWs]

/-- an envelope with another variant name is refused, whatever it holds -/
theorem decodeNewtypeVariant_other {α : Type} (variant v : String) (value : Bytes → Except DecodeErr (α × Bytes))
    (rest : Bytes) (hne : v ≠ variant) :
    decodeNewtypeVariant variant value (0x7b :: field (escape (strBytes v)) rest) = .error .unknownVariant := by
  unfold decodeNewtypeVariant
  rw [skipWs_cons _ _ (by decide)]
  simp only [field, if_true, parseStringValue_key, if_neg hne]

end CwPlus.MsgWire
