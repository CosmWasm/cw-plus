import CwPlus.Model.Cw4Group
import CwPlus.Lemmas.Cw4Group
/-!
# C14 — cw4: only the admin changes a group, and hooks hear every change truthfully (cw4-group part)

* `change_auth` / `step_change_auth`: membership, hook list and admin change only through calls by the
  current admin; `admin_none_frozen`: once the admin is cleared nothing changes ever again.
* `diffs_truthful`: a successful `UpdateMembers` sends `hooks.map (hookMsg diffs)` where replaying `diffs`
  one after the other on the old member map — each `old` being checked against the weight held
  immediately before that diff — yields exactly the new member map; addresses not mentioned are unchanged;
  only addresses of the call are mentioned and every added address is.
* `one_msg_per_hook`, `removed_hook_silent`, `other_ops_silent`.
-/
namespace CwPlus.Props.C14
open CwPlus CwPlus.Cw4Group CwPlus.Snapshot

/-! ## Authorisation -/

/-- **C14, authorisation**: if a successful call changed the membership, the hook list or the admin, its
sender was the current admin (every handler calls `assert_admin`, so this holds of every successful call,
whether it changed anything or not). -/
theorem change_auth {s s' : State} {h : Nat} {snd : Addr} {msg : Msg} {out : List Out}
    (he : execute s h snd msg = .ok (s', out))
    (_hc : s'.members.cur ≠ s.members.cur ∨ s'.hooks ≠ s.hooks ∨ s'.admin ≠ s.admin) : s.admin = some snd :=
  (execute_ok he).1

/-- The same for transactions (a failed call is rolled back and changes nothing): any difference in
members (current weights *or* snapshots), total, hooks or admin means the sender was the admin. -/
theorem step_change_auth {s : State} (op : Op) (hc : stepOp s op ≠ s) : s.admin = some op.sender :=
  Classical.byContradiction fun hn => hc (stepOp_induct op (P := fun s' => s' = s) rfl fun he => absurd (execute_ok he).1 hn)

/-- What each kind of call may change: `UpdateAdmin` only the admin, `AddHook`/`RemoveHook` only the hook
list, `UpdateMembers` only members and total. -/
theorem execute_frame {s s' : State} {h : Nat} {snd : Addr} {msg : Msg} {out : List Out}
    (he : execute s h snd msg = .ok (s', out)) :
    (∀ new, msg = .updateAdmin new → s'.hooks = s.hooks ∧ s'.members = s.members ∧ s'.total = s.total)
    ∧ (∀ rem add, msg = .updateMembers rem add → s'.hooks = s.hooks ∧ s'.admin = s.admin)
    ∧ (∀ a, msg = .addHook a → s'.admin = s.admin ∧ s'.members = s.members ∧ s'.total = s.total)
    ∧ (∀ a, msg = .removeHook a → s'.admin = s.admin ∧ s'.members = s.members ∧ s'.total = s.total) := by
  refine ⟨?_, ?_, ?_, ?_⟩ <;> intros <;> subst_vars
  · obtain ⟨_, _, _, rfl⟩ := execUpdateAdmin_ok he; exact ⟨rfl, rfl, rfl⟩
  · obtain ⟨_, hu, _⟩ := execUpdateMembers_ok_iff.mp he
    obtain ⟨_, _, _, _, _, _, _, _, _, _, _, _, rfl, _⟩ := Cw4Group.updateMembers_ok hu
    exact ⟨rfl, rfl⟩
  · obtain ⟨_, _, _, rfl⟩ := execAddHook_ok he; exact ⟨rfl, rfl, rfl⟩
  · obtain ⟨_, _, _, rfl⟩ := execRemoveHook_ok he; exact ⟨rfl, rfl, rfl⟩

/-! ## Truthful diffs -/

/-- The membership change a single diff describes. -/
def applyDiff (m : AMap Addr Nat) (d : Diff) : AMap Addr Nat :=
  match d.new with
  | some w => m.set d.key w
  | none => m.erase d.key

/-- Replay diffs one after the other; fails unless every `old` is the weight held immediately before it. -/
def replayDiffs : AMap Addr Nat → List Diff → Option (AMap Addr Nat)
  | m, [] => some m
  | m, d :: ds => if m.get? d.key = d.old then replayDiffs (applyDiff m d) ds else none

theorem replayDiffs_append (m : AMap Addr Nat) (d1 d2 : List Diff) :
    replayDiffs m (d1 ++ d2) = (replayDiffs m d1).bind (fun m' => replayDiffs m' d2) := by
  induction d1 generalizing m with
  | nil => rfl
  | cons d ds ih =>
    simp only [List.cons_append, replayDiffs]
    split
    · exact ih _
    · rfl

theorem replayDiffs_untouched {m m' : AMap Addr Nat} {ds : List Diff} (hr : replayDiffs m ds = some m')
    {a : Addr} (ha : a ∉ ds.map (·.key)) : m'.get? a = m.get? a := by
  induction ds generalizing m with
  | nil => simp [replayDiffs] at hr; rw [hr]
  | cons d ds ih =>
    simp only [replayDiffs] at hr
    split at hr
    · simp only [List.map_cons, List.mem_cons, not_or] at ha
      rw [ih hr ha.2]
      unfold applyDiff
      split
      · exact AMap.get?_set_ne _ _ _ _ (Ne.symm ha.1)
      · exact AMap.get?_erase_ne _ _ _ (Ne.symm ha.1)
    · cases hr

/-- The add loop: one diff per entry, in processing order, each with the weight read just before the write. -/
theorem applyAdds_replay {h : Nat} (l : List (AddrArg × Nat)) {m m' : SnapMap Addr Nat} {t t' : Nat} {ds : List Diff}
    (hc : applyAdds h l m t = .ok (m', t', ds)) :
    replayDiffs m.cur ds = some m'.cur ∧ ds.map (·.key) = l.map (·.1.text) ∧ ∀ d ∈ ds, d.new ≠ none := by
  induction l generalizing m t ds with
  | nil => obtain ⟨rfl, _, rfl⟩ := applyAdds_nil_ok hc; exact ⟨rfl, rfl, fun _ hd => nomatch hd⟩
  | cons p rest ih =>
    obtain ⟨_, _, _, ds', hr, rfl⟩ := applyAdds_cons_ok hc
    obtain ⟨h1, h2, h3⟩ := ih hr
    refine ⟨?_, by rw [List.map_cons, List.map_cons, h2], ?_⟩
    · simp only [replayDiffs, SnapMap.get?, if_true, applyDiff]
      exact h1
    · intro d hd
      rcases List.mem_cons.mp hd with rfl | hd
      · exact Option.some_ne_none _
      · exact h3 d hd

/-- The remove loop: one diff per address that was a member at that moment. -/
theorem applyRemoves_replay {h : Nat} (l : List AddrArg) {m m' : SnapMap Addr Nat} {t t' : Nat} {ds : List Diff}
    (hc : applyRemoves h l m t = .ok (m', t', ds)) :
    replayDiffs m.cur ds = some m'.cur ∧ ∀ d ∈ ds, d.key ∈ l.map (·.text) ∧ d.old ≠ none := by
  induction l generalizing m t ds with
  | nil => obtain ⟨rfl, _, rfl⟩ := applyRemoves_nil_ok hc; exact ⟨rfl, fun _ hd => nomatch hd⟩
  | cons a rest ih =>
    rcases (applyRemoves_cons_ok hc).2 with ⟨_, hr⟩ | ⟨w, ds', hw, _, hr, rfl⟩
    · obtain ⟨h1, h2⟩ := ih hr
      exact ⟨h1, fun d hd => ⟨List.mem_cons_of_mem _ (h2 d hd).1, (h2 d hd).2⟩⟩
    · obtain ⟨h1, h2⟩ := ih hr
      refine ⟨?_, ?_⟩
      · simp only [SnapMap.get?] at hw
        simp only [replayDiffs, hw, if_true, applyDiff]
        exact h1
      · intro d hd
        rcases List.mem_cons.mp hd with rfl | hd
        · exact ⟨List.mem_cons_self .., Option.some_ne_none _⟩
        · exact ⟨List.mem_cons_of_mem _ (h2 d hd).1, (h2 d hd).2⟩

/-- The diffs of `update_members` replay the old member table into the new one (the core of
`diffs_truthful`, stated for the diffs themselves — also when no hook is registered). -/
theorem updateMembers_replay {s s' : State} {h : Nat} {snd : Addr} {rem : List AddrArg} {add : List (AddrArg × Nat)}
    {diffs : List Diff} (hr : updateMembers s h snd rem add = .ok (s', diffs)) :
    replayDiffs s.members.cur diffs = some s'.members.cur := by
  obtain ⟨_, _, _, _, _, _, _, _, _, _, h1, h2, rfl, rfl⟩ := Cw4Group.updateMembers_ok hr
  rw [replayDiffs_append, (applyAdds_replay _ h1).1]
  exact (applyRemoves_replay _ h2).1

/-- **C14, truthful notifications.**  A successful `UpdateMembers { remove, add }` emits exactly
`hooks.map (hookMsg diffs)` for one list `diffs` such that
* replaying `diffs` sequentially on the old member map, checking every `old` against the weight held
  immediately before that diff, succeeds and yields exactly the new member map (so every reported previous
  and new weight is true, also for overlapping add/remove lists and re-weights to the same value, and no
  reported change did not happen);
* addresses not mentioned in `diffs` keep their weight;
* only addresses of the call are mentioned, every added address is mentioned, and no entry is `none → none`;
* admin and hooks are unchanged. -/
theorem diffs_truthful {s s' : State} {h : Nat} {snd : Addr} {rem : List AddrArg} {add : List (AddrArg × Nat)}
    {out : List Out} (he : execute s h snd (.updateMembers rem add) = .ok (s', out)) :
    ∃ diffs : List Diff,
      out = s.hooks.map (hookMsg diffs)
      ∧ replayDiffs s.members.cur diffs = some s'.members.cur
      ∧ (∀ a, a ∉ diffs.map (·.key) → weight s' a = weight s a)
      ∧ (∀ d ∈ diffs, d.key ∈ add.map (·.1.text) ∨ d.key ∈ rem.map (·.text))
      ∧ (∀ a ∈ add.map (·.1.text), a ∈ diffs.map (·.key))
      ∧ (∀ d ∈ diffs, ¬ (d.old = none ∧ d.new = none))
      ∧ s'.admin = s.admin ∧ s'.hooks = s.hooks := by
  obtain ⟨_, hr, rfl⟩ := execUpdateMembers_ok_iff.mp he
  obtain ⟨_, _, _, m1, _, d1, m2, _, d2, _, h1, h2, rfl, rfl⟩ := Cw4Group.updateMembers_ok hr
  obtain ⟨a1, a2, a3⟩ := applyAdds_replay _ h1
  obtain ⟨r1, r2⟩ := applyRemoves_replay _ h2
  have hrep := updateMembers_replay hr
  have hperm : ∀ x, x ∈ (sortMembers add).map (·.1.text) ↔ x ∈ add.map (·.1.text) :=
    fun x => ((sortMembers_perm add).map (·.1.text)).mem_iff
  refine ⟨d1 ++ d2, rfl, hrep, fun a ha => replayDiffs_untouched hrep ha, ?_, ?_, ?_, rfl, rfl⟩
  · intro d hd
    rcases List.mem_append.mp hd with hd | hd
    · left
      apply (hperm d.key).mp
      rw [← a2]; exact List.mem_map.mpr ⟨d, hd, rfl⟩
    · right; exact (r2 d hd).1
  · intro a ha
    have : a ∈ d1.map (·.key) := by rw [a2]; exact (hperm a).mpr ha
    simp only [List.map_append, List.mem_append]; exact Or.inl this
  · intro d hd hnn
    rcases List.mem_append.mp hd with hd | hd
    · exact a3 d hd hnn.2
    · exact (r2 d hd).2 hnn.1

/-- **C14, one notification per hook**: a successful `UpdateMembers` addresses the registered hooks, in
registration order, one message each, all carrying the same diffs (also when the diffs are empty). -/
theorem one_msg_per_hook {s s' : State} {h : Nat} {snd : Addr} {rem : List AddrArg} {add : List (AddrArg × Nat)}
    {out : List Out} (he : execute s h snd (.updateMembers rem add) = .ok (s', out)) :
    out.map (·.hook) = s.hooks ∧ out.length = s.hooks.length
      ∧ ∃ diffs, ∀ o ∈ out, o.diffs = diffs := by
  obtain ⟨diffs, _, rfl⟩ := execUpdateMembers_ok_iff.mp he
  refine ⟨by simp [hookMsg, Function.comp_def], by simp, diffs, ?_⟩
  intro o ho
  simp [hookMsg] at ho
  obtain ⟨_, _, rfl⟩ := ho; rfl

/-- **C14, no other notification**: `UpdateAdmin`, `AddHook`, `RemoveHook` never emit a message (and a
failed call emits nothing because it is rolled back). -/
theorem other_ops_silent {s s' : State} {h : Nat} {snd : Addr} {msg : Msg} {out : List Out}
    (he : execute s h snd msg = .ok (s', out)) (hm : ∀ rem add, msg ≠ .updateMembers rem add) : out = [] := by
  rcases (execute_ok he).2 with ⟨rem, add, _, rfl, _⟩ | ⟨_, ho, _⟩
  · exact absurd rfl (hm rem add)
  · exact ho

theorem out_to_registered {s s' : State} {h : Nat} {snd : Addr} {msg : Msg} {out : List Out}
    (he : execute s h snd msg = .ok (s', out)) : ∀ o ∈ out, o.hook ∈ s.hooks := by
  intro o ho
  rcases (execute_ok he).2 with ⟨_, _, _, _, _, rfl⟩ | ⟨_, rfl, _⟩
  · obtain ⟨k, hk, rfl⟩ := List.mem_map.mp ho
    exact hk
  · cases ho

/-! ## Hooks: registered once, silent after removal -/

theorem instantiate_hooks {msg : InstMsg} {h0 : Nat} {s0 : State} (hi : instantiate msg h0 = .ok s0) :
    s0.hooks = [] := by
  obtain ⟨_, _, _, _, _, rfl⟩ := instantiate_ok hi
  rfl

theorem run_hooks_nodup {s : State} (hn : s.hooks.Nodup) (ops : List Op) : (run s ops).hooks.Nodup := by
  refine run_induct (P := fun s => s.hooks.Nodup) (fun hn he => ?_) hn ops
  rcases execute_hooks he with e | ⟨a, _, hnm, e⟩ | ⟨a, _, e⟩ <;> rw [e]
  · exact hn
  · exact List.nodup_append.mpr ⟨hn, List.pairwise_singleton _ _, fun x hx y hy e => hnm (by rw [← List.mem_singleton.mp hy, ← e]; exact hx)⟩
  · exact hn.erase _

/-- On every reachable state each hook is registered exactly once, so "one message per entry of the hook
list" is "exactly one message per registered hook". -/
theorem reachable_hooks_nodup {msg : InstMsg} {h0 : Nat} {s0 : State} (hi : instantiate msg h0 = .ok s0)
    (ops : List Op) : (run s0 ops).hooks.Nodup :=
  run_hooks_nodup (by rw [instantiate_hooks hi]; exact List.nodup_nil) ops

/-- A hook that is not registered stays unregistered, and unnotified, as long as no `AddHook` names it. -/
theorem unregistered_silent {s : State} {k : Addr} (hk : k ∉ s.hooks) (ops : List Op)
    (hno : ∀ op ∈ ops, ∀ a, op.msg = .addHook a → a.text ≠ k) :
    k ∉ (run s ops).hooks ∧ ∀ o ∈ outs s ops, o.hook ≠ k := by
  induction ops generalizing s with
  | nil => exact ⟨hk, by simp [outs]⟩
  | cons op ops ih =>
    have hstep : k ∉ (stepOp s op).hooks := stepOp_induct op (P := fun s' => k ∉ s'.hooks) hk fun he => by
      rcases execute_hooks he with e | ⟨a, hm, _, e⟩ | ⟨a, _, e⟩ <;> rw [e]
      · exact hk
      · simp only [List.mem_append, List.mem_singleton, not_or]
        exact ⟨hk, fun e => hno op (List.mem_cons_self ..) a hm e.symm⟩
      · exact fun hmem => hk (List.mem_of_mem_erase hmem)
    obtain ⟨i1, i2⟩ := ih hstep (fun o ho => hno o (List.mem_cons_of_mem _ ho))
    refine ⟨i1, ?_⟩
    intro o ho
    simp only [outs, List.mem_append] at ho
    rcases ho with ho | ho
    · split at ho
      · rename_i s' out he
        intro e; subst e
        exact hk (out_to_registered he o ho)
      · cases ho
    · exact i2 o ho

/-- **C14, a removed hook is no longer notified**: after a successful `RemoveHook { addr }` no later call of
any history sends `addr` a message, unless and until an `AddHook` registers it again. -/
theorem removed_hook_silent {s s' : State} {h : Nat} {snd : Addr} {a : AddrArg} {out : List Out}
    (hn : s.hooks.Nodup) (he : execute s h snd (.removeHook a) = .ok (s', out)) (ops : List Op)
    (hno : ∀ op ∈ ops, ∀ b, op.msg = .addHook b → b.text ≠ a.text) :
    out = [] ∧ ∀ o ∈ outs s' ops, o.hook ≠ a.text := by
  obtain ⟨_, ho, _, rfl⟩ := execRemoveHook_ok he
  -- each hook is registered once, so erasing `a` leaves it unregistered
  exact ⟨ho, (unregistered_silent (fun hm => ((List.Nodup.mem_erase_iff hn).mp hm).1 rfl) ops hno).2⟩

/-! ## Non-vacuity: concrete states on which the hypotheses hold and the conclusions are non-trivial -/

def exInst : InstMsg := { admin := some ⟨true, "adm"⟩, members := [(⟨true, "bob"⟩, 3), (⟨true, "alice"⟩, 5)] }

def exState : State := (match instantiate exInst 10 with | .ok s => s | .error _ => State.empty)

/-- two hooks registered -/
def exHooked : State := run exState [⟨10, "adm", .addHook ⟨true, "h1"⟩⟩, ⟨10, "adm", .addHook ⟨true, "h2"⟩⟩]

def outOf (r : Res (State × List Out)) : List Out := match r with | .ok (_, out) => out | .error _ => []

/-- overlapping add/remove lists (`carol` is added and removed), a re-weight to the same value (`alice`),
the removal of a non-member (`dave`) and of a member (`bob`) -/
def exUpdate : Msg :=
  .updateMembers [⟨true, "carol"⟩, ⟨true, "dave"⟩, ⟨true, "bob"⟩] [(⟨true, "carol"⟩, 1), (⟨true, "alice"⟩, 5)]

def exDiffs : List Diff :=
  [⟨"alice", some 5, some 5⟩, ⟨"carol", none, some 1⟩, ⟨"carol", some 1, none⟩, ⟨"bob", some 3, none⟩]

theorem exInst_ok : instantiate exInst 10 = .ok exState := by rfl

example : instantiate exInst 10 = .ok exState := exInst_ok
example : exHooked.hooks = ["h1", "h2"] ∧ exHooked.admin = some "adm" := by decide +kernel

example : (execute exHooked 11 "adm" exUpdate).isOk = true
    ∧ outOf (execute exHooked 11 "adm" exUpdate) = [hookMsg exDiffs "h1", hookMsg exDiffs "h2"]
    ∧ replayDiffs exHooked.members.cur exDiffs = some [("alice", 5)]
    ∧ (step exHooked 11 "adm" exUpdate).members.cur = [("alice", 5)] := by decide +kernel

/-- a stranger and the (validly formed) call of a non-admin member change nothing and notify nobody -/
example : (execute exHooked 11 "bob" exUpdate).isOk = false
    ∧ (execute exHooked 11 "h1" (.removeHook ⟨true, "h1"⟩)).isOk = false
    ∧ (execute exHooked 11 "alice" (.updateAdmin (some ⟨true, "alice"⟩))).isOk = false := by decide +kernel

/-- an empty update still notifies every hook (with no diffs) -/
example : outOf (execute exHooked 11 "adm" (.updateMembers [] [])) = [hookMsg [] "h1", hookMsg [] "h2"] := by decide +kernel

/-- after `RemoveHook h1` only `h2` hears the next update; after clearing the admin everything fails -/
example :
    let s1 := step exHooked 12 "adm" (.removeHook ⟨true, "h1"⟩)
    outOf (execute s1 12 "adm" exUpdate) = [hookMsg exDiffs "h2"]
    ∧ (let s2 := step s1 13 "adm" (.updateAdmin none)
       s2.admin = none ∧ (execute s2 13 "adm" exUpdate).isOk = false
       ∧ (execute s2 13 "adm" (.updateAdmin (some ⟨true, "adm"⟩))).isOk = false) := by decide +kernel

/-- the theorems apply -/
example : ∃ s' out, execute exHooked 11 "adm" exUpdate = .ok (s', out) ∧ s'.members.cur ≠ exHooked.members.cur :=
  ⟨_, _, rfl, by decide⟩

example : (run exState [⟨10, "adm", .addHook ⟨true, "h1"⟩⟩, ⟨11, "adm", .addHook ⟨true, "h1"⟩⟩]).hooks.Nodup :=
  reachable_hooks_nodup exInst_ok _

/-! # History-level theorems and literal readings of "truthful" -/

/-! ## Literal reading: the first / last / only diff naming an address -/

/-- In a list of diffs that replays `m` into `m'`: the **first** diff naming an address reports as `old` the
weight in `m`, the **last** one reports as `new` the weight in `m'`. -/
theorem replayDiffs_first_last {m m' : AMap Addr Nat} {pre post : List Diff} {d : Diff}
    (hr : replayDiffs m (pre ++ d :: post) = some m') :
    (d.key ∉ pre.map (·.key) → d.old = m.get? d.key) ∧
    (d.key ∉ post.map (·.key) → d.new = m'.get? d.key) := by
  rw [replayDiffs_append] at hr
  obtain ⟨m1, h1, h2⟩ := Option.bind_eq_some_iff.mp hr
  simp only [replayDiffs] at h2
  split at h2
  · rename_i hold
    constructor
    · intro hf
      rw [← hold, replayDiffs_untouched h1 hf]
    · intro hl
      rw [replayDiffs_untouched h2 hl]
      unfold applyDiff
      split
      · rename_i w hw; rw [hw]; simp
      · rename_i hw; rw [hw]; simp
  · cases h2

/-- **C14 `diffs_truthful`, literal form ("their true previous and new weight")**: in the diffs of a
successful `UpdateMembers`, for every entry `d`: if no earlier entry names the same address, `d.old` is the
address's weight before the call; if no later entry names it, `d.new` is its weight after the call.  In
particular an address named exactly once (the normal case: not both in `add` and `remove`) is reported as
`(address, weight before, weight after)`. -/
theorem diffs_first_last {s s' : State} {h : Nat} {snd : Addr} {rem : List AddrArg} {add : List (AddrArg × Nat)}
    {diffs : List Diff} (hr : updateMembers s h snd rem add = .ok (s', diffs))
    {pre post : List Diff} {d : Diff} (hd : diffs = pre ++ d :: post) :
    (d.key ∉ pre.map (·.key) → d.old = weight s d.key) ∧
    (d.key ∉ post.map (·.key) → d.new = weight s' d.key) := by
  have := updateMembers_replay hr
  rw [hd] at this
  exact replayDiffs_first_last this

/-! ## Every removed member is reported -/

theorem applyRemoves_reports {h : Nat} (l : List AddrArg) {m m' : SnapMap Addr Nat} {t t' : Nat} {ds : List Diff}
    (hc : applyRemoves h l m t = .ok (m', t', ds)) {a : Addr} (ha : a ∈ l.map (·.text)) {w : Nat}
    (hw : m.get? a = some w) : ⟨a, some w, none⟩ ∈ ds := by
  induction l generalizing m t ds with
  | nil => cases ha
  | cons b rest ih =>
    rw [List.map_cons, List.mem_cons] at ha
    rcases (applyRemoves_cons_ok hc).2 with ⟨hb, hr⟩ | ⟨w', ds', hb, _, hr, rfl⟩
    · exact ih hr (ha.resolve_left fun e => by rw [e, hb] at hw; cases hw) hw
    · by_cases e : a = b.text
      · rw [← e, hw] at hb
        cases hb
        rw [e]; exact List.mem_cons_self ..
      · refine List.mem_cons_of_mem _ (ih hr (ha.resolve_left e) ?_)
        rw [SnapMap.get?_write, if_neg (Ne.symm e)]; exact hw

/-- **C14, every removal is reported**: when a successful `UpdateMembers` names in `remove` an address that
is a member and is not also in `add`, the diffs contain the entry `(address, its weight, none)` — and since
the address is named by the remove loop only, that weight is its weight before the call. -/
theorem removed_reported {s s' : State} {h : Nat} {snd : Addr} {rem : List AddrArg} {add : List (AddrArg × Nat)}
    {diffs : List Diff} (hr : updateMembers s h snd rem add = .ok (s', diffs))
    {a : Addr} (ha : a ∈ rem.map (·.text)) (hna : a ∉ add.map (·.1.text)) {w : Nat} (hw : weight s a = some w) :
    ⟨a, some w, none⟩ ∈ diffs := by
  obtain ⟨_, _, t0, m1, t1, d1, m2, t2, d2, _, h1, h2, _, rfl⟩ := Cw4Group.updateMembers_ok hr
  obtain ⟨a1, a2, _⟩ := applyAdds_replay _ h1
  have hperm : a ∈ (sortMembers add).map (·.1.text) ↔ a ∈ add.map (·.1.text) :=
    ((sortMembers_perm add).map (·.1.text)).mem_iff
  have hkeep : m1.get? a = some w := by
    have := replayDiffs_untouched a1 (a := a) (by rw [a2]; exact fun hm => hna (hperm.mp hm))
    unfold SnapMap.get?; rw [this]; exact hw
  exact List.mem_append_right _ (applyRemoves_reports rem h2 ha hkeep)

/-! ## A registered hook can rebuild the member table from what it hears -/

/-- All diffs sent to hook `k`, in order. -/
def diffsTo (k : Addr) : List Out → List Diff
  | [] => []
  | o :: rest => if o.hook = k then o.diffs ++ diffsTo k rest else diffsTo k rest

theorem diffsTo_append (k : Addr) (x y : List Out) : diffsTo k (x ++ y) = diffsTo k x ++ diffsTo k y := by
  induction x with
  | nil => rfl
  | cons o rest ih =>
    simp only [List.cons_append, diffsTo]
    split
    · rw [ih, List.append_assoc]
    · exact ih

theorem diffsTo_not_addressed (k : Addr) {out : List Out} (h : ∀ o ∈ out, o.hook ≠ k) : diffsTo k out = [] := by
  induction out with
  | nil => rfl
  | cons o rest ih =>
    simp only [diffsTo, h o (by simp), if_false]
    exact ih (fun o' ho' => h o' (by simp [ho']))

theorem diffsTo_round (k : Addr) (ds : List Diff) (hooks : List Addr) (hn : hooks.Nodup) (hk : k ∈ hooks) :
    diffsTo k (hooks.map (hookMsg ds)) = ds := by
  induction hooks with
  | nil => cases hk
  | cons t rest ih =>
    rw [List.nodup_cons] at hn
    simp only [List.map_cons, diffsTo, hookMsg]
    rcases List.mem_cons.mp hk with rfl | hk'
    · -- the first message is for `k`, no later one is
      have hrest : diffsTo k (rest.map (hookMsg ds)) = [] := diffsTo_not_addressed k fun o ho e => by
        obtain ⟨x, hx, rfl⟩ := List.mem_map.mp ho
        exact hn.1 (by rw [← e]; exact hx)
      rw [if_pos rfl, hrest, List.append_nil]
    · rw [if_neg fun e : t = k => hn.1 (e ▸ hk')]
      exact ih hn.2 hk'

theorem outs_cons (s : State) (op : Op) (ops : List Op) :
    outs s (op :: ops) = outOf (execute s op.height op.sender op.msg) ++ outs (stepOp s op) ops := by
  cases h : execute s op.height op.sender op.msg with
  | ok r => obtain ⟨s', out⟩ := r; simp [outs, outOf, h]
  | error e => simp [outs, outOf, h]

theorem stepOp_cases (s : State) (op : Op) :
    (∃ s' out, execute s op.height op.sender op.msg = .ok (s', out) ∧ stepOp s op = s' ∧
        outOf (execute s op.height op.sender op.msg) = out) ∨
    (stepOp s op = s ∧ outOf (execute s op.height op.sender op.msg) = []) := by
  cases h : execute s op.height op.sender op.msg with
  | ok r => obtain ⟨s', out⟩ := r; exact Or.inl ⟨s', out, rfl, by simp [stepOp, step, h], by simp [outOf]⟩
  | error e => exact Or.inr ⟨by simp [stepOp, step, h], by simp [outOf]⟩

/-- One transaction, heard by a registered hook. -/
theorem replica_stepOp {s : State} (op : Op) {k : Addr} (hn : s.hooks.Nodup) (hk : k ∈ s.hooks) :
    replayDiffs s.members.cur (diffsTo k (outOf (execute s op.height op.sender op.msg))) = some (stepOp s op).members.cur := by
  rcases stepOp_cases s op with ⟨s', out, he, rfl, ho⟩ | ⟨hs, ho⟩
  · rw [ho]
    rcases (execute_ok he).2 with ⟨_, _, diffs, _, hu, rfl⟩ | ⟨_, rfl, hm, _⟩
    · rw [diffsTo_round k diffs s.hooks hn hk]
      exact updateMembers_replay hu
    · rw [hm]; rfl
  · rw [ho, hs]; rfl

/-- `k` is registered at every point of the history (at the start and after each call). -/
def StaysRegistered (k : Addr) (s : State) (ops : List Op) : Prop :=
  ∀ n, n ≤ ops.length → k ∈ (run s (ops.take n)).hooks

theorem staysRegistered_cons {k : Addr} {s : State} {op : Op} {rest : List Op}
    (h : StaysRegistered k s (op :: rest)) : k ∈ s.hooks ∧ StaysRegistered k (stepOp s op) rest := by
  refine ⟨by simpa using h 0 (by simp), ?_⟩
  intro n hn
  have := h (n + 1) (by simpa using hn)
  simpa using this

/-- **C14, hooks hear every change truthfully — end to end**: a hook `k` that is registered (once: every
reachable state, `reachable_hooks_nodup`) and stays registered during a history can rebuild the member table
from nothing but the messages it receives: replaying all diffs sent to it, in order, on the member table at
the start — checking every `old` against its own replica — never hits a mismatch and ends with exactly the
group's current member table.  So along whole histories (calls of any senders, failed calls, admin changes,
other hooks coming and going, failed attempts to remove `k`) no membership change goes unreported, no
reported change did not happen, and all reported weights are the true ones. -/
theorem hook_replica_registered {s : State} {k : Addr} (hn : s.hooks.Nodup) (ops : List Op)
    (hreg : StaysRegistered k s ops) :
    replayDiffs s.members.cur (diffsTo k (outs s ops)) = some (run s ops).members.cur := by
  induction ops generalizing s with
  | nil => rfl
  | cons op rest ih =>
    obtain ⟨hk, hreg'⟩ := staysRegistered_cons hreg
    rw [outs_cons, diffsTo_append, replayDiffs_append, run_cons, replica_stepOp op hn hk]
    exact ih (run_hooks_nodup hn [op]) hreg'

theorem staysRegistered_of_not_removed {s : State} {k : Addr} (hk : k ∈ s.hooks) (ops : List Op)
    (hstay : ∀ op ∈ ops, ∀ a, op.msg = .removeHook a → a.text ≠ k) : StaysRegistered k s ops := by
  intro n _
  refine foldl_invariant (fun s' : State => k ∈ s'.hooks) (fun s' hk op hop => ?_) hk
  refine stepOp_induct op (P := fun s' => k ∈ s'.hooks) hk fun he => ?_
  rcases execute_hooks he with e | ⟨a, _, _, e⟩ | ⟨a, hm, e⟩ <;> rw [e]
  · exact hk
  · exact List.mem_append_left _ hk
  · exact (List.mem_erase_of_ne (Ne.symm (hstay op (List.mem_of_mem_take hop) a hm))).mpr hk

/-- **`hook_replica`** in the form "nobody asks to remove `k`". -/
theorem hook_replica {s : State} {k : Addr} (hn : s.hooks.Nodup) (hk : k ∈ s.hooks) (ops : List Op)
    (hstay : ∀ op ∈ ops, ∀ a, op.msg = .removeHook a → a.text ≠ k) :
    replayDiffs s.members.cur (diffsTo k (outs s ops)) = some (run s ops).members.cur :=
  hook_replica_registered hn ops (staysRegistered_of_not_removed hk ops hstay)

/-- … hence, over a whole history, the first diff a hook hears about an address carries its weight at the
start and the last one its current weight (`replayDiffs_first_last` applied to `hook_replica`). -/
theorem hook_hears_first_last {s : State} {k : Addr} (hn : s.hooks.Nodup) (ops : List Op)
    (hreg : StaysRegistered k s ops) {pre post : List Diff} {d : Diff}
    (hd : diffsTo k (outs s ops) = pre ++ d :: post) :
    (d.key ∉ pre.map (·.key) → d.old = weight s d.key) ∧
    (d.key ∉ post.map (·.key) → d.new = weight (run s ops) d.key) := by
  have := hook_replica_registered hn ops hreg
  rw [hd] at this
  exact replayDiffs_first_last this

/-! ## Authorisation over histories -/

/-- **C14, a non-admin is powerless**: a call by anybody who is not the *current* admin — a stranger, a
member, a hook, a former admin — changes nothing and notifies nobody. -/
theorem non_admin_powerless {s : State} (op : Op) (hx : s.admin ≠ some op.sender) :
    stepOp s op = s ∧ outOf (execute s op.height op.sender op.msg) = [] := by
  rcases stepOp_cases s op with ⟨s', out, he, _, _⟩ | h
  · exact absurd (execute_ok he).1 hx
  · exact h

/-- **C14, authorisation over histories**: if a history changed anything (members, their snapshots, the
total, the hook list or the admin), then it contains a call that changed the state and whose sender was the
admin *at that moment*. -/
theorem run_change_auth {s : State} (ops : List Op) (hc : run s ops ≠ s) :
    ∃ pre op post, ops = pre ++ op :: post ∧ (run s pre).admin = some op.sender ∧
      stepOp (run s pre) op ≠ run s pre := by
  obtain ⟨pre, op, post, e, hne⟩ := foldl_change (step := stepOp) id hc
  exact ⟨pre, op, post, e, step_change_auth op hne, hne⟩

/-- Histories in which the current admin never acts change nothing. -/
theorem run_without_admin {s : State} (ops : List Op) (hno : ∀ op ∈ ops, s.admin ≠ some op.sender) :
    run s ops = s ∧ outs s ops = [] := by
  induction ops with
  | nil => exact ⟨rfl, rfl⟩
  | cons op rest ih =>
    obtain ⟨h1, h2⟩ := non_admin_powerless op (hno op (by simp))
    obtain ⟨i1, i2⟩ := ih (fun o ho => hno o (by simp [ho]))
    rw [run_cons, outs_cons, h1, h2]
    exact ⟨i1, i2⟩

/-- **C14, frozen forever**: once the admin is cleared, no history of calls — by the former admin, by
strangers, at any heights — changes anything: members (with their snapshots), total, hooks and admin all stay. -/
theorem admin_none_frozen {s : State} (hn : s.admin = none) (ops : List Op) : run s ops = s :=
  (run_without_admin ops fun _ _ => by rw [hn]; nofun).1

/-- … and no hook message is ever sent again. -/
theorem admin_none_silent {s : State} (hn : s.admin = none) (ops : List Op) : outs s ops = [] :=
  (run_without_admin ops fun _ _ => by rw [hn]; nofun).2

/-! ## Non-vacuity of the history-level theorems -/

def outDiffs (r : Res (State × List Diff)) : List Diff := match r with | .ok (_, d) => d | .error _ => []

example : outDiffs (updateMembers exHooked 11 "adm" [⟨true, "carol"⟩, ⟨true, "dave"⟩, ⟨true, "bob"⟩]
    [(⟨true, "carol"⟩, 1), (⟨true, "alice"⟩, 5)]) = exDiffs := by decide +kernel

/-- `diffs_first_last` / `removed_reported` on `exUpdate`: bob (removed, not added) is reported as
`(bob, 3, none)`; carol is named twice — the first entry has her old weight (none), the last her new one (none) -/
example : ∃ s', updateMembers exHooked 11 "adm" [⟨true, "carol"⟩, ⟨true, "dave"⟩, ⟨true, "bob"⟩]
      [(⟨true, "carol"⟩, 1), (⟨true, "alice"⟩, 5)] = .ok (s', exDiffs) ∧
    (⟨"bob", some 3, none⟩ : Diff) ∈ exDiffs ∧ weight s' "bob" = none := by
  obtain ⟨s', hr⟩ : ∃ s', updateMembers exHooked 11 "adm" [⟨true, "carol"⟩, ⟨true, "dave"⟩, ⟨true, "bob"⟩]
      [(⟨true, "carol"⟩, 1), (⟨true, "alice"⟩, 5)] = .ok (s', exDiffs) := ⟨_, rfl⟩
  refine ⟨s', hr, removed_reported hr (a := "bob") (by decide +kernel) (by decide +kernel) (w := 3) (by decide +kernel), ?_⟩
  exact ((diffs_first_last hr (pre := [⟨"alice", some 5, some 5⟩, ⟨"carol", none, some 1⟩, ⟨"carol", some 1, none⟩])
    (post := []) (d := ⟨"bob", some 3, none⟩) rfl).2 (by decide +kernel)).symm

/-- two hooks; h1 is removed and re-added in between, h2 stays (a stranger's attempt to remove it fails) -/
def exHistory : List Op :=
  [⟨11, "adm", exUpdate⟩, ⟨11, "adm", .removeHook ⟨true, "h1"⟩⟩, ⟨12, "bob", .removeHook ⟨true, "h2"⟩⟩,
   ⟨12, "adm", .updateMembers [⟨true, "alice"⟩] [(⟨true, "erin"⟩, 7)]⟩, ⟨13, "adm", .addHook ⟨true, "h1"⟩⟩,
   ⟨13, "adm", .updateMembers [] [(⟨true, "erin"⟩, 8)]⟩]

example : (run exHooked exHistory).members.cur = [("erin", 8)] ∧ (run exHooked exHistory).hooks = ["h2", "h1"] := by
  decide +kernel
example : diffsTo "h2" (outs exHooked exHistory)
    = exDiffs ++ [⟨"erin", none, some 7⟩, ⟨"alice", some 5, none⟩, ⟨"erin", some 7, some 8⟩] := by decide +kernel
/-- h2 hears everything and rebuilds `[("erin", 8)]` -/
example : replayDiffs exHooked.members.cur (diffsTo "h2" (outs exHooked exHistory))
    = some (run exHooked exHistory).members.cur :=
  hook_replica_registered (k := "h2") (by decide +kernel) exHistory (by unfold StaysRegistered; decide +kernel)
/-- h1 missed the second update: its replica fails on the first diff it hears after re-registration
(`erin: 7 → 8` while it never heard of erin) — staying registered is necessary -/
example : replayDiffs exHooked.members.cur (diffsTo "h1" (outs exHooked exHistory)) = none := by decide +kernel

/-- a replaced admin retries everything: nothing changes, nobody is notified -/
def exHandedOver : State := step exHooked 12 "adm" (.updateAdmin (some ⟨true, "newadm"⟩))
def exRetry : List Op :=
  [⟨13, "adm", exUpdate⟩, ⟨13, "adm", .updateAdmin (some ⟨true, "adm"⟩)⟩, ⟨13, "adm", .removeHook ⟨true, "h1"⟩⟩,
   ⟨14, "bob", .addHook ⟨true, "h3"⟩⟩]
example : exHandedOver.admin = some "newadm" := by decide +kernel
example : run exHandedOver exRetry = exHandedOver ∧ outs exHandedOver exRetry = [] :=
  run_without_admin exRetry (by decide +kernel)
/-- … while the new admin's call does change the state (`run_change_auth` is not vacuous) -/
example : ∃ pre op post, exRetry ++ [⟨14, "newadm", exUpdate⟩] = pre ++ op :: post ∧
    (run exHandedOver pre).admin = some op.sender ∧ stepOp (run exHandedOver pre) op ≠ run exHandedOver pre :=
  run_change_auth _ fun h => absurd (congrArg (·.members.cur) h) (by decide +kernel)

end CwPlus.Props.C14
