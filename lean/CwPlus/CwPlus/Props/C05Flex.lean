import CwPlus.Lemmas.Cw3StatusTotal
import CwPlus.Lemmas.Cw3Flex
import CwPlus.Lemmas.Cw3FlexAt
import CwPlus.Props.C15
/-!
# C05 (cw3-flex part) — passed proposals execute at most once; the lifecycle only moves forward

The cw3-flex instances of the cw3-fixed theorems of `Props/C05.lean`, through the shared `Cw3Core`
(`Lemmas/Cw3Core.lean`: `execute_ok`, `close_ok`, `edge`, `Later`).  "History" = any finite list of
transactions on the multisig, its cw4-group and the cw20 deposit token, with re-entrant self-calls, group updates
dispatched by proposals, hooks and failing dispatches, at arbitrary blocks, after an accepted instantiation
(`Cw3Flex.Reachable`).  Differences from cw3-fixed: `Execute` also needs `Config::authorize` (executor none / member /
only), and it returns the deposit refund in front of the proposal's messages; `Close` may return the refund.

The converse over histories (`dispatched_only_by_execute_run`): the instrumented runtime `dispatchT` / `txT` / `runT`
(= `dispatch` / `tx` / `run` plus the list of leaf messages performed for the multisig; `dispatchT_ok_iff`, `runT_world`)
and the multiset equation trace = ⨄ of what the handler calls recorded in the ghost log returned.
-/
namespace CwPlus.Props.C05Flex
open CwPlus CwPlus.Cw3 CwPlus.Cw3Core CwPlus.Cw3Flex CwPlus.Props

/-! ## Execute -/

/-- The Execute handler succeeds exactly when the proposal exists, its current status at the call's block is
Passed, and the sender is authorised by the configured executor rule. -/
theorem execute_ok_iff (s : State) (g : Cw4Group.State) (self : Addr) (blk : Block) (snd : Addr) (funds : List Coin) (id : Nat) :
    (Cw3Flex.execute s g self blk snd funds (.execute id)).isOk = true ↔
      ∃ p, s.core.proposals.get? id = some p ∧ p.currentStatus blk = .ok .passed ∧ authorize s.cfg g snd = true := by
  rw [Res.isOk_iff_exists]
  constructor
  · rintro ⟨⟨s', out⟩, hx⟩
    obtain ⟨p, hp, hst, ha, _⟩ := execute_execute_ok_iff_proposal.mp hx
    exact ⟨p, hp, hst, ha⟩
  · rintro ⟨p, hp, hst, ha⟩
    exact ⟨_, execute_execute_ok_iff_proposal.mpr ⟨p, hp, hst, ha, rfl, rfl⟩⟩

/-- Who is authorised: anybody without an executor rule; any current group member (weight 0 included) under
`Member`; exactly the named address under `Only`. -/
theorem authorize_iff (cfg : Config) (g : Cw4Group.State) (snd : Addr) :
    authorize cfg g snd = true ↔
      cfg.executor = none ∨ (cfg.executor = some .member ∧ (memberNow g snd).isSome = true) ∨ cfg.executor = some (.only snd) := by
  unfold authorize
  cases h : cfg.executor with
  | none => simp
  | some e =>
    cases e with
    | member => simp
    | only a => simp only [decide_eq_true_eq]; constructor
                · intro e; subst e; exact Or.inr (Or.inr rfl)
                · rintro (h | ⟨h, _⟩ | h) <;> cases h; rfl

/-- "Exactly as proposed": a successful Execute returns the deposit refund (iff the proposal carries a deposit)
followed by exactly the proposal's messages, in order, and nothing else … -/
theorem execute_out {s s' : State} {g : Cw4Group.State} {self : Addr} {blk : Block} {snd : Addr} {funds : List Coin}
    {id : Nat} {out : List Out} (h : Cw3Flex.execute s g self blk snd funds (.execute id) = .ok (s', out)) :
    ∃ p, s.core.proposals.get? id = some p ∧
      out = (match p.deposit with | some d => [refundMsg d p.proposer] | none => []) ++ p.msgs.map Out.msg := by
  obtain ⟨p, hp, _, _, _, hout⟩ := execute_execute_ok_iff_proposal.mp h
  exact ⟨p, hp, hout⟩

/-- … and stores the proposal as Executed (nothing else of it changes) before the messages go out. -/
theorem execute_sets_executed {s s' : State} {g : Cw4Group.State} {self : Addr} {blk : Block} {snd : Addr} {funds : List Coin}
    {id : Nat} {out : List Out} (h : Cw3Flex.execute s g self blk snd funds (.execute id) = .ok (s', out)) :
    ∃ p, s.core.proposals.get? id = some p ∧ s'.core.proposals.get? id = some { p with status := .executed } ∧
      ∀ id', id' ≠ id → s'.core.proposals.get? id' = s.core.proposals.get? id' := by
  obtain ⟨p, hp, _, _, rfl, _⟩ := execute_execute_ok_iff_proposal.mp h
  exact ⟨p, hp, AMap.get?_set_eq _ _ _, fun id' hne => AMap.get?_set_ne _ _ _ _ (Ne.symm hne)⟩

/-- No handler other than Execute ever returns a message of a proposal: Propose returns at most the cw20
deposit `TransferFrom`, Vote and the hook nothing, Close at most the refund. -/
theorem only_execute_emits_proposal_messages {s s' : State} {g : Cw4Group.State} {self : Addr} {blk : Block} {snd : Addr}
    {funds : List Coin} {m : ExecMsg} {out : List Out}
    (h : Cw3Flex.execute s g self blk snd funds m = .ok (s', out)) (hne : ∀ id, m ≠ .execute id) :
    ∀ x, Out.msg x ∉ out := by
  intro x hx
  obtain ⟨_, hc⟩ := execute_cases h
  rcases hc with ⟨_, _, _, _, _, _, _, _, _, _, _, ho, _⟩ | ⟨_, _, _, ho, _⟩ | ⟨id, _, _, hm, _⟩ | ⟨_, p, _, _, _, ho⟩ | ⟨_, _, _, ho⟩
  · subst ho
    cases hd : s.cfg.deposit with
    | none => simp [hd] at hx
    | some d => simp only [hd, takeDeposit] at hx; split at hx <;> simp at hx
  · subst ho; simp at hx
  · exact absurd hm (hne id)
  · subst ho
    cases hd : p.deposit with
    | none => simp [hd] at hx
    | some d =>
      simp only [hd] at hx
      split at hx
      · simp [refundMsg] at hx; split at hx <;> simp at hx
      · simp at hx
  · subst ho; simp at hx

/-! ## stored status only moves forward -/

/-- "The lifecycle only moves forward": over every history the stored status of every proposal moves only along
Open→Passed, Open→Rejected, Passed→Executed (and Open→Executed, in an Execute call that finds the current status
Passed).  Executed and Rejected are final; Passed never goes back to Open or Rejected. -/
theorem stored_status_edges {ext : Ext} {fuel : Nat} {w : World} (hr : Reachable ext fuel w) (ops : List Op)
    {id : Nat} {p : Proposal} (hp : w.flex.core.proposals.get? id = some p) :
    ∃ p', (run ext fuel w ops).flex.core.proposals.get? id = some p' ∧
      (p.status = p'.status ∨ (p.status = .open ∧ (p'.status = .passed ∨ p'.status = .rejected ∨ p'.status = .executed)) ∨
       (p.status = .passed ∧ p'.status = .executed)) := by
  obtain ⟨p', hp', _, he⟩ := (run_later ext fuel ops (reachable_inv hr)).props id p hp
  exact ⟨p', hp', (edge_iff_cases _ _).mp he⟩

/-- Title, description, messages, threshold, total weight, expiry, start height, proposer and deposit of a
proposal never change after creation, and no proposal ever disappears. -/
theorem proposal_immutable {ext : Ext} {fuel : Nat} {w : World} (hr : Reachable ext fuel w) (ops : List Op)
    {id : Nat} {p : Proposal} (hp : w.flex.core.proposals.get? id = some p) :
    ∃ p', (run ext fuel w ops).flex.core.proposals.get? id = some p' ∧
      p'.title = p.title ∧ p'.description = p.description ∧ p'.msgs = p.msgs ∧ p'.threshold = p.threshold ∧
      p'.totalWeight = p.totalWeight ∧ p'.expires = p.expires ∧ p'.startHeight = p.startHeight ∧
      p'.proposer = p.proposer ∧ p'.deposit = p.deposit := by
  obtain ⟨p', hp', hf, _⟩ := (run_later ext fuel ops (reachable_inv hr)).props id p hp
  obtain ⟨h1, h2, h3, h4, h5, h6, h7, h8, h9⟩ := fixedPart_fields hf
  exact ⟨p', hp', h1, h2, h5, h6, h7, h4, h3, h8, h9⟩

/-- Ballots never change or disappear. -/
theorem ballot_never_changes {ext : Ext} {fuel : Nat} {w : World} (hr : Reachable ext fuel w) (ops : List Op)
    {id : Nat} {a : Addr} {b : Ballot} (hb : (ballotsOf w.flex.core id).get? a = some b) :
    (ballotsOf (run ext fuel w ops).flex.core id).get? a = some b :=
  (run_later ext fuel ops (reachable_inv hr)).ballots id a b hb

/-! ## at most one execution -/

/-- Ghost: how many successful Execute handler calls for `id` (top-level or re-entrant) lie in committed
transactions of the history. -/
def executions (w : World) (id : Nat) : Nat := w.log.count (.executed id)

/-- **At most once.**  Over every history, with re-entrant self-calls and dispatches that fail and roll back,
every proposal has at most one committed successful Execute. -/
theorem executions_le_one {ext : Ext} {fuel : Nat} {w : World} (hr : Reachable ext fuel w) (id : Nat) :
    executions w id ≤ 1 := by
  have := CwPlus.Props.C15.refund_at_most_once hr id
  unfold CwPlus.Props.C15.handled at this
  unfold executions; omega

/-- A proposal stored Executed cannot be executed again, by anybody, at any block. -/
theorem execute_twice_fails {s : State} {g : Cw4Group.State} {self : Addr} {blk : Block} {snd : Addr} {funds : List Coin}
    {id : Nat} {p : Proposal} (hp : s.core.proposals.get? id = some p) (he : p.status = .executed) :
    (Cw3Flex.execute s g self blk snd funds (.execute id)).isOk = false := by
  cases hx : (Cw3Flex.execute s g self blk snd funds (.execute id)).isOk with
  | false => rfl
  | true =>
    obtain ⟨p', hp', hst, _⟩ := (execute_ok_iff s g self blk snd funds id).mp hx
    rw [hp] at hp'; cases hp'
    have := stored_of_ne_open (by rw [he]; simp) hst
    rw [he] at this; cases this

/-- Atomicity: a transaction that fails anywhere (funds, handler, any dispatched message at any depth) leaves the
whole world — multisig, group, token, bank, ghost log — unchanged; in particular a proposal whose dispatch failed
is still Passed and can be retried. -/
theorem tx_atomic {ext : Ext} {fuel : Nat} {w : World} {op : Op} {e : String}
    (h : tx ext fuel w op.blk op.act = .error e) : step ext fuel w op = w := by
  simp [step, h]

/-! ## Close -/

/-- Close succeeds exactly when the proposal is stored Open, has expired, and is not Passed at the call's block. -/
theorem close_ok_iff {s : State} (hi : Inv s) (g : Cw4Group.State) (self : Addr) (blk : Block) (snd : Addr) (funds : List Coin) (id : Nat) :
    (Cw3Flex.execute s g self blk snd funds (.close id)).isOk = true ↔
      ∃ p st, s.core.proposals.get? id = some p ∧ p.status = .open ∧ p.currentStatus blk = .ok st ∧ st ≠ .passed ∧
        p.expires.isExpired blk = true := by
  rw [Res.isOk_iff_exists]
  constructor
  · rintro ⟨⟨s', out⟩, hx⟩
    obtain ⟨p, st, hp, h1, h2, h3, hst, hne, hexp, _⟩ := execute_close_ok_iff_proposal.mp hx
    exact ⟨p, st, hp, status_eq_open (hi.wf.notPending id p hp) h1 h2 h3, hst, hne, hexp⟩
  · rintro ⟨p, st, hp, ho, hst, hne, hexp⟩
    exact ⟨_, execute_close_ok_iff_proposal.mpr ⟨p, st, hp, by simp [ho], by simp [ho], by simp [ho], hst, hne, hexp, rfl, rfl⟩⟩

/-- Close stores Rejected and dispatches none of the proposal's messages (only, possibly, the deposit refund of C15). -/
theorem close_out {s s' : State} {g : Cw4Group.State} {self : Addr} {blk : Block} {snd : Addr} {funds : List Coin}
    {id : Nat} {out : List Out} (h : Cw3Flex.execute s g self blk snd funds (.close id) = .ok (s', out)) :
    (∃ p, s.core.proposals.get? id = some p ∧ s'.core.proposals.get? id = some { p with status := .rejected }) ∧
    ∀ x, Out.msg x ∉ out := by
  refine ⟨?_, only_execute_emits_proposal_messages h (by intro id' hc; cases hc)⟩
  obtain ⟨p, _, hp, _, _, _, _, _, _, rfl, _⟩ := execute_close_ok_iff_proposal.mp h
  exact ⟨p, hp, AMap.get?_set_eq _ _ _⟩

/-! ## ids, expiry -/

/-- Proposal ids are fresh and increase by one: a successful Propose creates id `count + 1`. -/
theorem ids_fresh_increasing {s s' : State} {g : Cw4Group.State} {self : Addr} {blk : Block} {snd : Addr} {funds : List Coin}
    {t d : String} {msgs : List Msg} {latest : Option Expiration} {out : List Out} (hi : Inv s)
    (h : Cw3Flex.execute s g self blk snd funds (.propose t d msgs latest) = .ok (s', out)) :
    s'.core.count = s.core.count + 1 ∧ s.core.proposals.get? (s.core.count + 1) = none ∧
    (s'.core.proposals.get? (s.core.count + 1)).isSome = true := by
  obtain ⟨_, w, total, c, id, _, _, hp, rfl, _⟩ := execute_propose_ok_iff.mp h
  obtain ⟨expires, st, _, _, rfl, _, rfl⟩ := propose_ok hp
  exact ⟨rfl, hi.wf.fresh (by omega), by simp⟩

/-- The expiry of a new proposal is never later than `max_voting_period` after its creation block. -/
theorem expiry_le_max {s s' : State} {g : Cw4Group.State} {self : Addr} {blk : Block} {snd : Addr} {funds : List Coin}
    {t d : String} {msgs : List Msg} {latest : Option Expiration} {out : List Out}
    (h : Cw3Flex.execute s g self blk snd funds (.propose t d msgs latest) = .ok (s', out)) :
    ∃ p, s'.core.proposals.get? (s.core.count + 1) = some p ∧ p.startHeight = blk.height ∧
      (p.expires.cmp? (s.cfg.maxVotingPeriod.after blk) = some .lt ∨ p.expires.cmp? (s.cfg.maxVotingPeriod.after blk) = some .eq) := by
  obtain ⟨_, w, total, c, id, _, _, hp, rfl, _⟩ := execute_propose_ok_iff.mp h
  obtain ⟨expires, st, hexp, _, rfl, _, rfl⟩ := propose_ok hp
  exact ⟨_, AMap.get?_set_eq _ _ _, rfl, chooseExpiry_le hexp⟩

/-! ## re-entrancy -/

/-- Is proposal `id` stored as Executed? -/
def isExec (c : Core) (id : Nat) : Bool :=
  match c.proposals.get? id with
  | some p => decide (p.status = .executed)
  | none => false

theorem isExec_later {c c' : Core} (hl : Later c c') {id : Nat} (h : isExec c id = true) : isExec c' id = true := by
  unfold isExec at h ⊢
  cases hp : c.proposals.get? id with
  | none => simp [hp] at h
  | some p =>
    simp only [hp, decide_eq_true_eq] at h
    obtain ⟨p', hp', _, he⟩ := hl.props id p hp
    simp only [hp', decide_eq_true_eq]
    exact (edge_final he (.inl h)).trans h

/-- Whatever is dispatched with success, an Executed proposal stays Executed, and the list contained no call back into
`Execute` of it (`ReplyOn::Never`: the refused nested call would have failed the whole dispatch). -/
theorem dispatch_executed {ext : Ext} {fuel : Nat} {w w' : World} {blk : Block} {outs : List Out} {id : Nat}
    (hi : Inv w.flex) (hx : isExec w.flex.core id = true) (h : dispatch ext fuel w blk outs = .ok w') :
    (Inv w'.flex ∧ isExec w'.flex.core id = true) ∧ Out.msg (.selfExecute id) ∉ outs := by
  refine dispatch_induction ext blk
    (M := fun w outs w' => Inv w.flex → isExec w.flex.core id = true →
      (Inv w'.flex ∧ isExec w'.flex.core id = true) ∧ Out.msg (.selfExecute id) ∉ outs)
    (fun w hi hx => ⟨⟨hi, hx⟩, List.not_mem_nil⟩) ?_ ?_ ?_ ?_ fuel w outs w' h hi hx
  · intro w o rest snd em s' out w1 w' ho he h1 h2 hi hx
    obtain ⟨⟨hi1, hx1⟩, _⟩ := h1 (execute_inv hi he) (isExec_later (execute_later hi he) hx)
    obtain ⟨hq, hn⟩ := h2 hi1 hx1
    refine ⟨hq, fun hm => ?_⟩
    rcases List.mem_cons.mp hm with e | hm
    · -- the nested `Execute` of the Executed proposal cannot have succeeded
      rcases ho with ⟨m, rfl, hs, rfl⟩ | ⟨rfl, _, _⟩
      · cases e; cases hs
        unfold isExec at hx
        cases hp : w.flex.core.proposals.get? id with
        | none => simp [hp] at hx
        | some p =>
          simp only [hp, decide_eq_true_eq] at hx
          have := execute_twice_fails (g := w.group) (self := w.self) (blk := blk) (snd := w.self) (funds := []) hp hx
          rw [he] at this; cases this
      · cases e
    · exact hn hm
  · intro w o rest to amt denom b w' ho _ h2 hi hx
    obtain ⟨hq, hn⟩ := h2 hi hx
    refine ⟨hq, fun hm => ?_⟩
    rcases List.mem_cons.mp hm with e | hm
    · rcases ho with rfl | rfl <;> cases e
    · exact hn hm
  · intro w o rest tok m w1 w' ho hc h2 hi hx
    obtain ⟨t, rfl⟩ := tokenCall_frame hc
    obtain ⟨hq, hn⟩ := h2 hi hx
    refine ⟨hq, fun hm => ?_⟩
    rcases List.mem_cons.mp hm with e | hm
    · rcases ho with ⟨_, _, rfl, _⟩ | ⟨_, _, _, rfl, _⟩ <;> cases e
    · exact hn hm
  · intro w rest tag add remove g' outs w1 w' _ _ h1 h2 hi hx
    obtain ⟨⟨hi1, hx1⟩, _⟩ := h1 hi hx
    obtain ⟨hq, hn⟩ := h2 hi1 hx1
    refine ⟨hq, fun hm => ?_⟩
    rcases List.mem_cons.mp hm with e | hm
    · cases e
    · exact hn hm

/-- **Re-entrancy.**  A proposal among whose messages is a call back into `Execute` of the very same proposal can
never be executed: the handler marks it Executed *before* its messages are dispatched, the nested call is
refused, the whole transaction fails and is rolled back — the world is unchanged (the proposal stays Passed). -/
theorem reentrant_execute_fails {ext : Ext} {fuel : Nat} {w : World} {blk : Block} {snd : Addr} {funds : List Coin} {id : Nat}
    {p : Proposal} (hi : Inv w.flex) (hp : w.flex.core.proposals.get? id = some p) (hm : Msg.selfExecute id ∈ p.msgs) :
    step ext fuel w ⟨blk, .flex snd funds (.execute id)⟩ = w := by
  cases htx : tx ext fuel w blk (.flex snd funds (.execute id)) with
  | error e => exact tx_atomic (op := ⟨blk, .flex snd funds (.execute id)⟩) htx
  | ok w' =>
    exfalso
    simp only [tx, Res.bind_ok] at htx
    obtain ⟨b, _, ⟨s', out⟩, he, hd⟩ := htx
    obtain ⟨p1, hp1, _, _, rfl, rfl⟩ := execute_execute_ok_iff_proposal.mp he
    rw [hp] at hp1; cases hp1
    exact (dispatch_executed (execute_inv hi he) (by simp [isExec]) hd).2
      (List.mem_append_right _ (List.mem_map_of_mem hm))

/-! ## executions = 1 iff Executed, ids `1..count`, counter monotone, created as proposed -/

/-- A handler call makes `id` Executed exactly when it is a successful Execute of `id`, and that requires `id` not to
be Executed before. -/
theorem handler_isExec {s s' : State} {g : Cw4Group.State} {self : Addr} {blk : Block} {snd : Addr} {funds : List Coin}
    {m : ExecMsg} {out : List Out} (hi : Inv s) (h : Cw3Flex.execute s g self blk snd funds m = .ok (s', out)) (id : Nat) :
    isExec s'.core id = (isExec s.core id || decide (m = .execute id)) ∧
    (m = .execute id → isExec s.core id = false) := by
  obtain ⟨_, hc⟩ := execute_cases h
  rcases hc with ⟨t, d, msgs, latest, w, total, id0, hm, _, _, _, _, hp⟩ | ⟨id0, v, hm, _, hv⟩ |
    ⟨id0, p1, msgs, hm, _, he, _⟩ | ⟨id0, p1, hm, _, hcl, _⟩ | ⟨hm, _, rfl, _⟩
  · obtain ⟨expires, st, _, hst, hid, _, hc'⟩ := propose_ok hp
    have hnone : s.core.proposals.get? id0 = none := hi.wf.fresh (by omega)
    have hst' : st ≠ .executed := fun e => by have := (cs_edge hst).2 e; simp [Proposal.tally] at this
    subst hm
    by_cases e : id0 = id
    · subst e; simp [isExec, hc', hnone, hst']
    · simp [isExec, hc', AMap.get?_set_ne _ _ _ _ e]
  · obtain ⟨p, w, votes, st, hp, hvot, _, _, _, _, _, hst, hc'⟩ := vote_ok hv
    have hne : p.status ≠ .executed := (votable_iff.mp hvot).2
    have hst' : st ≠ .executed := fun e => by have := (cs_edge hst).2 e; simp [Proposal.tally] at this; exact hne this
    subst hm
    by_cases e : id0 = id
    · subst e; simp [isExec, hc', hp, hst', hne]
    · simp [isExec, hc', AMap.get?_set_ne _ _ _ _ e]
  · obtain ⟨p, hp, hst, _, _, hc'⟩ := execute_ok he
    have hne : p.status ≠ .executed := fun e => by
      have := stored_of_ne_open (by rw [e]; simp) hst
      rw [e] at this; cases this
    subst hm
    by_cases e : id0 = id
    · subst e; simp [isExec, hc', hp, hne]
    · have : ¬ id = id0 := fun e' => e e'.symm
      simp [isExec, hc', AMap.get?_set_ne _ _ _ _ e, this, e]
  · obtain ⟨p, _, hp, hne, _, _, _, _, _, hc'⟩ := close_ok hcl
    subst hm
    by_cases e : id0 = id
    · subst e; simp [isExec, hc', hp, hne]
    · simp [isExec, hc', AMap.get?_set_ne _ _ _ _ e]
  · subst hm; simp

theorem count_executed_snoc (log : List Event) (s : State) (snd : Addr) (em : ExecMsg) (id : Nat) :
    (log ++ [eventOf s snd em]).count (.executed id) = log.count (.executed id) + if em = .execute id then 1 else 0 := by
  rw [List.count_append, List.count_singleton]
  simp only [beq_iff_eq, eventOf_executed]

/-- The ghost count of executions of `id` is 1 if `id` is stored Executed and 0 otherwise. -/
def ExecGhost (w : World) : Prop := Inv w.flex ∧ ∀ id, executions w id = if isExec w.flex.core id then 1 else 0

theorem execGhost_step (ext : Ext) (fuel : Nat) (w : World) (op : Op) (hq : ExecGhost w) : ExecGhost (step ext fuel w op) := by
  refine step_inv ext ExecGhost fuel w op ?_ ?_ (fun w b h => h) (fun w t h => h) hq
  · intro w snd funds em s' out ⟨hi, hg⟩ he
    refine ⟨execute_inv hi he, fun id => ?_⟩
    obtain ⟨h1, h2⟩ := handler_isExec hi he id
    show (w.log ++ [eventOf w.flex snd em]).count (.executed id) = _
    rw [count_executed_snoc, show w.log.count (.executed id) = _ from hg id, h1]
    by_cases e : em = .execute id
    · simp [e, h2 e]
    · simp [e]
  · intro w snd m g' outs ⟨hi, hg⟩ _
    refine ⟨hi, fun id => ?_⟩
    rw [← hg id]
    simp [executions, List.count_append]

theorem reachable_execGhost {ext : Ext} {fuel : Nat} {w : World} (hr : Reachable ext fuel w) : ExecGhost w := by
  obtain ⟨m, s, g, t, bank, self, ga, ta, h0, ops, hi, rfl⟩ := hr
  refine run_inv ext ExecGhost fuel (execGhost_step ext fuel) ops _ ⟨instantiate_inv hi, fun id => ?_⟩
  simp [executions, World.init, isExec, instantiate_core hi, Core.empty]

/-- **At most once, and exactly once iff stored Executed** (cw3-fixed: `C05.executions_le_one`): over every history
— nested self-calls, group updates and hooks dispatched by proposals, rolled-back transactions — the number of
committed successful Execute handler calls of a proposal is 1 exactly when it is stored Executed, and 0 otherwise. -/
theorem executions_one_iff_executed {ext : Ext} {fuel : Nat} {w : World} (hr : Reachable ext fuel w) (id : Nat) :
    executions w id ≤ 1 ∧ (executions w id = 1 ↔ isExec w.flex.core id = true) := by
  have := (reachable_execGhost hr).2 id
  rw [this]
  cases isExec w.flex.core id <;> simp

/-- **Ids are exactly `1 … count`** in every reachable world (cw3-fixed: `C05.ids_are_one_to_count`). -/
theorem ids_are_one_to_count {ext : Ext} {fuel : Nat} {w : World} (hr : Reachable ext fuel w) (id : Nat) :
    (w.flex.core.proposals.get? id).isSome = true ↔ (1 ≤ id ∧ id ≤ w.flex.core.count) :=
  (reachable_inv hr).wf.ids id

/-- **The proposal counter never decreases** over a history (cw3-fixed: `C05.count_monotone`). -/
theorem count_monotone {ext : Ext} {fuel : Nat} {w : World} (hr : Reachable ext fuel w) (ops : List Op) :
    w.flex.core.count ≤ (run ext fuel w ops).flex.core.count :=
  (run_later ext fuel ops (reachable_inv hr)).count

/-- A successful Propose touches no other proposal slot (the frame conjunct of `C05.ids_fresh_increasing`). -/
theorem propose_frame {s s' : State} {g : Cw4Group.State} {self : Addr} {blk : Block} {snd : Addr} {funds : List Coin}
    {t d : String} {msgs : List Msg} {latest : Option Expiration} {out : List Out}
    (h : Cw3Flex.execute s g self blk snd funds (.propose t d msgs latest) = .ok (s', out)) :
    ∀ id, id ≠ s.core.count + 1 → s'.core.proposals.get? id = s.core.proposals.get? id := by
  obtain ⟨_, w, total, c, id, _, _, hp, rfl, _⟩ := execute_propose_ok_iff.mp h
  obtain ⟨expires, st, _, _, rfl, _, rfl⟩ := propose_ok hp
  exact fun id hne => AMap.get?_set_ne _ _ _ _ (Ne.symm hne)

/-- **"Exactly as proposed", creation link** (cw3-fixed: `C05.expiry_le_max`).  A successful Propose at block
`blk` creates proposal `count + 1` that starts at `blk.height`, carries exactly the submitted title, description and
messages, the sender as proposer, the CONFIGURED threshold and deposit, the group's CURRENT total as `total_weight`,
the proposer's current group weight as its first (Yes) ballot, and an expiry comparable with and not later than
`max_voting_period.after(blk)` — exactly that maximum when `latest` is absent.  By `proposal_immutable` all of these
stay fixed for ever; by `execute_out` the messages Execute returns are these `msgs`. -/
theorem proposal_created_as_proposed {s s' : State} {g : Cw4Group.State} {self : Addr} {blk : Block} {snd : Addr}
    {funds : List Coin} {t d : String} {msgs : List Msg} {latest : Option Expiration} {out : List Out}
    (h : Cw3Flex.execute s g self blk snd funds (.propose t d msgs latest) = .ok (s', out)) :
    ∃ p, s'.core.proposals.get? (s.core.count + 1) = some p ∧
      (p.expires.cmp? (s.cfg.maxVotingPeriod.after blk) = some .lt ∨
       p.expires.cmp? (s.cfg.maxVotingPeriod.after blk) = some .eq) ∧
      (latest = none → p.expires = s.cfg.maxVotingPeriod.after blk) ∧
      p.startHeight = blk.height ∧ p.title = t ∧ p.description = d ∧ p.msgs = msgs ∧ p.proposer = snd ∧
      p.threshold = s.cfg.threshold ∧ p.deposit = s.cfg.deposit ∧ g.total.cur = some p.totalWeight ∧
      ∃ w, memberNow g snd = some w ∧ p.votes = Votes.ofYes w ∧
        (ballotsOf s'.core (s.core.count + 1)).get? snd = some ⟨w, .yes⟩ := by
  obtain ⟨_, w, total, c, id, hw, htot, hp, rfl, _⟩ := execute_propose_ok_iff.mp h
  obtain ⟨expires, st, hexp, _, rfl, _, rfl⟩ := propose_ok hp
  refine ⟨_, AMap.get?_set_eq _ _ _, chooseExpiry_le hexp, ?_, rfl, rfl, rfl, rfl, rfl, rfl, rfl, htot,
    w, hw, rfl, by rw [ballotsOf_set, if_pos rfl, AMap.get?_set_eq]⟩
  intro hl; subst hl
  simp only [chooseExpiry, Option.getD_none] at hexp
  cases hm : s.cfg.maxVotingPeriod.after blk <;> simp [hm, Expiration.cmp?] at hexp <;> simp [hexp]

/-- **End to end: what Execute returns is what was proposed.**  If proposal `count + 1` was created by
`Propose { msgs }` in state `s0` of a reachable world and the world later reaches `w`, every successful Execute of it
in `w` returns (after the deposit refund) exactly those `msgs`, in order. -/
theorem executed_msgs_are_proposed {ext : Ext} {fuel : Nat} {w0 : World} (hr : Reachable ext fuel w0) (ops : List Op)
    {id : Nat} {p0 : Proposal} (hp0 : w0.flex.core.proposals.get? id = some p0)
    {g : Cw4Group.State} {self : Addr} {blk : Block} {snd : Addr} {funds : List Coin} {s' : State} {out : List Out}
    (h : Cw3Flex.execute (run ext fuel w0 ops).flex g self blk snd funds (.execute id) = .ok (s', out)) :
    ∃ p, (run ext fuel w0 ops).flex.core.proposals.get? id = some p ∧
      out = (match p.deposit with | some d => [refundMsg d p.proposer] | none => []) ++ p0.msgs.map Out.msg := by
  obtain ⟨p, hp, hout⟩ := execute_out h
  obtain ⟨p', hp', _, _, hm, _⟩ := proposal_immutable hr ops hp0
  rw [hp] at hp'; cases hp'
  exact ⟨p, hp, by rw [hout, hm]⟩

/-- **General re-entrancy** (covers indirect cycles 1 → 2 → 1, group updates and hooks in between): once a proposal is
stored Executed, whatever is dispatched afterwards adds no further `executed id` event to the ghost log — a nested
Execute of it anywhere fails and with it the whole dispatch; a successful dispatch contains none. -/
theorem dispatch_no_second_execution {ext : Ext} {fuel : Nat} {w w' : World} {blk : Block} {outs : List Out} {id : Nat}
    (hi : Inv w.flex) (hx : isExec w.flex.core id = true) (h : dispatch ext fuel w blk outs = .ok w') :
    w'.log.count (.executed id) = w.log.count (.executed id) ∧ isExec w'.flex.core id = true := by
  have := dispatch_inv ext
    (fun v => Inv v.flex ∧ isExec v.flex.core id = true ∧ v.log.count (.executed id) = w.log.count (.executed id)) blk
    (fun v snd funds em s' out ⟨hi, hx, hc⟩ he => by
      obtain ⟨h1, h2⟩ := handler_isExec hi he id
      have hne : em ≠ .execute id := fun e => by rw [h2 e] at hx; cases hx
      refine ⟨execute_inv hi he, by rw [h1, hx]; rfl, ?_⟩
      show (v.log ++ [eventOf v.flex snd em]).count (.executed id) = _
      rw [count_executed_snoc, if_neg hne, hc]; rfl)
    (fun v snd m g' outs ⟨hi, hx, hc⟩ _ => ⟨hi, hx, by simp [List.count_append, hc]⟩)
    (fun v b hq => hq) (fun v t hq => hq) fuel w outs w' ⟨hi, hx, rfl⟩ h
  exact ⟨this.2.2, this.2.1⟩

/-! ## the observed status only moves forward — over time, and over operations and time -/

/-- "Observed over time each proposal's status only moves Open to Passed to Executed or Open to Rejected" —
the passage of time (cw3-flex instance of `C05.observed_status_monotone_in_time`): on every history whose
blocks never go back, with the state left untouched, the status reported at a later block is reachable
along the forward edges from the status reported at an earlier block (both at or after the last
transaction); it is constant except at expiry, where Open may turn into Passed or Rejected. -/
theorem observed_status_monotone_in_time {ext : Ext} {fuel : Nat} {w : World} {b b1 b2 : Block}
    (hr : ReachableAt ext fuel w b) (h1 : C04.later b b1) (h2 : C04.later b1 b2) {id : Nat} {p : Proposal}
    (hp : w.flex.core.proposals.get? id = some p) {st1 st2 : Status}
    (hq1 : p.currentStatus b1 = .ok st1) (hq2 : p.currentStatus b2 = .ok st2) : edge st1 st2 = true := by
  exact observed_edge_core (reachable_inv hr.reachable).wf (reachable_openOk hr.reachable id p hp b1) (later_refl _) hp hp
    (fun _ _ => ⟨rfl, Or.inl rfl⟩) h2 hq1 hq2

/-- **The observed status only moves forward — ONE statement over operations and time** (cw3-flex
instance of `C05.observed_status_monotone`).  Take ANY reachable world `w0` and query a proposal there at
any block `b1`; let any further history follow (`ReachableFrom`: transactions on the multisig, the group and
the token by anybody, with group updates, hooks, deposits, re-entrant and failing dispatches, at blocks
`≥ b1` that never go back, last transaction at `b`), and query the same proposal again at any block
`b2 ≥ b`.  Whenever both queries answer, the later answer is reachable from the earlier one along the
forward edges only: equal, Open→Passed, Open→Rejected, Open→Executed (through Passed), Passed→Executed.
Never backwards, never Passed→Rejected, never out of Rejected or Executed.  No hypothesis about the group
is needed (it holds also inside the known same-block finding of C06). -/
theorem observed_status_monotone {ext : Ext} {fuel : Nat} {w0 w : World} {b1 b b2 : Block}
    (hr : Reachable ext fuel w0) (hf : ReachableFrom ext fuel w0 b1 w b)
    (h2 : C04.later b b2) {id : Nat} {v1 v2 : ProposalView}
    (hq1 : Cw3Flex.queryProposal w0.flex b1 id = .ok v1) (hq2 : Cw3Flex.queryProposal w.flex b2 id = .ok v2) :
    v1.status = v2.status ∨
      (v1.status = .open ∧ (v2.status = .passed ∨ v2.status = .rejected ∨ v2.status = .executed)) ∨
      (v1.status = .passed ∧ v2.status = .executed) := by
  obtain ⟨p0, hp0, hs1⟩ := queryProposal_ok hq1
  obtain ⟨p, hp, hs2⟩ := queryProposal_ok hq2
  have hi0 := reachable_inv hr
  have hopen : OpenOk b1 p0 := reachable_openOk hr id p0 hp0 b1
  have hinv := reachableFrom_inv
    (fun b s => C04.later b1 b ∧ Inv s ∧ Later w0.flex.core s.core ∧
      (p0.status = .open → p0.expires.isExpired b1 = true → FrozenAt p0 v1.status id s.core))
    (fun b b2 s hb ⟨h1, h2, h3, h4⟩ => ⟨later_trans_blk h1 hb, h2, h3, h4⟩)
    (fun b s g self snd funds m s' out ⟨h1, h2, h3, h4⟩ he =>
      ⟨h1, execute_inv h2 he, later_trans h3 (execute_later h2 he),
        fun ho hexp => frozenAt_step ho hexp hs1 h1 (h4 ho hexp) (execute_coreStep he)⟩)
    (w0 := w0) (b1 := b1)
    ⟨later_refl_blk _, hi0, later_refl _, fun _ _ => ⟨hi0.wf, p0, hp0, rfl, Or.inl rfl⟩⟩ hf
  obtain ⟨_, hi, hlater, hfz⟩ := hinv
  refine (edge_iff_cases _ _).mp (observed_edge_core hi.wf hopen hlater hp0 hp ?_ (later_trans_blk hf.le h2) hs1 hs2)
  intro ho hexp
  obtain ⟨_, p', hp', hfo⟩ := hfz ho hexp
  rw [hp] at hp'; cases hp'
  exact hfo

/-- **Every `Proposal` query of an existing proposal answers, at every block** — in every reachable world, for every
proposal whose four tally counters together fit `u64` (`Proposal.Fits`; always the case outside the same-block finding
D3, `C06Flex.flex_tally_le_total`).  cw3-fixed: `C05.query_always_answers`; the proviso cannot be dropped for
cw3-flex because the recorded total need not bound the tally (D3). -/
theorem query_always_answers {ext : Ext} {fuel : Nat} {w : World} (hr : Reachable ext fuel w) {id : Nat} {p : Proposal}
    (hp : w.flex.core.proposals.get? id = some p) (hfit : p.Fits) (blk : Block) :
    ∃ v, Cw3Flex.queryProposal w.flex blk id = .ok v := by
  obtain ⟨st, hst⟩ := reachable_statusInv hr id p hp hfit blk
  simp [Cw3Flex.queryProposal, Cw3Core.queryProposal, load, hp, viewOf, hst, bind, Except.bind, pure, Except.pure]

/-! ## the converse: everything the runtime ever dispatches for the multisig traces back to a handler call

The ghost log of the flex world records handler calls, not individual bank sends or token calls.  To state the converse of
"Execute returns the proposal's messages" over whole histories, `dispatchT` is `Cw3Flex.dispatch` instrumented with the
list of *leaf* messages it performed for the multisig (bank sends, cw20 `Transfer`/`TransferFrom`, group updates — not the
nested calls back into the multisig, whose own leaves are collected in place, and not the group's hook messages);
`dispatchT_ok_iff` proves it computes exactly the world `dispatch` computes, `runT_world` the same for histories. -/

/-- A returned message that is performed as such (not a call back into the multisig, not a hook sent by the group). -/
def isLeafOut : Out → Bool
  | .msg m => (selfCall m).isNone
  | .bank .. => true
  | .cw20Transfer .. => true
  | .cw20TransferFrom .. => true
  | .groupHook _ => false

/-- `Cw3Flex.dispatch`, also returning the leaf messages performed, in the order performed. -/
def dispatchT (ext : Ext) : Nat → World → Block → List Out → Res (World × List Out)
  | _, w, _, [] => .ok (w, [])
  | 0, _, _, _ :: _ => .error "fuel"
  | fuel + 1, w, blk, o :: rest => do
    let (w1, t1) ← (match o with
      | .msg m =>
        match selfCall m with
        | some em => do
          let (s', out) ← execute w.flex w.group w.self blk w.self [] em
          dispatchT ext fuel { w with flex := s', log := w.log ++ [eventOf w.flex w.self em] } blk out
        | none =>
          match m with
          | .bank to amt denom => do
            let b ← Cw3Fixed.bankSend w.bank w.self to amt denom
            pure ({ w with bank := b }, [o])
          | .other tag =>
            match ext tag with
            | some (add, remove) => do
              let (g', outs) ← Cw4Group.execute w.group blk.height w.self
                (.updateMembers (remove.map fun a => ⟨true, a⟩) (add.map fun p => (⟨true, p.1⟩, p.2)))
              let (w2, t2) ← dispatchT ext fuel { w with group := g', log := w.log ++ [.groupWrite blk.height] } blk
                (outs.map fun o => Out.groupHook o.hook)
              pure (w2, o :: t2)
            | none => .error "no_contract"
          | _ => .error "no_contract"
      | .bank to amt denom => do
        let b ← Cw3Fixed.bankSend w.bank w.self to amt denom
        pure ({ w with bank := b }, [o])
      | .cw20Transfer token to amt => do
        let w' ← tokenCall w blk token (.transfer ⟨true, to⟩ amt)
        pure (w', [o])
      | .cw20TransferFrom token owner to amt => do
        let w' ← tokenCall w blk token (.transferFrom ⟨true, owner⟩ ⟨true, to⟩ amt)
        pure (w', [o])
      | .groupHook hook =>
        if hook = w.self then do
          let (s', out) ← execute w.flex w.group w.self blk w.groupAddr [] .memberChangedHook
          dispatchT ext fuel { w with flex := s', log := w.log ++ [.hook] } blk out
        else .error "no_contract" : Res (World × List Out))
    let (w2, t2) ← dispatchT ext fuel w1 blk rest
    pure (w2, t1 ++ t2)

/-- An instrumented computation succeeds with some trace exactly when, the trace forgotten, it succeeds. -/
theorem map_fst_ok_iff {α β : Type} (X : Res (α × β)) (a : α) : (∃ b, X = .ok (a, b)) ↔ X.map Prod.fst = .ok a := by
  cases X with
  | error e => simp [Except.map]
  | ok r => obtain ⟨a1, b⟩ := r; simp [Except.map]

/-- The trace forgotten, a bind of instrumented computations is the bind of the plain ones … -/
theorem map_fst_bind {α β τ : Type} {Y : Res α} {F : α → Res (β × τ)} {G : α → Res β}
    (h : ∀ a, (F a).map Prod.fst = G a) : (Y >>= F).map Prod.fst = Y >>= G := by
  cases Y with
  | error e => rfl
  | ok a => exact h a

/-- … also when the first computation is instrumented and the traces are combined … -/
theorem map_fst_seq {α β τ : Type} {X : Res (α × τ)} {X' : Res α} {F : α → Res (β × τ)} {G : α → Res β}
    {k : τ → τ → τ} (hX : X.map Prod.fst = X') (h : ∀ a, (F a).map Prod.fst = G a) :
    (do let (a, t1) ← X; let (b, t2) ← F a; pure (b, k t1 t2) : Res (β × τ)).map Prod.fst = X' >>= G := by
  subst hX
  cases X with
  | error e => rfl
  | ok r =>
    obtain ⟨a, t1⟩ := r
    show (do let (b, t2) ← F a; pure (b, k t1 t2) : Res (β × τ)).map Prod.fst = G a
    rw [← h a]
    cases F a <;> rfl

/-- … and changing the trace of a result changes nothing. -/
theorem map_fst_retrace {α τ : Type} (Z : Res (α × τ)) (k : τ → τ) :
    (Z >>= fun x => pure (x.1, k x.2)).map Prod.fst = Z.map Prod.fst := by
  cases Z <;> rfl

/-- Forgetting the trace, `dispatchT` is `dispatch`. -/
theorem dispatchT_fst (ext : Ext) (blk : Block) :
    ∀ fuel w outs, (dispatchT ext fuel w blk outs).map Prod.fst = dispatch ext fuel w blk outs := by
  intro fuel
  induction fuel with
  | zero => intro w outs; cases outs <;> rfl
  | succ fuel ih =>
    intro w outs
    cases outs with
    | nil => rfl
    | cons o rest =>
      simp only [dispatchT, dispatch]
      refine map_fst_seq ?_ (fun w1 => ih w1 rest)
      cases o with
      | msg m =>
        simp only
        cases hs : selfCall m with
        | some em => exact map_fst_bind (fun _ => ih _ _)
        | none =>
          cases m with
          | bank to amt denom => simp only; cases Cw3Fixed.bankSend w.bank w.self to amt denom <;> rfl
          | other tag =>
            simp only
            cases hx : ext tag with
            | none => rfl
            | some ar =>
              obtain ⟨add, remove⟩ := ar
              simp only
              exact map_fst_bind (fun _ => (map_fst_retrace _ _).trans (ih _ _))
          | selfExecute id => cases hs
          | selfClose id => cases hs
          | selfVote id v => cases hs
          | selfPropose l => cases hs
          | noContract tag => rfl
      | bank to amt denom => simp only; cases Cw3Fixed.bankSend w.bank w.self to amt denom <;> rfl
      | cw20Transfer token to amt => simp only; cases tokenCall w blk token (.transfer ⟨true, to⟩ amt) <;> rfl
      | cw20TransferFrom token owner to amt =>
        simp only; cases tokenCall w blk token (.transferFrom ⟨true, owner⟩ ⟨true, to⟩ amt) <;> rfl
      | groupHook hook =>
        simp only
        split
        · exact map_fst_bind (fun _ => ih _ _)
        · rfl

/-- **`dispatchT` is `dispatch`**: it succeeds exactly when `dispatch` does, with the same resulting world. -/
theorem dispatchT_ok_iff (ext : Ext) (blk : Block) :
    ∀ fuel w outs w', (∃ t, dispatchT ext fuel w blk outs = .ok (w', t)) ↔ dispatch ext fuel w blk outs = .ok w' := by
  intro fuel w outs w'
  rw [← dispatchT_fst]
  exact map_fst_ok_iff _ _

/-- `Cw3Flex.tx`, also returning the leaf messages performed for the multisig. -/
def txT (ext : Ext) (fuel : Nat) (w : World) (blk : Block) : Action → Res (World × List Out)
  | .flex snd funds m => do
    let b ← moveFunds w.bank snd w.self funds
    let (s', out) ← execute w.flex w.group w.self blk snd funds m
    dispatchT ext fuel { w with bank := b, flex := s', log := w.log ++ [eventOf w.flex snd m] } blk out
  | .group snd m => do
    let (g', outs) ← Cw4Group.execute w.group blk.height snd m
    dispatchT ext fuel { w with group := g', log := w.log ++ [.groupWrite blk.height] } blk
      (outs.map fun o => Out.groupHook o.hook)
  | .token snd m => do
    let (t, out) ← Cw20.execute w.token blk snd m
    check out.isEmpty "unsupported"
    pure ({ w with token := t }, [])

theorem txT_fst (ext : Ext) (fuel : Nat) (w : World) (blk : Block) (act : Action) :
    (txT ext fuel w blk act).map Prod.fst = tx ext fuel w blk act := by
  cases act with
  | flex snd funds m => exact map_fst_bind fun _ => map_fst_bind fun _ => dispatchT_fst ext blk fuel _ _
  | group snd m => exact map_fst_bind fun _ => dispatchT_fst ext blk fuel _ _
  | token snd m => exact map_fst_bind fun _ => map_fst_bind fun _ => rfl

theorem txT_ok_iff (ext : Ext) (fuel : Nat) (w w' : World) (blk : Block) (act : Action) :
    (∃ t, txT ext fuel w blk act = .ok (w', t)) ↔ tx ext fuel w blk act = .ok w' := by
  rw [← txT_fst]
  exact map_fst_ok_iff _ _
/-- One step of a history, accumulating the leaf messages of the committed transactions. -/
def stepT (ext : Ext) (fuel : Nat) (wt : World × List Out) (op : Op) : World × List Out :=
  match txT ext fuel wt.1 op.blk op.act with
  | .ok (w', t) => (w', wt.2 ++ t)
  | .error _ => wt

/-- A history, with the leaf messages ever performed for the multisig in committed transactions, in order. -/
def runT (ext : Ext) (fuel : Nat) (wt : World × List Out) (ops : List Op) : World × List Out := ops.foldl (stepT ext fuel) wt

theorem stepT_world (ext : Ext) (fuel : Nat) (wt : World × List Out) (op : Op) :
    (stepT ext fuel wt op).1 = step ext fuel wt.1 op := by
  unfold stepT step
  rw [← txT_fst]
  cases txT ext fuel wt.1 op.blk op.act <;> rfl

/-- **`runT` is `run`**: the instrumented history computes exactly the world of the model's `run`. -/
theorem runT_world (ext : Ext) (fuel : Nat) : ∀ (ops : List Op) (wt : World × List Out),
    (runT ext fuel wt ops).1 = run ext fuel wt.1 ops
  | [], _ => rfl
  | op :: rest, wt => by
    show (runT ext fuel (stepT ext fuel wt op) rest).1 = run ext fuel (step ext fuel wt.1 op) rest
    rw [runT_world ext fuel rest, stepT_world]

/-- The stored proposal with status and tally blanked: what never changes (`Later`). -/
def fixedOf (c : Core) (id : Nat) : Option Proposal := (c.proposals.get? id).map Proposal.fixedPart

/-- The leaf messages the handler call recorded by a ghost event returned: an `executed` proposal's deposit refund followed
by its own non-self-call messages; a `closed` proposal's refund when `refund_failed_proposals` is set; the cw20
`TransferFrom` taking the deposit of a `proposed` one.  Votes, hooks and group writes return nothing. -/
def outsOfEvent (c : Core) (self : Addr) : Event → List Out
  | .executed id =>
    match fixedOf c id with
    | some p => (match p.deposit with | some d => [refundMsg d p.proposer] | none => []) ++ (p.msgs.map Out.msg).filter isLeafOut
    | none => []
  | .closed id =>
    match fixedOf c id with
    | some p => (match p.deposit with | some d => if d.refundFailed then [refundMsg d p.proposer] else [] | none => [])
    | none => []
  | .proposed id snd =>
    match fixedOf c id with
    | some p => (match p.deposit with | some d => takeDeposit d snd self | none => [])
    | none => []
  | _ => []

/-- ⨄ over the events of a log, in log order, of what the recorded handler call returned for dispatch (leaf level). -/
def expectedOuts (c : Core) (self : Addr) (log : List Event) : List Out := log.flatMap (outsOfEvent c self)

/-- The proposal id a ghost event refers to. -/
def evId : Event → Option Nat
  | .executed id => some id
  | .closed id => some id
  | .proposed id _ => some id
  | _ => none

/-- `Inv`, and every proposal an `executed` / `closed` / `proposed` event of the log refers to is stored. -/
def LogOk (w : World) : Prop :=
  Inv w.flex ∧ ∀ e ∈ w.log, ∀ id, evId e = some id → (w.flex.core.proposals.get? id).isSome = true

theorem outsOfEvent_congr {c c' : Core} {self : Addr} {e : Event}
    (h : ∀ id, evId e = some id → fixedOf c' id = fixedOf c id) : outsOfEvent c' self e = outsOfEvent c self e := by
  cases e <;> simp only [outsOfEvent] <;> rw [h _ rfl]

theorem expectedOuts_congr {c c' : Core} {self : Addr} : ∀ (l : List Event),
    (∀ e ∈ l, ∀ id, evId e = some id → fixedOf c' id = fixedOf c id) → expectedOuts c' self l = expectedOuts c self l
  | [], _ => rfl
  | e :: r, h => by
    have ih := expectedOuts_congr (self := self) r (fun e he => h e (List.mem_cons_of_mem _ he))
    simp only [expectedOuts, List.flatMap_cons] at ih ⊢
    rw [ih, outsOfEvent_congr (h e (List.mem_cons_self ..))]

theorem fixedOf_later {c c' : Core} (hl : Later c c') {id : Nat} (h : (c.proposals.get? id).isSome = true) :
    fixedOf c' id = fixedOf c id := by
  cases hp : c.proposals.get? id with
  | none => rw [hp] at h; cases h
  | some p =>
    obtain ⟨p', hp', hf, _⟩ := hl.props id p hp
    simp [fixedOf, hp, hp', hf]

theorem refund_isLeaf (d : Deposit) (a : Addr) : isLeafOut (refundMsg d a) = true := by
  unfold refundMsg; split <;> rfl

theorem filter_takeDeposit (d : Deposit) (a self : Addr) : (takeDeposit d a self).filter isLeafOut = takeDeposit d a self := by
  unfold takeDeposit; split <;> simp [isLeafOut]

/-- **One handler call**: it keeps `LogOk`, and the expected leaf messages grow by exactly the leaf messages among what
the call returned. -/
theorem expected_call {w : World} {blk : Block} {snd : Addr} {funds : List Coin} {em : ExecMsg} {s' : State}
    {out : List Out} (hq : LogOk w) (he : execute w.flex w.group w.self blk snd funds em = .ok (s', out)) :
    LogOk { w with flex := s', log := w.log ++ [eventOf w.flex snd em] } ∧
    expectedOuts s'.core w.self (w.log ++ [eventOf w.flex snd em]) =
      expectedOuts w.flex.core w.self w.log ++ out.filter isLeafOut := by
  obtain ⟨hi, hids⟩ := hq
  have hl := execute_later hi he
  have hstored : ∀ id, (w.flex.core.proposals.get? id).isSome = true → (s'.core.proposals.get? id).isSome = true := by
    intro id h
    cases hp : w.flex.core.proposals.get? id with
    | none => rw [hp] at h; cases h
    | some p => obtain ⟨p', hp', _⟩ := hl.props id p hp; simp [hp']
  have hold : expectedOuts s'.core w.self w.log = expectedOuts w.flex.core w.self w.log :=
    expectedOuts_congr w.log (fun e hm id hid => fixedOf_later hl (hids e hm id hid))
  -- the event of this call: the proposal it refers to is stored afterwards, and it stands for the leaf messages returned
  have hnew : (∀ id, evId (eventOf w.flex snd em) = some id → (s'.core.proposals.get? id).isSome = true) ∧
      outsOfEvent s'.core w.self (eventOf w.flex snd em) = out.filter isLeafOut := by
    cases em with
    | propose t d msgs latest =>
      obtain ⟨_, _, _, c, id0, _, _, hp, rfl, rfl⟩ := execute_propose_ok_iff.mp he
      obtain ⟨_, _, _, _, rfl, _, rfl⟩ := propose_ok hp
      refine ⟨fun id hid => by cases hid; simp, ?_⟩
      simp only [eventOf, outsOfEvent, fixedOf, AMap.get?_set_eq, Option.map_some, Proposal.fixedPart]
      cases hd : w.flex.cfg.deposit with
      | none => rfl
      | some dep => simp [filter_takeDeposit]
    | vote id0 v =>
      obtain ⟨c, _, rfl, rfl⟩ := execute_vote_ok_iff.mp he
      exact ⟨fun id hid => (by cases hid), rfl⟩
    | execute id0 =>
      obtain ⟨p, _, _, _, rfl, rfl⟩ := execute_execute_ok_iff_proposal.mp he
      refine ⟨fun id hid => by cases hid; simp, ?_⟩
      simp only [eventOf, outsOfEvent, fixedOf, AMap.get?_set_eq, Option.map_some, Proposal.fixedPart]
      cases hd : p.deposit with
      | none => simp
      | some dep => simp [refund_isLeaf]
    | close id0 =>
      obtain ⟨p, _, _, _, _, _, _, _, _, rfl, rfl⟩ := execute_close_ok_iff_proposal.mp he
      refine ⟨fun id hid => by cases hid; simp, ?_⟩
      simp only [eventOf, outsOfEvent, fixedOf, AMap.get?_set_eq, Option.map_some, Proposal.fixedPart]
      cases hd : p.deposit with
      | none => simp
      | some dep =>
        simp only
        split <;> simp [refund_isLeaf]
    | memberChangedHook =>
      obtain ⟨_, rfl, rfl⟩ := execute_hook_ok_iff.mp he
      exact ⟨fun id hid => (by cases hid), rfl⟩
  refine ⟨⟨execute_inv hi he, fun e hm id hid => ?_⟩, ?_⟩
  · rcases List.mem_append.mp hm with hm | hm
    · exact hstored id (hids e hm id hid)
    · rw [List.mem_singleton.mp hm] at hid; exact hnew.1 id hid
  · simp only [expectedOuts, List.flatMap_append, List.flatMap_cons, List.flatMap_nil, List.append_nil] at hold ⊢
    rw [hold, hnew.2]

/-- `expectedOuts` of a world. -/
def expectedOf (w : World) : List Out := expectedOuts w.flex.core w.self w.log

/-- What the converse says of a dispatch of `outs` from `w` with result `r`: if it succeeded with world `w'` and trace
`t`, then `LogOk` and the multisig's address are kept and, for every message value, "performed here + expected before =
leaf messages of the list + expected after". -/
def Conv (w : World) (outs : List Out) : Res (World × List Out) → Prop
  | .ok (w', t) => LogOk w → LogOk w' ∧ w'.self = w.self ∧
      ∀ x, t.count x + (expectedOf w).count x = (outs.filter isLeafOut).count x + (expectedOf w').count x
  | .error _ => True

theorem Conv.nil {w : World} : Conv w [] (.ok (w, [])) :=
  fun hq => ⟨hq, rfl, fun x => by simp⟩

/-- The first message, then the rest. -/
theorem Conv.cons {w : World} {o : Out} {rest : List Out} {X : Res (World × List Out)}
    {f : World → Res (World × List Out)} (h1 : Conv w [o] X) (h2 : ∀ w1, Conv w1 rest (f w1)) :
    Conv w (o :: rest) (do let (w1, t1) ← X; let (w2, t2) ← f w1; pure (w2, t1 ++ t2)) := by
  cases X with
  | error e => trivial
  | ok r =>
    obtain ⟨w1, t1⟩ := r
    have h2 := h2 w1
    show Conv w (o :: rest) (do let (w2, t2) ← f w1; pure (w2, t1 ++ t2))
    cases hf : f w1 with
    | error e => trivial
    | ok r2 =>
      obtain ⟨w2, t2⟩ := r2
      rw [hf] at h2
      intro hq
      obtain ⟨hq1, hs1, hc1⟩ := h1 hq
      obtain ⟨hq2, hs2, hc2⟩ := h2 hq1
      refine ⟨hq2, hs2.trans hs1, fun x => ?_⟩
      have a := hc1 x
      have b := hc2 x
      have : ((o :: rest).filter isLeafOut).count x = ([o].filter isLeafOut).count x + (rest.filter isLeafOut).count x := by
        rw [← List.count_append, ← List.filter_append]; rfl
      show (t1 ++ t2).count x + _ = _
      rw [List.count_append]
      omega

/-- A leaf: the world keeps multisig state, log and address; the trace is the message itself. -/
theorem Conv.leaf {w wl : World} {o : Out} (hf : wl.flex = w.flex) (hl : wl.log = w.log) (hs : wl.self = w.self)
    (hleaf : isLeafOut o = true) : Conv w [o] (.ok (wl, [o])) := by
  intro hq
  refine ⟨by unfold LogOk; rw [hf, hl]; exact hq, hs, fun x => ?_⟩
  simp [expectedOf, hf, hl, hs, hleaf]

/-- A handler call followed by the dispatch of what it returned adds to the trace what it adds to the expected list. -/
theorem conv_call {w w1 : World} {blk : Block} {snd : Addr} {funds : List Coin} {em : ExecMsg} {s' : State}
    {out t1 : List Out} (hq : LogOk w) (he : execute w.flex w.group w.self blk snd funds em = .ok (s', out))
    (hd : Conv { w with flex := s', log := w.log ++ [eventOf w.flex snd em] } out (.ok (w1, t1))) :
    LogOk w1 ∧ w1.self = w.self ∧ ∀ x, t1.count x + (expectedOf w).count x = (expectedOf w1).count x := by
  obtain ⟨hq2, hexp⟩ := expected_call hq he
  obtain ⟨hq1, hs1, hc1⟩ := hd hq2
  refine ⟨hq1, hs1, fun x => ?_⟩
  have a := hc1 x
  simp only [expectedOf] at a ⊢
  rw [hexp, List.count_append] at a
  omega

/-- A group update followed by the dispatch of the hooks it returned adds nothing to the expected list. -/
theorem conv_group {w w1 : World} {g' : Cw4Group.State} {h : Nat} {outs : List Cw4Group.Out} {t1 : List Out}
    (hq : LogOk w)
    (hd : Conv { w with group := g', log := w.log ++ [.groupWrite h] } (outs.map fun o => Out.groupHook o.hook) (.ok (w1, t1))) :
    LogOk w1 ∧ w1.self = w.self ∧ ∀ x, t1.count x + (expectedOf w).count x = (expectedOf w1).count x := by
  have hq2 : LogOk { w with group := g', log := w.log ++ [.groupWrite h] } := by
    refine ⟨hq.1, fun e hm id hid => ?_⟩
    rcases List.mem_append.mp hm with hm | hm
    · exact hq.2 e hm id hid
    · simp at hm; subst hm; simp [evId] at hid
  obtain ⟨hq1, hs1, hc1⟩ := hd hq2
  refine ⟨hq1, hs1, fun x => ?_⟩
  have a := hc1 x
  have hnil : ((outs.map fun o => Out.groupHook o.hook).filter isLeafOut) = [] := by
    apply List.filter_eq_nil_iff.mpr
    intro o ho; simp at ho; obtain ⟨_, _, rfl⟩ := ho; simp [isLeafOut]
  rw [hnil] at a
  simp only [expectedOf, expectedOuts, List.flatMap_append, List.flatMap_cons, List.flatMap_nil, outsOfEvent,
    List.append_nil] at a ⊢
  simpa using a

theorem Conv.nested {w : World} {blk : Block} {o : Out} {snd : Addr} {em : ExecMsg} {s' : State} {out : List Out}
    {R : Res (World × List Out)} (hleaf : isLeafOut o = false)
    (he : execute w.flex w.group w.self blk snd [] em = .ok (s', out))
    (ih : Conv { w with flex := s', log := w.log ++ [eventOf w.flex snd em] } out R) : Conv w [o] R := by
  cases R with
  | error e => trivial
  | ok r =>
    intro hq
    obtain ⟨hq1, hs1, hc1⟩ := conv_call hq he ih
    exact ⟨hq1, hs1, fun x => by simpa [hleaf] using hc1 x⟩

theorem Conv.grouped {w : World} {tag : String} {g' : Cw4Group.State} {h : Nat} {outs : List Cw4Group.Out}
    {R : Res (World × List Out)}
    (ih : Conv { w with group := g', log := w.log ++ [.groupWrite h] } (outs.map fun o => Out.groupHook o.hook) R) :
    Conv w [.msg (.other tag)] (do let (w2, t2) ← R; pure (w2, Out.msg (.other tag) :: t2)) := by
  cases R with
  | error e => trivial
  | ok r =>
    intro hq
    obtain ⟨hq1, hs1, hc1⟩ := conv_group hq ih
    refine ⟨hq1, hs1, fun x => ?_⟩
    have a := hc1 x
    simp [List.filter_cons, isLeafOut, selfCall, List.count_cons] at a ⊢
    omega

/-- A computation that has to succeed first. -/
theorem Conv.bind {α : Type} {w : World} {outs : List Out} {Y : Res α} {F : α → Res (World × List Out)}
    (h : ∀ a, Y = .ok a → Conv w outs (F a)) : Conv w outs (Y >>= F) := by
  cases Y with
  | error e => trivial
  | ok a => exact h a rfl

/-- **The dispatch induction for the trace.**  Over the instrumented dispatch of any list of returned messages, with all
nested handler calls and group updates. -/
theorem conv_dispatchT (ext : Ext) (blk : Block) : ∀ fuel w outs, Conv w outs (dispatchT ext fuel w blk outs) := by
  intro fuel
  induction fuel with
  | zero => intro w outs; cases outs <;> first | exact Conv.nil | trivial
  | succ fuel ih =>
    intro w outs
    cases outs with
    | nil => exact Conv.nil
    | cons o rest =>
      simp only [dispatchT]
      refine Conv.cons ?_ (fun w1 => ih w1 rest)
      cases o with
      | msg m =>
        simp only
        cases hsc : selfCall m with
        | some em => exact Conv.bind fun _ he => Conv.nested (by simp [isLeafOut, hsc]) he (ih _ _)
        | none =>
          cases m with
          | bank to amt denom =>
            exact Conv.bind fun b _ => Conv.leaf (wl := { w with bank := b }) rfl rfl rfl (by simp [isLeafOut, hsc])
          | other tag =>
            simp only
            cases hx : ext tag with
            | none => trivial
            | some ar => exact Conv.bind fun _ _ => Conv.grouped (ih _ _)
          | selfExecute id => cases hsc
          | selfClose id => cases hsc
          | selfVote id v => cases hsc
          | selfPropose l => cases hsc
          | noContract tag => trivial
      | bank to amt denom => exact Conv.bind fun b _ => Conv.leaf (wl := { w with bank := b }) rfl rfl rfl rfl
      | cw20Transfer token to amt =>
        exact Conv.bind fun wl hc => by obtain ⟨tt, rfl⟩ := tokenCall_frame hc; exact Conv.leaf rfl rfl rfl rfl
      | cw20TransferFrom token owner to amt =>
        exact Conv.bind fun wl hc => by obtain ⟨tt, rfl⟩ := tokenCall_frame hc; exact Conv.leaf rfl rfl rfl rfl
      | groupHook hook =>
        simp only
        split
        · exact Conv.bind fun _ he => Conv.nested rfl he (ih _ _)
        · trivial
/-- The invariant of the converse on the instrumented history: `LogOk`, and the trace so far is — as a multiset — what the
handler calls recorded in the log returned. -/
def ConvInv (wt : World × List Out) : Prop :=
  LogOk wt.1 ∧ ∀ x, wt.2.count x = (expectedOf wt.1).count x

/-- A committed transaction whose trace is what it adds to the expected list. -/
theorem ConvInv.append {w w' : World} {tr t : List Out} (hq : ConvInv (w, tr))
    (h : LogOk w' ∧ w'.self = w.self ∧ ∀ x, t.count x + (expectedOf w).count x = (expectedOf w').count x) :
    ConvInv (w', tr ++ t) := by
  refine ⟨h.1, fun x => ?_⟩
  have a := h.2.2 x
  have b : tr.count x = (expectedOf w).count x := hq.2 x
  show (tr ++ t).count x = (expectedOf w').count x
  rw [List.count_append]
  omega

theorem conv_stepT (ext : Ext) (fuel : Nat) (wt : World × List Out) (op : Op) (hq : ConvInv wt) :
    ConvInv (stepT ext fuel wt op) := by
  obtain ⟨w, tr⟩ := wt
  unfold stepT
  cases htx : txT ext fuel w op.blk op.act with
  | error e => exact hq
  | ok r =>
    obtain ⟨w', t⟩ := r
    show ConvInv (w', tr ++ t)
    cases hact : op.act with
    | flex snd funds m =>
      rw [hact] at htx
      simp only [txT, Res.bind_ok, Prod.exists] at htx
      obtain ⟨b, _, s', out, he, hd⟩ := htx
      exact ConvInv.append (w := { w with bank := b }) hq (conv_call hq.1 he (hd ▸ conv_dispatchT ext op.blk fuel _ out))
    | group snd m =>
      rw [hact] at htx
      simp only [txT, Res.bind_ok, Prod.exists] at htx
      obtain ⟨g', outs, _, hd⟩ := htx
      exact ConvInv.append hq (conv_group hq.1 (hd ▸ conv_dispatchT ext op.blk fuel _ _))
    | token snd m =>
      rw [hact] at htx
      simp [txT] at htx
      obtain ⟨tk, out, _, _, rfl, rfl⟩ := htx
      exact ⟨hq.1, fun x => by simpa [expectedOf] using hq.2 x⟩

theorem conv_runT (ext : Ext) (fuel : Nat) : ∀ (ops : List Op) (wt : World × List Out), ConvInv wt →
    ConvInv (runT ext fuel wt ops)
  | [], _, h => h
  | op :: rest, wt, h => conv_runT ext fuel rest _ (conv_stepT ext fuel wt op h)

/-- **C05 converse for cw3-flex, over every history: `dispatched_only_by_execute_run`.**  Start from any accepted
instantiation, on any group, token, bank; run ANY history (transactions by anybody on the multisig, the group, the token;
nested self-calls, group updates and hooks; failing transactions rolled back).  `runT` computes the same world as the
model's `run` (second conjunct) together with the list of leaf messages the runtime ever performed on behalf of the
multisig in committed transactions — bank sends, cw20 `Transfer` / `TransferFrom`, group updates.  That list is, as a
multiset (`List.Perm`), exactly the union over the ghost log of what the recorded handler calls returned: for each
`executed id` the deposit refund (if the proposal carries a deposit) and the proposal's own non-self-call messages, for
each `closed id` the refund when `refund_failed_proposals` is set, for each `proposed id snd` the `TransferFrom` that takes
a cw20 deposit; nothing for votes, hooks and group writes.  With `executions_le_one` (each proposal has at most one
`executed` event) and `C15.refund_at_most_once`: nothing is ever dispatched for the multisig that is not a stored message
of an executed proposal or a deposit movement, and each executed proposal contributes exactly once. -/
theorem dispatched_only_by_execute_run {ext : Ext} {fuel : Nat} {m : InstMsg} {s : State} {g : Cw4Group.State}
    {t : Cw20.State} {bank : AMap (Addr × String) Nat} {self ga ta : Addr} {h0 : Nat} (ops : List Op)
    (hi : instantiate m (some g) = .ok s) :
    let wt := runT ext fuel (World.init s g t bank self ga ta h0, []) ops
    wt.2.Perm (expectedOuts wt.1.flex.core wt.1.self wt.1.log) ∧
    wt.1 = run ext fuel (World.init s g t bank self ga ta h0) ops := by
  intro wt
  refine ⟨?_, runT_world ext fuel ops _⟩
  have hinit : ConvInv (World.init s g t bank self ga ta h0, []) := by
    refine ⟨⟨instantiate_inv hi, fun e hm id hid => ?_⟩, fun x => ?_⟩
    · simp [World.init] at hm; subst hm; simp [evId] at hid
    · simp [expectedOf, expectedOuts, World.init, outsOfEvent]
  have := (conv_runT ext fuel ops _ hinit).2
  rw [List.perm_iff_count]
  exact this

/-- **Traces back (flex).**  Every leaf message in the trace of a history is one of: a stored non-self-call message of a
proposal with an `executed` event in the log, the refund of the deposit recorded in an executed or closed proposal
(addressed to its proposer), or the `TransferFrom` taking the deposit recorded in a proposed one. -/
theorem dispatched_traces_back {ext : Ext} {fuel : Nat} {m : InstMsg} {s : State} {g : Cw4Group.State}
    {t : Cw20.State} {bank : AMap (Addr × String) Nat} {self ga ta : Addr} {h0 : Nat} (ops : List Op)
    (hi : instantiate m (some g) = .ok s) {x : Out}
    (hx : x ∈ (runT ext fuel (World.init s g t bank self ga ta h0, []) ops).2) :
    let w := run ext fuel (World.init s g t bank self ga ta h0) ops
    ∃ id p, w.flex.core.proposals.get? id = some p ∧
      ((Event.executed id ∈ w.log ∧ ∃ mm ∈ p.msgs, selfCall mm = none ∧ x = .msg mm) ∨
       ((Event.executed id ∈ w.log ∨ Event.closed id ∈ w.log) ∧ ∃ d, p.deposit = some d ∧ x = refundMsg d p.proposer) ∨
       (∃ snd d, Event.proposed id snd ∈ w.log ∧ p.deposit = some d ∧ x ∈ takeDeposit d snd w.self)) := by
  intro w
  obtain ⟨hperm, hw⟩ := dispatched_only_by_execute_run (ext := ext) (fuel := fuel) (t := t) (bank := bank) (self := self)
    (ga := ga) (ta := ta) (h0 := h0) ops hi
  have hmem := hperm.mem_iff.mp hx
  simp only [hw] at hmem
  change x ∈ expectedOuts w.flex.core w.self w.log at hmem
  obtain ⟨e, he, hxe⟩ := List.mem_flatMap.mp hmem
  cases e with
  | executed id =>
    simp only [outsOfEvent, fixedOf] at hxe
    cases hp : w.flex.core.proposals.get? id with
    | none => simp [hp] at hxe
    | some p =>
      simp only [hp, Option.map_some, Proposal.fixedPart] at hxe
      refine ⟨id, p, hp, ?_⟩
      rcases List.mem_append.mp hxe with h | h
      · right; left
        cases hd : p.deposit with
        | none => simp [hd] at h
        | some d => simp [hd] at h; exact ⟨Or.inl he, d, rfl, h⟩
      · left
        obtain ⟨h1, h2⟩ := List.mem_filter.mp h
        obtain ⟨mm, hmm, rfl⟩ := List.mem_map.mp h1
        exact ⟨he, mm, hmm, by simpa [isLeafOut] using h2, rfl⟩
  | closed id =>
    simp only [outsOfEvent, fixedOf] at hxe
    cases hp : w.flex.core.proposals.get? id with
    | none => simp [hp] at hxe
    | some p =>
      simp only [hp, Option.map_some, Proposal.fixedPart] at hxe
      refine ⟨id, p, hp, Or.inr (Or.inl ?_)⟩
      cases hd : p.deposit with
      | none => simp [hd] at hxe
      | some d =>
        simp only [hd] at hxe
        split at hxe
        · simp at hxe; exact ⟨Or.inr he, d, rfl, hxe⟩
        · simp at hxe
  | proposed id snd =>
    simp only [outsOfEvent, fixedOf] at hxe
    cases hp : w.flex.core.proposals.get? id with
    | none => simp [hp] at hxe
    | some p =>
      simp only [hp, Option.map_some, Proposal.fixedPart] at hxe
      refine ⟨id, p, hp, Or.inr (Or.inr ?_)⟩
      cases hd : p.deposit with
      | none => simp [hd] at hxe
      | some d => simp only [hd] at hxe; exact ⟨snd, d, he, rfl, hxe⟩
  | voted id a => simp [outsOfEvent] at hxe
  | hook => simp [outsOfEvent] at hxe
  | groupWrite h => simp [outsOfEvent] at hxe

/-! ## non-vacuity -/

open CwPlus.Props.C15 in
/-- The D6 history is a reachable world with a proposal; executing is refused there, and the ghost count is 0. -/
example : Reachable Cex.noExt 10 Cex.final ∧ executions Cex.final 1 = 0 ∧
    (Cex.final.flex.core.proposals.get? 1).isSome = true :=
  ⟨⟨Cex.inst, Cex.flex0, Cex.group0, Cex.token0, _, "ms", "grp", "tok", 5, Cex.ops, rfl, rfl⟩, by decide +kernel⟩

/-- Non-vacuity of `reentrant_execute_fails`: a passed proposal that calls back into its own Execute; executing
it fails and leaves the world unchanged. -/
example :
    let w := run CwPlus.Props.C15.Cex.noExt 10 CwPlus.Props.C15.Cex.world0
      [⟨⟨10, 0⟩, .flex "a" [⟨5, "ucosm"⟩] (.propose "t" "d" [.selfExecute 1] none)⟩,
       ⟨⟨10, 0⟩, .flex "b" [] (.vote 1 .yes)⟩]
    ((w.flex.core.proposals.get? 1).map (·.status)) = some .passed ∧
    (tx CwPlus.Props.C15.Cex.noExt 10 w ⟨10, 0⟩ (.flex "c" [] (.execute 1))).isOk = false := by
  decide +kernel

/-- non-vacuity of `observed_status_monotone(_in_time)`: `w0` = after `a` proposed (block 10, count 3, a's
weight 1: Open); further history at later blocks: `b` votes yes (Passed), an outsider executes -/
def exW0 : World :=
  run CwPlus.Props.C15.Cex.noExt 10 CwPlus.Props.C15.Cex.world0 [⟨⟨10, 0⟩, .flex "a" [⟨5, "ucosm"⟩] (.propose "t" "d" [] none)⟩]
def exMore : List Op := [⟨⟨12, 0⟩, .flex "b" [] (.vote 1 .yes)⟩, ⟨⟨13, 0⟩, .flex "x" [] (.execute 1)⟩]

open CwPlus.Props.C15 in
example : ReachableAt Cex.noExt 10 exW0 ⟨10, 0⟩ :=
  ReachableAt.step ⟨⟨10, 0⟩, .flex "a" [⟨5, "ucosm"⟩] (.propose "t" "d" [] none)⟩
    (ReachableAt.init (m := Cex.inst) Cex.group0 Cex.token0 [(("a", "ucosm"), 20)] "ms" "grp" "tok" 5 ⟨10, 0⟩ rfl)
    ⟨Nat.le_refl _, Nat.le_refl _⟩
open CwPlus.Props.C15 in
example : Reachable Cex.noExt 10 exW0 :=
  ⟨Cex.inst, Cex.flex0, Cex.group0, Cex.token0, _, "ms", "grp", "tok", 5,
    [⟨⟨10, 0⟩, .flex "a" [⟨5, "ucosm"⟩] (.propose "t" "d" [] none)⟩], rfl, rfl⟩
open CwPlus.Props.C15 in
example : ReachableFrom Cex.noExt 10 exW0 ⟨11, 0⟩ (run Cex.noExt 10 exW0 exMore) ⟨13, 0⟩ :=
  ReachableFrom.step (w := step Cex.noExt 10 exW0 ⟨⟨12, 0⟩, .flex "b" [] (.vote 1 .yes)⟩) ⟨⟨13, 0⟩, .flex "x" [] (.execute 1)⟩
    (ReachableFrom.step ⟨⟨12, 0⟩, .flex "b" [] (.vote 1 .yes)⟩ ReachableFrom.refl ⟨by decide, by decide⟩) ⟨by decide, by decide⟩
open CwPlus.Props.C15 in
/-- observed Open at block 11 before, Rejected at block 15 had nothing more happened (expiry), Executed after
the further history -/
example : ((Cw3Flex.queryProposal exW0.flex ⟨11, 0⟩ 1).toOption.map (·.status)) = some .open ∧
    ((Cw3Flex.queryProposal exW0.flex ⟨15, 0⟩ 1).toOption.map (·.status)) = some .rejected ∧
    ((Cw3Flex.queryProposal (run Cex.noExt 10 exW0 exMore).flex ⟨20, 0⟩ 1).toOption.map (·.status)) = some .executed := by
  decide +kernel

open CwPlus.Props.C15 in
/-- non-vacuity of the four theorems of this section: after the further history proposal 1 is stored Executed with ghost count 1, ids
are `1..1`, and the Propose of `exW0` created it as proposed (threshold 3 = configured, total 5 = the group's) -/
example : executions (run Cex.noExt 10 exW0 exMore) 1 = 1 ∧ isExec (run Cex.noExt 10 exW0 exMore).flex.core 1 = true ∧
    (run Cex.noExt 10 exW0 exMore).flex.core.count = 1 ∧
    ((exW0.flex.core.proposals.get? 1).map fun p => (p.threshold, p.totalWeight, p.msgs, p.proposer, p.startHeight))
      = some (.absoluteCount 3, 5, [], "a", 10) := by
  decide +kernel

/-- non-vacuity of `query_always_answers`: the proposal of the reachable world `exW0` fits `u64` (tally 1/0/0/0) -/
example : ((exW0.flex.core.proposals.get? 1).map fun p =>
    decide (p.votes.yes + p.votes.no + p.votes.abstain + p.votes.veto ≤ U64_MAX)) = some true := by decide

open CwPlus.Props.C15 in
/-- non-vacuity of `dispatch_no_second_execution`: in the world after `exMore` proposal 1 is stored Executed; a further
dispatch (the group's hook message to the multisig) succeeds and the ghost count stays 1 -/
example : isExec (run Cex.noExt 10 exW0 exMore).flex.core 1 = true ∧
    ((dispatch Cex.noExt 5 (run Cex.noExt 10 exW0 exMore) ⟨14, 0⟩ [.groupHook "ms"]).toOption.map fun w' => executions w' 1)
      = some 1 := by
  decide +kernel

open CwPlus.Props.C15 in
/-- non-vacuity of `dispatched_only_by_execute_run` (native deposit, two concurrent proposals, one executed): the trace
of the history is the refund of proposal 1 followed by its bank message; the expected list is the same. -/
example :
    let wt := runT Cex.noExt 10 (CexPool.world0, []) CexPool.opsSpend
    wt.2 = [Out.bank "a" 5 "ucosm", Out.msg (.bank "x" 5 "ucosm")] ∧
    expectedOuts wt.1.flex.core wt.1.self wt.1.log = [Out.bank "a" 5 "ucosm", Out.msg (.bank "x" 5 "ucosm")] ∧
    wt.1.log = CexPool.wSpend.log := by
  decide +kernel

open CwPlus.Props.C15 in
/-- non-vacuity with a cw20 deposit: the trace is the `TransferFrom` that took the deposit at Propose and the `Transfer`
that returned it at Execute. -/
example :
    (runT Cex.noExt 10 (Cex20.world0, []) Cex20.ops).2
      = [Out.cw20TransferFrom "tok" "a" "ms" 5, Out.cw20Transfer "tok" "a" 5] := by
  decide +kernel

end CwPlus.Props.C05Flex
