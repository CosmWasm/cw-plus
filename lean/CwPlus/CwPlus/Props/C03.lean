import CwPlus.Lemmas.Cw3Fixed
import CwPlus.Lemmas.Cw3FixedAt
import CwPlus.Lemmas.Cw3FixedNodup
import CwPlus.Lemmas.Cw3CoreNodup
/-!
# C03 (cw3-fixed part) — a proposal's status equals the outcome its ballots imply

The outcome is *defined from the ballots*: `Outcome p ballots blk` is the decision of the cw3
library (`Cw3.isPassed` / `Cw3.isRejected` / expiry, model `Model/Cw3.lean`) applied to the tally
recomputed from the recorded ballots (`tallyOf`), the proposal's own threshold, total weight and
expiry, at block `blk`.  What the library decision means arithmetically (exact ceilings, never
stricter than the documented rule, early decisions sound and complete) is property C04
(`Props/C04.lean`); C03 is about the contract using that decision, on the right inputs, everywhere:
in every query, and to admit Execute and Close.  All theorems hold for every accepted
instantiation and every history (`Reachable fuel w`).

The connection to the EXACT documented rule (`status_eq_exact_outcome`, `status_exact_outcome_within_one`)
and the justification of a stored Rejected (`rejected_justified`, `rejected_when_stored`) combine the
above with the theorems of `Props/C04.lean` through `Lemmas/Cw3Status.lean`.

The cw3-flex part of C03 is `Props/C03Flex.lean`.
-/
namespace CwPlus.Props.C03
open CwPlus CwPlus.Cw3 CwPlus.Cw3Core CwPlus.Cw3Fixed CwPlus.Props

/-- The tally of a proposal as implied by a ballot map: stored `Open`, the proposal's threshold,
total weight and expiry, and per option the sum of the ballots' weights. -/
def ballotTally (p : Proposal) (bs : AMap Addr Ballot) : Tally :=
  ⟨.open, p.threshold, p.totalWeight, tallyOf bs, p.expires⟩

/-- The outcome the cw3 rules define for the recorded ballots at block `blk`: Passed if the
library's `is_passed` holds (which requires Yes weight > 0), otherwise Rejected if `is_rejected`
holds or the proposal has expired, otherwise Open. -/
def Outcome (p : Proposal) (bs : AMap Addr Ballot) (blk : Block) : Res Status :=
  Cw3.currentStatus (ballotTally p bs) blk

theorem outcome_cases {p : Proposal} {bs : AMap Addr Ballot} {blk : Block} {st : Status}
    (h : Outcome p bs blk = .ok st) :
    (Cw3.isPassed (ballotTally p bs) blk = .ok true ∧ st = .passed) ∨
    (Cw3.isPassed (ballotTally p bs) blk = .ok false ∧ ∃ rej, Cw3.isRejected (ballotTally p bs) blk = .ok rej ∧
      ((rej = true ∨ p.expires.isExpired blk = true) ∧ st = .rejected ∨
       (rej = false ∧ p.expires.isExpired blk = false) ∧ st = .open)) :=
  cs_of_open (t := ballotTally p bs) rfl h

/-- The status every query (`Proposal`, and per entry `ListProposals` / `ReverseProposals`, which use the same
`viewOf`) reports for a proposal is `current_status` of the stored record at the query block (either multisig). -/
theorem query_status (c : Core) (blk : Block) (id : Nat) (p : Proposal) (hp : c.proposals.get? id = some p) :
    (Cw3Core.queryProposal c blk id).map (·.status) = p.currentStatus blk := by
  simp only [Cw3Core.queryProposal, load, hp, viewOf]
  cases h : p.currentStatus blk <;> simp [h, bind, Except.bind, Except.map, pure, Except.pure]

theorem tally_eq_ballotTally_inv {c : Core} (hw : WF c) {id : Nat} {p : Proposal}
    (hp : c.proposals.get? id = some p) (ho : p.status = .open) :
    p.tally = ballotTally p (ballotsOf c id) := by
  rw [Proposal.tally, ho, hw.tally id p hp]; rfl

theorem tally_eq_ballotTally {fuel : Nat} {w : World} (hr : Reachable fuel w) {id : Nat} {p : Proposal}
    (hp : w.ms.core.proposals.get? id = some p) (ho : p.status = .open) :
    p.tally = ballotTally p (ballotsOf w.ms.core id) :=
  tally_eq_ballotTally_inv (reachable_inv hr).wf hp ho

/-- The status `current_status` computes for a stored proposal of a well-formed core (either multisig): the `Outcome` of
the recorded ballots if it is stored Open, the stored status otherwise. -/
theorem currentStatus_eq_outcome {c : Core} (hw : WF c) {id : Nat} {p : Proposal}
    (hp : c.proposals.get? id = some p) (blk : Block) :
    p.currentStatus blk = if p.status = .open then Outcome p (ballotsOf c id) blk else .ok p.status := by
  by_cases ho : p.status = .open
  · rw [if_pos ho, Outcome, ← tally_eq_ballotTally_inv hw hp ho]; rfl
  · rw [if_neg ho]; exact cs_of_ne_open (t := p.tally) ho

/-- C03 "the status returned by queries equals the outcome the threshold rules define for the
ballots recorded for it, the total weight reported for it and whether it has expired": for every
reachable state, every proposal and *every* query block,
* stored Open  ⇒ the reported status is `Outcome` of the recorded ballots at that block;
* stored Passed / Rejected / Executed ⇒ the reported status is the stored one (sticky). -/
theorem status_eq_outcome {fuel : Nat} {w : World} (hr : Reachable fuel w) {id : Nat} {p : Proposal}
    (hp : w.ms.core.proposals.get? id = some p) (blk : Block) :
    (Cw3Fixed.queryProposal w.ms blk id).map (·.status) =
      if p.status = .open then Outcome p (ballotsOf w.ms.core id) blk else .ok p.status := by
  rw [Cw3Fixed.queryProposal, query_status _ _ _ _ hp, currentStatus_eq_outcome (reachable_inv hr).wf hp]

/-- Passed is sticky: a proposal stored Passed is reported Passed at every block, and no later
vote, block change or other operation makes its stored status anything but Passed or Executed. -/
theorem passed_sticky {fuel : Nat} {w : World} (hr : Reachable fuel w) (ops : List Op) {id : Nat} {p : Proposal}
    (hp : w.ms.core.proposals.get? id = some p) (hs : p.status = .passed) :
    (∀ blk, (Cw3Fixed.queryProposal w.ms blk id).map (·.status) = .ok .passed) ∧
    ∃ p', (run fuel w ops).ms.core.proposals.get? id = some p' ∧ (p'.status = .passed ∨ p'.status = .executed) := by
  constructor
  · intro blk; rw [status_eq_outcome hr hp]; simp [hs]
  · obtain ⟨p', hp', _, he⟩ := (run_later (reachable_inv hr) ops).props id p hp
    refine ⟨p', hp', ?_⟩
    rw [hs] at he
    rcases (edge_iff_cases _ _).mp he with h | ⟨h, _⟩ | ⟨_, h⟩
    · exact Or.inl h.symm
    · cases h
    · exact Or.inr h

/-- Rejected and Executed are final. -/
theorem rejected_executed_final {fuel : Nat} {w : World} (hr : Reachable fuel w) (ops : List Op) {id : Nat} {p : Proposal}
    (hp : w.ms.core.proposals.get? id = some p) (hs : p.status = .rejected ∨ p.status = .executed) :
    ∃ p', (run fuel w ops).ms.core.proposals.get? id = some p' ∧ p'.status = p.status := by
  obtain ⟨p', hp', _, he⟩ := (run_later (reachable_inv hr) ops).props id p hp
  exact ⟨p', hp', edge_final he hs.symm⟩

/-! ## the listings report the same status -/

theorem listed_status_core {c : Core} (hn : AMap.NodupKeys c.proposals) {blk : Block} {l : List (Nat × Proposal)}
    (hsub : ∀ x ∈ l, x ∈ c.proposals) {vs : List ProposalView} (h : viewAll blk l = .ok vs) :
    ∀ v ∈ vs, ∃ p, c.proposals.get? v.id = some p ∧ p.currentStatus blk = .ok v.status := by
  obtain ⟨hall, rfl⟩ := viewAll_ok_all h
  intro v hv
  obtain ⟨x, hx, rfl⟩ := List.mem_map.mp hv
  obtain ⟨st, hst⟩ := hall x hx
  refine ⟨x.2, (AMap.get?_eq_some_iff hn).mpr (hsub x hx), ?_⟩
  simp only [viewD, hst]

open Paginate in
theorem listings_status_core {c : Core} (hn : AMap.NodupKeys c.proposals) (blk : Block) (cur limit : Option Nat)
    {vs : List ProposalView}
    (h : Cw3Core.listProposals c blk cur limit = .ok vs ∨ Cw3Core.reverseProposals c blk cur limit = .ok vs) :
    ∀ v ∈ vs, ∃ p, c.proposals.get? v.id = some p ∧ p.currentStatus blk = .ok v.status := by
  rcases h with h | h
  · exact listed_status_core hn (fun x hx => mem_sortedEntries.mp ((page_sublist _ _ _ _).subset hx)) h
  · exact listed_status_core hn (fun x hx => mem_sortedEntries.mp (mem_pageDesc _ _ _ _ hx)) h

/-- **C03 for the list queries** (`ListProposals`, `ReverseProposals`): in every reachable state, whenever a listing
answers, every listed entry is a stored proposal under its id and the status listed for it is — exactly as for the point
query, `status_eq_outcome` — the `Outcome` of its recorded ballots at the query block if it is stored Open, and the
stored status otherwise. -/
theorem listed_status_eq_outcome {fuel : Nat} {w : World} (hr : Reachable fuel w) (blk : Block) (cur limit : Option Nat)
    {vs : List ProposalView}
    (h : Cw3Fixed.listProposals w.ms blk cur limit = .ok vs ∨ Cw3Fixed.reverseProposals w.ms blk cur limit = .ok vs) :
    ∀ v ∈ vs, ∃ p, w.ms.core.proposals.get? v.id = some p ∧
      (Except.ok v.status : Res Status) =
        if p.status = .open then Outcome p (ballotsOf w.ms.core v.id) blk else .ok p.status := by
  intro v hv
  obtain ⟨p, hp, hst⟩ := listings_status_core (Cw3Fixed.reachable_nodup hr) blk cur limit h v hv
  refine ⟨p, hp, ?_⟩
  rw [← status_eq_outcome hr hp blk, Cw3Fixed.queryProposal, query_status _ _ _ _ hp, hst]

/-! ## Execute and Close are admitted by the same status

The `_inv` forms hold for every state satisfying `Inv`, hence also mid-dispatch (for re-entrant self-calls). -/

/-- **Execute is admitted iff Passed, for every state satisfying `Inv`** — in particular for the intermediate states
inside `dispatch` (`dispatch` preserves `Inv`), so the statement also covers `selfExecute` messages of a proposal that
is being executed. -/
theorem execute_admits_iff_outcome_inv {s : State} (hi : Inv s) (blk : Block) (snd : Addr) (id : Nat) :
    (execute s blk snd (.execute id)).isOk = true ↔
      ∃ p, s.core.proposals.get? id = some p ∧
        (p.status = .passed ∨ (p.status = .open ∧ Outcome p (ballotsOf s.core id) blk = .ok .passed)) := by
  rw [execute_execute_isOk_iff]
  refine exists_congr fun p => and_congr_right fun hp => ?_
  rw [currentStatus_eq_outcome hi.wf hp]
  by_cases ho : p.status = .open <;> simp [ho]

/-- C03 "the status … used to admit Execute": Execute succeeds exactly when the proposal is stored
Passed, or is stored Open and the outcome of its recorded ballots at the current block is Passed. -/
theorem execute_admits_iff_outcome {fuel : Nat} {w : World} (hr : Reachable fuel w) (blk : Block) (snd : Addr) (id : Nat) :
    (execute w.ms blk snd (.execute id)).isOk = true ↔
      ∃ p, w.ms.core.proposals.get? id = some p ∧
        (p.status = .passed ∨ (p.status = .open ∧ Outcome p (ballotsOf w.ms.core id) blk = .ok .passed)) :=
  execute_admits_iff_outcome_inv (reachable_inv hr) blk snd id

/-- **Close is admitted iff expired and not Passed, for every state satisfying `Inv`** (also mid-dispatch, for
`selfClose` messages). -/
theorem close_admits_iff_outcome_inv {s : State} (hi : Inv s) (blk : Block) (snd : Addr) (id : Nat) :
    (execute s blk snd (.close id)).isOk = true ↔
      ∃ p, s.core.proposals.get? id = some p ∧ p.status = .open ∧ p.expires.isExpired blk = true ∧
        Outcome p (ballotsOf s.core id) blk = .ok .rejected := by
  rw [execute_close_isOk_iff hi.wf]
  refine exists_congr fun p => ?_
  constructor
  · rintro ⟨st, hp, ho, hexp, hst, hne⟩
    rw [currentStatus_eq_outcome hi.wf hp, if_pos ho] at hst
    rcases expired_status (t := ballotTally p _) rfl hexp hst with rfl | rfl
    · exact absurd rfl hne
    · exact ⟨hp, ho, hexp, hst⟩
  · rintro ⟨hp, ho, hexp, hout⟩
    refine ⟨.rejected, hp, ho, hexp, ?_, by simp⟩
    rw [currentStatus_eq_outcome hi.wf hp, if_pos ho]; exact hout

/-- C03 "… and Close": Close succeeds exactly when the proposal is stored Open, has expired, and
the outcome of its recorded ballots at the current block is not Passed (then it is Rejected). -/
theorem close_admits_iff_outcome {fuel : Nat} {w : World} (hr : Reachable fuel w) (blk : Block) (snd : Addr) (id : Nat) :
    (execute w.ms blk snd (.close id)).isOk = true ↔
      ∃ p, w.ms.core.proposals.get? id = some p ∧ p.status = .open ∧ p.expires.isExpired blk = true ∧
        Outcome p (ballotsOf w.ms.core id) blk = .ok .rejected :=
  close_admits_iff_outcome_inv (reachable_inv hr) blk snd id

/-! ## never executable without Yes weight -/

/-- Invariant: every proposal stored Passed or Executed has positive Yes weight in its tally. -/
def YesInv (s : State) : Prop :=
  Inv s ∧ ∀ id p, s.core.proposals.get? id = some p → (p.status = .passed ∨ p.status = .executed) → 0 < p.votes.yes

theorem cs_passed_yes {t : Tally} {blk : Block} {st : Status} (h : Cw3.currentStatus t blk = .ok st)
    (hs : st = .passed ∨ st = .executed) (hold : (t.status = .passed ∨ t.status = .executed) → 0 < t.votes.yes) :
    0 < t.votes.yes := by
  by_cases ho : t.status = .open
  · rcases cs_of_open ho h with ⟨hp, _⟩ | ⟨_, rej, _, ⟨_, rfl⟩ | ⟨_, rfl⟩⟩
    · exact C04.passed_needs_yes hp
    · simp at hs
    · simp at hs
  · rw [cs_of_ne_open ho] at h; cases h; exact hold hs

theorem yes_propStep {b : Block} {o : Option Proposal} {p' : Proposal}
    (hold : ∀ p, o = some p → (p.status = .passed ∨ p.status = .executed) → 0 < p.votes.yes) (h : PropStep b o p')
    (hs : p'.status = .passed ∨ p'.status = .executed) : 0 < p'.votes.yes := by
  cases h with
  | same _ => exact hold _ rfl hs
  | created p st ho hst => exact cs_passed_yes (t := p.tally) hst hs (by simp [Proposal.tally, ho])
  | voted p v w votes st _ _ hadd hst =>
    refine cs_passed_yes (t := Proposal.tally { p with votes := votes }) hst hs (fun h0 => ?_)
    have := hold p rfl h0
    rw [add_eq hadd]
    exact Nat.lt_of_lt_of_le this (Nat.le_add_right _ _)
  | executed p hst => exact cs_passed_yes (t := p.tally) hst (Or.inl rfl) (hold p rfl)
  | closed _ _ _ _ _ _ => simp at hs

theorem yes_step {s s' : State} {blk : Block} {snd : Addr} {m : ExecMsg} {out : List Msg}
    (hy : YesInv s) (h : execute s blk snd m = .ok (s', out)) : YesInv s' :=
  ⟨execute_inv hy.1 h, allP_step hy.1.wf (fun _ _ _ hold hs => yes_propStep hold hs) hy.2 (execute_coreStep h)⟩

theorem reachable_yes {fuel : Nat} {w : World} (hr : Reachable fuel w) : YesInv w.ms :=
  ⟨reachable_inv hr, reachable_ind (fun s => ∀ id p, s.core.proposals.get? id = some p → _ → 0 < p.votes.yes)
    (fun _ _ hi id p hp => by rw [instantiate_core hi] at hp; cases hp)
    (fun _ _ _ _ _ _ hi hy h => (yes_step ⟨hi, hy⟩ h).2) hr⟩

/-- **Never executable without Yes weight, for every state satisfying `YesInv`** (`yes_step`: every handler call
preserves `YesInv`, so it holds mid-dispatch too). -/
theorem never_executable_without_yes_inv {s : State} (hy : YesInv s) {blk : Block} {snd : Addr} {id : Nat}
    (h : (execute s blk snd (.execute id)).isOk = true) : 0 < sumK .yes (ballotsOf s.core id) := by
  obtain ⟨p, hp, hst⟩ := execute_execute_isOk_iff.mp h
  have : 0 < p.votes.yes := cs_passed_yes (t := p.tally) hst (Or.inl rfl) (hy.2 id p hp)
  rw [hy.1.wf.tally id p hp] at this
  exact this

/-- C03 "no proposal ever becomes executable with zero Yes weight": whenever Execute succeeds (in
any reachable state, at any block, by anybody), the Yes ballots recorded for the proposal have
positive total weight; the same holds for every proposal stored Passed or Executed. -/
theorem never_executable_without_yes {fuel : Nat} {w : World} (hr : Reachable fuel w) {blk : Block} {snd : Addr} {id : Nat}
    (h : (execute w.ms blk snd (.execute id)).isOk = true) : 0 < sumK .yes (ballotsOf w.ms.core id) :=
  never_executable_without_yes_inv (reachable_yes hr) h

theorem passed_has_yes {fuel : Nat} {w : World} (hr : Reachable fuel w) {id : Nat} {p : Proposal}
    (hp : w.ms.core.proposals.get? id = some p) (hs : p.status = .passed ∨ p.status = .executed) :
    0 < sumK .yes (ballotsOf w.ms.core id) := by
  obtain ⟨hi, hy⟩ := reachable_yes hr
  have := hy id p hp hs
  rw [hi.wf.tally id p hp] at this
  exact this

/-! ## the status is the EXACT documented rule (C03 × C04) -/

theorem ballotTally_eq_openT {p : Proposal} {bs : AMap Addr Ballot} (h : p.votes = tallyOf bs) :
    ballotTally p bs = openT p := by
  simp [ballotTally, openT, h]

/-- The premise of the threshold arithmetic (C04) holds for the ballots of every proposal of every
reachable state: the recorded ballots weigh at most the total (C06 `tally_le_total`), the total is a
`u64`, the threshold was validated for this total. -/
theorem premise_ballotTally {fuel : Nat} {w : World} (hr : Reachable fuel w) {id : Nat} {p : Proposal}
    (hp : w.ms.core.proposals.get? id = some p) : C04.Premise (ballotTally p (ballotsOf w.ms.core id)) := by
  have hi := reachable_inv hr
  rw [ballotTally_eq_openT (hi.wf.tally id p hp)]
  exact premise_of_inv hi hp

/-- C03 "Passed exactly when the Yes weight is positive and certain to satisfy the configured count,
percentage or quorum rule, Rejected only when it expired without passing or can no longer pass, Open
otherwise" — against the EXACT rule, for thresholds / quorums written with at most 9 decimals.
For every reachable state, every proposal stored Open and every query block, the query answers, and
the status it reports is
* Passed exactly when the recorded Yes weight is positive and the documented rule (`C04.exactPasses`:
  `yes ≥ k`; `yes/(total−abstain) ≥ pct`; `cast/total ≥ quorum ∧ yes/(cast−abstain) ≥ threshold`, all in
  cross-multiplied integer arithmetic) holds for EVERY completion of the outstanding votes — after
  expiry: for the recorded ballots themselves;
* Rejected only if the proposal has expired and the recorded ballots fail the rule, or it has not
  expired and no completion of the outstanding votes satisfies it;
* Open otherwise, and only before expiry.
(Stored Passed / Rejected / Executed are reported as stored: `status_eq_outcome`; they are justified by
`passed_justified` / `rejected_justified`.) -/
theorem status_eq_exact_outcome {fuel : Nat} {w : World} (hr : Reachable fuel w) {id : Nat} {p : Proposal}
    (hp : w.ms.core.proposals.get? id = some p) (ho : p.status = .open) (h9 : C04.nineDecimals p.threshold) (blk : Block) :
    ∃ st, (Cw3Fixed.queryProposal w.ms blk id).map (·.status) = .ok st ∧
      (st = .passed ↔ 0 < sumK .yes (ballotsOf w.ms.core id) ∧
        CertainBy C04.exactPasses p.threshold p.totalWeight (tallyOf (ballotsOf w.ms.core id)) (p.expires.isExpired blk)) ∧
      (st = .rejected →
        HopelessBy C04.exactPasses p.threshold p.totalWeight (tallyOf (ballotsOf w.ms.core id)) (p.expires.isExpired blk)) ∧
      (st = .open → p.expires.isExpired blk = false) ∧
      (st = .open ∨ st = .passed ∨ st = .rejected) := by
  rw [status_eq_outcome hr hp, if_pos ho]
  exact exact_outcome9 (t := ballotTally p (ballotsOf w.ms.core id)) rfl (premise_ballotTally hr hp) h9 blk

/-- The same for thresholds with up to 18 digits, where the library floors once before it takes the
ceiling: the reported status is never stricter than the exact rule and at most one vote more
permissive — exact-certain ⇒ Passed ⇒ certain with one vote of slack on each percentage requirement
(`C04.laxPasses`); a reported Rejected still excludes, in exact arithmetic, the recorded ballots (after
expiry) resp. every completion (before). -/
theorem status_exact_outcome_within_one {fuel : Nat} {w : World} (hr : Reachable fuel w) {id : Nat} {p : Proposal}
    (hp : w.ms.core.proposals.get? id = some p) (ho : p.status = .open) (blk : Block) :
    ∃ st, (Cw3Fixed.queryProposal w.ms blk id).map (·.status) = .ok st ∧
      (CertainBy C04.exactPasses p.threshold p.totalWeight (tallyOf (ballotsOf w.ms.core id)) (p.expires.isExpired blk) →
        st = .passed) ∧
      (st = .passed → 0 < sumK .yes (ballotsOf w.ms.core id) ∧
        CertainBy C04.laxPasses p.threshold p.totalWeight (tallyOf (ballotsOf w.ms.core id)) (p.expires.isExpired blk)) ∧
      (st = .rejected →
        HopelessBy C04.exactPasses p.threshold p.totalWeight (tallyOf (ballotsOf w.ms.core id)) (p.expires.isExpired blk)) ∧
      (st = .open → p.expires.isExpired blk = false) ∧
      (st = .open ∨ st = .passed ∨ st = .rejected) := by
  rw [status_eq_outcome hr hp, if_pos ho]
  exact exact_outcome18 (t := ballotTally p (ballotsOf w.ms.core id)) rfl (premise_ballotTally hr hp) blk

/-! ## a stored Passed / Rejected is justified by the recorded ballots — when stored and at every later block

Passed and Rejected are sticky in storage, and ballots may still be added to such a proposal until it expires.  The
following shows that the sticky status never disagrees with the ballots: on every history whose blocks never go back the
library decision on the tally recomputed from the *current* ballots is the stored one at the current and at every later
block (`Cw3Core.DecidedOk`, which rests on C04's stability theorems `passed_stable` / `rejected_stable`). -/

/-- `votes_needed` is monotone in the weight (for weights in `u64` and percentages ≤ 1). -/
theorem vn_mono {w w' p : Nat} (h : w ≤ w') (hw : w' ≤ U64_MAX) (hp : p ≤ DEC_ONE) :
    votesNeeded w p ≤ votesNeeded w' p :=
  C04.vn_mono hp hw h

/-- On histories whose blocks never go back every stored Passed / Rejected is backed by the recorded
tally at the block of the last operation and at every later block (`Cw3Core.DecidedOk`). -/
theorem reachableAt_decided {fuel : Nat} {w : World} {b : Block} (h : ReachableAt fuel w b) :
    Inv w.ms ∧ AllP (fun _ p => DecidedOk b p) w.ms.core := by
  refine reachableAt_inv (fun b s => Inv s ∧ AllP (fun _ p => DecidedOk b p) s.core) ?_ ?_ ?_ h
  · intro b b2 s hb ⟨hi, ha⟩
    exact ⟨hi, fun id p hp => decidedOk_mono hb (ha id p hp)⟩
  · intro b s snd m s' out ⟨hi, ha⟩ he
    exact ⟨execute_inv hi he, allP_step hi.wf (fun _ _ _ hold hs => decidedOk_step hold hs) ha (execute_coreStep he)⟩
  · intro m s b hi
    exact ⟨instantiate_inv hi, by rw [instantiate_core hi]; exact allP_empty _⟩

/-- C03 "Passed exactly when the Yes weight is … certain to satisfy the rule", sticky case: on every
history whose blocks never go back, for a proposal stored Passed the outcome implied by its
*currently recorded* ballots is Passed — at the block of the last operation and at every later
block (so later votes on a Passed proposal and the passage of time never contradict the stored status). -/
theorem passed_justified {fuel : Nat} {w : World} {b : Block} (hr : ReachableAt fuel w b) {id : Nat} {p : Proposal}
    (hp : w.ms.core.proposals.get? id = some p) (hs : p.status = .passed) {b' : Block} (hb : blockLe b b') :
    Outcome p (ballotsOf w.ms.core id) b' = .ok .passed := by
  obtain ⟨hi, ha⟩ := reachableAt_decided hr
  unfold Outcome
  rw [ballotTally_eq_openT (hi.wf.tally id p hp)]
  exact cs_passed_of_isPassed rfl ((ha id p hp (premise_of_inv hi hp)).1 hs b' hb)

/-- C03 "no proposal ever becomes executable … with a Yes share below its threshold": on every
history whose blocks never go back, whenever Execute succeeds (at the block of the last operation or
later, by anybody) the outcome implied by the recorded ballots at that block is Passed. -/
theorem executable_implies_outcome_passed {fuel : Nat} {w : World} {b : Block} (hr : ReachableAt fuel w b)
    {b' : Block} (hb : blockLe b b') {snd : Addr} {id : Nat}
    (h : (execute w.ms b' snd (.execute id)).isOk = true) :
    ∃ p, w.ms.core.proposals.get? id = some p ∧ Outcome p (ballotsOf w.ms.core id) b' = .ok .passed := by
  obtain ⟨p, hp, hs | ⟨_, hout⟩⟩ := (execute_admits_iff_outcome hr.reachable b' snd id).mp h
  · exact ⟨p, hp, passed_justified hr hp hs hb⟩
  · exact ⟨p, hp, hout⟩

/-- C03 "Rejected only when it expired without passing or can no longer pass", sticky case (mirror of
`passed_justified`): on every history whose blocks never go back, for a proposal stored Rejected the
outcome implied by its *currently recorded* ballots is Rejected at the block of the last operation and
at every later block `b'` — so the ballots added to a Rejected proposal before it expires and the
passage of time never contradict the stored status — and at each such block either the proposal has
expired and the recorded ballots fail the rule, or it has not and no completion of the outstanding
votes can pass (`C04.rejected_sound`); both against the library's rule and against the exact rule. -/
theorem rejected_justified {fuel : Nat} {w : World} {b : Block} (hr : ReachableAt fuel w b) {id : Nat} {p : Proposal}
    (hp : w.ms.core.proposals.get? id = some p) (hs : p.status = .rejected) {b' : Block} (hb : blockLe b b') :
    Outcome p (ballotsOf w.ms.core id) b' = .ok .rejected ∧
    HopelessBy C04.libPasses p.threshold p.totalWeight (tallyOf (ballotsOf w.ms.core id)) (p.expires.isExpired b') ∧
    HopelessBy C04.exactPasses p.threshold p.totalWeight (tallyOf (ballotsOf w.ms.core id)) (p.expires.isExpired b') := by
  obtain ⟨hi, ha⟩ := reachableAt_decided hr
  have hout : Outcome p (ballotsOf w.ms.core id) b' = .ok .rejected := by
    unfold Outcome
    rw [ballotTally_eq_openT (hi.wf.tally id p hp)]
    exact (ha id p hp (premise_of_inv hi hp)).2 hs b' hb
  exact ⟨hout, rejected_hopeless (t := ballotTally p (ballotsOf w.ms.core id)) rfl (premise_ballotTally hr.reachable hp) hout⟩

/-- … and at the moment it is stored: whenever a handler call (Propose, Vote or Close, top-level or
re-entrant) at block `b` leaves a proposal stored Rejected that was not stored Rejected before, then at
`b` either the proposal has expired and its tally fails the rule, or no completion of the then
outstanding votes can pass. -/
theorem rejected_when_stored {s s' : State} {b : Block} {snd : Addr} {m : ExecMsg} {out : List Msg} (hi : Inv s)
    (h : execute s b snd m = .ok (s', out)) {id : Nat} {p' : Proposal} (hp' : s'.core.proposals.get? id = some p')
    (hs : p'.status = .rejected) (hnew : ∀ p, s.core.proposals.get? id = some p → p.status ≠ .rejected) :
    HopelessBy C04.libPasses p'.threshold p'.totalWeight p'.votes (p'.expires.isExpired b) ∧
    HopelessBy C04.exactPasses p'.threshold p'.totalWeight p'.votes (p'.expires.isExpired b) := by
  have hst := propStep_stores_rejected (coreStep_prop hi.wf (execute_coreStep h) hp') hs hnew
  exact rejected_hopeless (t := openT p') rfl (premise_of_inv (execute_inv hi h) hp') hst

/-! ## Execute succeeds ⇒ the Yes share meets the threshold in exact arithmetic -/

/-- What an `Outcome` of Passed means in exact arithmetic, inside the premise of C04: positive Yes weight, the
documented rule certain with at most one vote of slack (18-digit thresholds), and certain exactly for thresholds with at
most 9 decimals. -/
theorem outcome_passed_exact {p : Proposal} {bs : AMap Addr Ballot} {blk : Block}
    (hprem : C04.Premise (ballotTally p bs)) (h : Outcome p bs blk = .ok .passed) :
    0 < sumK .yes bs ∧
    CertainBy C04.laxPasses p.threshold p.totalWeight (tallyOf bs) (p.expires.isExpired blk) ∧
    (C04.nineDecimals p.threshold →
      CertainBy C04.exactPasses p.threshold p.totalWeight (tallyOf bs) (p.expires.isExpired blk)) := by
  have hp : Cw3.isPassed (ballotTally p bs) blk = .ok true := C04.isPassed_of_status_passed hprem rfl h
  exact ⟨C04.passed_needs_yes hp, (isPassed_certain18 hprem blk).2 hp,
    fun h9 => (isPassed_iff_certain9 (t := ballotTally p bs) hprem h9 blk).mp hp⟩

/-- **C03 "never executable with a Yes share below its threshold", exact arithmetic** (clause g, composition of
`executable_implies_outcome_passed` with C04).  On every history whose blocks never go back, whenever Execute succeeds
(at the block of the last operation or later, by anybody): the recorded Yes weight is positive and the configured
count / percentage / quorum rule holds for the recorded ballots in exact cross-multiplied integer arithmetic — for
every completion of the outstanding votes before expiry, for the recorded ballots themselves after — exactly for
thresholds with at most 9 decimals, and with at most one vote of slack (`C04.laxPasses`) for 18-digit decimals. -/
theorem execute_ok_implies_exact_threshold {fuel : Nat} {w : World} {b : Block} (hr : ReachableAt fuel w b)
    {b' : Block} (hb : blockLe b b') {snd : Addr} {id : Nat}
    (h : (execute w.ms b' snd (.execute id)).isOk = true) :
    ∃ p, w.ms.core.proposals.get? id = some p ∧ 0 < sumK .yes (ballotsOf w.ms.core id) ∧
      CertainBy C04.laxPasses p.threshold p.totalWeight (tallyOf (ballotsOf w.ms.core id)) (p.expires.isExpired b') ∧
      (C04.nineDecimals p.threshold →
        CertainBy C04.exactPasses p.threshold p.totalWeight (tallyOf (ballotsOf w.ms.core id)) (p.expires.isExpired b')) := by
  obtain ⟨p, hp, hout⟩ := executable_implies_outcome_passed hr hb h
  exact ⟨p, hp, outcome_passed_exact (premise_ballotTally hr.reachable hp) hout⟩

/-- The same for a stored Passed (`passed_justified` read in exact arithmetic): the sticky status is backed by the
exact rule on the currently recorded ballots at the block of the last operation and at every later block. -/
theorem passed_justified_exact {fuel : Nat} {w : World} {b : Block} (hr : ReachableAt fuel w b) {id : Nat} {p : Proposal}
    (hp : w.ms.core.proposals.get? id = some p) (hs : p.status = .passed) {b' : Block} (hb : blockLe b b') :
    0 < sumK .yes (ballotsOf w.ms.core id) ∧
    CertainBy C04.laxPasses p.threshold p.totalWeight (tallyOf (ballotsOf w.ms.core id)) (p.expires.isExpired b') ∧
    (C04.nineDecimals p.threshold →
      CertainBy C04.exactPasses p.threshold p.totalWeight (tallyOf (ballotsOf w.ms.core id)) (p.expires.isExpired b')) :=
  outcome_passed_exact (premise_ballotTally hr.reachable hp) (passed_justified hr hp hs hb)

/-- voters a:1, b:1, z:0; 51 % of the (non-abstaining) total -/
def exInst : InstMsg :=
  { voters := [(⟨true, "a"⟩, 1), (⟨true, "b"⟩, 1), (⟨true, "z"⟩, 0)],
    threshold := .absolutePercentage 510000000000000000, maxVotingPeriod := .height 10 }
def exState : State := match instantiate exInst with | .ok s => s | .error _ => default
def exBlk : Block := ⟨100, 1000⟩
def exWorld : World := World.init exState "ms" [] true
/-- the zero-weight member proposes, everybody else abstains -/
def exOps : List Op :=
  [⟨exBlk, .exec "z" (.propose "t" "d" [] none)⟩, ⟨exBlk, .exec "a" (.vote 1 .abstain)⟩, ⟨exBlk, .exec "b" (.vote 1 .abstain)⟩]

example : instantiate exInst = .ok exState := rfl
/-- all abstain ⇒ not Passed: Open until expiry, Rejected afterwards; Execute is refused -/
example : (match Cw3Fixed.queryProposal (run 10 exWorld exOps).ms exBlk 1 with
    | .ok v => v.status | .error _ => .pending) = .open := by decide +kernel
example : (match Cw3Fixed.queryProposal (run 10 exWorld exOps).ms ⟨110, 1000⟩ 1 with
    | .ok v => v.status | .error _ => .pending) = .rejected := by decide +kernel
example : (execute (run 10 exWorld exOps).ms ⟨110, 1000⟩ "a" (.execute 1)).isOk = false := by decide +kernel
/-- with a yes vote instead the proposal passes and is executable -/
example : (execute (run 10 exWorld (exOps.take 2 ++ [⟨exBlk, .exec "b" (.vote 1 .yes)⟩])).ms exBlk "x" (.execute 1)).isOk = true := by decide +kernel

/-- a history with non-decreasing blocks in which proposal 1 is stored Passed (a:1 yes, b:1 yes on 51 %) -/
def exPassOps : List Op :=
  [⟨exBlk, .exec "a" (.propose "t" "d" [] none)⟩, ⟨⟨101, 1005⟩, .exec "b" (.vote 1 .yes)⟩]
example : ReachableAt 10 (run 10 exWorld exPassOps) ⟨101, 1005⟩ :=
  ReachableAt.run exPassOps (ReachableAt.init (m := exInst) "ms" [] true exBlk rfl) (by decide +kernel)
example : ((run 10 exWorld exPassOps).ms.core.proposals.get? 1).map (·.status) = some .passed := by decide +kernel

/-! ### non-vacuity of the exact-rule and Rejected statements -/

/-- voters a:3, b:3, c:2, d:1 (total 9); quorum 40 %, threshold 60 % (both 9-decimal) -/
def exqInst : InstMsg :=
  { voters := [(⟨true, "a"⟩, 3), (⟨true, "b"⟩, 3), (⟨true, "c"⟩, 2), (⟨true, "d"⟩, 1)],
    threshold := .thresholdQuorum 600000000000000000 400000000000000000, maxVotingPeriod := .height 10 }
def exqState : State := match instantiate exqInst with | .ok s => s | .error _ => default
def exqWorld : World := World.init exqState "ms" [] true
/-- a proposes (3 yes), c votes no (2): 5 of 9 cast; proposal 2: a proposes, b and c vote no, then d yes -/
def exqOps : List Op :=
  [⟨exBlk, .exec "a" (.propose "t" "d" [] none)⟩, ⟨exBlk, .exec "c" (.vote 1 .no)⟩,
   ⟨⟨101, 1005⟩, .exec "a" (.propose "t2" "d" [] none)⟩, ⟨⟨101, 1005⟩, .exec "b" (.vote 2 .no)⟩,
   ⟨⟨102, 1010⟩, .exec "c" (.vote 2 .no)⟩, ⟨⟨102, 1010⟩, .exec "d" (.vote 2 .yes)⟩]

example : instantiate exqInst = .ok exqState := rfl
example : C04.nineDecimals exqInst.threshold := ⟨⟨600000000, by decide +kernel⟩, ⟨400000000, by decide +kernel⟩⟩
example : Reachable 10 (run 10 exqWorld exqOps) := ⟨exqInst, exqState, "ms", [], true, exqOps, rfl, rfl⟩
/-- proposal 1 is stored Open with ballots 3 yes / 2 no: reported Open while voting (b:3 + d:1 could
still vote no: 3/9 < 60 %), Passed once expired (3/5 = 60 % of the opinions cast, 5/9 ≥ 40 % quorum) -/
example : ((run 10 exqWorld exqOps).ms.core.proposals.get? 1).map (fun p => (p.status, p.votes)) = some (.open, ⟨3, 2, 0, 0⟩) ∧
    ((Cw3Fixed.queryProposal (run 10 exqWorld exqOps).ms ⟨102, 1010⟩ 1).toOption.map (·.status)) = some .open ∧
    ((Cw3Fixed.queryProposal (run 10 exqWorld exqOps).ms ⟨110, 1010⟩ 1).toOption.map (·.status)) = some .passed ∧
    C04.exactPasses exqInst.threshold 9 ⟨3, 2, 0, 0⟩ = true ∧
    C04.exactPasses exqInst.threshold 9 (C04.plus ⟨3, 2, 0, 0⟩ ⟨0, 4, 0, 0⟩) = false := by decide +kernel

/-- the history as a history with non-decreasing blocks -/
theorem exq_reachableAt : ReachableAt 10 (run 10 exqWorld exqOps) ⟨102, 1010⟩ :=
  ReachableAt.run exqOps (ReachableAt.init (m := exqInst) "ms" [] true exBlk rfl) (by decide +kernel)

/-- proposal 2 was voted down early by c (3 yes / 5 no of 9: even d's yes cannot reach 60 %), is stored
Rejected, and d's later Yes ballot is recorded without changing that -/
example : ((run 10 exqWorld exqOps).ms.core.proposals.get? 2).map (fun p => (p.status, p.votes)) = some (.rejected, ⟨4, 5, 0, 0⟩) := by
  decide +kernel

/-- non-vacuity of `rejected_when_stored`: c's No (the fifth operation, block 102) is the call that stores
proposal 2 as Rejected — Open before, Rejected after, not yet expired: no completion can pass -/
example :
    let s := (run 10 exqWorld (exqOps.take 4)).ms
    ((s.core.proposals.get? 2).map (·.status)) = some .open ∧
    ((execute s ⟨102, 1010⟩ "c" (.vote 2 .no)).toOption.map fun r => (r.1.core.proposals.get? 2).map (·.status))
      = some (some .rejected) ∧
    (Expiration.atHeight 111).isExpired ⟨102, 1010⟩ = false ∧
    C04.libPasses exqInst.threshold 9 (C04.plus ⟨3, 5, 0, 0⟩ ⟨1, 0, 0, 0⟩) = false := by
  decide +kernel

/-- non-vacuity of `execute_ok_implies_exact_threshold` / `passed_justified_exact`: in the `ReachableAt` world of
`exPassOps` (a:1 yes, b:1 yes on 51 %, stored Passed) Execute succeeds at a later block -/
example : (execute (run 10 exWorld exPassOps).ms ⟨105, 1005⟩ "x" (.execute 1)).isOk = true ∧
    blockLe ⟨101, 1005⟩ ⟨105, 1005⟩ ∧ C04.nineDecimals exInst.threshold :=
  ⟨by decide +kernel, ⟨by decide +kernel, by decide +kernel⟩, ⟨510000000, by decide +kernel⟩⟩

/-- non-vacuity of the `…_inv` forms: the state of `exqOps` satisfies `Inv` and `YesInv`, proposal 1 is admitted for
Execute after expiry and not for Close -/
example : Inv (run 10 exqWorld exqOps).ms ∧ YesInv (run 10 exqWorld exqOps).ms ∧
    (execute (run 10 exqWorld exqOps).ms ⟨110, 1010⟩ "x" (.execute 1)).isOk = true ∧
    (execute (run 10 exqWorld exqOps).ms ⟨110, 1010⟩ "x" (.close 1)).isOk = false :=
  ⟨reachable_inv exq_reachableAt.reachable, reachable_yes exq_reachableAt.reachable, by decide +kernel, by decide +kernel⟩

/-- non-vacuity of `listed_status_eq_outcome`: in the reachable world of `exqOps` the listing answers (inside `Inv` no
listed proposal can fail to have a status: C04 `no_panic`) -/
example : ∃ vs, Cw3Fixed.listProposals (run 10 exqWorld exqOps).ms ⟨110, 1010⟩ none none = .ok vs := by
  have hr := exq_reachableAt.reachable
  refine ⟨_, viewAll_eq_map (fun x hx => ?_)⟩
  have hm : x ∈ (run 10 exqWorld exqOps).ms.core.proposals :=
    Paginate.mem_sortedEntries.mp ((Paginate.page_sublist _ _ _ _).subset hx)
  have hp := (AMap.get?_eq_some_iff (Cw3Fixed.reachable_nodup hr)).mpr hm
  have hprem := premise_of_inv (reachable_inv hr) hp
  exact (C04.no_panic (p := x.2.tally) ⟨hprem.tally_le, hprem.total_u64, hprem.valid⟩ _).2.2

end CwPlus.Props.C03
