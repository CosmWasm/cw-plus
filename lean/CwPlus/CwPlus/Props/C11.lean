import CwPlus.Lemmas.Ics20
import CwPlus.Lemmas.Ics20Migrate
import CwPlus.Lemmas.Ics20Env
import CwPlus.Lemmas.Ics20TotalSent
import CwPlus.Lemmas.Ics20Ledger
/-!
# C11 — cw20-ics20: escrow always covers outstanding vouchers, channel by channel

Histories as in C12 (`runG` with ghosts, `run` without): transfers, incoming packets with arbitrary
fields, acknowledgements / timeouts, governance, migrations; every payout / refund sub-call may fail.

## Environment assumptions (`structure EnvAssumptions`, Lemmas/Ics20Env.lean)

* **E1 `hook_only_from_send`** — a real cw20 token contract calls `ExecuteMsg::Receive` only from its own
  `Send`, after crediting the contract; a direct `Receive` never has a real token as sender.
* **E2 `never_calls_itself`** — the ics20 contract is never the sender of a transfer (it emits no
  message to itself).
* **E3 `native_not_cw20`** — no native denomination has the form `cw20:…` (so the string storage key
  of a native coin never collides with that of a cw20 token; the model keys the books structurally).

The model's `World.exec` refuses transactions violating E1 / E2 (tags `impossible.token`,
`impossible.self`), so theorems over `run` / `runG` speak about such histories only as no-ops.  The
`…_explicit_env` theorems below restate the headline results over the *unguarded* semantics `runRaw` /
`runGRaw` (same handlers and runtime, no such checks) with `EnvAssumptions` as an explicit hypothesis;
`solvency_needs_hook_only_from_send` and `solvency_needs_never_calls_itself` show that solvency really
fails without E1 resp. E2.  E3 is used by C12 `storage_keys_faithful`; solvency is stated per
structural denomination (a bank denomination or a cw20 contract), which is what the holdings are.
Further standing assumptions of the model (IBC core delivers at most one acknowledgement / timeout per
sent packet — `admissible`; runtime dispatch semantics) are listed in `props/C11.json`.
`channel_ledger_all_histories`, `channel_ledger_fresh`, `nontoken_never_pays` and `conservation` do not use
`admissible` (they are over `runU` / `run`: every op of the history is executed).
-/
namespace CwPlus.Props.C11
open CwPlus CwPlus.Ics20

/-- The ledger identity and the payout bound, read off the accounting invariant. -/
theorem ledger_of_inv {wg : World × Ghost} (h : LedgerInv wg) (c : String) (d : Denom) :
    outstanding wg.1.st c d + wg.2.paidOut (c, d) + wg.2.swallowed (c, d) = wg.2.sent (c, d) ∧
    wg.2.paidOut (c, d) ≤ wg.2.sent (c, d) := by
  have h1 := h.1 (c, d); have h2 := h.2 (c, d)
  rw [outstanding_eq]; omega

/-- **C11, channel_ledger**: per channel and denomination, what was escrowed by transfers is either
still outstanding, or left the contract (redemptions and refunds that went out), or sits in escrow as a
refund that was swallowed by a failing refund sub-call:
`outstanding + paidOut + swallowed = escrowed`. -/
theorem channel_ledger (w : World) (ops : List (Block × Op)) (c : String) (d : Denom) :
    outstanding (runG (w, Ghost.init w) ops).1.st c d + (runG (w, Ghost.init w) ops).2.paidOut (c, d)
      + (runG (w, Ghost.init w) ops).2.swallowed (c, d) = (runG (w, Ghost.init w) ops).2.sent (c, d) :=
  (ledger_of_inv (runG_ledger ops (ledgerInv_init w)) c d).1

/-- **C11, paidOut ≤ escrowed**: the tokens paid out on a channel for a denomination (redemptions plus
refunds) never exceed the tokens escrowed by transfers on that same channel and denomination. -/
theorem paidOut_le_escrowed (w : World) (ops : List (Block × Op)) (c : String) (d : Denom) :
    (runG (w, Ghost.init w) ops).2.paidOut (c, d) ≤ (runG (w, Ghost.init w) ops).2.sent (c, d) :=
  (ledger_of_inv (runG_ledger ops (ledgerInv_init w)) c d).2

/-- **C11, channel_ledger / paidOut ≤ escrowed with packets in flight at the start**: the same for a start
state that already has packets in flight (`fl`: sent by an earlier history, e.g. under the old code before
a migration; `admissible` lets one acknowledgement or timeout through for each): what a migration books
as outstanding counts as escrowed, and refunds of those packets are covered too. -/
theorem channel_ledger_inflight (w : World) (fl : List (String × Packet)) (ops : List (Block × Op)) (c : String) (d : Denom) :
    outstanding (runG (w, Ghost.initWith w fl) ops).1.st c d + (runG (w, Ghost.initWith w fl) ops).2.paidOut (c, d)
      + (runG (w, Ghost.initWith w fl) ops).2.swallowed (c, d) = (runG (w, Ghost.initWith w fl) ops).2.sent (c, d) ∧
    (runG (w, Ghost.initWith w fl) ops).2.paidOut (c, d) ≤ (runG (w, Ghost.initWith w fl) ops).2.sent (c, d) :=
  ledger_of_inv (runG_ledger ops (ledgerInv_initWith w fl)) c d

/-! ## Solvency -/

/-- Histories without ghosts. -/
def run (w : World) (ops : List (Block × Op)) : World := ops.foldl (fun w o => w.step o.1 o.2) w

/-- For every denomination that exists (native, or a real cw20 token) the contract's actual holdings
cover the sum over channels of the outstanding balance it reports. -/
def Solvent (w : World) : Prop := ∀ d h, w.holdings d = some h → sumDenom w.st.chan d ≤ h

/-- The stored contract version is newer than 0.13.0 (so `migrate` does not run `v2::update_balances`):
`PostV3S w.st` of Lemmas/Ics20Ledger. -/
def PostV3 (w : World) : Prop := Version.lt MIGRATE_VERSION_3 w.st.version = true

/-- What the contract held before a payout is what it holds afterwards plus the amount, unless that went to the
contract itself; all other holdings stay (`Option.map`: a denomination that does not exist has no holdings before or
after). -/
theorem payout_holdings_eq {w w' : World} {sub : SubMsg} {tv f : Bool} (hp : w.payout sub tv f = some w') (x : Denom) :
    (w'.holdings x).map (· + if sub.denom = x ∧ sub.to ≠ w.self then sub.amount else 0) = w.holdings x := by
  have key : ∀ d, sub.denom = d →
      (w'.holdings x).map (· + if w.self = w.self ∧ d = x then sub.amount else 0) =
      (w.holdings x).map (· + if sub.to = w.self ∧ d = x then sub.amount else 0) →
      (w'.holdings x).map (· + if sub.denom = x ∧ sub.to ≠ w.self then sub.amount else 0) = w.holdings x := by
    intro d hd e
    subst hd
    by_cases hto : sub.to = w.self <;> by_cases hdx : sub.denom = x <;> simp [hto, hdx] at e ⊢
    -- the contract pays itself: the amount is added on both sides
    · exact Option.map_injective (fun _ _ => Nat.add_right_cancel) e
    all_goals exact e
  rcases payout_spec hp with ⟨dn, hd, hb⟩ | ⟨t, hd, _, hb⟩
  · exact key _ hd (bankSend_holdings hb x)
  · exact key _ hd (tokSend_holdings hb x)

theorem solvent_of_same {w w' : World} (e1 : w'.st.chan = w.st.chan) (e2 : w'.bank = w.bank) (e3 : w'.tok = w.tok)
    (e4 : w'.self = w.self) (e5 : w'.tokens = w.tokens) (hs : Solvent w) : Solvent w' := by
  intro d hh hd
  rw [e1]; apply hs d hh
  rw [← holdings_congr e2 e3 e4 e5 d]; exact hd

/-- Reducing the books by `amt` and then (possibly) paying `amt` out keeps the contract solvent. -/
theorem reduce_payout_solvent {w w' : World} {s1 : State} {c : String} {d : Denom} {amt : Nat} {sub : SubMsg}
    {tv f : Bool} (hs : Solvent w) (hred : reduceBalance w.st.chan c d amt = .ok s1.chan)
    (hden : sub.denom = d) (hamt : sub.amount = amt)
    (hp : ({ w with st := s1 } : World).payout sub tv f = some w' ∨ w' = { w with st := s1 }) : Solvent w' := by
  intro x hh hx
  have hsum := reduce_sum hred x
  rcases hp with hp | rfl
  · -- what `w` held of `x` is `hh` plus what was paid out: `amt` if `d = x` and it went to somebody else
    have e := payout_holdings_eq hp x
    simp only [hx, Option.map_some, holdings_st, hden, hamt] at e
    have := hs x _ e.symm
    rw [(payout_frame hp).1]
    show sumDenom s1.chan x ≤ hh
    by_cases hdx : d = x
    · rw [if_pos hdx] at hsum; split at this <;> omega
    · rw [if_neg hdx] at hsum; rw [if_neg (fun h => hdx h.1)] at this; omega
  · have := hs x hh ((holdings_st w s1 x).symm.trans hx)
    show sumDenom s1.chan x ≤ hh
    split at hsum <;> omega

/-- Every transaction keeps the contract solvent, provided a migration does. -/
theorem exec_solvent_of {w w' : World} {blk : Block} {op : Op} {o : Outcome} (hs : Solvent w)
    (h : w.exec blk op = .ok (w', o)) (hmig : ∀ g, op = .migrate g → Solvent w') : Solvent w' := by
  cases exec_tx h with
  | quiet s' hw hchan _ _ _ _ _ _ => subst hw; exact solvent_of_same hchan rfl rfl rfl rfl hs
  | migrate gas s' hop _ _ _ => exact hmig gas hop
  | escrow w1 out ch _ hinc _ _ _ hw _ hhold _ _ _ =>
    subst hw
    intro x hh hx
    rw [holdings_st, hhold x] at hx
    obtain ⟨v, h0, rfl⟩ := Option.map_eq_some_iff.mp hx
    have := hs x v h0
    show sumDenom ch x ≤ v + _
    rw [increase_sum hinc x]; omega
  | redeem p rv tv f d amt ch sub _ _ hred hsub hpay _ _ =>
    exact reduce_payout_solvent (s1 := { w.st with chan := ch, replyArgs := _ }) hs hred hsub.1 hsub.2.1 (Or.inl hpay)
  | refund chan p sv tv f ch sub _ hred hsub _ hpay _ =>
    exact reduce_payout_solvent (s1 := { w.st with chan := ch }) (sub := sub) (tv := sv) (f := f) hs hred hsub.1 hsub.2.1
      (hpay.imp (·.1) (·.1))
  | acked chan p sv tv f _ hw _ => subst hw; exact hs

theorem exec_solvent {w w' : World} {blk : Block} {op : Op} {o : Outcome}
    (hs : Solvent w) (hv : PostV3 w) (h : w.exec blk op = .ok (w', o)) : Solvent w' ∧ PostV3 w' := by
  refine ⟨exec_solvent_of hs h (fun g hop => ?_), exec_postV3S hv h⟩
  subst hop
  obtain ⟨s, hm, rfl, _⟩ := exec_migrate h
  exact solvent_of_same (migrate_chan_postV3S hv hm) rfl rfl rfl rfl hs

/-- **C11, solvency**: starting from a solvent state of a contract at a version newer than 0.13.0
(e.g. a fresh instantiation), on every history — any interleaving of transfers, incoming packets with
arbitrary fields, acknowledgements and timeouts, governance ops and migrations, with payout / refund
sub-calls failing arbitrarily — for every denomination the contract's actual holdings are at least the
sum over all channels of the outstanding balance it reports.  (The contract is funded only through
transfers: a real token calls the hook only from `Send`; the contract never calls itself — the
environment assumptions E1, E2 are built into `World.exec`; `solvency_explicit_env` has them as explicit
hypotheses.)  `solvency_with_migration` drops the version hypothesis. -/
theorem solvency (w : World) (ops : List (Block × Op)) (hs : Solvent w) (hv : PostV3 w) :
    Solvent (run w ops) ∧ PostV3 (run w ops) :=
  run_induction (P := fun w => Solvent w ∧ PostV3 w) (fun _ _ _ _ _ hI h => exec_solvent hI.1 hI.2 h) ops ⟨hs, hv⟩

/-- With empty books nothing is outstanding. -/
theorem solvent_of_no_books {w : World} (h : w.st.chan = []) : Solvent w := by
  intro d hh _
  rw [h]; exact Nat.zero_le hh

/-- A freshly instantiated contract is solvent (nothing outstanding) and at the current version. -/
theorem instantiate_solvent {m : InstMsg} {s : State} (h : instantiate m = .ok s) (w : World) :
    Solvent { w with st := s } ∧ PostV3 { w with st := s } :=
  ⟨solvent_of_no_books (instantiate_chan h), instantiate_postV3S h⟩

/-- Per channel: what one channel reports never exceeds the holdings either. -/
theorem channel_covered {w : World} (hs : Solvent w) (c : String) (d : Denom) (h : Nat) (hd : w.holdings d = some h) :
    outstanding w.st c d ≤ h := by
  have h1 : outAt w.st.chan (c, d) ≤ sumDenom w.st.chan d := outAt_le_sumDenom w.st.chan (c, d)
  have h2 := hs d h hd
  rw [outstanding_eq]; omega

/-! ## Solvency across migrations from a stored version ≤ 0.13.0 (`v2::update_balances`) -/

/-- After any successful `migrate` the stored cw2 version is newer than 0.13.0: `migrate` bumps an older
stored version to the current one (`set_contract_version` when `storage_version < version`) and refuses
a newer one.  So `v2::update_balances` runs at most once in the life of a contract. -/
theorem migrate_result_postV3 {s s' : State} {gas : Option Nat} {hold : Denom → Option Nat}
    (h : migrate s gas hold = .ok s') : Version.lt MIGRATE_VERSION_3 s'.version = true := by
  obtain ⟨_, _, _, _, _, rfl, _⟩ := migrate_ok h
  dsimp only
  split
  · exact postV3S_current
  · rename_i hlt
    have hm : 2 ≤ s.version.major := by
      unfold Version.lt CONTRACT_VERSION at hlt
      by_cases h2 : s.version.major = 2
      · omega
      · simp [h2] at hlt; omega
    unfold Version.lt MIGRATE_VERSION_3
    have : (0 : Nat) ≠ s.version.major := by omega
    simp [this]; omega

/-- **What a legacy start state is assumed to satisfy** (a contract deployed by a release ≤ 0.13.0, about
to be migrated).  Releases before 0.13.1 increased `outstanding` only when the success acknowledgement
of a transfer arrived, so such a contract has *booked no more than it holds*; `v2::update_balances` can
only attribute the surplus to a single channel. -/
structure LegacyStart (w : World) : Prop where
  /-- `CHANNEL_INFO` has at most one channel (with more, `v2::update_balances` refuses to migrate). -/
  one_channel : w.st.channels.length ≤ 1
  /-- Storage shape: distinct `CHANNEL_STATE` keys, each under a channel of `CHANNEL_INFO`. -/
  well_formed : WellFormed w.st
  /-- Under-booked: for every denomination that exists (native, or a real cw20 token) the contract's real
  holdings are at least the outstanding balance recorded under every channel. -/
  under_booked : ∀ c d h, w.holdings d = some h → outstanding w.st c d ≤ h

/-- A legacy start state is solvent (it has at most one channel, and that channel is under-booked). -/
theorem legacy_solvent {w : World} (hl : LegacyStart w) : Solvent w := by
  intro d h hd
  cases hc : w.st.channels with
  | nil => rw [sumDenom_no_channels hl.well_formed hc d]; omega
  | cons ch rest =>
    have hrest : rest = [] := by
      have := hl.one_channel; rw [hc] at this; simp at this; exact this
    subst hrest
    have hk : ∀ k ∈ AMap.keys w.st.chan, k.1 = ch := by
      intro k hk; have := hl.well_formed.2 k hk; rw [hc] at this; simpa using this
    rw [sumDenom_single hl.well_formed.1 hk d, ← outstanding_eq]
    exact hl.under_booked ch d h hd

/-- **C11, migrate_reconciles**: a successful `migrate` from a stored version ≤ 0.13.0 of a well-formed
one-channel contract: for every denomination with an entry on the channel the real holdings exist, were
at least the booked outstanding balance, and afterwards the sum over channels of the outstanding balance
*equals* the real holdings (which `migrate` does not move); denominations without an entry have sum 0. -/
theorem migrate_reconciles {w w' : World} {blk : Block} {g : Option Nat} {o : Outcome} {ch : String}
    (hwf : WellFormed w.st) (hv : Version.le w.st.version MIGRATE_VERSION_3 = true) (hch : w.st.channels = [ch])
    (h : w.exec blk (.migrate g) = .ok (w', o)) (d : Denom) :
    (∀ cs, w.st.chan.get? (ch, d) = some cs → ∃ bal, w.holdings d = some bal ∧ w'.holdings d = some bal ∧
        cs.outstanding ≤ bal ∧ sumDenom w'.st.chan d = bal ∧ outstanding w'.st ch d = bal) ∧
    (w.st.chan.get? (ch, d) = none → sumDenom w'.st.chan d = 0) := by
  obtain ⟨hm, e2, e3, e4, e5, _⟩ := exec_migrate_frame h
  have hh := holdings_congr e2 e3 e4 e5 d
  obtain ⟨r1, r2⟩ := updateDenoms_sum hch hwf (migrate_legacy_books hv hch hm) d
  refine ⟨?_, r2⟩
  intro cs hg
  obtain ⟨bal, hb, hle, hsum, hout⟩ := r1 cs hg
  exact ⟨bal, hb, by rw [hh]; exact hb, hle, hsum, by rw [outstanding_eq]; exact hout⟩

/-- **C11, migrate_preserves_solvency**: a successful `migrate` of a solvent, well-formed contract yields a
solvent contract, whatever the stored version: newer than 0.13.0 the books are untouched; from ≤ 0.13.0
(v1 → v2 → current or v2 → current) `v2::update_balances` succeeds only with at most one channel and
sets `outstanding := real holdings` for every entry of it (`migrate_reconciles`), so holdings = Σ
outstanding for the denominations of the channel.  (That the holdings were ≥ the booked amounts — the
`under_booked` clause of `LegacyStart` — is implied by the success of the migration: `balance −
outstanding` is a checked subtraction.) -/
theorem migrate_preserves_solvency {w w' : World} {blk : Block} {g : Option Nat} {o : Outcome}
    (hwf : WellFormed w.st) (hs : Solvent w) (h : w.exec blk (.migrate g) = .ok (w', o)) : Solvent w' := by
  obtain ⟨hm, e2, e3, e4, e5, _⟩ := exec_migrate_frame h
  rcases (migrate_books hm).2 with e1 | ⟨hv, ch, hch, _⟩
  · exact solvent_of_same e1 e2 e3 e4 e5 hs
  · intro d hh hd
    rw [holdings_congr e2 e3 e4 e5 d] at hd
    obtain ⟨r1, r2⟩ := migrate_reconciles hwf hv hch h d
    cases hg : w.st.chan.get? (ch, d) with
    | none => rw [r2 hg]; omega
    | some cs =>
      obtain ⟨bal, hb, _, _, hsum, _⟩ := r1 cs hg
      rw [hd] at hb; cases hb
      omega

/-- **C11, migrate_succeeds_from_legacy** (the hypotheses of `migrate_preserves_solvency` are met by every
legacy state — the migration is live): a legacy start state (`LegacyStart`) stored by this contract at a
version in `[0.11.1, 0.13.0]` with the storage layout of that version, whose booked denominations all
exist (else the balance query fails) and whose reconciled values fit `Uint128`, is migrated successfully,
and the result is solvent. -/
theorem migrate_succeeds_from_legacy {w : World} (hl : LegacyStart w) (blk : Block) (g : Option Nat)
    (hname : w.st.versionName = CONTRACT_NAME) (hmin : Version.lt w.st.version MIGRATE_MIN_VERSION = false)
    (hv3 : Version.le w.st.version MIGRATE_VERSION_3 = true)
    (hlayout : if Version.le w.st.version MIGRATE_VERSION_2 = true then w.st.v1gov.isSome = true else w.st.v1gov = none)
    (hexists : ∀ e ∈ w.st.chan, (w.holdings e.1.2).isSome = true)
    (hfit : ∀ e ∈ w.st.chan, ∀ bal, w.holdings e.1.2 = some bal →
      bal ≤ U128_MAX ∧ e.2.totalSent + (bal - e.2.outstanding) ≤ U128_MAX) :
    ∃ w' o, w.exec blk (.migrate g) = .ok (w', o) ∧ Solvent w' := by
  have hent : ∀ e ∈ w.st.chan, ∃ bal, w.holdings e.1.2 = some bal ∧ e.2.outstanding ≤ bal ∧ bal ≤ U128_MAX ∧
      e.2.totalSent + (bal - e.2.outstanding) ≤ U128_MAX := by
    intro e he
    obtain ⟨bal, hb⟩ := Option.isSome_iff_exists.mp (hexists e he)
    obtain ⟨h1, h2⟩ := hfit e he bal hb
    have hu := hl.under_booked e.1.1 e.1.2 bal hb
    have hg := (AMap.get?_eq_some_iff hl.well_formed.1).mpr he
    simp only [outstanding, hg] at hu
    exact ⟨bal, hb, hu, h1, h2⟩
  obtain ⟨s', hm⟩ := migrate_ok_of_legacy (gas := g) hname hmin hv3 hlayout hl.one_channel hent
  have hx : w.exec blk (.migrate g) = .ok ({ w with st := s' }, {}) := by
    simp [World.exec, hm, bind, Except.bind, pure, Except.pure]
  exact ⟨_, _, hx, migrate_preserves_solvency hl.well_formed (legacy_solvent hl) hx⟩

/-- Every transaction keeps a well-formed contract solvent — including `migrate` from any stored version. -/
theorem exec_solvent_wf {w w' : World} {blk : Block} {op : Op} {o : Outcome}
    (hs : Solvent w) (hwf : WellFormed w.st) (h : w.exec blk op = .ok (w', o)) : Solvent w' ∧ WellFormed w'.st := by
  exact ⟨exec_solvent_of hs h (fun g hop => migrate_preserves_solvency hwf hs (hop ▸ h)), exec_wellFormed hwf h⟩

/-- **C11, solvency_with_migration**: from *any* solvent, well-formed state — no assumption on the stored
version — on every history (transfers, incoming packets with arbitrary fields, acknowledgements and
timeouts, governance ops, channel handshakes and `migrate` calls *anywhere* in the history, payout /
refund sub-calls failing arbitrarily), for every denomination the contract's actual holdings are at least
the sum over all channels of the outstanding balance it reports.

About repeated migrations: `migrate` bumps an older stored version to the current one
(`migrate_result_postV3`), so the reconciliation of `v2::update_balances` runs in at most one successful
`migrate` of a history; while the stored version is still ≤ 0.13.0, `migrate` fails (a no-op) as soon as
two channels exist.  Neither fact is needed here: every successful `migrate` preserves solvency. -/
theorem solvency_with_migration (w : World) (ops : List (Block × Op)) (hs : Solvent w) (hwf : WellFormed w.st) :
    Solvent (run w ops) ∧ WellFormed (run w ops).st :=
  run_induction (P := fun w => Solvent w ∧ WellFormed w.st) (fun _ _ _ _ _ hI h => exec_solvent_wf hI.1 hI.2 h) ops
    ⟨hs, hwf⟩

/-- **C11, solvency_from_legacy**: solvency on every history that starts from a legacy state
(`LegacyStart`: stored version arbitrary, in particular ≤ 0.13.0; at most one channel; under-booked) and
contains `migrate` ops anywhere. -/
theorem solvency_from_legacy (w : World) (ops : List (Block × Op)) (hl : LegacyStart w) : Solvent (run w ops) :=
  (solvency_with_migration w ops (legacy_solvent hl) hl.well_formed).1

/-- A second successful `migrate` (the stored version is then newer than 0.13.0) leaves the books alone. -/
theorem second_migrate_keeps_books {s s' s'' : State} {g g' : Option Nat} {hold hold' : Denom → Option Nat}
    (h1 : migrate s g hold = .ok s') (h2 : migrate s' g' hold' = .ok s'') : s''.chan = s'.chan :=
  migrate_chan_postV3S (migrate_result_postV3 h1) h2

/-! ## The same results with the environment assumptions as explicit hypotheses -/

/-- **C11, solvency_explicit_env**: under the *unguarded* transaction semantics (any account, including
the contract itself and real token contracts, may send any transaction), on every history that satisfies
the environment assumptions E1–E3 (`EnvAssumptions`: a real token calls the receive hook only from `Send`;
the contract never calls itself; no native denomination starts with `cw20:`), from any solvent,
well-formed start state and with `migrate` anywhere: holdings ≥ Σ over channels of outstanding, for
every denomination. -/
theorem solvency_explicit_env (w : World) (ops : List (Block × Op))
    (henv : EnvAssumptions w.self w.tokens ops) (hs : Solvent w) (hwf : WellFormed w.st) :
    Solvent (runRaw w ops) := by
  rw [runRaw_eq_run w ops henv]
  exact (solvency_with_migration w ops hs hwf).1

/-- **C11, channel_ledger / paidOut ≤ escrowed with explicit environment**: the ledger identity and the
payout bound on the unguarded semantics, for histories satisfying `EnvAssumptions`. -/
theorem paidOut_le_escrowed_explicit_env (w : World) (ops : List (Block × Op))
    (henv : EnvAssumptions w.self w.tokens ops) (c : String) (d : Denom) :
    outstanding (runGRaw (w, Ghost.init w) ops).1.st c d + (runGRaw (w, Ghost.init w) ops).2.paidOut (c, d)
      + (runGRaw (w, Ghost.init w) ops).2.swallowed (c, d) = (runGRaw (w, Ghost.init w) ops).2.sent (c, d) ∧
    (runGRaw (w, Ghost.init w) ops).2.paidOut (c, d) ≤ (runGRaw (w, Ghost.init w) ops).2.sent (c, d) := by
  rw [runGRaw_eq_runG (w, Ghost.init w) ops henv]
  exact ⟨channel_ledger w ops c d, paidOut_le_escrowed w ops c d⟩

/-! ## Non-vacuity -/

def w0 : World :=
  { st := { config := ⟨3600, some 100000⟩, admin := some "gov", allow := [], channels := ["channel-0", "channel-1"],
            chan := [], versionName := CONTRACT_NAME, version := CONTRACT_VERSION },
    self := "ics20", tokens := ["T1"], faulty := ["T1"], bank := [(("alice", "uatom"), 100)], tok := [(("T1", "alice"), 100)] }

def b0 : Block := ⟨1, 1000⟩
def pkt (dest src : String) (d : Denom) (amt : Nat) : PacketIn :=
  ⟨"transfer", src, dest, some amt, some ("transfer", src, d), "alice", "remote-bob"⟩

example : Solvent w0 ∧ PostV3 w0 :=
  ⟨solvent_of_no_books rfl, postV3S_current⟩

/-- 60 uatom on channel-0, 30 on channel-1; redemption of 50 on channel-1 is refused (error ack), a
redemption on channel-0 whose payout fails is undone, a good one pays out; holdings = Σ outstanding -/
def hist : List (Block × Op) :=
  [(b0, .transferNative "alice" [("uatom", 60)] ⟨"channel-0", "bob", none, none⟩),
   (b0, .transferNative "alice" [("uatom", 30)] ⟨"channel-1", "bob", none, none⟩),
   (b0, .recv (pkt "channel-1" "channel-11" (.native "uatom") 50) true true false),
   (b0, .recv (pkt "channel-0" "channel-10" (.native "uatom") 50) true true true),
   (b0, .recv (pkt "channel-0" "channel-10" (.native "uatom") 45) true true false)]

example : (run w0 hist).holdings (.native "uatom") = some 45 := by decide +kernel
example : outstanding (run w0 hist).st "channel-0" (.native "uatom") = 15 := by decide +kernel
example : outstanding (run w0 hist).st "channel-1" (.native "uatom") = 30 := by decide +kernel
example : sumDenom (run w0 hist).st.chan (.native "uatom") = 45 := by decide +kernel
example : (runG (w0, Ghost.init w0) hist).2.paidOut ("channel-0", .native "uatom") = 45 := by decide +kernel
example : (runG (w0, Ghost.init w0) hist).2.sent ("channel-0", .native "uatom") = 60 := by decide +kernel


/-! ## The environment assumptions E1 and E2 are needed for solvency -/

/-- **E1 is needed**: under the unguarded semantics, a token contract that exists (`T1`) calling `Receive`
directly — claiming 50 tokens it never credited — is accepted, and the contract is insolvent afterwards:
it reports 50 `T1` outstanding and holds none. -/
theorem solvency_needs_hook_only_from_send :
    Solvent w0 ∧
    sumDenom (w0.stepRaw b0 (.hook "T1" [] ⟨true, "mallory"⟩ 50 (some ⟨"channel-0", "bob", none, none⟩))).st.chan (.cw20 "T1") = 50 ∧
    (w0.stepRaw b0 (.hook "T1" [] ⟨true, "mallory"⟩ 50 (some ⟨"channel-0", "bob", none, none⟩))).holdings (.cw20 "T1") = some 0 ∧
    (w0.step b0 (.hook "T1" [] ⟨true, "mallory"⟩ 50 (some ⟨"channel-0", "bob", none, none⟩))).st.chan = [] :=
  ⟨solvent_of_no_books rfl, by decide +kernel, by decide +kernel, by decide +kernel⟩

/-- **E2 is needed**: under the unguarded semantics, after alice escrowed 60 uatom, a transfer of 60 uatom
*sent by the contract itself* moves nothing (self → self) but books another 60: 120 outstanding, 60 held. -/
theorem solvency_needs_never_calls_itself :
    sumDenom ((w0.stepRaw b0 (.transferNative "alice" [("uatom", 60)] ⟨"channel-0", "bob", none, none⟩)).stepRaw b0
      (.transferNative "ics20" [("uatom", 60)] ⟨"channel-0", "bob", none, none⟩)).st.chan (.native "uatom") = 120 ∧
    ((w0.stepRaw b0 (.transferNative "alice" [("uatom", 60)] ⟨"channel-0", "bob", none, none⟩)).stepRaw b0
      (.transferNative "ics20" [("uatom", 60)] ⟨"channel-0", "bob", none, none⟩)).holdings (.native "uatom") = some 60 := by
  decide +kernel

/-- The environment assumptions hold of the demo history (nobody but alice sends; no direct hook call;
`uatom` does not start with `cw20:`), so `solvency_explicit_env` applies to it. -/
example : EnvAssumptions w0.self w0.tokens hist := by
  refine ⟨?_, ⟨?_, ?_⟩, ?_⟩
  · intro blk snd funds sender amt msg hm; simp [hist] at hm
  · intro blk snd funds msg hm
    simp [hist] at hm
    rcases hm with ⟨_, rfl, _⟩ | ⟨_, rfl, _⟩ <;> decide +kernel
  · intro blk snd token amt msg hm; simp [hist] at hm
  · intro blk snd funds msg hm f hf
    simp [hist] at hm
    rcases hm with ⟨_, _, rfl, _⟩ | ⟨_, _, rfl, _⟩ <;> (simp at hf; subst hf; exact nativeOk_of_take (by decide +kernel))
example : runRaw w0 hist = run w0 hist := rfl

/-! ## Non-vacuity: legacy start states and histories with migrations -/

/-- Executable form of the `under_booked` clause (entry by entry). -/
def underBookedB (w : World) : Bool :=
  w.st.chan.all (fun e => match w.holdings e.1.2 with | some h => decide (e.2.outstanding ≤ h) | none => true)

theorem under_booked_of_check {w : World} (hc : underBookedB w = true) :
    ∀ c d h, w.holdings d = some h → outstanding w.st c d ≤ h := by
  intro c d h hd
  unfold outstanding
  cases hg : w.st.chan.get? (c, d) with
  | none => simp
  | some cs =>
    have hm := AMap.get?_some_mem hg
    have := (List.all_eq_true.mp hc) _ hm
    simp only [hd] at this
    simpa using this

/-- A contract stored by release 0.13.0 (current storage layout): one channel; it booked 40 uatom and 10 T1
(acknowledged transfers) but holds 100 uatom and 10 T1 — 60 uatom are still in flight. -/
def wL : World :=
  { st := { config := ⟨3600, none⟩, admin := some "gov", allow := [("T1", none)], channels := ["channel-0"],
            chan := [(("channel-0", .native "uatom"), ⟨40, 40⟩), (("channel-0", .cw20 "T1"), ⟨10, 10⟩)],
            versionName := CONTRACT_NAME, version := ⟨0, 13, 0, none⟩ },
    self := "ics20", tokens := ["T1"], faulty := [], bank := [(("ics20", "uatom"), 100), (("alice", "uatom"), 7)],
    tok := [(("T1", "ics20"), 10)] }

/-- The same books stored by release 0.11.1 (pre-allow-list layout: `gov_contract` inside the config, no
`ADMIN` item). -/
def wL1 : World :=
  { wL with st := { wL.st with v1gov := some "gov", admin := none, allow := [], version := ⟨0, 11, 1, none⟩ } }

example : LegacyStart wL :=
  ⟨by decide +kernel, ⟨by unfold AMap.NodupKeys; decide, by decide +kernel⟩, under_booked_of_check (by decide +kernel)⟩
theorem legacyStart_wL1 : LegacyStart wL1 :=
  ⟨by decide +kernel, ⟨by unfold AMap.NodupKeys; decide, by decide +kernel⟩, under_booked_of_check (by decide +kernel)⟩
example : LegacyStart wL1 := legacyStart_wL1
example : ¬ PostV3 wL := by unfold PostV3; decide +kernel

/-- all hypotheses of `migrate_succeeds_from_legacy` hold of the 0.11.1 state `wL1` -/
example : ∃ w' o, wL1.exec b0 (.migrate none) = .ok (w', o) ∧ Solvent w' :=
  migrate_succeeds_from_legacy legacyStart_wL1 b0 none
    rfl (by decide +kernel) (by decide +kernel) (by decide +kernel) (by decide +kernel)
    (by
      intro e he bal hb
      have he' : e = (("channel-0", Denom.native "uatom"), ⟨40, 40⟩) ∨ e = (("channel-0", Denom.cw20 "T1"), ⟨10, 10⟩) := by
        simpa [wL1, wL] using he
      rcases he' with rfl | rfl
      · obtain rfl : bal = 100 := Option.some.inj (hb.symm.trans (by decide +kernel))
        decide +kernel
      · obtain rfl : bal = 10 := Option.some.inj (hb.symm.trans (by decide +kernel))
        decide +kernel)

/-- v2 → current: the 60 uatom in flight are booked; holdings = Σ outstanding. -/
example : outstanding (run wL [(b0, .migrate none)]).st "channel-0" (.native "uatom") = 100 ∧
    sumDenom (run wL [(b0, .migrate none)]).st.chan (.native "uatom") = 100 ∧
    (run wL [(b0, .migrate none)]).holdings (.native "uatom") = some 100 ∧
    (run wL [(b0, .migrate none)]).st.version = CONTRACT_VERSION := by decide +kernel
/-- v1 → v2 → current does the same and installs the admin. -/
example : outstanding (run wL1 [(b0, .migrate (some 7))]).st "channel-0" (.native "uatom") = 100 ∧
    (run wL1 [(b0, .migrate (some 7))]).st.admin = some "gov" ∧
    (run wL1 [(b0, .migrate (some 7))]).st.version = CONTRACT_VERSION := by decide +kernel

/-- A history with `migrate` in the middle and again at the end: transfer 5 (v2 layout accepts it), migrate
(books 60 in flight), redeem all 105, migrate again (books unchanged: version is current). -/
def histL : List (Block × Op) :=
  [(b0, .transferNative "alice" [("uatom", 5)] ⟨"channel-0", "bob", none, none⟩),
   (b0, .migrate none),
   (b0, .recv (pkt "channel-0" "channel-10" (.native "uatom") 105) true true false),
   (b0, .migrate (some 9))]

example : outstanding (run wL (histL.take 2)).st "channel-0" (.native "uatom") = 105 := by decide +kernel
example : (run wL histL).holdings (.native "uatom") = some 0 ∧
    sumDenom (run wL histL).st.chan (.native "uatom") = 0 ∧ (run wL histL).bankBal "alice" "uatom" = 107 := by decide +kernel

/-- With a second channel connected before the migration, `migrate` from 0.13.0 fails (a no-op): the
stored version stays 0.13.0 and the state stays (trivially) solvent. -/
example : (run wL [(b0, .connect "channel-1" ICS20_VERSION none false {}), (b0, .migrate none)]).st.version = ⟨0, 13, 0, none⟩ ∧
    ((wL.step b0 (.connect "channel-1" ICS20_VERSION none false {})).exec b0 (.migrate none)).tag = "multiplechannels" := by
  decide +kernel

/-! ## All histories (no `admissible` filter); "escrowed" without re-baselining

`runU` (Lemmas/Ics20Ledger.lean) carries the same ghosts as `runG` over *every* op of the history: a forged,
repeated or stale acknowledgement / timeout is executed like any other transaction.  Its world is the
plain history `run`. -/

/-- **C11, channel_ledger / paidOut ≤ escrowed on every history** (clause "tokens paid out on a channel
never exceed the tokens escrowed on it", without the IBC-core assumption `admissible`): the ghost history
over all ops has the plain history `run w ops` as its world, and on it, per channel and denomination,
`outstanding + paidOut + swallowed = escrowed` and `paidOut ≤ escrowed` — also when acknowledgements or
timeouts are forged, repeated, or name packets that were never sent. -/
theorem channel_ledger_all_histories (w : World) (ops : List (Block × Op)) (c : String) (d : Denom) :
    (runU (w, Ghost.init w) ops).1 = run w ops ∧
    outstanding (run w ops).st c d + (runU (w, Ghost.init w) ops).2.paidOut (c, d)
      + (runU (w, Ghost.init w) ops).2.swallowed (c, d) = (runU (w, Ghost.init w) ops).2.sent (c, d) ∧
    (runU (w, Ghost.init w) ops).2.paidOut (c, d) ≤ (runU (w, Ghost.init w) ops).2.sent (c, d) := by
  have e : (runU (w, Ghost.init w) ops).1 = run w ops := runU_fst (w, Ghost.init w) ops
  have h := ledger_of_inv (runU_ledger ops (ledgerInv_init w)) c d
  rw [e] at h
  exact ⟨e, h⟩

/-- **C11, a migration of a current-version contract does not re-baseline `escrowed`**: when the stored
version is newer than 0.13.0 and the ledger is consistent, the ghost step of `migrate` leaves `sent` — the
"escrowed" side of `channel_ledger` — exactly as it was (with and without the `admissible` filter). -/
theorem migrate_keeps_escrowed {w : World} {g : Ghost} (blk : Block) (gas : Option Nat)
    (hv : PostV3 w) (hi : LedgerInv (w, g)) :
    (stepG (w, g) blk (.migrate gas)).2.sent = g.sent ∧ (stepU (w, g) blk (.migrate gas)).2.sent = g.sent := by
  have key : (stepU (w, g) blk (.migrate gas)).2.sent = g.sent :=
    stepU_cases (P := fun wg => wg.2.sent = g.sent) blk (.migrate gas) rfl
      (fun _ _ hx => update_migrate_sent_postV3 hv hi hx)
  exact ⟨by rw [stepG_eq_stepU (by rfl)]; exact key, key⟩

/-- **C11, "escrowed" is the sum of the accepted transfers** (`channel_ledger` re-baselines `escrowed` at a
migration; a contract that does not come from a release ≤ 0.13.0 is never re-baselined): from a start state at a
stored version newer than 0.13.0, on every history — `migrate` ops anywhere — the `escrowed` side of the
ledger is what was outstanding at the start plus `sentOf`, the sum of the packet amounts of the accepted
transfers on that channel and denomination, read off the transaction outcomes. -/
theorem escrowed_is_sum_of_transfers (w : World) (ops : List (Block × Op)) (hv : PostV3 w) (c : String) (d : Denom) :
    (runU (w, Ghost.init w) ops).2.sent (c, d) = outstanding w.st c d + sentOf w ops (c, d) :=
  runU_sent_postV3 (wg := (w, Ghost.init w)) ops hv (ledgerInv_init w) (c, d)

/-- **C11, channel ledger of a freshly instantiated contract**: on every history after `instantiate`,
`outstanding + paidOut + swallowed = Σ accepted transfers` per channel and denomination, hence
`paidOut ≤ Σ accepted transfers`: nothing in the statement is defined through the books. -/
theorem channel_ledger_fresh {m : InstMsg} {s : State} (hi : instantiate m = .ok s) (w : World)
    (ops : List (Block × Op)) (c : String) (d : Denom) :
    outstanding (run { w with st := s } ops).st c d + (runU ({ w with st := s }, Ghost.init { w with st := s }) ops).2.paidOut (c, d)
      + (runU ({ w with st := s }, Ghost.init { w with st := s }) ops).2.swallowed (c, d) = sentOf { w with st := s } ops (c, d) ∧
    (runU ({ w with st := s }, Ghost.init { w with st := s }) ops).2.paidOut (c, d) ≤ sentOf { w with st := s } ops (c, d) := by
  obtain ⟨_, h1, h2⟩ := channel_ledger_all_histories { w with st := s } ops c d
  have h3 := escrowed_is_sum_of_transfers { w with st := s } ops (instantiate_postV3S hi) c d
  have h0 : outstanding s c d = 0 := by rw [outstanding_eq, instantiate_chan hi]; rfl
  simp only [h0] at h3
  omega

/-- **C11, solvency of a freshly instantiated contract** (`instantiate_solvent` composed with
`solvency_with_migration`): after an accepted `instantiate`, in any world (any balances, tokens, faults),
on every history with `migrate` ops anywhere, holdings ≥ Σ over channels of outstanding for every
denomination, and the storage stays well-formed. -/
theorem solvency_fresh {m : InstMsg} {s : State} (hi : instantiate m = .ok s) (w : World) (ops : List (Block × Op)) :
    Solvent (run { w with st := s } ops) ∧ WellFormed (run { w with st := s } ops).st :=
  solvency_with_migration { w with st := s } ops (instantiate_solvent hi w).1 (instantiate_wellFormed hi)

/-- A forged timeout (for a packet nobody sent) appended to the demo history: `runG` skips it, `runU`
executes it — the contract trusts IBC core and refunds 15 uatom to "mallory" — and the ledger identity
still holds: 60 paid out of 60 escrowed on channel-0. -/
def forged : Block × Op :=
  (b0, .timeout "channel-0" (some ⟨15, .native "uatom", "bob", "mallory", none⟩) true true false)

example : (runG (w0, Ghost.init w0) (hist ++ [forged])).1.bankBal "mallory" "uatom" = 0 ∧
    (run w0 (hist ++ [forged])).bankBal "mallory" "uatom" = 15 ∧
    outstanding (run w0 (hist ++ [forged])).st "channel-0" (.native "uatom") = 0 ∧
    (runU (w0, Ghost.init w0) (hist ++ [forged])).2.paidOut ("channel-0", .native "uatom") = 60 ∧
    (runU (w0, Ghost.init w0) (hist ++ [forged])).2.sent ("channel-0", .native "uatom") = 60 := by decide +kernel

/-- `sentOf` on the demo history: 60 and 30 uatom escrowed on the two channels; on the legacy history the
transfer of 5 before the migration. -/
example : sentOf w0 hist ("channel-0", .native "uatom") = 60 ∧ sentOf w0 hist ("channel-1", .native "uatom") = 30 ∧
    sentOf wL histL ("channel-0", .native "uatom") = 5 := by decide +kernel

/-- `PostV3` is needed in `escrowed_is_sum_of_transfers`: from the 0.13.0 state `wL` the migration books
the 60 uatom in flight, so `sent` (105) exceeds start + accepted transfers (40 + 5). -/
example : (runU (wL, Ghost.init wL) histL).2.sent ("channel-0", .native "uatom") = 105 ∧
    outstanding wL.st "channel-0" (.native "uatom") + sentOf wL histL ("channel-0", .native "uatom") = 45 := by decide +kernel

/-- a fresh instantiation to which `channel_ledger_fresh` / `solvency_fresh` apply -/
example : ∃ s, instantiate ⟨3600, ⟨true, "gov"⟩, [(⟨true, "T1"⟩, none)], some 100000⟩ = .ok s := ⟨_, rfl⟩

/-! ## Refunds: the ghosts `paidOut` / `swallowed` are real token movements -/

/-- What the balances look like after `amt` of denomination `d` moved from the contract to `to`
(`to ≠ self`): `to` has `amt` more, the contract `amt` less, every other balance of either kind is as
before. -/
def Moved (w w' : World) (d : Denom) (to : Addr) (amt : Nat) : Prop :=
  match d with
  | .native dn =>
    w'.bankBal to dn = w.bankBal to dn + amt ∧ w'.bankBal w.self dn + amt = w.bankBal w.self dn ∧
    (∀ a x, (a, x) ≠ (to, dn) → (a, x) ≠ (w.self, dn) → w'.bankBal a x = w.bankBal a x) ∧ w'.tok = w.tok
  | .cw20 t =>
    w'.tokBal t to = w.tokBal t to + amt ∧ w'.tokBal t w.self + amt = w.tokBal t w.self ∧
    (∀ t' a, (t', a) ≠ (t, to) → (t', a) ≠ (t, w.self) → w'.tokBal t' a = w.tokBal t' a) ∧ w'.bank = w.bank

/-- A payout that went through moved exactly its amount from the contract to its recipient. -/
theorem payout_moved {w w' : World} {sub : SubMsg} {tv f : Bool} (hp : w.payout sub tv f = some w')
    (hto : sub.to ≠ w.self) : Moved w w' sub.denom sub.to sub.amount := by
  rcases payout_spec hp with ⟨dn, hden, hb⟩ | ⟨t, hden, _, hb⟩
  · rw [hden]; exact (bankSend_moved hb (Ne.symm hto)).2
  · rw [hden]; exact (tokSend_moved hb (Ne.symm hto)).2

theorem refund_effects_core {w w' : World} {chan : String} {p : Packet} {tv sv f : Bool} {s1 : State} {sub : SubMsg}
    {oack : Option Ack} (hf : onPacketFailure w.st chan (some p) tv = .ok (s1, sub))
    (hc : (({ w with st := s1 } : World).payout sub sv f = some w' ∧ oack = none) ∨
          (({ w with st := s1 } : World).payout sub sv f = none ∧ w' = { w with st := s1 } ∧ oack = some .error))
    (hs : p.sender ≠ w.self) :
    outstanding w'.st chan p.denom + p.amount = outstanding w.st chan p.denom ∧
    (∀ k, k ≠ (chan, p.denom) → outAt w'.st.chan k = outAt w.st.chan k) ∧
    sub.to = p.sender ∧ sub.amount = p.amount ∧ sub.denom = p.denom ∧
    ((oack = none ∧ Moved w w' p.denom p.sender p.amount) ∨
     (oack = some .error ∧ w'.bank = w.bank ∧ w'.tok = w.tok)) := by
  obtain ⟨p', ch, hp', hred, rfl, hto, hsa, hsd, _⟩ := onPacketFailure_ok hf
  cases hp'
  obtain ⟨hle, ho⟩ := reduceBalance_outAt hred
  have hst : w'.st.chan = ch := by rw [refund_st hc]
  refine ⟨?_, ?_, hto, hsa, hsd, ?_⟩
  · rw [outstanding_eq, outstanding_eq, hst, ho, if_pos rfl]; omega
  · intro k hk; rw [hst, ho k, if_neg hk]
  · rcases hc with ⟨hp, ha⟩ | ⟨_, rfl, ha⟩
    · left
      refine ⟨ha, ?_⟩
      have := payout_moved hp (by rw [hto]; exact hs)
      rw [hsd, hto, hsa] at this
      exact this
    · exact Or.inr ⟨ha, rfl, rfl⟩

/-- **C11, refund_effects (timeout)** — ties the ghosts `paidOut` / `swallowed` of a refund to real
tokens (clause "tokens paid out … including when a refund sub-call fails"): a processed timeout of a
packet whose sender is not the contract itself reduces the channel balance of the packet's denomination
by exactly the packet's amount, touches no other key, and then either (`o.ack = none`, the case in which
`Ghost.failure` books the amount as `paidOut`) exactly that amount moved from the contract to the
packet's sender — every other bank and cw20 balance unchanged — or (`o.ack = some error`, booked as
`swallowed`) the refund sub-call failed and no bank or cw20 balance changed at all: the tokens stay in
escrow. -/
theorem refund_effects_timeout {w w' : World} {blk : Block} {chan : String} {p : Packet} {sv tv f : Bool} {o : Outcome}
    (h : w.exec blk (.timeout chan (some p) sv tv f) = .ok (w', o)) (hs : p.sender ≠ w.self) :
    outstanding w'.st chan p.denom + p.amount = outstanding w.st chan p.denom ∧
    (∀ k, k ≠ (chan, p.denom) → outAt w'.st.chan k = outAt w.st.chan k) ∧
    (∃ sub, o.sub = some sub ∧ sub.to = p.sender ∧ sub.amount = p.amount ∧ sub.denom = p.denom) ∧
    ((o.ack = none ∧ Moved w w' p.denom p.sender p.amount) ∨
     (o.ack = some .error ∧ w'.bank = w.bank ∧ w'.tok = w.tok)) := by
  obtain ⟨s1, sub, hf, hsub, hc⟩ := exec_timeout_cases h
  obtain ⟨h1, h2, h3, h4, h5, h6⟩ := refund_effects_core hf hc hs
  exact ⟨h1, h2, ⟨sub, hsub, h3, h4, h5⟩, h6⟩

/-- **C11, refund_effects (error acknowledgement)**: the same for a processed error acknowledgement. -/
theorem refund_effects_ack {w w' : World} {blk : Block} {chan : String} {p : Packet} {sv tv f : Bool} {o : Outcome}
    (h : w.exec blk (.ack chan (some p) (some false) sv tv f) = .ok (w', o)) (hs : p.sender ≠ w.self) :
    outstanding w'.st chan p.denom + p.amount = outstanding w.st chan p.denom ∧
    (∀ k, k ≠ (chan, p.denom) → outAt w'.st.chan k = outAt w.st.chan k) ∧
    (∃ sub, o.sub = some sub ∧ sub.to = p.sender ∧ sub.amount = p.amount ∧ sub.denom = p.denom) ∧
    ((o.ack = none ∧ Moved w w' p.denom p.sender p.amount) ∨
     (o.ack = some .error ∧ w'.bank = w.bank ∧ w'.tok = w.tok)) := by
  rcases exec_ack_ok h with ⟨e, _⟩ | ⟨_, s1, sub, hf, hsub, hc⟩
  · cases e
  · obtain ⟨h1, h2, h3, h4, h5, h6⟩ := refund_effects_core hf hc hs
    exact ⟨h1, h2, ⟨sub, hsub, h3, h4, h5⟩, h6⟩

/-- The ghost bookkeeping of a failure follows the acknowledgement exactly as `refund_effects_*` reads
it: `paidOut` grows by the amount iff `o.ack = none`, `swallowed` otherwise. -/
theorem failure_ghost (g : Ghost) (chan : String) (p : Packet) (o : Outcome) (k : Key) :
    (g.failure chan p o).paidOut k = g.paidOut k + (if o.ack = none ∧ k = (chan, p.denom) then p.amount else 0) ∧
    (g.failure chan p o).swallowed k = g.swallowed k + (if o.ack ≠ none ∧ k = (chan, p.denom) then p.amount else 0) := by
  unfold Ghost.failure
  cases o.ack <;> by_cases hk : k = (chan, p.denom) <;> simp [hk]

/-- the refund of the 60 uatom in the history `hist`: processed, `o.ack = none`, alice is paid -/
example : ∃ w' o, (run w0 (hist.take 1)).exec b0 (.timeout "channel-0" (some ⟨60, .native "uatom", "bob", "alice", none⟩) true true false)
      = .ok (w', o) ∧ o.ack = none ∧ w'.bankBal "alice" "uatom" = 100 := ⟨_, _, rfl, by decide +kernel, by decide +kernel⟩
/-- the same refund with a failing sub-call is swallowed: error data, balances unchanged, books reduced -/
example : ∃ w' o, (run w0 (hist.take 1)).exec b0 (.timeout "channel-0" (some ⟨60, .native "uatom", "bob", "alice", none⟩) true true true)
      = .ok (w', o) ∧ o.ack = some .error ∧ w'.bankBal "alice" "uatom" = 40 ∧
        outstanding w'.st "channel-0" (.native "uatom") = 0 := ⟨_, _, rfl, by decide +kernel, by decide +kernel, by decide +kernel⟩

/-! ## Bad packets, closed form -/

/-- Whenever `do_ibc_packet_receive` refuses a packet, the whole transaction is: error acknowledgement, no
sub-message, world unchanged. -/
theorem exec_recv_of_refused {w : World} {p : PacketIn} {tv : Bool} {e : String} (hd : doReceive w.st p tv = .error e)
    (blk : Block) (rv f : Bool) : w.exec blk (.recv p rv tv f) = .ok (w, { ack := some .error, sub := none }) := by
  simp [World.exec, ibcPacketReceive, hd, World.dispatch, bind, Except.bind, pure, Except.pure]

/-- **C11, bad_packets_release_nothing in closed form** (clause 4 without assuming that the transaction
succeeds, and including "no entry for the denomination at all, whatever the amount — even 0"): a packet
whose data does not decode, whose denomination lacks the `port/channel/` prefix, names another port or
another channel than the packet's source, asks for more than the channel's outstanding balance of the
denomination, or names a denomination that has no entry on the receiving channel, is processed by a
*successful* transaction whose result is exactly: error acknowledgement, no payout sub-message, the world
— books and every balance — unchanged. -/
theorem bad_packets_release_nothing_total (w : World) (blk : Block) (p : PacketIn) (rv tv f : Bool)
    (hbad : p.amount = none ∨ p.voucher = none ∨
      (∃ port c d, p.voucher = some (port, c, d) ∧ (port ≠ p.srcPort ∨ c ≠ p.srcChan)) ∨
      (∃ amt port c d, p.amount = some amt ∧ p.voucher = some (port, c, d) ∧ outstanding w.st p.destChan d < amt) ∨
      (∃ port c d, p.voucher = some (port, c, d) ∧ w.st.chan.get? (p.destChan, d) = none)) :
    w.exec blk (.recv p rv tv f) = .ok (w, { ack := some .error, sub := none }) := by
  cases hd : doReceive w.st p tv with
  | error e => exact exec_recv_of_refused hd blk rv f
  | ok r =>
    exfalso
    obtain ⟨s1, sub⟩ := r
    obtain ⟨amt, d, ch, hamt, hv, hred, _⟩ := doReceive_ok hd
    obtain ⟨cs, hg, hle, _⟩ := reduceBalance_ok hred
    rcases hbad with h1 | h1 | ⟨port, c, d', h1, h2⟩ | ⟨amt', port, c, d', h1, h2, h3⟩ | ⟨port, c, d', h1, h2⟩
    · rw [hamt] at h1; cases h1
    · rw [hv] at h1; cases h1
    · rw [hv] at h1; cases h1; rcases h2 with h2 | h2 <;> exact h2 rfl
    · rw [hamt] at h1; cases h1
      rw [hv] at h2; cases h2
      simp [outstanding, hg] at h3; omega
    · rw [hv] at h1; cases h1
      rw [hg] at h2; cases h2

/-- a zero-amount packet for a denomination never escrowed on the channel: the last disjunct -/
example : (run w0 hist).exec b0 (.recv (pkt "channel-0" "channel-10" (.native "ufoo") 0) true true false)
    = .ok (run w0 hist, { ack := some .error, sub := none }) :=
  bad_packets_release_nothing_total _ _ _ _ _ _ (Or.inr (Or.inr (Or.inr (Or.inr ⟨_, _, _, rfl, by decide +kernel⟩))))

/-- **C11, bad_packets_release_nothing**: a packet whose data does not decode, whose denomination
lacks the `port/channel/` prefix, names another port or another channel than the packet's source, or
asks for more than the channel's outstanding balance of that denomination (in particular any
denomination never escrowed there) is answered with an error acknowledgement, emits no payout and
leaves the whole world — books and every balance — exactly as it was. -/
theorem bad_packets_release_nothing {w w' : World} {blk : Block} {p : PacketIn} {rv tv f : Bool} {o : Outcome}
    (h : w.exec blk (.recv p rv tv f) = .ok (w', o))
    (hbad : p.amount = none ∨ p.voucher = none ∨
      (∃ port c d, p.voucher = some (port, c, d) ∧ (port ≠ p.srcPort ∨ c ≠ p.srcChan)) ∨
      (∃ amt port c d, p.amount = some amt ∧ p.voucher = some (port, c, d) ∧ outstanding w.st p.destChan d < amt)) :
    w' = w ∧ o.ack = some .error ∧ o.sub = none := by
  have e := bad_packets_release_nothing_total w blk p rv tv f (hbad.imp id (Or.imp id (Or.imp id Or.inl)))
  rw [h] at e
  cases e
  exact ⟨rfl, rfl, rfl⟩

/-! ## Denominations that are no real token never pay -/

theorem payout_some_token {w w' : World} {sub : SubMsg} {tv f : Bool} {t : Addr} (hp : w.payout sub tv f = some w')
    (hd : sub.denom = .cw20 t) : w.tokens.contains t = true := by
  rcases payout_spec hp with ⟨_, hd', _⟩ | ⟨t', hd', ht, _⟩
  · rw [hd] at hd'; cases hd'
  · rw [hd] at hd'; cases hd'; exact ht

/-- One transaction never books a payout under a cw20 denomination whose address is not a token contract
that exists. -/
theorem update_paidOut_nontoken {w w' : World} {g : Ghost} {blk : Block} {op : Op} {o : Outcome}
    (h : w.exec blk op = .ok (w', o)) {c : String} {t : Addr} (ht : w.tokens.contains t = false) :
    (g.update w' op o).paidOut (c, .cw20 t) = g.paidOut (c, .cw20 t) := by
  have nopay : ∀ {s1 : State} {sub : SubMsg} {tv f : Bool} {w2 : World},
      ({ w with st := s1 } : World).payout sub tv f = some w2 → sub.denom ≠ .cw20 t := by
    intro s1 sub tv f w2 hp hd
    have := payout_some_token hp hd
    simp only [ht] at this
    cases this
  cases exec_tx h with
  | quiet s' hw _ _ _ _ hg _ _ => rw [hg]
  | migrate gas s' hop _ _ _ => subst hop; rfl
  | escrow w1 out ch hop _ _ _ _ _ _ _ _ _ ho => subst ho; rw [Ghost.update_transfer hop]
  | redeem p rv tv f d amt ch sub hop _ _ hsub hpay _ ho =>
    subst hop
    simp only [Ghost.update, ho.1, ho.2, bump_apply]
    exact if_neg (fun hk => nopay hpay (Prod.mk.inj hk).2.symm)
  | refund chan p sv tv f ch sub hop _ hsub _ hpay _ =>
    rw [Ghost.update_refund hop]
    rcases hpay with ⟨hp, ha⟩ | ⟨_, ha⟩
    · simp only [Ghost.failure, ha, bump_apply]
      exact if_neg (fun hk => nopay hp (hsub.1.trans (Prod.mk.inj hk).2.symm))
    · simp only [Ghost.failure, ha]
  | acked chan p sv tv f hop _ _ => subst hop; rfl

/-- Along a ghost history nothing is paid out under a cw20 denomination that is no token contract. -/
theorem exec_nontoken {c : String} {t : Addr} {w w' : World} {g : Ghost} {blk : Block} {op : Op} {o : Outcome}
    (hI : w.tokens.contains t = false ∧ g.paidOut (c, .cw20 t) = 0) (h : w.exec blk op = .ok (w', o)) :
    w'.tokens.contains t = false ∧ (g.update w' op o).paidOut (c, .cw20 t) = 0 :=
  ⟨(exec_self_tokens h).2 ▸ hI.1, (update_paidOut_nontoken h hI.1).trans hI.2⟩

/-- **C11, non-token denominations never pay** (why it is harmless that a direct `Receive` hook call — from
an account that is no token contract — is booked as "escrowed" although it moves nothing): on every
history, filtered or not, nothing is ever paid out under a denomination `cw20:<t>` whose `t` is not a
token contract that exists; whatever such a call books can only be swallowed or stay outstanding. -/
theorem nontoken_never_pays (w : World) (ops : List (Block × Op)) (c : String) (t : Addr)
    (ht : w.tokens.contains t = false) :
    (runU (w, Ghost.init w) ops).2.paidOut (c, .cw20 t) = 0 ∧ (runG (w, Ghost.init w) ops).2.paidOut (c, .cw20 t) = 0 := by
  let P : World × Ghost → Prop := fun wg => wg.1.tokens.contains t = false ∧ wg.2.paidOut (c, .cw20 t) = 0
  exact ⟨(runU_induction (P := P) (fun _ _ _ _ _ _ hI h => exec_nontoken hI h) ops ⟨ht, rfl⟩).2,
    (runG_induction (P := P) (fun _ _ _ _ _ _ hI h => exec_nontoken hI h) ops ⟨ht, rfl⟩).2⟩

/-- "mallory" is no token contract of `w0`: her direct hook call is booked, and nothing is ever paid for it -/
example : w0.tokens.contains "mallory" = false := by decide +kernel

/-! ## Exact conservation: the contract's holdings change only by escrow and by payouts that went through -/

/-- Tokens of denomination `x` a successful transaction brought into the contract: the packet amount of an
accepted native transfer or cw20 `Send` of that denomination (a direct hook call brings nothing). -/
def escrowNow (op : Op) (o : Outcome) (x : Denom) : Nat :=
  match op with
  | .transferNative .. | .sendCw20 .. =>
    (match o.sent with
     | [out] => if out.packet.denom = x then out.packet.amount else 0
     | _ => 0)
  | _ => 0

/-- Tokens of denomination `x` that left the contract in a successful transaction: the amount of its
sub-message if the sub-call went through (success acknowledgement of an incoming packet; no error data for
a refund) and the recipient is not the contract itself. -/
def paidNow (self : Addr) (op : Op) (o : Outcome) (x : Denom) : Nat :=
  match o.sub with
  | none => 0
  | some sub =>
    let went : Bool := match op with
      | .recv .. => o.ack == some .success
      | _ => o.ack == none
    if went = true ∧ sub.denom = x ∧ sub.to ≠ self then sub.amount else 0

/-- **C11, exact conservation per transaction** (strengthens solvency's `≥` to an equation on the token
side): for every denomination that exists, `holdings' + paidNow = holdings + escrowNow` — the contract's
real holdings change only by the escrow of an accepted transfer and by a payout / refund sub-message that
went through to somebody else; no other transaction (governance, migration, handshake, refused packet,
swallowed refund, direct hook call) moves a single token of the contract. -/
theorem exec_conservation {w w' : World} {blk : Block} {op : Op} {o : Outcome} (h : w.exec blk op = .ok (w', o))
    (x : Denom) (v : Nat) (hx : w.holdings x = some v) :
    ∃ v', w'.holdings x = some v' ∧ v' + paidNow w.self op o x = v + escrowNow op o x := by
  have same : ∀ {s : State}, ({ w with st := s } : World).holdings x = some v := (holdings_st w _ x).trans hx
  cases exec_tx h with
  | quiet s' hw _ _ _ hop _ ho _ =>
    subst hw
    refine ⟨v, same, ?_⟩
    have hp : paidNow w.self op o x = 0 := by
      unfold paidNow
      rcases ho with hn | he
      · rw [hn]
      · -- an error acknowledgement: the sub-message, if there is one, did not go through, whatever the op
        rw [he]; split
        · rfl
        · split <;> simp
    have he : escrowNow op o x = 0 := by cases op <;> first | rfl | cases hop
    rw [hp, he]
  | migrate gas s' hop _ hw ho => subst hop hw ho; exact ⟨v, same, rfl⟩
  | escrow w1 out ch hop _ _ _ _ hw _ hhold hhook _ ho =>
    subst hw ho
    refine ⟨v + if out.packet.denom = x then out.packet.amount else 0, by rw [holdings_st, hhold x, hx]; rfl, ?_⟩
    cases op with
    | transferNative snd funds msg => rfl
    | sendCw20 snd token amt msg => rfl
    | hook snd funds sender amt msg =>
      -- a direct hook call is booked but brings nothing: its denomination has no holdings
      have hne : out.packet.denom ≠ x := fun e => by rw [← e, hhook _ _ _ _ _ rfl] at hx; cases hx
      simp [paidNow, escrowNow, hne]
    | _ => cases hop
  | redeem p rv tv f d amt ch sub hop _ _ _ hpay _ ho =>
    subst hop
    obtain ⟨v', h1, h2⟩ := Option.map_eq_some_iff.mp ((payout_holdings_eq hpay x).trans same)
    exact ⟨v', h1, by simpa [paidNow, escrowNow, ho.1, ho.2] using h2⟩
  | refund chan p sv tv f ch sub hop _ _ ho hpay _ =>
    have hp : paidNow w.self op o x = if o.ack = none ∧ sub.denom = x ∧ sub.to ≠ w.self then sub.amount else 0 := by
      rcases hop with rfl | rfl <;> simp [paidNow, ho]
    have he : escrowNow op o x = 0 := by rcases hop with rfl | rfl <;> rfl
    rw [hp, he]
    rcases hpay with ⟨hpay, ha⟩ | ⟨rfl, ha⟩
    · obtain ⟨v', h1, h2⟩ := Option.map_eq_some_iff.mp ((payout_holdings_eq hpay x).trans same)
      exact ⟨v', h1, by simpa [ha] using h2⟩
    · exact ⟨v, same, by simp [ha]⟩
  | acked chan p sv tv f hop hw ho => subst hop hw; exact ⟨v, hx, by simp [paidNow, escrowNow, ho.2]⟩

/-- Σ over a history of what its successful transactions escrowed resp. paid out of denomination `x`. -/
def escrowTotal (w : World) : List (Block × Op) → Denom → Nat
  | [], _ => 0
  | (blk, op) :: rest, x =>
    (match w.exec blk op with | .ok (_, o) => escrowNow op o x | .error _ => 0) + escrowTotal (w.step blk op) rest x

def paidTotal (w : World) : List (Block × Op) → Denom → Nat
  | [], _ => 0
  | (blk, op) :: rest, x =>
    (match w.exec blk op with | .ok (_, o) => paidNow w.self op o x | .error _ => 0) + paidTotal (w.step blk op) rest x

/-- **C11, conservation over histories**: for every denomination that exists, on every history,
`holdings_end + Σ paid out = holdings_start + Σ escrowed` — tokens enter the contract only with accepted
transfers and leave it only through payout / refund sub-messages that went through. -/
theorem conservation (w : World) (ops : List (Block × Op)) (x : Denom) (v : Nat) (hx : w.holdings x = some v) :
    ∃ v', (run w ops).holdings x = some v' ∧ v' + paidTotal w ops x = v + escrowTotal w ops x := by
  induction ops generalizing w v with
  | nil => exact ⟨v, hx, rfl⟩
  | cons op rest ih =>
    obtain ⟨blk, op⟩ := op
    simp only [run, List.foldl_cons, paidTotal, escrowTotal, World.step]
    cases hxe : w.exec blk op with
    | error e =>
      obtain ⟨v', h1, h2⟩ := ih w v hx
      exact ⟨v', h1, by simp only at h2 ⊢; omega⟩
    | ok r =>
      obtain ⟨v1, h1, h2⟩ := exec_conservation hxe x v hx
      obtain ⟨v', h3, h4⟩ := ih r.1 v1 h1
      exact ⟨v', h3, by simp only at h2 ⊢; omega⟩

/-- on the demo history: 90 uatom escrowed, 45 paid out, 45 held -/
example : escrowTotal w0 hist (.native "uatom") = 90 ∧ paidTotal w0 hist (.native "uatom") = 45 ∧
    (run w0 hist).holdings (.native "uatom") = some 45 ∧ w0.holdings (.native "uatom") = some 0 := by decide +kernel

end CwPlus.Props.C11
