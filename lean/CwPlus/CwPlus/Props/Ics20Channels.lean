import CwPlus.Lemmas.Ics20
import CwPlus.Lemmas.Paginate
/-!
# cw20-ics20 channel handshake and channel registry (extra obligations, not one of C01–C20)

`ibc_channel_open`, `ibc_channel_connect`, `ibc_channel_close`, the stored `ChannelInfo` values and
the queries `ListChannels`, `Channel.info`, `Port` are part of the model `CwPlus.Ics20`.  Proved here: both
handshake steps accept exactly the ICS-20 parameters (version `ics20-1`, counterparty version absent or
`ics20-1`, unordered) and `open` writes nothing; `close` is `unimplemented!()`, so no channel state is ever
dropped; a channel id enters `CHANNEL_INFO` only through a successful connect for that id, and every other
transaction (incl. `migrate`) leaves the registry as it was; over every history the key list `channels` and the
value map `chanInfo` describe the same map (`RegistryInv`), which is what the queries answer from.

Histories: `run w ops := ops.foldl World.step w` (failed transactions rolled back), ops include the
handshake ops `connect`, `chanOpen`, `chanClose`.
-/
namespace CwPlus.Props.Ics20Channels
open CwPlus CwPlus.Ics20

def run (w : World) (ops : List (Block × Op)) : World := ops.foldl (fun w o => w.step o.1 o.2) w

/-- The ICS-20 handshake parameters: version `ics20-1` on our side, on the other side too when it is
known at this step, unordered channel. -/
def Ics20Params (version : String) (counterparty : Option String) (ordered : Bool) : Prop :=
  version = ICS20_VERSION ∧ (∀ c, counterparty = some c → c = ICS20_VERSION) ∧ ordered = false

theorem enforce_iff (v : String) (cv : Option String) (ord : Bool) :
    enforceOrderAndVersion v cv ord = .ok () ↔ Ics20Params v cv ord := by
  unfold enforceOrderAndVersion Ics20Params
  cases cv <;> simp [check_bind_ok]

/-- **`ibc_channel_open` accepts exactly the ICS-20 parameters** (`OpenInit`: `cv = none`, `OpenTry`:
`cv = some _`). -/
theorem channel_open_iff (v : String) (cv : Option String) (ord : Bool) :
    ibcChannelOpen v cv ord = .ok () ↔ Ics20Params v cv ord := enforce_iff v cv ord

/-- **`ibc_channel_connect` accepts exactly the ICS-20 parameters** (`OpenAck`: `cv = some _`,
`OpenConfirm`: `cv = none`), whatever the state, the id and the other side's endpoint. -/
theorem channel_connect_iff (s : State) (id v : String) (cv : Option String) (ord : Bool) (peer : Peer) :
    (∃ s', ibcChannelConnect s id v cv ord peer = .ok s') ↔ Ics20Params v cv ord := by
  rw [← enforce_iff]
  unfold ibcChannelConnect
  cases h : enforceOrderAndVersion v cv ord <;> simp [bind, Except.bind, pure, Except.pure]

/-- Both handshake steps accept the same parameters. -/
theorem open_accepts_iff_connect_accepts (s : State) (id v : String) (cv : Option String) (ord : Bool) (peer : Peer) :
    ibcChannelOpen v cv ord = .ok () ↔ ∃ s', ibcChannelConnect s id v cv ord peer = .ok s' := by
  rw [channel_open_iff, channel_connect_iff]

/-- What a successful connect stores: the id is registered (once), its info is the one of the message
(a known id gets its info overwritten), nothing else changes. -/
theorem connect_effect {s s' : State} {id v : String} {cv : Option String} {ord : Bool} {peer : Peer}
    (h : ibcChannelConnect s id v cv ord peer = .ok s') :
    Ics20Params v cv ord ∧ id ∈ s'.channels ∧ (∀ c, c ∈ s'.channels ↔ c ∈ s.channels ∨ c = id) ∧
    s'.chanInfo = s.chanInfo.set id ⟨id, peer.port, peer.chan, peer.connection⟩ ∧
    s'.chan = s.chan ∧ s'.allow = s.allow ∧ s'.admin = s.admin ∧ s'.config = s.config := by
  have hp := (channel_connect_iff s id v cv ord peer).mp ⟨_, h⟩
  simp only [ibcChannelConnect, Res.bind_ok] at h
  obtain ⟨_, _, h⟩ := h
  simp [pure, Except.pure] at h
  subst h
  refine ⟨hp, ?_, ?_, rfl, rfl, rfl, rfl, rfl⟩
  · dsimp only; split
    · rename_i hc; simpa using hc
    · simp
  · intro c; dsimp only; split
    · rename_i hc
      have : id ∈ s.channels := by simpa using hc
      constructor
      · exact Or.inl
      · rintro (h | rfl) <;> assumption
    · simp

/-- **`ibc_channel_close` never succeeds** (`CloseInit` and `CloseConfirm` alike: `unimplemented!()`). -/
theorem close_never_succeeds (s s' : State) (id : String) : ibcChannelClose s id ≠ .ok s' := by
  simp [ibcChannelClose]

/-- … so a close attempt is a failed transaction: the world is exactly as before. -/
theorem close_changes_nothing (w : World) (blk : Block) (id : String) : w.step blk (.chanClose id) = w := by
  unfold World.step
  split
  · rename_i w' o h; exact (exec_chanClose h).elim
  · rfl

/-- `ibc_channel_open` writes nothing, accepted or not. -/
theorem open_changes_nothing (w : World) (blk : Block) (v : String) (cv : Option String) (ord : Bool) :
    w.step blk (.chanOpen v cv ord) = w := by
  unfold World.step
  split
  · rename_i w' o h; exact (exec_chanOpen h).1
  · rfl

/-! ## The registry changes only through `connect` -/

/-- `migrate` does not touch `CHANNEL_INFO`. -/
theorem migrate_registry {s s' : State} {gas : Option Nat} {hold : Denom → Option Nat} (h : migrate s gas hold = .ok s') :
    s'.channels = s.channels ∧ s'.chanInfo = s.chanInfo := by
  obtain ⟨_, _, _, _, _, rfl, _⟩ := migrate_ok h
  exact ⟨rfl, rfl⟩

/-- **Every successful transaction, by kind**: either `CHANNEL_INFO` is exactly as before, or the
transaction is an `ibc_channel_connect` and the state is the one `ibcChannelConnect` returns. -/
theorem exec_registry_cases {w w' : World} {blk : Block} {op : Op} {o : Outcome} (h : w.exec blk op = .ok (w', o)) :
    (w'.st.channels = w.st.channels ∧ w'.st.chanInfo = w.st.chanInfo) ∨
    ∃ id v cv ord peer, op = .connect id v cv ord peer ∧ ibcChannelConnect w.st id v cv ord peer = .ok w'.st := by
  rcases exec_st h with ⟨id, v, cv, ord, peer, hop, hs⟩ | ⟨_, _, _, _, hs⟩ | ⟨_, _, _, hs⟩ | ⟨_, _, hs⟩ | ⟨_, _, e⟩
  · exact Or.inr ⟨id, v, cv, ord, peer, hop, hs⟩
  · rw [(execAllow_ok hs).2.2]; exact Or.inl ⟨rfl, rfl⟩
  · rw [(execUpdateAdmin_ok hs).2.2]; exact Or.inl ⟨rfl, rfl⟩
  · exact Or.inl (migrate_registry hs)
  · rw [e]; exact Or.inl ⟨rfl, rfl⟩

/-- **A channel is registered only by a successful `ibc_channel_connect` with the ICS-20 version and
unordered ordering**: if a successful transaction makes `id` a registered channel, it was a connect
for exactly that id with parameters `Ics20Params`. -/
theorem registered_only_by_connect {w w' : World} {blk : Block} {op : Op} {o : Outcome} {id : String}
    (h : w.exec blk op = .ok (w', o)) (hnew : id ∈ w'.st.channels) (hold : id ∉ w.st.channels) :
    ∃ v cv ord peer, op = .connect id v cv ord peer ∧ Ics20Params v cv ord := by
  rcases exec_registry_cases h with ⟨e, _⟩ | ⟨id', v, cv, ord, peer, rfl, hc⟩
  · rw [e] at hnew; exact absurd hnew hold
  · obtain ⟨hp, _, hmem, _⟩ := connect_effect hc
    rcases (hmem id).mp hnew with h1 | rfl
    · exact absurd h1 hold
    · exact ⟨v, cv, ord, peer, rfl, hp⟩

/-- The stored info of a channel changes only by a successful connect for that id. -/
theorem info_changed_only_by_connect {w w' : World} {blk : Block} {op : Op} {o : Outcome} {id : String}
    (h : w.exec blk op = .ok (w', o)) (hne : w'.st.chanInfo.get? id ≠ w.st.chanInfo.get? id) :
    ∃ v cv ord peer, op = .connect id v cv ord peer ∧ Ics20Params v cv ord ∧
      w'.st.chanInfo.get? id = some ⟨id, peer.port, peer.chan, peer.connection⟩ := by
  rcases exec_registry_cases h with ⟨_, e⟩ | ⟨id', v, cv, ord, peer, rfl, hc⟩
  · rw [e] at hne; exact absurd rfl hne
  · obtain ⟨hp, _, _, hi, _⟩ := connect_effect hc
    rw [hi] at hne ⊢
    by_cases hid : id' = id
    · subst hid; exact ⟨v, cv, ord, peer, rfl, hp, by simp⟩
    · rw [AMap.get?_set_ne _ _ _ _ hid] at hne; exact absurd rfl hne

theorem exec_registry_monotone {w w' : World} {blk : Block} {op : Op} {o : Outcome} {id : String}
    (hid : id ∈ w.st.channels) (h : w.exec blk op = .ok (w', o)) : id ∈ w'.st.channels := by
  rcases exec_registry_cases h with ⟨e, _⟩ | ⟨id', v, cv, ord, peer, _, hc⟩
  · rw [e]; exact hid
  · exact ((connect_effect hc).2.2.1 id).mpr (Or.inl hid)

/-- **Channel state is never dropped**: no transaction of any kind removes a registered channel. -/
theorem registry_monotone (w : World) (blk : Block) (op : Op) {id : String} (hid : id ∈ w.st.channels) :
    id ∈ (w.step blk op).st.channels :=
  step_cases (P := fun w' => id ∈ w'.st.channels) blk op hid (fun _ _ h => exec_registry_monotone hid h)

theorem run_registry_monotone (w : World) (ops : List (Block × Op)) {id : String} (hid : id ∈ w.st.channels) :
    id ∈ (run w ops).st.channels :=
  run_induction (P := fun w => id ∈ w.st.channels) (fun _ _ _ _ _ hid h => exec_registry_monotone hid h) ops hid

/-- The per-channel books (`CHANNEL_STATE`) survive any number of close attempts untouched. -/
theorem books_survive_close (w : World) (ids : List (Block × String)) :
    run w (ids.map fun p => (p.1, Op.chanClose p.2)) = w := by
  induction ids with
  | nil => rfl
  | cons p rest ih => simp only [List.map_cons, run, List.foldl_cons, close_changes_nothing]; exact ih

/-! ## The registry invariant over all histories -/

/-- `channels` (keys) and `chanInfo` (values) describe one map: same keys, every info carries its key. -/
def RegistryInv (s : State) : Prop :=
  (∀ id, id ∈ s.channels ↔ (s.chanInfo.get? id).isSome) ∧
  (∀ id i, s.chanInfo.get? id = some i → i.id = id) ∧ AMap.NodupKeys s.chanInfo

theorem instantiate_registry {m : InstMsg} {s : State} (h : instantiate m = .ok s) : RegistryInv s := by
  simp [instantiate] at h
  obtain ⟨_, allow, _, rfl⟩ := h
  refine ⟨by intro id; simp [AMap.get?], by intro id i hi; simp [AMap.get?] at hi, by simp [AMap.NodupKeys, AMap.keys]⟩

theorem connect_registry {s s' : State} {id v : String} {cv : Option String} {ord : Bool} {peer : Peer}
    (hi : RegistryInv s) (h : ibcChannelConnect s id v cv ord peer = .ok s') : RegistryInv s' := by
  obtain ⟨_, _, hmem, hinfo, _⟩ := connect_effect h
  obtain ⟨h1, h2, h3⟩ := hi
  refine ⟨?_, ?_, ?_⟩
  · intro c
    rw [hmem c, hinfo]
    by_cases hc : id = c
    · subst hc; simp
    · rw [AMap.get?_set_ne _ _ _ _ hc, h1 c]
      constructor
      · rintro (h | h)
        · exact h
        · exact absurd h.symm hc
      · exact Or.inl
  · intro c i hci
    rw [hinfo] at hci
    by_cases hc : id = c
    · subst hc; simp at hci; subst hci; rfl
    · rw [AMap.get?_set_ne _ _ _ _ hc] at hci; exact h2 c i hci
  · rw [hinfo]; exact AMap.nodup_set h3

theorem exec_registry {w w' : World} {blk : Block} {op : Op} {o : Outcome} (hi : RegistryInv w.st)
    (h : w.exec blk op = .ok (w', o)) : RegistryInv w'.st := by
  rcases exec_registry_cases h with ⟨e1, e2⟩ | ⟨id, v, cv, ord, peer, _, hc⟩
  · unfold RegistryInv; rw [e1, e2]; exact hi
  · exact connect_registry hi hc

/-- **Over every history** from a state satisfying it (in particular from any accepted instantiation),
the registry invariant holds. -/
theorem reach_registry {w : World} (hi : RegistryInv w.st) (ops : List (Block × Op)) : RegistryInv (run w ops).st :=
  run_induction (P := fun w => RegistryInv w.st) (fun _ _ _ _ _ hi h => exec_registry hi h) ops hi

/-- Ghost: the channel ids for which the history contains a *successful* connect with ICS-20 parameters. -/
def connectedIn (w : World) : List (Block × Op) → List String
  | [] => []
  | (blk, op) :: rest =>
    (match op, w.exec blk op with
     | .connect id v cv ord _, .ok _ =>
       if v == ICS20_VERSION && (match cv with | some c => c == ICS20_VERSION | none => true) && !ord then [id] else []
     | _, _ => []) ++ connectedIn (w.step blk op) rest

/-- **Every registered channel was connected in the history**: starting without channels (every
instantiation does), after any history a channel id is registered only if some transaction of that
history was a successful `ibc_channel_connect` for it with version `ics20-1` and unordered ordering. -/
theorem registered_was_connected (w : World) (ops : List (Block × Op)) {id : String}
    (hid : id ∈ (run w ops).st.channels) : id ∈ w.st.channels ∨ id ∈ connectedIn w ops := by
  induction ops generalizing w with
  | nil => exact Or.inl hid
  | cons op rest ih =>
    obtain ⟨blk, op⟩ := op
    rcases ih (w.step blk op) hid with h | h
    · by_cases hold : id ∈ w.st.channels
      · exact Or.inl hold
      · right
        have hstep : ∃ w' o, w.exec blk op = .ok (w', o) ∧ w.step blk op = w' := by
          unfold World.step at h ⊢
          split
          · rename_i w' o he; exact ⟨w', o, he, rfl⟩
          · rename_i e he; rw [he] at h; exact absurd h hold
        obtain ⟨w', o, he, hs⟩ := hstep
        rw [hs] at h
        obtain ⟨v, cv, ord, peer, rfl, hv, hcv, hord⟩ := registered_only_by_connect he h hold
        subst hv; subst hord
        simp only [connectedIn, he, List.mem_append]
        left
        cases cv with
        | none => simp
        | some c => simp [hcv c rfl]
    · right; simp only [connectedIn, List.mem_append]; exact Or.inr h

/-- For a fresh contract: registered ⇒ connected in the history. -/
theorem fresh_registered_was_connected {m : InstMsg} {s : State} (h : instantiate m = .ok s) (w : World)
    (hw : w.st = s) (ops : List (Block × Op)) {id : String} (hid : id ∈ (run w ops).st.channels) :
    id ∈ connectedIn w ops := by
  rcases registered_was_connected w ops hid with h1 | h1
  · simp [instantiate] at h
    obtain ⟨_, allow, _, rfl⟩ := h
    rw [hw] at h1; simp at h1
  · exact h1

/-! ## Queries -/

/-- **`ListChannels`** returns exactly the stored infos: `i` is listed iff it is the info stored under
its own id; the ids come in strictly ascending order (so none twice). -/
theorem list_channels_complete {s : State} (hi : RegistryInv s) :
    (∀ i, i ∈ queryListChannels s ↔ s.chanInfo.get? i.id = some i) ∧
    Paginate.Sorted Paginate.strLt (Paginate.sortedEntries Paginate.strLt s.chanInfo) ∧
    (queryListChannels s).length = s.chanInfo.length := by
  obtain ⟨_, h2, h3⟩ := hi
  refine ⟨?_, Paginate.sortedEntries_sorted h3 Paginate.strictTotal_strLt, ?_⟩
  · intro i
    unfold queryListChannels
    simp only [List.mem_map]
    constructor
    · rintro ⟨⟨k, v⟩, hm, rfl⟩
      have := (Paginate.mem_sortedEntries_iff_get? Paginate.strLt h3 k v).mp hm
      rw [h2 k v this]; exact this
    · intro hg
      exact ⟨(i.id, i), (Paginate.mem_sortedEntries_iff_get? Paginate.strLt h3 i.id i).mpr hg, rfl⟩
  · unfold queryListChannels
    rw [List.length_map, (Paginate.sortedEntries_perm Paginate.strLt s.chanInfo).length_eq]

/-- **`Channel{id}.info`** answers exactly for registered channels, with the stored info. -/
theorem channel_info_iff {s : State} (hi : RegistryInv s) (id : String) :
    (∃ i, queryChannelInfo s id = .ok i) ↔ id ∈ s.channels := by
  rw [hi.1 id]
  unfold queryChannelInfo
  cases s.chanInfo.get? id <;> simp

/-- `Channel{id}` as a whole (info and balances) fails for the same ids in the model's two halves. -/
theorem channel_query_consistent {s : State} (hi : RegistryInv s) (id : String) :
    (∃ i, queryChannelInfo s id = .ok i) ↔ (∃ es, queryChannel s id = .ok es) := by
  rw [channel_info_iff hi]
  unfold queryChannel
  by_cases h : id ∈ s.channels
  · simp [h, check, bind, Except.bind, pure, Except.pure]
  · simp [h, check, bind, Except.bind]

/-- `Port{}` is the chain's answer, nothing else. -/
theorem port_is_environment (p : Option String) : queryPort p = (match p with | some x => .ok x | none => .error "portquery") := by
  cases p <;> rfl

/-! ## Non-vacuity -/

def w0 : World :=
  { st := { config := ⟨3600, none⟩, admin := some "gov", allow := [], channels := [], chan := [],
            versionName := CONTRACT_NAME, version := CONTRACT_VERSION },
    self := "ics20", tokens := [], faulty := [], bank := [], tok := [] }

def b0 : Block := ⟨1, 1⟩

def exOps : List (Block × Op) :=
  [ (b0, .chanOpen "ics20-1" none false),
    (b0, .connect "channel-0" "ics20-1" (some "ics20-1") false { chan := "channel-10" }),
    (b0, .connect "channel-1" "ics20-2" none false {}),              -- wrong version: refused
    (b0, .connect "channel-2" "ics20-1" none true {}),               -- ordered: refused
    (b0, .chanClose "channel-0"),                                    -- aborts
    (b0, .connect "channel-0" "ics20-1" none false { port := "other", chan := "channel-7", connection := "connection-3" }) ]

example : instantiate ⟨3600, ⟨true, "gov"⟩, [], none⟩ = .ok w0.st := rfl

example : (run w0 exOps).st.channels = ["channel-0"] ∧
    (run w0 exOps).st.chanInfo = [("channel-0", ⟨"channel-0", "other", "channel-7", "connection-3"⟩)] ∧
    connectedIn w0 exOps = ["channel-0", "channel-0"] := by decide +kernel

example : queryListChannels (run w0 exOps).st = [⟨"channel-0", "other", "channel-7", "connection-3"⟩] := by
  have h : (run w0 exOps).st.chanInfo = [("channel-0", ⟨"channel-0", "other", "channel-7", "connection-3"⟩)] := by decide +kernel
  unfold queryListChannels
  rw [h, Paginate.sortedEntries_of_sorted Paginate.strictTotal_strLt (by unfold Paginate.Sorted; decide)]
  rfl

example : ibcChannelOpen "ics20-1" (some "ics20-2") false = .error "version.counterparty" ∧
    ibcChannelOpen "ics20-1" (some "ics20-1") false = .ok () ∧ ibcChannelOpen "ics20-1" none true = .error "ordered" :=
  ⟨rfl, rfl, rfl⟩

end CwPlus.Props.Ics20Channels
