import CwPlus.Props.C07
import CwPlus.Props.C17
import CwPlus.Lemmas.NativeBalanceSub
import CwPlus.Lemmas.Paginate
/-!
# C08 — cw1-subkeys: a subkey never spends beyond its unexpired native allowance

Amounts are measured per denomination: `held s x d` is the total of denom `d` in the stored
allowance of `x` (0 without allowance), `sent msgs d` the total of `d` over all coins of all
bank sends of a message list.
-/
namespace CwPlus.Props.C08
open CwPlus
open CwPlus.Cw1Whitelist (AddrArg CosmosMsg AdminList mapValidate)
open CwPlus.Cw1Subkeys (Allowance Permissions incFn decFn)
open CwPlus.NativeBalance (total)
open CwPlus.Props.C07 (covers coveredFrom coveredSeq)

/-- Balance of an optional allowance (empty without one). -/
def balOf (al : Option Allowance) : NativeBalance :=
  match al with
  | some a => a.balance
  | none => []

/-- Stored balance of subkey `x` (expired or not). -/
def bal (s : Cw1Subkeys.State) (x : Addr) : NativeBalance := balOf (s.allowances.get? x)

/-- What the stored allowance of `x` holds in denom `d`. -/
def held (s : Cw1Subkeys.State) (x : Addr) (d : String) : Nat := total (bal s x) d

/-- The coins a message sends from the proxy's bank balance on behalf of a subkey. -/
def msgCoins : CosmosMsg → List Coin
  | .bankSend _ cs => cs
  | _ => []

/-- All coins of all bank sends of a list, in order. -/
def sentCoins : List CosmosMsg → List Coin
  | [] => []
  | m :: ms => msgCoins m ++ sentCoins ms

/-- Σ over all bank sends of the call of the amounts of denom `d`. -/
def sent (msgs : List CosmosMsg) (d : String) : Nat := total (sentCoins msgs) d

theorem sent_cons (m : CosmosMsg) (ms : List CosmosMsg) (d : String) :
    sent (m :: ms) d = total (msgCoins m) d + sent ms d :=
  NativeBalance.total_append ..

theorem msgCoins_of_not_bank {m : CosmosMsg} (h : C07.isBankSend m = false) : msgCoins m = [] := by
  cases m <;> first | rfl | cases h

theorem covers_bank {perm : Option Permissions} {blk : Block} {al al' : Option Allowance} {to : String} {coins : List Coin}
    (h : covers perm blk al (.bankSend to coins) = some al') :
    ∃ a b, al = some a ∧ a.expires.isExpired blk = false ∧ a.balance.subCoins coins = .ok b ∧
      al' = some { a with balance := b } := by
  cases al with
  | none => cases h
  | some a =>
    simp only [covers] at h
    split at h
    · cases h
    · rename_i hx
      split at h
      · rename_i b hs; cases h; exact ⟨a, b, rfl, by simpa using hx, hs, rfl⟩
      · cases h

theorem coveredFrom_bank_cons {perm : Option Permissions} {blk : Block} {al : Option Allowance} {to : String}
    {cs : List Coin} {ms : List CosmosMsg} :
    coveredFrom perm blk al (.bankSend to cs :: ms) = true ↔
      ∃ a b, al = some a ∧ a.expires.isExpired blk = false ∧ a.balance.subCoins cs = .ok b ∧
        coveredFrom perm blk (some { a with balance := b }) ms = true := by
  simp only [coveredFrom]
  constructor
  · intro h
    split at h
    · rename_i al' hc
      obtain ⟨a, b, ha, hx, hs, rfl⟩ := covers_bank hc
      exact ⟨a, b, ha, hx, hs, h⟩
    · cases h
  · rintro ⟨a, b, rfl, hx, hs, h⟩
    simp only [covers, hx, hs, Bool.false_eq_true, if_false]
    exact h

theorem covers_total {perm : Option Permissions} {blk : Block} {al al' : Option Allowance} {m : CosmosMsg}
    (h : covers perm blk al m = some al') :
    (∀ d, total (balOf al') d + total (msgCoins m) d = total (balOf al) d) ∧
    al'.map (·.expires) = al.map (·.expires) ∧
    (∀ to cs, m = .bankSend to cs → ∃ a, al = some a ∧ a.expires.isExpired blk = false) := by
  cases hb : C07.isBankSend m with
  | false =>
    rw [C07.covers_of_not_bank perm blk al hb] at h
    split at h
    · cases h
      exact ⟨fun d => by rw [msgCoins_of_not_bank hb]; rfl, rfl, fun _ _ hm => by rw [hm] at hb; cases hb⟩
    · cases h
  | true =>
    cases m with
    | bankSend to coins =>
      obtain ⟨a, b, rfl, hx, hs, rfl⟩ := covers_bank h
      exact ⟨fun d => NativeBalance.total_subCoins hs d, rfl, fun _ _ _ => ⟨a, rfl, hx⟩⟩
    | _ => cases hb

theorem checkMsgs_total {s s' : Cw1Subkeys.State} {blk : Block} {snd : Addr} {msgs : List CosmosMsg}
    (h : Cw1Subkeys.checkMsgs s blk snd msgs = .ok s') :
    (∀ d, held s' snd d + sent msgs d = held s snd d) ∧
    (s'.allowances.get? snd).map (·.expires) = (s.allowances.get? snd).map (·.expires) ∧
    (∀ to cs, CosmosMsg.bankSend to cs ∈ msgs → ∃ a, s.allowances.get? snd = some a ∧ a.expires.isExpired blk = false) := by
  refine C07.checkMsgs_induction (R := fun al msgs al' => (∀ d, total (balOf al') d + sent msgs d = total (balOf al) d) ∧
    al'.map (·.expires) = al.map (·.expires) ∧
    ∀ to cs, CosmosMsg.bankSend to cs ∈ msgs → ∃ a, al = some a ∧ a.expires.isExpired blk = false) h
    (fun al => ⟨fun d => rfl, rfl, fun _ _ hm => nomatch hm⟩) ?_
  intro al al1 al' m ms hc ⟨it, ie, ib⟩
  obtain ⟨ct, ce, cb⟩ := covers_total hc
  refine ⟨fun d => ?_, ie.trans ce, fun to cs hm => ?_⟩
  · have e1 := ct d; have e2 := it d
    rw [sent_cons]; omega
  · rcases List.mem_cons.mp hm with rfl | hm
    · exact cb to cs rfl
    · -- a later bank send: the allowance it needs has the expiry of the present one
      obtain ⟨a1, rfl, hx1⟩ := ib to cs hm
      cases al with
      | none => cases ce
      | some a0 => exact ⟨a0, rfl, (congrArg (·.isExpired blk) (Option.some.inj ce)).symm.trans hx1⟩

/-- C08, exact deduction: when a non-admin's `Execute` succeeds, for every denomination the allowance left
afterwards plus everything sent by all bank sends of the call equals the allowance before — coin by coin
and cumulatively across the messages of the call. -/
theorem spend_exact {s s' : Cw1Subkeys.State} {blk : Block} {snd : Addr} {msgs out : List CosmosMsg}
    (hna : s.cfg.isAdmin snd = false) (h : Cw1Subkeys.execute s blk snd (.execute msgs) = .ok (s', out)) (d : String) :
    held s' snd d + sent msgs d = held s snd d :=
  (checkMsgs_total (C07.Sk.nonadmin_execute_checkMsgs hna h)).1 d

/-- C08: hence no successful call sends more of any denomination than the allowance held. -/
theorem spend_within_allowance {s s' : Cw1Subkeys.State} {blk : Block} {snd : Addr} {msgs out : List CosmosMsg}
    (hna : s.cfg.isAdmin snd = false) (h : Cw1Subkeys.execute s blk snd (.execute msgs) = .ok (s', out)) (d : String) :
    sent msgs d ≤ held s snd d := by
  have := spend_exact hna h d; omega

/-- C08, expiry: a non-admin's successful `Execute` containing any bank send (even of no coins) needs a stored
allowance that is unexpired at the block of the call; spending leaves the expiry as it was. -/
theorem spend_needs_unexpired {s s' : Cw1Subkeys.State} {blk : Block} {snd : Addr} {msgs out : List CosmosMsg}
    {to : String} {cs : List Coin}
    (hna : s.cfg.isAdmin snd = false) (h : Cw1Subkeys.execute s blk snd (.execute msgs) = .ok (s', out))
    (hm : CosmosMsg.bankSend to cs ∈ msgs) :
    ∃ a, s.allowances.get? snd = some a ∧ a.expires.isExpired blk = false ∧
      (s'.allowances.get? snd).map (·.expires) = some a.expires := by
  obtain ⟨_, he, hb⟩ := checkMsgs_total (C07.Sk.nonadmin_execute_checkMsgs hna h)
  obtain ⟨a, ha, hx⟩ := hb to cs hm
  exact ⟨a, ha, hx, by rw [he, ha]; rfl⟩

/-- C08, "fails as a whole": a call whose bank sends together exceed what remains in some denomination, or
that contains a bank send while the allowance is missing or expired, fails, changes nothing and relays nothing
(earlier messages of the list included). -/
theorem spend_fails_whole {s : Cw1Subkeys.State} {blk : Block} {snd : Addr} {msgs : List CosmosMsg}
    (hna : s.cfg.isAdmin snd = false)
    (hbad : (∃ d, held s snd d < sent msgs d) ∨
      ((∃ to cs, CosmosMsg.bankSend to cs ∈ msgs) ∧
        ∀ a, s.allowances.get? snd = some a → a.expires.isExpired blk = true)) :
    (∃ e, Cw1Subkeys.execute s blk snd (.execute msgs) = .error e) ∧
      Cw1Subkeys.step s blk snd (.execute msgs) = s ∧ Cw1Subkeys.relayed s blk snd (.execute msgs) = [] := by
  cases hr : Cw1Subkeys.execute s blk snd (.execute msgs) with
  | error e => exact ⟨⟨e, rfl⟩, C07.Sk.fail_no_relay hr⟩
  | ok r =>
    obtain ⟨s', out⟩ := r
    exfalso
    rcases hbad with ⟨d, hd⟩ | ⟨⟨to, cs, hm⟩, hx⟩
    · have := spend_within_allowance hna hr d; omega
    · obtain ⟨a, ha, hne, _⟩ := spend_needs_unexpired hna hr hm
      rw [hx a ha] at hne; cases hne

/-- C08: an admin's `Execute` (any messages, bank sends included) charges nobody's allowance. -/
theorem admin_execute_charges_nothing {s s' : Cw1Subkeys.State} {blk : Block} {snd : Addr} {msgs out : List CosmosMsg}
    (ha : s.cfg.isAdmin snd = true) (h : Cw1Subkeys.execute s blk snd (.execute msgs) = .ok (s', out)) : s' = s :=
  C07.Sk.admin_execute_state ha h

/-- The part of a stored allowance an increase builds on: the balance if unexpired, nothing otherwise. -/
def liveBal (blk : Block) (old : Option Allowance) : NativeBalance :=
  match old with
  | some o => if o.expires.isExpired blk then [] else o.balance
  | none => []

/-- The expiry an increase builds on: the stored one, `Never` without a stored allowance. -/
def prevExpires (old : Option Allowance) : Expiration :=
  match old with
  | some o => o.expires
  | none => .never

theorem incFn_ok_iff {blk : Block} {c : Coin} {e : Option Expiration} {old : Option Allowance} {a : Allowance} :
    incFn blk c e old = .ok a ↔ (e.getD (prevExpires old)).isExpired blk = false ∧
      ∃ b, (liveBal blk old).add c = .ok b ∧ a = ⟨b, e.getD (prevExpires old)⟩ := by
  unfold incFn
  cases old with
  | none =>
    cases e <;> simp only [Expiration.isExpired, Allowance.default, prevExpires, liveBal, bind_pure_comp, bind_map_left,
      check_bind_ok, Res.map_ok, Bool.not_false, Bool.not_true, Bool.not_eq_eq_eq_not, true_and, Option.getD_none,
      Option.getD_some, @eq_comm _ _ a]
  | some o =>
    cases hx : o.expires.isExpired blk <;> cases e <;>
      simp only [hx, Allowance.default, prevExpires, liveBal, bind_pure_comp, bind_map_left, check_bind_ok, Res.map_ok,
        Bool.not_false, Bool.not_true, Bool.not_eq_eq_eq_not, Bool.false_eq_true, Bool.true_eq_false, ↓reduceIte,
        true_and, false_and, Option.getD_none, Option.getD_some, @eq_comm _ _ a]

theorem decFn_ok_iff {blk : Block} {c : Coin} {e : Option Expiration} {old : Option Allowance} {a : Allowance} :
    decFn blk c e old = .ok a ↔ ∃ o, old = some o ∧ o.expires.isExpired blk = false ∧
      (∀ e', e = some e' → e'.isExpired blk = false) ∧
      ∃ b, o.balance.subSaturating c = .ok b ∧ a = ⟨b, e.getD o.expires⟩ := by
  unfold decFn
  cases old with
  | none => simp
  | some o =>
    cases e <;> simp only [bind_pure_comp, bind_map_left, pure_bind, check_bind_ok, Res.map_ok, Bool.not_eq_eq_eq_not,
      Bool.not_true, Option.some.injEq, reduceCtorEq, false_implies, implies_true, forall_eq', Option.getD_none,
      Option.getD_some, true_and, exists_eq_left', @eq_comm _ _ a]

/-- `IncreaseAllowance`: the new balance is the base balance plus the coin, where the base is the old balance
if it is unexpired and empty otherwise (an expired allowance restarts from zero). -/
theorem incFn_total {blk : Block} {c : Coin} {e : Option Expiration} {old : Option Allowance} {a : Allowance}
    (h : incFn blk c e old = .ok a) (d : String) :
    total a.balance d = total (liveBal blk old) d + (if c.1 = d then c.2 else 0) := by
  obtain ⟨_, b, hb, rfl⟩ := incFn_ok_iff.mp h
  exact NativeBalance.total_add hb d

/-- The expiry of the result is never already expired: "setting an already-expired expiry is rejected". -/
theorem incFn_unexpired {blk : Block} {c : Coin} {e : Option Expiration} {old : Option Allowance} {a : Allowance}
    (h : incFn blk c e old = .ok a) : a.expires.isExpired blk = false := by
  obtain ⟨hx, b, _, rfl⟩ := incFn_ok_iff.mp h
  exact hx

theorem decFn_total {blk : Block} {c : Coin} {e : Option Expiration} {old : Option Allowance} {a : Allowance}
    (h : decFn blk c e old = .ok a) :
    ∃ o, old = some o ∧ o.expires.isExpired blk = false ∧ a.expires = e.getD o.expires ∧
      a.expires.isExpired blk = false ∧
      ∀ d, total a.balance d ≤ total o.balance d ∧ total o.balance d ≤ total a.balance d + (if c.1 = d then c.2 else 0) := by
  obtain ⟨o, rfl, hx, he, b, hb, rfl⟩ := decFn_ok_iff.mp h
  refine ⟨o, rfl, hx, rfl, ?_, fun d => NativeBalance.total_subSaturating hb d⟩
  cases e with
  | none => exact hx
  | some e' => exact he e' rfl

theorem held_set_eq (s : Cw1Subkeys.State) (k : Addr) (a : Allowance) (d : String) :
    held { s with allowances := s.allowances.set k a } k d = total a.balance d := by
  simp [held, bal, balOf]

theorem held_set_ne (s : Cw1Subkeys.State) (k x : Addr) (a : Allowance) (d : String) (h : k ≠ x) :
    held { s with allowances := s.allowances.set k a } x d = held s x d := by
  simp [held, bal, AMap.get?_set_ne _ _ _ _ h]

theorem held_dec_eq (s : Cw1Subkeys.State) (k : Addr) (a : Allowance) (d : String) :
    held { s with allowances := if a.balance.isEmpty then s.allowances.erase k else s.allowances.set k a } k d
      = total a.balance d := by
  simp only [held, bal]
  split
  · rename_i hemp; rw [AMap.get?_erase_eq]; exact (NativeBalance.isEmpty_total hemp d).symm
  · rw [AMap.get?_set_eq]; rfl

theorem get?_dec_ne (m : AMap Addr Allowance) {k x : Addr} (a : Allowance) (h : k ≠ x) :
    AMap.get? (if a.balance.isEmpty then m.erase k else m.set k a) x = m.get? x := by
  split
  · exact AMap.get?_erase_ne _ _ _ h
  · exact AMap.get?_set_ne _ _ _ _ h

/-- C08, "decrease saturating at zero": a successful `DecreaseAllowance{spender, (d, amt)}` never raises any
denomination of the spender's allowance, lowers `d` by at most `amt` and leaves every other denomination alone
(an entry whose balance became empty is deleted: it then holds 0 of everything). -/
theorem decrease_saturates {s s' : Cw1Subkeys.State} {blk : Block} {snd : Addr} {sp : AddrArg} {c : Coin}
    {e : Option Expiration} {out : List CosmosMsg}
    (h : Cw1Subkeys.execute s blk snd (.decreaseAllowance sp c e) = .ok (s', out)) (d : String) :
    held s' sp.text d ≤ held s sp.text d ∧ held s sp.text d ≤ held s' sp.text d + (if c.1 = d then c.2 else 0) := by
  obtain ⟨_, _, _, a, hd, rfl, _⟩ := Cw1Subkeys.execute_decrease_ok_iff.mp h
  obtain ⟨o, ho, _, _, _, ht⟩ := decFn_total hd
  rw [held_dec_eq]
  simp only [held, bal, ho, balOf]
  exact ht d

/-- C08, allowance frame: the stored allowance of `x` changes only by an admin's `IncreaseAllowance` /
`DecreaseAllowance` naming `x`, or by `x`'s own (non-admin) `Execute`. -/
theorem allowance_frame {s : Cw1Subkeys.State} {blk : Block} {snd : Addr} {m : Cw1Subkeys.Msg} {x : Addr}
    (h : (Cw1Subkeys.step s blk snd m).allowances.get? x ≠ s.allowances.get? x) :
    (s.cfg.isAdmin snd = true ∧ x ≠ snd ∧ ∃ sp c e, sp.valid = true ∧ sp.text = x ∧
        (m = .increaseAllowance sp c e ∨ m = .decreaseAllowance sp c e)) ∨
    (s.cfg.isAdmin snd = false ∧ x = snd ∧ ∃ msgs, m = .execute msgs) :=
  C17.Sk.allowance_change_cases h

/-- C08, others unaffected: whatever a caller does with `Execute` (succeeding or not), nobody else's allowance and
nobody's permissions change. -/
theorem others_unaffected (s : Cw1Subkeys.State) (blk : Block) (snd : Addr) (msgs : List CosmosMsg) :
    (∀ y, y ≠ snd → (Cw1Subkeys.step s blk snd (.execute msgs)).allowances.get? y = s.allowances.get? y) ∧
    (Cw1Subkeys.step s blk snd (.execute msgs)).permissions = s.permissions ∧
    (Cw1Subkeys.step s blk snd (.execute msgs)).cfg = s.cfg := by
  unfold Cw1Subkeys.step
  split
  · rename_i s' out he
    obtain ⟨h1, h2, h3, _⟩ := C17.Sk.execute_cases he
    exact ⟨h3, h2, h1⟩
  · exact ⟨fun _ _ => rfl, rfl, rfl⟩

/-- C08, permissions frame: the permissions of `x` change only by an admin's `SetPermissions` naming `x`. -/
theorem permissions_frame {s : Cw1Subkeys.State} {blk : Block} {snd : Addr} {m : Cw1Subkeys.Msg} {x : Addr}
    (h : (Cw1Subkeys.step s blk snd m).permissions.get? x ≠ s.permissions.get? x) :
    s.cfg.isAdmin snd = true ∧ x ≠ snd ∧ ∃ sp p, sp.valid = true ∧ sp.text = x ∧ m = .setPermissions sp p :=
  C17.Sk.permissions_change_cases h

/-- C08, queries hide expired allowances: the point query answers the stored allowance if it is unexpired and
the empty default otherwise. -/
theorem queries_hide_expired (s : Cw1Subkeys.State) (blk : Block) (x : Addr) :
    Cw1Subkeys.queryAllowance s blk ⟨true, x⟩ = .ok (match s.allowances.get? x with
      | some a => if a.expires.isExpired blk then Allowance.default else a
      | none => Allowance.default) :=
  rfl

/-- State plus two ghost ledgers. -/
structure Ghost where
  st : Cw1Subkeys.State
  /-- Σ of the amounts of all successful `IncreaseAllowance` calls for (subkey, denom) -/
  granted : Addr → String → Nat
  /-- Σ of the amounts of denom relayed by the subkey's own successful non-admin `Execute` calls -/
  spent : Addr → String → Nat

/-- One transaction with ledger bookkeeping (a failed call changes neither state nor ledgers). -/
def gstep (g : Ghost) (op : Block × Addr × Cw1Subkeys.Msg) : Ghost :=
  match Cw1Subkeys.execute g.st op.1 op.2.1 op.2.2 with
  | .error _ => g
  | .ok (s', _) =>
    match op.2.2 with
    | .increaseAllowance sp c _ =>
      { st := s', spent := g.spent,
        granted := fun x d => g.granted x d + (if x = sp.text ∧ c.1 = d then c.2 else 0) }
    | .execute msgs =>
      if g.st.cfg.isAdmin op.2.1 then { g with st := s' }
      else { st := s', granted := g.granted,
             spent := fun x d => g.spent x d + (if x = op.2.1 then sent msgs d else 0) }
    | _ => { g with st := s' }

def grun (g : Ghost) (ops : List (Block × Addr × Cw1Subkeys.Msg)) : Ghost := ops.foldl gstep g

/-- The ledgers are pure bookkeeping: the state component is the ordinary transaction semantics. -/
theorem gstep_st (g : Ghost) (op : Block × Addr × Cw1Subkeys.Msg) :
    (gstep g op).st = Cw1Subkeys.step g.st op.1 op.2.1 op.2.2 := by
  obtain ⟨blk, snd, m⟩ := op
  unfold gstep Cw1Subkeys.step
  cases Cw1Subkeys.execute g.st blk snd m with
  | error e => rfl
  | ok r =>
    cases m with
    | execute msgs => dsimp only; split <;> rfl
    | _ => rfl

theorem grun_st (g : Ghost) (ops : List (Block × Addr × Cw1Subkeys.Msg)) :
    (grun g ops).st = C17.Sk.run g.st ops :=
  (List.foldl_hom Ghost.st fun g op => (gstep_st g op).symm).symm

/-- A freshly instantiated contract with empty ledgers. -/
def ghost0 (s0 : Cw1Subkeys.State) : Ghost := ⟨s0, fun _ _ => 0, fun _ _ => 0⟩

/-- Ledgers opened on an arbitrary state: what a subkey holds at that moment counts as granted, nothing as spent. -/
def ghostOf (s : Cw1Subkeys.State) : Ghost := ⟨s, fun x d => held s x d, fun _ _ => 0⟩

/-- Ledger invariant: for every subkey and denomination, what it has relayed plus what its stored allowance
still holds never exceeds what admins granted it. -/
def GInv (g : Ghost) : Prop := ∀ x d, g.spent x d + held g.st x d ≤ g.granted x d

/-- C08: an increase on an expired allowance restarts from zero (the stored remainder is dropped and the new expiry
must be given and lie in the future). -/
theorem expired_restarts_from_zero {s s' : Cw1Subkeys.State} {blk : Block} {snd : Addr} {sp : AddrArg} {c : Coin}
    {e : Option Expiration} {out : List CosmosMsg} {o : Allowance}
    (ho : s.allowances.get? sp.text = some o) (hx : o.expires.isExpired blk = true)
    (h : Cw1Subkeys.execute s blk snd (.increaseAllowance sp c e) = .ok (s', out)) :
    (∃ e', e = some e' ∧ e'.isExpired blk = false ∧ (s'.allowances.get? sp.text).map (·.expires) = some e') ∧
      ∀ d, held s' sp.text d = if c.1 = d then c.2 else 0 := by
  obtain ⟨_, _, _, a, hinc, rfl, _⟩ := Cw1Subkeys.execute_increase_ok_iff.mp h
  obtain ⟨hx', b, hb, rfl⟩ := incFn_ok_iff.mp hinc
  rw [ho] at hx' hb
  refine ⟨?_, fun d => ?_⟩
  · cases e with
    | none => exact nomatch hx.symm.trans hx'
    | some e' => exact ⟨e', rfl, hx', by rw [AMap.get?_set_eq]; rfl⟩
  · rw [held_set_eq, NativeBalance.total_add hb d]
    simp [liveBal, hx]

/-- Every stored allowance balance has unique denominations.  Under it a subtraction succeeds iff the totals per
denomination fit (`NativeBalance.subCoins_isOk_iff`); it holds on every state reachable from instantiation (`wf_run`). -/
def WF (s : Cw1Subkeys.State) : Prop := ∀ x a, s.allowances.get? x = some a → NativeBalance.UniqueDenoms a.balance

theorem covers_wf {perm : Option Permissions} {blk : Block} {al al' : Option Allowance} {m : CosmosMsg}
    (h : covers perm blk al m = some al') (hw : ∀ a, al = some a → NativeBalance.UniqueDenoms a.balance) :
    ∀ a, al' = some a → NativeBalance.UniqueDenoms a.balance := by
  cases hb : C07.isBankSend m with
  | false =>
    rw [C07.covers_of_not_bank perm blk al hb] at h
    split at h <;> cases h
    exact hw
  | true =>
    cases m with
    | bankSend to coins =>
      obtain ⟨a0, b, rfl, _, hs, rfl⟩ := covers_bank h
      intro a ha; cases ha
      exact NativeBalance.unique_subCoins (hw a0 rfl) hs
    | _ => cases hb

theorem checkMsgs_wf {s s' : Cw1Subkeys.State} {blk : Block} {snd : Addr} {msgs : List CosmosMsg}
    (hw : WF s) (h : Cw1Subkeys.checkMsgs s blk snd msgs = .ok s') : WF s' := by
  intro x a hxa
  by_cases hx : x = snd
  · subst hx
    exact C07.checkMsgs_induction
      (R := fun al _ al' => (∀ a, al = some a → NativeBalance.UniqueDenoms a.balance) →
        ∀ a, al' = some a → NativeBalance.UniqueDenoms a.balance)
      h (fun _ h => h) (fun hc ih hal => ih (covers_wf hc hal)) (hw x) a hxa
  · rw [(Cw1Subkeys.checkMsgs_frame h).2.2.2 x hx] at hxa; exact hw x a hxa

theorem liveBal_unique {blk : Block} {old : Option Allowance}
    (h : ∀ a, old = some a → NativeBalance.UniqueDenoms a.balance) : NativeBalance.UniqueDenoms (liveBal blk old) := by
  cases old with
  | none => exact List.nodup_nil
  | some o =>
    simp only [liveBal]
    split
    · exact List.nodup_nil
    · exact h o rfl

theorem step_wf {s : Cw1Subkeys.State} (hw : WF s) (blk : Block) (snd : Addr) (m : Cw1Subkeys.Msg) :
    WF (Cw1Subkeys.step s blk snd m) := by
  unfold Cw1Subkeys.step
  split
  · rename_i s' out he
    cases m with
    | execute msgs =>
      rcases (Cw1Subkeys.execute_execute_ok_iff.mp he).1 with ⟨_, rfl⟩ | ⟨_, h1⟩
      · exact hw
      · exact checkMsgs_wf hw h1
    | freeze => obtain ⟨c, _, rfl⟩ := Cw1Subkeys.execute_freeze_ok_iff.mp he; exact hw
    | updateAdmins l => obtain ⟨c, _, rfl⟩ := Cw1Subkeys.execute_updateAdmins_ok_iff.mp he; exact hw
    | setPermissions sp p => obtain ⟨_, _, _, rfl, _⟩ := Cw1Subkeys.execute_setPermissions_ok_iff.mp he; exact hw
    | increaseAllowance sp c e =>
      obtain ⟨_, _, _, a, hinc, rfl, _⟩ := Cw1Subkeys.execute_increase_ok_iff.mp he
      obtain ⟨_, b, hb, rfl⟩ := incFn_ok_iff.mp hinc
      intro x a' hxa
      by_cases hx : sp.text = x
      · subst hx
        rw [AMap.get?_set_eq] at hxa; cases hxa
        exact NativeBalance.unique_add (liveBal_unique (hw _)) hb
      · rw [AMap.get?_set_ne _ _ _ _ hx] at hxa; exact hw x a' hxa
    | decreaseAllowance sp c e =>
      obtain ⟨_, _, _, a, hdec, rfl, _⟩ := Cw1Subkeys.execute_decrease_ok_iff.mp he
      obtain ⟨o, ho, _, _, b, hb, rfl⟩ := decFn_ok_iff.mp hdec
      intro x a' hxa
      by_cases hx : sp.text = x
      · subst hx
        simp only at hxa
        split at hxa
        · rw [AMap.get?_erase_eq] at hxa; cases hxa
        · rw [AMap.get?_set_eq] at hxa; cases hxa
          exact NativeBalance.unique_subSaturating (hw _ o ho) hb
      · rw [get?_dec_ne _ _ hx] at hxa; exact hw x a' hxa
  · exact hw

/-- Well-formedness is kept by every history from *any* well-formed state (`wf_run` is the instance "from
instantiation"): this covers migrated / legacy stores that are not outputs of `instantiate`. -/
theorem wf_run_from {s : Cw1Subkeys.State} (hw : WF s) (ops : List (Block × Addr × Cw1Subkeys.Msg)) :
    WF (C17.Sk.run s ops) :=
  foldl_invariant WF (fun _ hs op _ => step_wf hs op.1 op.2.1 op.2.2) hw

/-- Every allowance a history from instantiation can produce has unique denominations, so `held` is the amount
displayed for the denomination. -/
theorem wf_run {m0 : Cw1Subkeys.InstMsg} {s0 : Cw1Subkeys.State} (h0 : Cw1Subkeys.instantiate m0 = .ok s0)
    (ops : List (Block × Addr × Cw1Subkeys.Msg)) : WF (C17.Sk.run s0 ops) := by
  obtain ⟨_, rfl⟩ := (Cw1Subkeys.instantiate_ok_iff m0 s0).mp h0
  exact wf_run_from (fun x a h => by cases h) ops

/-- C08, exact saturation on reachable states: a successful `DecreaseAllowance{spender, (d, amt)}` on a
well-formed state leaves exactly `old - amt` (truncated at zero) of `d`. -/
theorem decrease_saturates_exact {s s' : Cw1Subkeys.State} {blk : Block} {snd : Addr} {sp : AddrArg} {c : Coin}
    {e : Option Expiration} {out : List CosmosMsg} (hw : WF s)
    (h : Cw1Subkeys.execute s blk snd (.decreaseAllowance sp c e) = .ok (s', out)) :
    held s' sp.text c.1 = held s sp.text c.1 - c.2 := by
  obtain ⟨_, _, _, a, hd, rfl, _⟩ := Cw1Subkeys.execute_decrease_ok_iff.mp h
  obtain ⟨o, ho, _, _, b, hb, rfl⟩ := decFn_ok_iff.mp hd
  rw [held_dec_eq]
  simp only [held, bal, ho, balOf]
  exact NativeBalance.subSaturating_exact (hw _ o ho) hb

/-! ## Liveness: a covered spend succeeds

Everything above is of the form "if the call succeeds then …"; a model in which a subkey's `Execute` always fails
would satisfy it.  The theorems of this section give the exact success condition in terms of amounts
(`execute_ok_iff_sem`) and the positive statement `covered_spend_succeeds`. -/

/-- Some message of the list is a bank send. -/
def hasBankSend (msgs : List CosmosMsg) : Prop := ∃ to cs, CosmosMsg.bankSend to cs ∈ msgs

theorem sentCoins_cons (m : CosmosMsg) (ms : List CosmosMsg) : sentCoins (m :: ms) = msgCoins m ++ sentCoins ms := rfl

theorem hasBankSend_cons_of_not_bank {m : CosmosMsg} {ms : List CosmosMsg} (h : C07.isBankSend m = false) :
    hasBankSend (m :: ms) ↔ hasBankSend ms :=
  exists_congr fun _ => exists_congr fun _ =>
    List.mem_cons.trans (or_iff_right fun hm => by rw [← hm] at h; cases h)

/-- Coverage as one subtraction: the threaded check of `Execute` accepts a list exactly when every message is of a
kind the caller's permission record allows, the allowance exists and is unexpired if the list contains a bank send,
and all coins of all bank sends of the list, in order, can be subtracted from the allowance.  No hypothesis on the
balance or the coins. -/
theorem coveredFrom_iff_subCoins {perm : Option Permissions} {blk : Block} {al : Option Allowance} {msgs : List CosmosMsg} :
    coveredFrom perm blk al msgs = true ↔
      (∀ m ∈ msgs, C07.permOk perm m = true) ∧
      (hasBankSend msgs → ∃ a, al = some a ∧ a.expires.isExpired blk = false) ∧
      ∃ b, (balOf al).subCoins (sentCoins msgs) = .ok b := by
  induction msgs generalizing al with
  | nil => exact ⟨fun _ => ⟨nofun, fun ⟨_, _, h⟩ => (nomatch h), _, rfl⟩, fun _ => rfl⟩
  | cons m ms ih =>
    cases hb : C07.isBankSend m with
    | false =>
      rw [hasBankSend_cons_of_not_bank hb, sentCoins_cons, msgCoins_of_not_bank hb, List.nil_append,
        List.forall_mem_cons, and_assoc, ← ih]
      simp only [coveredFrom, C07.covers_of_not_bank perm blk al hb]
      cases C07.permOk perm m <;> simp
    | true =>
      cases m with
      | bankSend to cs =>
        rw [coveredFrom_bank_cons]
        constructor
        · rintro ⟨a, b, rfl, hx, hs, hc⟩
          obtain ⟨hp, _, b', hb'⟩ := ih.mp hc
          exact ⟨List.forall_mem_cons.mpr ⟨rfl, hp⟩, fun _ => ⟨a, rfl, hx⟩, b',
            NativeBalance.subCoins_append_ok_iff.mpr ⟨b, hs, hb'⟩⟩
        · rintro ⟨hp, hal, b', hb'⟩
          obtain ⟨a, rfl, hx⟩ := hal ⟨to, cs, List.mem_cons_self⟩
          obtain ⟨b, hs, hb'⟩ := NativeBalance.subCoins_append_ok_iff.mp hb'
          exact ⟨a, b, rfl, hx, hs, ih.mpr ⟨fun m hm => hp m (List.mem_cons_of_mem _ hm), fun _ => ⟨_, rfl, hx⟩, b', hb'⟩⟩
      | _ => cases hb

/-- Coverage in terms of amounts.  If the allowance's balance has unique denoms (true of every reachable state,
`wf_run`) and every coin sent is positive, the threaded coverage check of `Execute` accepts a list exactly when
(1) every message is of a kind the caller's permission record allows, (2) if the list contains a bank send, the
allowance exists and is unexpired, and (3) for every denomination the bank sends of the list together do not exceed
what the allowance holds. -/
theorem coveredFrom_iff_sem {perm : Option Permissions} {blk : Block} {al : Option Allowance} {msgs : List CosmosMsg}
    (hu : ∀ a, al = some a → NativeBalance.UniqueDenoms a.balance)
    (hpos : ∀ c ∈ sentCoins msgs, 0 < c.2) :
    coveredFrom perm blk al msgs = true ↔
      (∀ m ∈ msgs, C07.permOk perm m = true) ∧
      (hasBankSend msgs → ∃ a, al = some a ∧ a.expires.isExpired blk = false) ∧
      ∀ d, sent msgs d ≤ total (balOf al) d := by
  have hu' : NativeBalance.UniqueDenoms (balOf al) := by
    cases al with
    | none => exact List.nodup_nil
    | some a => exact hu a rfl
  rw [coveredFrom_iff_subCoins, ← Res.isOk_iff_exists, NativeBalance.subCoins_isOk_iff hu' hpos]
  exact Iff.rfl

/-- C08 / C07, exact success condition of a subkey's `Execute` in terms of amounts: on a well-formed state
(`wf_run`: every reachable one) a non-admin's list of messages whose coins are all positive is accepted **exactly
when** every message kind is allowed by the caller's permission record, the allowance exists and is unexpired if the
list contains a bank send, and for every denomination the bank sends of the list together stay within what the
allowance holds.  Right to left this is the liveness half that `spend_exact` / `spend_fails_whole` lack. -/
theorem execute_ok_iff_sem {s : Cw1Subkeys.State} {blk : Block} {snd : Addr} {msgs : List CosmosMsg}
    (hw : WF s) (hna : s.cfg.isAdmin snd = false) (hpos : ∀ c ∈ sentCoins msgs, 0 < c.2) :
    (Cw1Subkeys.execute s blk snd (.execute msgs)).isOk = true ↔
      (∀ m ∈ msgs, C07.permOk (s.permissions.get? snd) m = true) ∧
      (hasBankSend msgs → ∃ a, s.allowances.get? snd = some a ∧ a.expires.isExpired blk = false) ∧
      ∀ d, sent msgs d ≤ held s snd d := by
  rw [C07.Sk.execute_ok_iff, coveredSeq, coveredFrom_iff_sem (fun a ha => hw snd a ha) hpos]
  simp [hna, held, bal]

/-- The mixed form: bank sends within the allowance interleaved with staking / distribution messages the permission
record allows are accepted as well. -/
theorem covered_mixed_succeeds {s : Cw1Subkeys.State} {blk : Block} {snd : Addr} {msgs : List CosmosMsg} {a : Allowance}
    (hw : WF s) (hna : s.cfg.isAdmin snd = false)
    (ha : s.allowances.get? snd = some a) (hx : a.expires.isExpired blk = false)
    (hperm : ∀ m ∈ msgs, C07.permOk (s.permissions.get? snd) m = true)
    (hpos : ∀ c ∈ sentCoins msgs, 0 < c.2) (hle : ∀ d, sent msgs d ≤ held s snd d) :
    ∃ s', Cw1Subkeys.execute s blk snd (.execute msgs) = .ok (s', msgs) ∧
      ∀ d, held s' snd d + sent msgs d = held s snd d := by
  have hok : (Cw1Subkeys.execute s blk snd (.execute msgs)).isOk = true :=
    (execute_ok_iff_sem hw hna hpos).mpr ⟨hperm, fun _ => ⟨a, ha, hx⟩, hle⟩
  obtain ⟨⟨s', out⟩, hr⟩ := (Res.isOk_iff_exists _).mp hok
  cases C07.Sk.relay_exact hr
  exact ⟨s', hr, fun d => spend_exact hna hr d⟩

/-- C08, liveness: a subkey with an unexpired allowance can spend — any list of bank sends of positive coins that,
denomination by denomination, stays within the allowance is accepted, relayed unchanged, and charged exactly. -/
theorem covered_spend_succeeds {s : Cw1Subkeys.State} {blk : Block} {snd : Addr} {msgs : List CosmosMsg} {a : Allowance}
    (hw : WF s) (hna : s.cfg.isAdmin snd = false)
    (ha : s.allowances.get? snd = some a) (hx : a.expires.isExpired blk = false)
    (hbank : ∀ m ∈ msgs, C07.isBankSend m = true)
    (hpos : ∀ c ∈ sentCoins msgs, 0 < c.2) (hle : ∀ d, sent msgs d ≤ held s snd d) :
    ∃ s', Cw1Subkeys.execute s blk snd (.execute msgs) = .ok (s', msgs) ∧
      (∀ d, held s' snd d + sent msgs d = held s snd d) ∧
      (s'.allowances.get? snd).map (·.expires) = some a.expires := by
  have hperm : ∀ m ∈ msgs, C07.permOk (s.permissions.get? snd) m = true := fun m hm => by
    have := hbank m hm
    cases m <;> first | rfl | cases this
  obtain ⟨s', hr, ht⟩ := covered_mixed_succeeds hw hna ha hx hperm hpos hle
  refine ⟨s', hr, ht, ?_⟩
  rw [(checkMsgs_total (C07.Sk.nonadmin_execute_checkMsgs hna hr)).2.1, ha]; rfl

/-- C08 / C17, "own spending": whatever list a caller submits with `Execute` (admin or not, succeeding or not), its
own stored allowance does not grow in any denomination, keeps its expiry, and is neither created nor deleted. -/
theorem own_spend_only_lowers (s : Cw1Subkeys.State) (blk : Block) (snd : Addr) (msgs : List CosmosMsg) :
    (∀ d, held (Cw1Subkeys.step s blk snd (.execute msgs)) snd d ≤ held s snd d) ∧
    ((Cw1Subkeys.step s blk snd (.execute msgs)).allowances.get? snd).map (·.expires)
      = (s.allowances.get? snd).map (·.expires) ∧
    ((Cw1Subkeys.step s blk snd (.execute msgs)).allowances.get? snd).isSome = (s.allowances.get? snd).isSome := by
  unfold Cw1Subkeys.step
  split
  · rename_i s' out he
    cases ha : s.cfg.isAdmin snd with
    | true => rw [C07.Sk.admin_execute_state ha he]; exact ⟨fun _ => Nat.le_refl _, rfl, rfl⟩
    | false =>
      obtain ⟨ht, hexp, _⟩ := checkMsgs_total (C07.Sk.nonadmin_execute_checkMsgs ha he)
      exact ⟨fun d => by have := ht d; omega, hexp, by simpa using congrArg Option.isSome hexp⟩
  · exact ⟨fun _ => Nat.le_refl _, rfl, rfl⟩

/-- Exactly when the closure of `IncreaseAllowance` succeeds: the submitted expiry — or, without one, the stored
expiry — is not yet reached, and the addition does not overflow `u128`. -/
theorem incFn_isOk_iff (blk : Block) (c : Coin) (e : Option Expiration) (old : Option Allowance) :
    (incFn blk c e old).isOk = true ↔
      (e.getD (prevExpires old)).isExpired blk = false ∧
      ∀ held, NativeBalance.find? (liveBal blk old) c.1 = some held → held + c.2 ≤ U128_MAX := by
  rw [← NativeBalance.add_isOk_iff, Res.isOk_iff_exists, Res.isOk_iff_exists]
  exact ⟨fun ⟨_, h⟩ => let ⟨hx, b, hb, _⟩ := incFn_ok_iff.mp h; ⟨hx, b, hb⟩,
    fun ⟨hx, b, hb⟩ => ⟨_, incFn_ok_iff.mpr ⟨hx, b, hb, rfl⟩⟩⟩

/-- C08 / C17, `IncreaseAllowance` succeeds exactly when the caller is a current admin, the spender is a validated
address different from the caller, the expiry that will be stored is not yet reached, and the amount does not
overflow. -/
theorem increase_ok_iff (s : Cw1Subkeys.State) (blk : Block) (snd : Addr) (sp : AddrArg) (c : Coin) (e : Option Expiration) :
    (Cw1Subkeys.execute s blk snd (.increaseAllowance sp c e)).isOk = true ↔
      s.cfg.isAdmin snd = true ∧ sp.valid = true ∧ sp.text ≠ snd ∧
      (e.getD (prevExpires (s.allowances.get? sp.text))).isExpired blk = false ∧
      ∀ held, NativeBalance.find? (liveBal blk (s.allowances.get? sp.text)) c.1 = some held → held + c.2 ≤ U128_MAX := by
  rw [← incFn_isOk_iff, Res.isOk_iff_exists, Res.isOk_iff_exists]
  exact ⟨fun ⟨_, h⟩ => let ⟨h1, h2, h3, a, ha, _⟩ := Cw1Subkeys.execute_increase_ok_iff.mp h; ⟨h1, h2, h3, a, ha⟩,
    fun ⟨h1, h2, h3, a, ha⟩ => ⟨_, Cw1Subkeys.execute_increase_ok_iff.mpr ⟨h1, h2, h3, a, ha, rfl, rfl⟩⟩⟩

/-- C08, exact effect of `IncreaseAllowance`: for every denomination the spender's allowance afterwards is the live
part of the old one (the stored balance if unexpired, nothing otherwise) plus the granted coin; its expiry is the
submitted one, else the stored one; nobody else's allowance, no permission and not the admin configuration change;
nothing is relayed. -/
theorem increase_exact {s s' : Cw1Subkeys.State} {blk : Block} {snd : Addr} {sp : AddrArg} {c : Coin}
    {e : Option Expiration} {out : List CosmosMsg}
    (h : Cw1Subkeys.execute s blk snd (.increaseAllowance sp c e) = .ok (s', out)) :
    (∀ d, held s' sp.text d = total (liveBal blk (s.allowances.get? sp.text)) d + (if c.1 = d then c.2 else 0)) ∧
    (s'.allowances.get? sp.text).map (·.expires) = some (e.getD (prevExpires (s.allowances.get? sp.text))) ∧
    (∀ y, y ≠ sp.text → s'.allowances.get? y = s.allowances.get? y) ∧
    s'.permissions = s.permissions ∧ s'.cfg = s.cfg ∧ out = [] := by
  obtain ⟨_, _, _, a, hinc, rfl, rfl⟩ := Cw1Subkeys.execute_increase_ok_iff.mp h
  obtain ⟨_, b, hb, rfl⟩ := incFn_ok_iff.mp hinc
  refine ⟨fun d => ?_, ?_, fun y hy => AMap.get?_set_ne _ _ _ _ (Ne.symm hy), rfl, rfl, rfl⟩
  · rw [held_set_eq]; exact NativeBalance.total_add hb d
  · rw [AMap.get?_set_eq]; rfl

theorem decFn_isOk_iff (blk : Block) (c : Coin) (e : Option Expiration) (old : Option Allowance) :
    (decFn blk c e old).isOk = true ↔
      ∃ o, old = some o ∧ o.expires.isExpired blk = false ∧ (∀ e', e = some e' → e'.isExpired blk = false) ∧
        ∃ held, NativeBalance.find? o.balance c.1 = some held := by
  simp only [← NativeBalance.subSaturating_isOk_iff, Res.isOk_iff_exists]
  exact ⟨fun ⟨_, h⟩ => let ⟨o, ho, hx, he, b, hb, _⟩ := decFn_ok_iff.mp h; ⟨o, ho, hx, he, b, hb⟩,
    fun ⟨o, ho, hx, he, b, hb⟩ => ⟨_, decFn_ok_iff.mpr ⟨o, ho, hx, he, b, hb, rfl⟩⟩⟩

/-- C08 / C17, `DecreaseAllowance` succeeds exactly when the caller is a current admin, the spender is a validated
address different from the caller, the spender has an unexpired allowance containing a coin of the named
denomination, and a submitted expiry is not yet reached.  Hence a decrease on a missing or expired allowance, or of a
denomination the allowance lacks, fails. -/
theorem decrease_ok_iff (s : Cw1Subkeys.State) (blk : Block) (snd : Addr) (sp : AddrArg) (c : Coin) (e : Option Expiration) :
    (Cw1Subkeys.execute s blk snd (.decreaseAllowance sp c e)).isOk = true ↔
      s.cfg.isAdmin snd = true ∧ sp.valid = true ∧ sp.text ≠ snd ∧
      ∃ o, s.allowances.get? sp.text = some o ∧ o.expires.isExpired blk = false ∧
        (∀ e', e = some e' → e'.isExpired blk = false) ∧ ∃ held, NativeBalance.find? o.balance c.1 = some held := by
  rw [← decFn_isOk_iff, Res.isOk_iff_exists, Res.isOk_iff_exists]
  exact ⟨fun ⟨_, h⟩ => let ⟨h1, h2, h3, a, ha, _⟩ := Cw1Subkeys.execute_decrease_ok_iff.mp h; ⟨h1, h2, h3, a, ha⟩,
    fun ⟨h1, h2, h3, a, ha⟩ => ⟨_, Cw1Subkeys.execute_decrease_ok_iff.mpr ⟨h1, h2, h3, a, ha, rfl, rfl⟩⟩⟩

/-- C08, the failure cases of `DecreaseAllowance`: no allowance, an expired one, or one without the denomination. -/
theorem decrease_fails {s : Cw1Subkeys.State} {blk : Block} {snd : Addr} {sp : AddrArg} {c : Coin} {e : Option Expiration}
    (hbad : ∀ o, s.allowances.get? sp.text = some o →
      o.expires.isExpired blk = true ∨ NativeBalance.find? o.balance c.1 = none) :
    ∃ err, Cw1Subkeys.execute s blk snd (.decreaseAllowance sp c e) = .error err := by
  rw [← Res.isOk_false_iff_exists]
  cases hr : (Cw1Subkeys.execute s blk snd (.decreaseAllowance sp c e)).isOk with
  | false => rfl
  | true =>
    obtain ⟨_, _, _, o, ho, hx, _, held, hf⟩ := (decrease_ok_iff s blk snd sp c e).mp hr
    rcases hbad o ho with h | h
    · rw [hx] at h; cases h
    · rw [hf] at h; cases h

/-- C08, exact effect of `DecreaseAllowance` besides the amounts (`decrease_saturates`, `decrease_saturates_exact`):
the allowance was there and unexpired; afterwards the entry is either gone (it then held nothing) or carries the
submitted expiry, else the stored one; nobody else's allowance, no permission and not the admin configuration change;
nothing is relayed. -/
theorem decrease_exact {s s' : Cw1Subkeys.State} {blk : Block} {snd : Addr} {sp : AddrArg} {c : Coin}
    {e : Option Expiration} {out : List CosmosMsg}
    (h : Cw1Subkeys.execute s blk snd (.decreaseAllowance sp c e) = .ok (s', out)) :
    (∃ o, s.allowances.get? sp.text = some o ∧ o.expires.isExpired blk = false ∧
      ((s'.allowances.get? sp.text = none ∧ ∀ d, held s' sp.text d = 0) ∨
       (∃ a', s'.allowances.get? sp.text = some a' ∧ a'.expires = e.getD o.expires ∧ a'.expires.isExpired blk = false))) ∧
    (∀ y, y ≠ sp.text → s'.allowances.get? y = s.allowances.get? y) ∧
    s'.permissions = s.permissions ∧ s'.cfg = s.cfg ∧ out = [] := by
  obtain ⟨_, _, _, a, hdec, rfl, rfl⟩ := Cw1Subkeys.execute_decrease_ok_iff.mp h
  obtain ⟨o, ho, hx, hae, hax, _⟩ := decFn_total hdec
  refine ⟨⟨o, ho, hx, ?_⟩, fun y hy => get?_dec_ne _ _ (Ne.symm hy), rfl, rfl, rfl⟩
  by_cases hemp : a.balance.isEmpty = true
  · exact .inl ⟨by simp only [hemp, if_true]; exact AMap.get?_erase_eq _ _, fun d => by rw [held_dec_eq, NativeBalance.isEmpty_total hemp]⟩
  · exact .inr ⟨a, by simp only [hemp]; exact AMap.get?_set_eq _ _ _, hae, hax⟩

/-- Is the stored allowance expired at `blk` (`false` without one)? -/
def expiredAt (blk : Block) (al : Option Allowance) : Bool :=
  match al with
  | some a => a.expires.isExpired blk
  | none => false

/-- What an increase keeps of a stored allowance and what it discards add up to what was held. -/
theorem liveBal_add_forfeit (s : Cw1Subkeys.State) (x : Addr) (blk : Block) (d : String) :
    total (liveBal blk (s.allowances.get? x)) d +
      (if expiredAt blk (s.allowances.get? x) = true then held s x d else 0) = held s x d := by
  simp only [held, bal]
  cases s.allowances.get? x with
  | none => rfl
  | some a => cases hx : a.expires.isExpired blk <;> simp [liveBal, expiredAt, balOf, hx]

/-- State plus four ghost ledgers: the two of `Ghost` and the two that account for allowance that disappears
without being spent. -/
structure Ledger where
  st : Cw1Subkeys.State
  /-- Σ of the amounts of all successful `IncreaseAllowance` calls for (subkey, denom) -/
  granted : Addr → String → Nat
  /-- Σ of the amounts of denom relayed by the subkey's own successful non-admin `Execute` calls -/
  spent : Addr → String → Nat
  /-- Σ over successful `DecreaseAllowance` calls of what they took away (held before − held after) -/
  revoked : Addr → String → Nat
  /-- Σ over successful `IncreaseAllowance` calls on an *expired* allowance of the remainder they discarded -/
  forfeited : Addr → String → Nat

/-- One transaction with the four-column bookkeeping (a failed call changes nothing). -/
def lstep (l : Ledger) (op : Block × Addr × Cw1Subkeys.Msg) : Ledger :=
  match Cw1Subkeys.execute l.st op.1 op.2.1 op.2.2 with
  | .error _ => l
  | .ok (s', _) =>
    match op.2.2 with
    | .increaseAllowance sp c _ =>
      { l with st := s',
               granted := fun x d => l.granted x d + (if x = sp.text ∧ c.1 = d then c.2 else 0),
               forfeited := fun x d => l.forfeited x d +
                 (if x = sp.text ∧ expiredAt op.1 (l.st.allowances.get? x) = true then held l.st x d else 0) }
    | .decreaseAllowance sp _ _ =>
      { l with st := s',
               revoked := fun x d => l.revoked x d + (if x = sp.text then held l.st x d - held s' x d else 0) }
    | .execute msgs =>
      if l.st.cfg.isAdmin op.2.1 then { l with st := s' }
      else { l with st := s', spent := fun x d => l.spent x d + (if x = op.2.1 then sent msgs d else 0) }
    | _ => { l with st := s' }

def lrun (l : Ledger) (ops : List (Block × Addr × Cw1Subkeys.Msg)) : Ledger := ops.foldl lstep l

/-- Forgetting the two extra columns. -/
def Ledger.ghost (l : Ledger) : Ghost := ⟨l.st, l.granted, l.spent⟩

/-- The four-column ledger extends the two-column one: state, `granted` and `spent` are those of `gstep`. -/
theorem lstep_ghost (l : Ledger) (op : Block × Addr × Cw1Subkeys.Msg) : (lstep l op).ghost = gstep l.ghost op := by
  obtain ⟨blk, snd, m⟩ := op
  simp only [lstep, gstep, Ledger.ghost]
  cases Cw1Subkeys.execute l.st blk snd m with
  | error e => rfl
  | ok r =>
    cases m with
    | execute msgs => by_cases ha : l.st.cfg.isAdmin snd = true <;> simp [ha]
    | _ => rfl

theorem lrun_ghost (l : Ledger) (ops : List (Block × Addr × Cw1Subkeys.Msg)) : (lrun l ops).ghost = grun l.ghost ops :=
  (List.foldl_hom Ledger.ghost fun l op => (lstep_ghost l op).symm).symm

theorem lrun_st (l : Ledger) (ops : List (Block × Addr × Cw1Subkeys.Msg)) : (lrun l ops).st = C17.Sk.run l.st ops :=
  (congrArg Ghost.st (lrun_ghost l ops)).trans (grun_st l.ghost ops)

/-- Exact ledger invariant: for every subkey and denomination, what was granted is accounted for completely — it
was relayed, or is still held, or was taken back by a `DecreaseAllowance`, or was discarded when an expired allowance
was restarted by an `IncreaseAllowance`. -/
def LInv (l : Ledger) : Prop :=
  ∀ x d, l.spent x d + held l.st x d + l.revoked x d + l.forfeited x d = l.granted x d

theorem held_congr {s s' : Cw1Subkeys.State} {x : Addr} {d : String}
    (h : s'.allowances.get? x = s.allowances.get? x) : held s' x d = held s x d := by
  simp only [held, bal, h]

theorem lstep_inv {l : Ledger} (hi : LInv l) (op : Block × Addr × Cw1Subkeys.Msg) : LInv (lstep l op) := by
  obtain ⟨blk, snd, m⟩ := op
  cases he : Cw1Subkeys.execute l.st blk snd m with
  | error e => simp only [lstep, he]; exact hi
  | ok r =>
    obtain ⟨s', out⟩ := r
    intro x d
    have hxd := hi x d
    cases m with
    | execute msgs =>
      simp only [lstep, he]
      cases ha : l.st.cfg.isAdmin snd
      · simp only [Bool.false_eq_true, if_false]
        by_cases hx : x = snd
        · subst hx
          have := spend_exact ha he d
          simp only [if_true]; omega
        · rw [held_congr ((C17.Sk.execute_cases he).2.2.1 x hx), if_neg hx]; exact hxd
      · simp only [if_true]
        rw [C07.Sk.admin_execute_state ha he]; exact hxd
    | freeze => simp only [lstep, he]; obtain ⟨c, _, rfl⟩ := Cw1Subkeys.execute_freeze_ok_iff.mp he; exact hxd
    | updateAdmins a => simp only [lstep, he]; obtain ⟨c, _, rfl⟩ := Cw1Subkeys.execute_updateAdmins_ok_iff.mp he; exact hxd
    | setPermissions sp p => simp only [lstep, he]; obtain ⟨_, _, _, rfl, _⟩ := Cw1Subkeys.execute_setPermissions_ok_iff.mp he; exact hxd
    | increaseAllowance sp c e =>
      obtain ⟨hnew, _, hfr, _⟩ := increase_exact he
      simp only [lstep, he]
      by_cases hx : x = sp.text
      · subst hx
        have := liveBal_add_forfeit l.st sp.text blk d
        rw [hnew d]
        simp only [true_and]
        omega
      · rw [held_congr (hfr x hx), if_neg (fun h => hx h.1), if_neg (fun h => hx h.1)]; exact hxd
    | decreaseAllowance sp c e =>
      simp only [lstep, he]
      by_cases hx : x = sp.text
      · subst hx
        have := (decrease_saturates he d).1
        simp only [if_true]; omega
      · rw [held_congr ((decrease_exact he).2.1 x hx), if_neg hx]; exact hxd

theorem lrun_inv {l : Ledger} (hi : LInv l) (ops : List (Block × Addr × Cw1Subkeys.Msg)) : LInv (lrun l ops) :=
  foldl_invariant LInv (fun _ hs op _ => lstep_inv hs op) hi

/-- Four-column ledgers opened on an arbitrary state: current holdings count as granted. -/
def ledgerOf (s : Cw1Subkeys.State) : Ledger := ⟨s, fun x d => held s x d, fun _ _ => 0, fun _ _ => 0, fun _ _ => 0⟩

/-- C08, "exactly … across calls": on every history from **any** state — any interleaving of Increase / Decrease
(any denom, amount, expiry), Execute calls with any number of bank sends, admin changes and block advances across
expiries — for every subkey and denomination

  `spent + still held + revoked by Decrease + forfeited at a restart after expiry = held at the start + granted since`.

So the amount relayed is *exactly* what was granted minus what is left, minus what admins took back, minus what
expired unused and was then overwritten. -/
theorem ledger_exact_relative (s : Cw1Subkeys.State) (ops : List (Block × Addr × Cw1Subkeys.Msg)) :
    LInv (lrun (ledgerOf s) ops) :=
  lrun_inv (fun x d => by simp [ledgerOf]) ops

/-- C08, the exact ledger from instantiation (all columns start at zero). -/
theorem ledger_exact {m0 : Cw1Subkeys.InstMsg} {s0 : Cw1Subkeys.State} (h0 : Cw1Subkeys.instantiate m0 = .ok s0)
    (ops : List (Block × Addr × Cw1Subkeys.Msg)) :
    LInv (lrun ⟨s0, fun _ _ => 0, fun _ _ => 0, fun _ _ => 0, fun _ _ => 0⟩ ops) := by
  obtain ⟨_, rfl⟩ := (Cw1Subkeys.instantiate_ok_iff m0 s0).mp h0
  exact lrun_inv (fun x d => rfl) ops

/-- The exact ledger and the bound of `ledger_invariant` talk about the same `granted` / `spent` columns and the
same states. -/
theorem ledger_exact_columns {s0 : Cw1Subkeys.State} (ops : List (Block × Addr × Cw1Subkeys.Msg)) :
    (lrun ⟨s0, fun _ _ => 0, fun _ _ => 0, fun _ _ => 0, fun _ _ => 0⟩ ops).ghost = grun (ghost0 s0) ops :=
  lrun_ghost _ ops

/-- The bound is the exact ledger with the two columns of disappeared allowance forgotten. -/
theorem LInv.ghost {l : Ledger} (h : LInv l) : GInv l.ghost := fun x d => by
  have := h x d
  simp only [Ledger.ghost]; omega

/-- C08, the cumulative bound: on every history from instantiation — any interleaving of Increase/Decrease (any
denom, amount, expiry), Execute calls with any number of bank sends, admin changes, and block advances across
expiries — for every subkey and denomination `spent + remaining ≤ granted`. -/
theorem ledger_invariant {m0 : Cw1Subkeys.InstMsg} {s0 : Cw1Subkeys.State} (h0 : Cw1Subkeys.instantiate m0 = .ok s0)
    (ops : List (Block × Addr × Cw1Subkeys.Msg)) : GInv (grun (ghost0 s0) ops) := by
  rw [← ledger_exact_columns]; exact (ledger_exact h0 ops).ghost

/-- C08, headline: over any history the amount a subkey has relayed per denomination never exceeds what admins
granted it.  (An increase on an expired allowance discards the old remainder; that only helps the bound.) -/
theorem spent_le_granted {m0 : Cw1Subkeys.InstMsg} {s0 : Cw1Subkeys.State} (h0 : Cw1Subkeys.instantiate m0 = .ok s0)
    (ops : List (Block × Addr × Cw1Subkeys.Msg)) (x : Addr) (d : String) :
    (grun (ghost0 s0) ops).spent x d ≤ (grun (ghost0 s0) ops).granted x d := by
  have := ledger_invariant h0 ops x d; omega

/-- C08, the cumulative bound relative to **any** start state (not only `instantiate` outputs — e.g. a migrated
store): over every history, what a subkey has relayed since plus what it still holds never exceeds what it held at
the start plus what admins granted it since. -/
theorem ledger_relative (s : Cw1Subkeys.State) (ops : List (Block × Addr × Cw1Subkeys.Msg)) :
    GInv (grun (ghostOf s) ops) := by
  have := (ledger_exact_relative s ops).ghost
  rwa [lrun_ghost] at this

/-- C08: the headline bound from any start state. -/
theorem spent_le_granted_relative (s : Cw1Subkeys.State) (ops : List (Block × Addr × Cw1Subkeys.Msg)) (x : Addr) (d : String) :
    (grun (ghostOf s) ops).spent x d ≤ (grun (ghostOf s) ops).granted x d := by
  have := ledger_relative s ops x d; omega

/-- C08: what a successful `DecreaseAllowance{spender, (d, amt)}` takes away on a well-formed state is
`min amt held` of `d` and nothing of any other denomination — so `revoked` is the Σ of those minima. -/
theorem decrease_revokes_exact {s s' : Cw1Subkeys.State} {blk : Block} {snd : Addr} {sp : AddrArg} {c : Coin}
    {e : Option Expiration} {out : List CosmosMsg} (hw : WF s)
    (h : Cw1Subkeys.execute s blk snd (.decreaseAllowance sp c e) = .ok (s', out)) (d : String) :
    held s sp.text d - held s' sp.text d = if c.1 = d then min c.2 (held s sp.text d) else 0 := by
  by_cases hd : c.1 = d
  · subst hd
    rw [if_pos rfl, decrease_saturates_exact hw h, Nat.sub_sub_eq_min, Nat.min_comm]
  · have h1 := decrease_saturates h d
    rw [if_neg hd] at h1 ⊢; omega

/-- C08, "queries hide expired allowances", listing side: every entry the paged `AllAllowances` query returns —
for any cursor and limit — is a stored allowance that is unexpired at the block of the query.  (That no unexpired
entry is *missing* from the pages is `C20Listings.subkeys_allAllowances_complete_after`.) -/
theorem listing_hides_expired (s : Cw1Subkeys.State) (blk : Block) (after : Option String) (limit : Option Nat) :
    ∀ p ∈ Cw1Subkeys.queryAllAllowances s blk after limit, p ∈ s.allowances ∧ p.2.expires.isExpired blk = false := by
  intro p hp
  have := (Paginate.page_sublist _ _ after limit).subset hp
  simpa [List.mem_filter, Paginate.mem_sortedEntries] using this

/-- The point query on an expired allowance answers the empty default (the non-definitional reading of
`queries_hide_expired`): it shows no coin and `Never`. -/
theorem query_expired_is_default {s : Cw1Subkeys.State} {blk : Block} {x : Addr} {a : Allowance}
    (ha : s.allowances.get? x = some a) (hx : a.expires.isExpired blk = true) :
    Cw1Subkeys.queryAllowance s blk ⟨true, x⟩ = .ok ⟨[], .never⟩ := by
  rw [queries_hide_expired, ha]; simp [hx, Allowance.default]

open CwPlus.Props.C07 (exState blk50 blk100)

def twoSends : List CosmosMsg := [.bankSend "x" [("ua", 4)], .staking .delegate "v", .bankSend "y" [("ua", 6), ("ub", 1)]]

example : sent twoSends "ua" = 10 ∧ sent twoSends "ub" = 1 := by decide +kernel
example : held exState "sub" "ua" = 10 ∧ held exState "sub" "ub" = 5 := by decide +kernel
example : held (Cw1Subkeys.step exState blk50 "sub" (.execute twoSends)) "sub" "ua" = 0
    ∧ held (Cw1Subkeys.step exState blk50 "sub" (.execute twoSends)) "sub" "ub" = 4 := by decide +kernel
/-- one ua too much in the second send: the whole call fails, the first send is not charged -/
example : Cw1Subkeys.step exState blk50 "sub" (.execute [.bankSend "x" [("ua", 4)], .bankSend "y" [("ua", 7)]]) = exState := by decide +kernel
/-- expired at height 100 -/
example : Cw1Subkeys.step exState blk100 "sub" (.execute [.bankSend "x" [("ua", 1)]]) = exState := by decide +kernel
/-- increase on the expired allowance with a fresh expiry restarts from zero; without expiry it is refused -/
example : (Cw1Subkeys.step exState blk100 "admin" (.increaseAllowance ⟨true, "sub"⟩ ("ua", 3) (some .never))).allowances
    = [("sub", ⟨[("ua", 3)], .never⟩)] := by decide +kernel
example : Cw1Subkeys.step exState blk100 "admin" (.increaseAllowance ⟨true, "sub"⟩ ("ua", 3) none) = exState := by decide +kernel
/-- decrease saturates and deletes the emptied entry -/
example : (Cw1Subkeys.step (Cw1Subkeys.step exState blk50 "admin" (.decreaseAllowance ⟨true, "sub"⟩ ("ua", 99) none))
    blk50 "admin" (.decreaseAllowance ⟨true, "sub"⟩ ("ub", 5) none)).allowances = [] := by decide +kernel
/-- a ledger run: grant 10+3, spend 4, decrease, spend again -/
def exOps : List (Block × Addr × Cw1Subkeys.Msg) :=
  [(blk50, "admin", .increaseAllowance ⟨true, "k"⟩ ("ua", 10) none),
   (blk50, "k", .execute [.bankSend "x" [("ua", 4)]]),
   (blk50, "admin", .increaseAllowance ⟨true, "k"⟩ ("ua", 3) (some (.atHeight 60))),
   (blk50, "admin", .decreaseAllowance ⟨true, "k"⟩ ("ua", 2) none),
   (blk50, "k", .execute [.bankSend "x" [("ua", 7)]]),
   (blk50, "k", .execute [.bankSend "x" [("ua", 1)]])]
example : (grun (ghost0 { cfg := ⟨["admin"], true⟩, allowances := [], permissions := [] }) exOps).spent "k" "ua" = 11
    ∧ (grun (ghost0 { cfg := ⟨["admin"], true⟩, allowances := [], permissions := [] }) exOps).granted "k" "ua" = 13
    ∧ held (grun (ghost0 { cfg := ⟨["admin"], true⟩, allowances := [], permissions := [] }) exOps).st "k" "ua" = 0 := by decide +kernel

theorem exState_wf : WF exState := by
  intro x a h
  simp only [exState, AMap.get?] at h
  split at h
  · cases h; show List.Nodup _; decide
  · cases h

/-- liveness, non-vacuity: the hypotheses of `covered_spend_succeeds` hold of the running example (two bank sends,
cumulatively the whole `ua` allowance), and the theorem then *produces* the successful outcome -/
example : ∃ s', Cw1Subkeys.execute exState blk50 "sub"
      (.execute [.bankSend "x" [("ua", 4)], .bankSend "y" [("ua", 6), ("ub", 1)]]) =
        .ok (s', [.bankSend "x" [("ua", 4)], .bankSend "y" [("ua", 6), ("ub", 1)]]) ∧
      (∀ d, held s' "sub" d + sent [.bankSend "x" [("ua", 4)], .bankSend "y" [("ua", 6), ("ub", 1)]] d = held exState "sub" d) ∧
      (s'.allowances.get? "sub").map (·.expires) = some (.atHeight 100) :=
  covered_spend_succeeds (a := ⟨[("ua", 10), ("ub", 5)], .atHeight 100⟩) exState_wf (by decide) (by decide) (by decide)
    (by decide) (by decide)
    (fun d => by
      simp only [sent, sentCoins, msgCoins, held, bal, balOf, exState, AMap.get?, if_true]
      by_cases h1 : "ua" = d
      · subst h1; decide
      · by_cases h2 : "ub" = d
        · subst h2; decide
        · simp [total, h1, h2])
/-- `execute_ok_iff_sem` left to right on a failing call: one `ua` too much -/
example : ¬ ∀ d, sent [.bankSend "x" [("ua", 4)], .bankSend "y" [("ua", 7)]] d ≤ held exState "sub" d := by
  intro h
  have := (execute_ok_iff_sem (s := exState) (blk := blk50) (snd := "sub")
    (msgs := [.bankSend "x" [("ua", 4)], .bankSend "y" [("ua", 7)]]) exState_wf (by decide) (by decide)).mpr
    ⟨by decide, fun _ => ⟨_, rfl, by decide⟩, h⟩
  revert this; decide
/-- a zero coin of an absent denomination is refused although no denomination is overdrawn: positivity cannot be
dropped from `execute_ok_iff_sem` -/
example : (Cw1Subkeys.execute exState blk50 "sub" (.execute [.bankSend "x" [("uc", 0)]])).isOk = false := by decide +kernel
/-- `increase_ok_iff` / `decrease_ok_iff` right to left: the guarded calls do succeed -/
example : (Cw1Subkeys.execute exState blk50 "admin" (.increaseAllowance ⟨true, "sub"⟩ ("ua", 3) none)).isOk = true :=
  (increase_ok_iff exState blk50 "admin" _ _ _).mpr (by decide)
example : (Cw1Subkeys.execute exState blk50 "admin" (.decreaseAllowance ⟨true, "sub"⟩ ("ub", 9) (some .never))).isOk = true :=
  (decrease_ok_iff exState blk50 "admin" _ _ _).mpr ⟨by decide, by decide, by decide, _, rfl, by decide, by decide, 5, by decide⟩
/-- a decrease of a denomination the allowance lacks, and one on an expired allowance, fail -/
example : ∃ e, Cw1Subkeys.execute exState blk50 "admin" (.decreaseAllowance ⟨true, "sub"⟩ ("uc", 1) none) = .error e :=
  decrease_fails (fun o ho => by cases ho; exact Or.inr (by decide))
example : ∃ e, Cw1Subkeys.execute exState blk100 "admin" (.decreaseAllowance ⟨true, "sub"⟩ ("ua", 1) none) = .error e :=
  decrease_fails (fun o ho => by cases ho; exact Or.inl (by decide))
/-- the exact ledger on a run with an expiry: grant 10 (expires at 60), spend 4, restart after expiry with 3
(6 forfeited), decrease by 2, spend 1: 5 + 0 + 2 + 6 = 13 -/
def exOps2 : List (Block × Addr × Cw1Subkeys.Msg) :=
  [(blk50, "admin", .increaseAllowance ⟨true, "k"⟩ ("ua", 10) (some (.atHeight 60))),
   (blk50, "k", .execute [.bankSend "x" [("ua", 4)]]),
   (blk100, "admin", .increaseAllowance ⟨true, "k"⟩ ("ua", 3) (some .never)),
   (blk100, "admin", .decreaseAllowance ⟨true, "k"⟩ ("ua", 2) none),
   (blk100, "k", .execute [.bankSend "x" [("ua", 1)]])]
def exLedger : Ledger := lrun ⟨{ cfg := ⟨["admin"], true⟩, allowances := [], permissions := [] },
  fun _ _ => 0, fun _ _ => 0, fun _ _ => 0, fun _ _ => 0⟩ exOps2
example : exLedger.granted "k" "ua" = 13 ∧ exLedger.spent "k" "ua" = 5 ∧ held exLedger.st "k" "ua" = 0
    ∧ exLedger.revoked "k" "ua" = 2 ∧ exLedger.forfeited "k" "ua" = 6 := by decide +kernel
/-- `listing_hides_expired` at work: at height 100 the listing of the running example is empty -/
example : ∀ p, p ∉ Cw1Subkeys.queryAllAllowances exState blk100 none none := by
  intro p hp
  obtain ⟨hm, hx⟩ := listing_hides_expired _ _ _ _ p hp
  simp [exState] at hm
  subst hm
  revert hx; decide

end CwPlus.Props.C08
