import CwPlus.Lemmas.Cw4Stake
import CwPlus.Lemmas.Snapshot
import CwPlus.Props.C10
import CwPlus.Props.C20Listings
/-!
# C09 — cw4: totals and point-in-time weights match the true history (cw4-stake part)

* `total_eq_sum_members`: on every history (bond / cw20 send / unbond / claim / admin operations / plain
  transfers, failed transactions rolled back) the total weight (`TotalWeight {}`, a plain `Item<u64>` in
  cw4-stake) is the sum of the weights of the members as listed by `ListMembers`, and it fits `u64`.  That the
  pages of `ListMembers` list every member once is `stake_listMembers_complete` of `Props/C20Listings.lean`.
* `member_at_height`: instantiation of the generic snapshot theorem (`Lemmas/Snapshot.lean`) for the
  `MEMBERS` snapshot map of cw4-stake: over every history at non-decreasing block heights,
  `Member { addr, at_height: h }` is the weight the address had at the start of block `h` — the current
  weight in the state reached by exactly the transactions of the blocks before `h`; changes made in block
  `h` or later (also several bonds/unbonds of one address in one block) do not affect it.
* `member_at_height_from_stake`: the same composed with the weight invariant of `Props/C10.lean`
  (`weightInv_run`): the weight at `h` is what `calc_weight` gives for the stake at the start of block `h`.
* Raw keys (`cw4::member_key`, `cw4::TOTAL_KEY`): in this file raw and smart reads are the same map; the byte
  layout is the subject of `Props/C09Raw.lean` (`raw_member_eq_smart_stake`, `raw_total_eq_smart_stake`), and the
  monitors `C09/stake/raw-*` in `Driver/Cw4Stake.lean` compare `query_wasm_raw` with the smart queries after every op.
-/
namespace CwPlus.Props.C09Stake
open CwPlus CwPlus.Cw4Stake CwPlus.Snapshot

/-! ## The total is the sum of the member weights -/

/-- The stored total is the sum of the current member weights and fits `u64`; the member map has one
entry per address. -/
def Inv (s : State) : Prop :=
  s.total = AMap.sum s.members.cur ∧ AMap.NodupKeys s.members.cur ∧ s.total ≤ U64_MAX

theorem inv_um {s : State} (hi : Inv s) (h : Nat) (a : Addr) (new : Option Nat)
    (hb : TotalRoom s a new) : Inv (um s h a new).1 := by
  unfold um
  split
  · exact hi
  · rename_i hne
    obtain ⟨h1, h2⟩ := hb hne
    exact SnapMap.SumInv.write hi a h new (by simp only; omega) (by have := hi.2.2; simp only; omega)

theorem inv_tx {w w' : World} {blk : Block} {op : Op} {out : List Out}
    (hi : Inv w.st) (h : tx w blk op = .ok (w', out)) : Inv w'.st := by
  cases hk : Op.isStaking op with
  | true =>
    obtain ⟨stake', claims', _, new, _, _, hu, hb, _⟩ := (tx_staking h).1 hk
    rw [(um_pair hu).1]
    exact inv_um (s := { w.st with stake := stake', claims := claims' }) hi _ _ _ hb
  | false =>
    obtain ⟨_, hm, ht, _⟩ := (tx_staking h).2 hk
    unfold Inv; rw [hm, ht]; exact hi

theorem inv_init {m : InstMsg} {st : State} (h : instantiate m = .ok st) : Inv st := by
  obtain ⟨adm, rfl⟩ := instantiate_ok h
  simp [Inv, AMap.NodupKeys, AMap.keys, U64_MAX]

open Paginate in
/-- The members as listed by `ListMembers` (ascending, all pages together) carry the same sum as the map. -/
theorem listed_sum (s : State) : AMap.sum (sortedEntries strLt s.members.cur) = AMap.sum s.members.cur := by
  unfold AMap.sum sortedEntries
  exact ((List.mergeSort_perm _ _).map (fun p : Addr × Nat => p.2)).sum_nat

open Paginate in
/-- **C09 `total_eq_sum_members` (cw4-stake)**: after any accepted instantiation and any finite history of
transactions the reported total weight equals the sum of the weights of the listed members, and fits `u64`. -/
theorem total_eq_sum_members {m : InstMsg} {st : State} (h : instantiate m = .ok st) (bal : AMap Addr Nat)
    (acc : List Addr) (ops : List (Block × Op)) :
    queryTotalWeight (run (World.init st bal acc) ops).st
        = AMap.sum (sortedEntries strLt (run (World.init st bal acc) ops).st.members.cur)
      ∧ queryTotalWeight (run (World.init st bal acc) ops).st ≤ U64_MAX := by
  have hi : Inv (run (World.init st bal acc) ops).st :=
    run_inv (fun w => Inv w.st) (fun _ _ _ _ _ hi ht => inv_tx hi ht) (inv_init h) ops
  rw [listed_sum]
  exact ⟨hi.1, hi.2.2⟩

/-- The `u64` arithmetic of `update_membership` can fail only by *overflow* of `total + new`, never by
underflow of `− old`: the old weight is part of the total. -/
theorem no_underflow {s : State} (hi : Inv s) (a : Addr) (new : Nat) :
    (s.members.get? a).getD 0 ≤ s.total + new := by
  have := AMap.get?_le_sum s.members.cur a
  simp only [SnapMap.get?]
  rw [hi.1]; omega

/-! ## Point-in-time weights: instantiation of the generic snapshot theorem -/

/-- Block heights never decrease along a history. -/
def Ordered (ops : List (Block × Op)) : Prop := ops.Pairwise (fun a b => a.1.height ≤ b.1.height)

/-- Histories of transactions as steps in blocks: `MEMBERS` read at a height, for every address. -/
def blocks : Blocks World (Block × Op) (Addr → Option Nat) where
  step w o := step w o.1 o.2
  ht o := o.1.height
  Le w b := w.st.members.LogLe b
  read w h a := w.st.members.atHeight a h
  mono hs hb := hs.mono hb
  keep hs hb := (step_sameBlock _ _).logLe hs hb
  hide hs hh := funext fun a => (step_sameBlock _ _).atHeight_le hs a hh

theorem run_logLe {w : World} {B : Nat} (ops : List (Block × Op)) (hm : w.st.members.LogLe B)
    (hB : ∀ o ∈ ops, o.1.height ≤ B) : (run w ops).st.members.LogLe B :=
  blocks.foldl_le hm ops hB

/-- **Point-in-time weights, general form** (cw4-stake): from any world whose member changelog is bounded by `b`,
after any history at non-decreasing heights `≥ b`, a query at a height `h > b` returns the current weight in the
world reached by exactly the transactions of the blocks before `h`. -/
theorem run_atHeight {w : World} {b : Nat} (ops : List (Block × Op)) (hm : w.st.members.LogLe b)
    (hge : ∀ o ∈ ops, b ≤ o.1.height) (hord : Ordered ops) {h : Nat} (hb : b < h) (a : Addr) :
    (run w ops).st.members.atHeight a h = weightOf (run w (ops.filter (fun o => o.1.height < h))).st a := by
  have hl := run_logLe (B := h - 1) (ops.filter (fun o => o.1.height < h)) (hm.mono (by omega))
    (by intro o ho; have := (List.mem_filter.mp ho).2; simp at this; omega)
  exact (congrFun (blocks.read_foldl_filter hm ops hge hord h) a).trans (SnapMap.atHeight_of_logLe hl (by omega) a)

theorem init_logLe {m : InstMsg} {st : State} (h : instantiate m = .ok st) (b : Nat) : st.members.LogLe b := by
  obtain ⟨adm, rfl⟩ := instantiate_ok h
  exact SnapMap.logLe_empty b

/-- **C09 `member_at_height` (cw4-stake)**: for every accepted instantiation, every history of transactions
at non-decreasing block heights, every address and every height `h` (before the first transaction, at a
block with transactions, between blocks, in the future): `Member { addr, at_height: h }` is the current
weight of the address in the state reached by exactly the transactions of the blocks before `h` — the
value that held at the start of block `h`, unaffected by any change made in block `h` or later. -/
theorem member_at_height {m : InstMsg} {st : State} (hi : instantiate m = .ok st) (bal : AMap Addr Nat)
    (acc : List Addr) (ops : List (Block × Op)) (hord : Ordered ops) (a : Addr) (h : Nat) :
    (run (World.init st bal acc) ops).st.members.atHeight a h
      = weightOf (run (World.init st bal acc) (ops.filter (fun o => o.1.height < h))).st a := by
  by_cases hh : 0 < h
  · exact run_atHeight ops (init_logLe hi 0) (fun _ _ => Nat.zero_le _) hord hh a
  · -- at height 0 nothing is visible: no transaction lies before it
    have h0 : h = 0 := by omega
    subst h0
    have hz := congrFun (blocks.read_foldl_of_le (s := World.init st bal acc) (b := 0) (init_logLe hi 0) ops
      (fun _ _ => Nat.zero_le _) hord (fun _ _ => Nat.zero_le _)) a
    rw [List.filter_eq_nil_iff.mpr (by simp)]
    obtain ⟨adm, rfl⟩ := instantiate_ok hi
    exact hz

/-- The query as the contract answers it. -/
theorem queryMember_eq (s : State) (a : AddrArg) (hv : a.valid = true) (at_ : Option Nat) :
    queryMember s a at_ = .ok (match at_ with
      | some h => s.members.atHeight a.text h
      | none => weightOf s a.text) := by
  cases at_ <;> simp [queryMember, hv, check, weightOf]

/-! ## Non-vacuity -/

def cfgMsg : InstMsg := ⟨.native "ustake", 10, 20, .height 5, none⟩

def stOf (m : InstMsg) : State :=
  match instantiate m with
  | .ok st => st
  | .error _ => default

/-- alice bonds twice in block 100 (weights 3, then 5), unbonds in block 102 (weight 2), bob joins. -/
def demoOps : List (Block × Op) :=
  [(⟨100, 0⟩, .bond "alice" [("ustake", 30)]), (⟨100, 0⟩, .bond "alice" [("ustake", 20)]),
   (⟨102, 0⟩, .unbond "alice" 25), (⟨102, 0⟩, .bond "bob" [("ustake", 40)])]

def demoWorld : World := run (World.init (stOf cfgMsg) [("alice", 100), ("bob", 100)] []) demoOps

example : (instantiate cfgMsg).isOk = true := by decide +kernel
example : demoWorld.st.members.atHeight "alice" 100 = none ∧ demoWorld.st.members.atHeight "alice" 101 = some 5 ∧
    demoWorld.st.members.atHeight "alice" 102 = some 5 ∧ demoWorld.st.members.atHeight "alice" 103 = some 2 ∧
    demoWorld.st.members.atHeight "bob" 102 = none ∧ weightOf demoWorld.st "bob" = some 4 ∧
    demoWorld.st.total = 6 := by decide +kernel

/-! # The pieces composed -/

open Paginate in
/-- **C09 `total_eq_sum_members` (cw4-stake), over the listing a client actually fetches**: after any
accepted instantiation and any history, paging through `ListMembers` (any page size `limit ≠ 0`, cursor =
last address of the previous page, enough rounds) yields a list whose weights sum to `TotalWeight {}`. -/
theorem total_eq_sum_listed {m : InstMsg} {st : State} (h : instantiate m = .ok st) (bal : AMap Addr Nat)
    (acc : List Addr) (ops : List (Block × Op)) (limit : Option Nat) (hl : limit ≠ some 0) {fuel : Nat}
    (hf : (run (World.init st bal acc) ops).st.members.cur.length + 1 ≤ fuel) :
    queryTotalWeight (run (World.init st bal acc) ops).st =
      AMap.sum (fetchLoop (fun c => Props.C20.okItems
        (queryListMembers (run (World.init st bal acc) ops).st (c.map (⟨true, ·⟩)) limit)) (·.1) none fuel) := by
  rw [Props.C20Listings.stake_listMembers_complete h bal acc ops limit hl hf]
  exact (total_eq_sum_members h bal acc ops).1

open Paginate in
/-- **C09 (cw4-stake), the listing agrees with the point query** (the monitor `C09/stake/listing-vs-point`):
after any accepted instantiation and any history, `(a, w)` is listed by `ListMembers` (all pages together)
exactly when `Member { addr: a }` answers `w`; no address is listed twice. -/
theorem listing_vs_point {m : InstMsg} {st : State} (h : instantiate m = .ok st) (bal : AMap Addr Nat)
    (acc : List Addr) (ops : List (Block × Op)) (a : Addr) (w : Nat) :
    ((a, w) ∈ sortedEntries strLt (run (World.init st bal acc) ops).st.members.cur ↔
      weightOf (run (World.init st bal acc) ops).st a = some w) ∧
    AMap.NodupKeys (sortedEntries strLt (run (World.init st bal acc) ops).st.members.cur) := by
  have hn := run_nodup (w := World.init st bal acc) (instantiate_nodup h) ops
  exact ⟨mem_sortedEntries_iff_get? strLt hn a w, sortedEntries_nodupKeys hn⟩

open Paginate in
/-- … in terms of the pages a client fetches. -/
theorem fetched_vs_point {m : InstMsg} {st : State} (h : instantiate m = .ok st) (bal : AMap Addr Nat)
    (acc : List Addr) (ops : List (Block × Op)) (limit : Option Nat) (hl : limit ≠ some 0) {fuel : Nat}
    (hf : (run (World.init st bal acc) ops).st.members.cur.length + 1 ≤ fuel) (a : Addr) (w : Nat) :
    (a, w) ∈ fetchLoop (fun c => Props.C20.okItems
        (queryListMembers (run (World.init st bal acc) ops).st (c.map (⟨true, ·⟩)) limit)) (·.1) none fuel ↔
      weightOf (run (World.init st bal acc) ops).st a = some w := by
  rw [Props.C20Listings.stake_listMembers_complete h bal acc ops limit hl hf]
  exact (listing_vs_point h bal acc ops a w).1

/-- **C09 `member_at_height` composed with C10 `weight_is_quotient` / `member_iff_min_bond`**: for every
accepted instantiation, every history at non-decreasing heights, every address and height,
`Member { addr, at_height: h }` is what `calc_weight` says about the stake the address had at the start of
block `h`: nothing below `min_bond`, otherwise `stake / tokens_per_weight` (which fits `u64`). -/
theorem member_at_height_from_stake {m : InstMsg} {st : State} (hi : instantiate m = .ok st) (bal : AMap Addr Nat)
    (acc : List Addr) (ops : List (Block × Op)) (hord : Ordered ops) (a : Addr) (h : Nat) :
    let sh := (run (World.init st bal acc) (ops.filter (fun o => o.1.height < h))).st
    calcWeight st.cfg (stakeOf sh a) = .ok ((run (World.init st bal acc) ops).st.members.atHeight a h) ∧
    (run (World.init st bal acc) ops).st.members.atHeight a h =
      (if stakeOf sh a < st.cfg.minBond then none else some (stakeOf sh a / st.cfg.tokensPerWeight)) := by
  intro sh
  have hw := (Props.C10.weightInv_run hi bal acc (ops.filter (fun o => o.1.height < h))).2 a
  have hcfg : sh.cfg = st.cfg := Props.C10.cfg_run (World.init st bal acc) _
  rw [member_at_height hi bal acc ops hord a h]
  rw [hcfg] at hw
  exact ⟨hw, (calcWeight_ok hw).1⟩

/-! ## Non-vacuity: the theorems applied to `demoOps` -/

theorem inst_cfgMsg : instantiate cfgMsg = .ok (stOf cfgMsg) := rfl

example : Ordered demoOps := by unfold Ordered; decide
example (a : Addr) (h : Nat) : demoWorld.st.members.atHeight a h
    = weightOf (run (World.init (stOf cfgMsg) [("alice", 100), ("bob", 100)] []) (demoOps.filter (fun o => o.1.height < h))).st a :=
  member_at_height inst_cfgMsg _ _ demoOps (by unfold Ordered; decide +kernel) a h
example : queryTotalWeight demoWorld.st = 6 ∧ queryTotalWeight demoWorld.st ≤ U64_MAX :=
  ⟨by decide, (total_eq_sum_members inst_cfgMsg [("alice", 100), ("bob", 100)] [] demoOps).2⟩
example := total_eq_sum_listed inst_cfgMsg [("alice", 100), ("bob", 100)] [] demoOps (some 1) (by decide +kernel)
  (fuel := 3) (by decide +kernel)
example := fetched_vs_point inst_cfgMsg [("alice", 100), ("bob", 100)] [] demoOps none (by decide +kernel)
  (fuel := 3) (by decide +kernel) "bob" 4
/-- at height 102 alice's weight is `50 / 10 = 5` (her stake at the start of block 102 was 50) -/
example : stakeOf (run (World.init (stOf cfgMsg) [("alice", 100), ("bob", 100)] [])
      (demoOps.filter (fun o => o.1.height < 102))).st "alice" = 50 ∧
    demoWorld.st.members.atHeight "alice" 102 = some (50 / 10) := by decide +kernel
example := member_at_height_from_stake inst_cfgMsg [("alice", 100), ("bob", 100)] [] demoOps
  (by unfold Ordered; decide +kernel) "alice" 102

end CwPlus.Props.C09Stake
