import CwPlus.Lemmas.Cw1
/-!
# cw1-subkeys `migrate` and the cw2 version item

`migrate` of cw1-subkeys only does version bookkeeping.  Proved here, about the model `CwPlus.Cw1Subkeys`:

* `migrate_frame`: `migrate` never touches the admin list, the allowances or the permissions — so the
  statements of C07, C08, C16, C17 (which only mention those) are unaffected by interleaved migrations;
  conversely `execute_cw2_frame`: no execute message touches the cw2 item;
* `migrate_ok_iff`: it succeeds exactly when the cw2 item exists and its version is a semantic version;
* `migrate_exact`: on success the item is `(crates.io:cw1-subkeys, 2.0.0)` when the stored version was
  strictly older, and is left as it was otherwise (`migrate_never_downgrades`, `migrate_idempotent`);
  the stored contract *name* is never examined (`migrate_ignores_name`);
* `reach_version`: a contract instantiated by this code keeps `(crates.io:cw1-subkeys, 2.0.0)` over every
  mixed history of execute messages and migrations.
-/
namespace CwPlus.Props.Cw1SubkeysMigrate
open CwPlus CwPlus.Cw1Subkeys

def current : Cw2 := ⟨CONTRACT_NAME, some CONTRACT_VERSION⟩

/-- **What a successful `migrate` stores**: current name and version if the stored version was strictly
older (semver precedence), nothing new otherwise. -/
theorem migrate_exact {s s' : State} (h : migrate s = .ok s') :
    ∃ c v, s.cw2 = some c ∧ c.version = some v ∧
      s' = (if SemVer.lt v CONTRACT_VERSION then { s with cw2 := some current } else s) :=
  migrate_eq_ok_iff.mp h

/-- **Frame**: `migrate` leaves admins, mutability, allowances and permissions exactly as they were. -/
theorem migrate_frame {s s' : State} (h : migrate s = .ok s') :
    s'.cfg = s.cfg ∧ s'.allowances = s.allowances ∧ s'.permissions = s.permissions := by
  obtain ⟨c, v, _, _, rfl⟩ := migrate_exact h
  split <;> exact ⟨rfl, rfl, rfl⟩

/-- **Exactly when `migrate` succeeds**: the cw2 item exists and its version parses. -/
theorem migrate_ok_iff (s : State) : (∃ s', migrate s = .ok s') ↔ ∃ c v, s.cw2 = some c ∧ c.version = some v :=
  ⟨fun ⟨_, h⟩ => let ⟨c, v, hc, hv, _⟩ := migrate_exact h; ⟨c, v, hc, hv⟩,
   fun ⟨c, v, hc, hv⟩ => ⟨_, migrate_eq_ok_iff.mpr ⟨c, v, hc, hv, rfl⟩⟩⟩

theorem lt_irrefl_current : SemVer.lt CONTRACT_VERSION CONTRACT_VERSION = false := by decide +kernel

/-- The stored version never goes down: after a successful `migrate` it is the old one or the current
one, and the current one only replaces a strictly older one. -/
theorem migrate_never_downgrades {s s' : State} (h : migrate s = .ok s') :
    s'.cw2 = s.cw2 ∨ (s'.cw2 = some current ∧ ∃ c v, s.cw2 = some c ∧ c.version = some v ∧ SemVer.lt v CONTRACT_VERSION = true) := by
  obtain ⟨c, v, hc, hv, rfl⟩ := migrate_exact h
  split
  · rename_i hl; exact .inr ⟨rfl, c, v, hc, hv, hl⟩
  · exact .inl rfl

/-- Migrating twice is migrating once. -/
theorem migrate_idempotent {s s' : State} (h : migrate s = .ok s') : migrate s' = .ok s' := by
  obtain ⟨c, v, hc, hv, rfl⟩ := migrate_exact h
  split
  · exact migrate_eq_ok_iff.mpr ⟨current, CONTRACT_VERSION, rfl, rfl, by rw [lt_irrefl_current]; rfl⟩
  · rename_i hl; exact migrate_eq_ok_iff.mpr ⟨c, v, hc, hv, by rw [if_neg hl]⟩

/-- `migrate` never looks at the stored contract name: two states that differ only in it are treated alike
(so the state of another contract, e.g. `crates.io:cw1-whitelist`, is accepted and relabelled). -/
theorem migrate_ignores_name (s : State) (n1 n2 : String) (v : Option SemVer) :
    (migrate { s with cw2 := some ⟨n1, v⟩ }).isOk = (migrate { s with cw2 := some ⟨n2, v⟩ }).isOk := by
  unfold migrate
  rcases v with _ | v
  · rfl
  · simp only; split <;> rfl

/-- A stored version newer than the code's is accepted silently and left in place. -/
theorem migrate_newer_accepted (s : State) (c : Cw2) (v : SemVer) (hc : s.cw2 = some c) (hv : c.version = some v)
    (hn : SemVer.lt v CONTRACT_VERSION = false) : migrate s = .ok s :=
  migrate_eq_ok_iff.mpr ⟨c, v, hc, hv, by rw [hn]; rfl⟩

/-- **Converse frame**: no execute message (relay, freeze, admin update, allowance and permission
changes) touches the cw2 item. -/
theorem execute_cw2_frame {s s' : State} {blk : Block} {snd : Addr} {m : Msg} {out : List Cw1Whitelist.CosmosMsg}
    (h : execute s blk snd m = .ok (s', out)) : s'.cw2 = s.cw2 := by
  rcases execute_ok_cases h with ⟨_, _, _, rfl | ⟨_, h1⟩⟩ |
    ⟨_, _, ⟨_, rfl, _⟩ | ⟨_, _, _, _, _, _, _, rfl, _⟩ | ⟨_, _, _, _, _, rfl⟩⟩
  · rfl
  · exact (checkMsgs_frame h1).2.2.1
  · rfl
  · rfl
  · rfl

inductive Op where
  | exec (blk : Block) (snd : Addr) (m : Msg)
  | migrate

/-- One transaction of a mixed history (failed ones rolled back). -/
def opStep (s : State) : Op → State
  | .exec blk snd m => step s blk snd m
  | .migrate => match migrate s with | .ok s' => s' | .error _ => s

def run (s : State) (ops : List Op) : State := ops.foldl opStep s

theorem opStep_version {s : State} (op : Op) (h : s.cw2 = some current) : (opStep s op).cw2 = some current := by
  cases op with
  | exec blk snd m =>
    simp only [opStep, step]
    split
    · rename_i s' out he; rw [execute_cw2_frame he]; exact h
    · exact h
  | migrate =>
    simp only [opStep]
    split
    · rename_i s' hm
      rcases migrate_never_downgrades hm with e | ⟨e, _⟩
      · rw [e]; exact h
      · exact e
    · exact h

/-- **A contract instantiated by this code keeps its cw2 item** `(crates.io:cw1-subkeys, 2.0.0)` over every
mixed history of execute messages and migrations (every one of which succeeds and changes nothing). -/
theorem reach_version {m : InstMsg} {s : State} (h : instantiate m = .ok s) (ops : List Op) :
    (run s ops).cw2 = some current := by
  obtain ⟨_, rfl⟩ := (instantiate_ok_iff m s).mp h
  exact foldl_invariant (fun s : State => s.cw2 = some current) (fun _ hs op _ => opStep_version op hs) rfl

/-! `execute` commutes with replacing the cw2 item (it neither reads nor writes it). -/

theorem map_bind {α β γ : Type} (f : β → γ) (x : Res α) (g : α → Res β) :
    (x >>= g).map f = x >>= fun a => (g a).map f := by
  cases x <;> rfl

theorem checkMsg_with_cw2 (b : State) (c : Option Cw2) (blk : Block) (snd : Addr) (m : Cw1Whitelist.CosmosMsg) :
    checkMsg { b with cw2 := c } blk snd m = (checkMsg b blk snd m).map (fun r => { r with cw2 := c }) := by
  cases m <;> simp only [checkMsg]
  case staking k x => cases b.permissions.get? snd <;> simp only [map_bind] <;> rfl
  case distribution k x => cases b.permissions.get? snd <;> simp only [map_bind] <;> rfl
  case bankSend to coins => cases b.allowances.get? snd <;> simp only [map_bind] <;> rfl
  all_goals rfl

theorem checkMsgs_with_cw2 (b : State) (c : Option Cw2) (blk : Block) (snd : Addr) (ms : List Cw1Whitelist.CosmosMsg) :
    checkMsgs { b with cw2 := c } blk snd ms = (checkMsgs b blk snd ms).map (fun r => { r with cw2 := c }) := by
  induction ms generalizing b with
  | nil => rfl
  | cons m rest ih =>
    simp only [checkMsgs, checkMsg_with_cw2, map_bind]
    cases checkMsg b blk snd m with
    | error e => rfl
    | ok s1 => exact ih s1

theorem execute_with_cw2 (b : State) (c : Option Cw2) (blk : Block) (snd : Addr) (m : Msg) :
    execute { b with cw2 := c } blk snd m =
      (execute b blk snd m).map (fun r => ({ r.1 with cw2 := c }, r.2)) := by
  cases m <;> simp only [execute]
  case execute msgs =>
    simp only [execExecute]
    split
    · rfl
    · rw [checkMsgs_with_cw2]
      cases checkMsgs b blk snd msgs <;> rfl
  case freeze => simp only [execFreeze, map_bind]; rfl
  case updateAdmins admins => simp only [execUpdateAdmins, map_bind]; rfl
  case increaseAllowance sp cn e => simp only [execIncreaseAllowance, map_bind]; rfl
  case decreaseAllowance sp cn e =>
    simp only [execDecreaseAllowance, map_bind]
    refine congrArg _ (funext fun _ => congrArg _ (funext fun _ => congrArg _ (funext fun _ => congrArg _ (funext fun a => ?_))))
    split <;> rfl
  case setPermissions sp p => simp only [execSetPermissions, map_bind]; rfl

/-- `execute` reads and writes only the three fields: states that agree on them step to states that do. -/
theorem run_erase_migrations.step_agree (a b : State) (blk : Block) (snd : Addr) (m : Msg)
    (h1 : a.cfg = b.cfg) (h2 : a.allowances = b.allowances) (h3 : a.permissions = b.permissions) :
    (step a blk snd m).cfg = (step b blk snd m).cfg ∧ (step a blk snd m).allowances = (step b blk snd m).allowances ∧
    (step a blk snd m).permissions = (step b blk snd m).permissions := by
  have ha : a = { b with cw2 := a.cw2 } := by
    cases a; cases b; simp_all
  rw [ha]
  unfold step
  rw [execute_with_cw2 b a.cw2 blk snd m]
  cases execute b blk snd m <;> exact ⟨rfl, rfl, rfl⟩

/-- The two states agree on what C07/C08/C16/C17 talk about: admins, allowances, permissions. -/
def Agree (a b : State) : Prop :=
  a.cfg = b.cfg ∧ a.allowances = b.allowances ∧ a.permissions = b.permissions

/-- States that agree stay in agreement when one runs a mixed history and the other the same history without its
migrations. -/
theorem run_agree (ops : List Op) {a b : State} (h : Agree a b) :
    Agree (run a ops) (run b (ops.filter fun o => match o with | .exec .. => true | .migrate => false)) := by
  induction ops generalizing a b with
  | nil => exact h
  | cons op rest ih =>
    cases op with
    | migrate =>
      have hf : Agree (opStep a .migrate) a := by
        simp only [opStep]
        split
        · rename_i s' hm; exact migrate_frame hm
        · exact ⟨rfl, rfl, rfl⟩
      exact ih ⟨hf.1.trans h.1, hf.2.1.trans h.2.1, hf.2.2.trans h.2.2⟩
    | exec blk snd m => exact ih (run_erase_migrations.step_agree a b blk snd m h.1 h.2.1 h.2.2)

/-- Over a mixed history, what C07/C08/C16/C17 talk about (admins, allowances, permissions) is what the
same history without its migrations produces. -/
theorem run_erase_migrations (s : State) (ops : List Op) :
    let ex := ops.filter (fun o => match o with | .exec .. => true | .migrate => false)
    (run s ops).cfg = (run s ex).cfg ∧ (run s ops).allowances = (run s ex).allowances ∧
    (run s ops).permissions = (run s ex).permissions :=
  run_agree ops ⟨rfl, rfl, rfl⟩

def exState : State := { cfg := ⟨["admin"], true⟩, allowances := [("k", ⟨[("ua", 5)], .never⟩)], permissions := [] }

/-- older version, foreign name: relabelled to the current name and version; allowances untouched -/
example : migrate { exState with cw2 := some ⟨"crates.io:cw1-whitelist", some ⟨0, 13, 4, none⟩⟩ } = .ok exState := by rfl

/-- a pre-release of the current version is older than the release -/
example : migrate { exState with cw2 := some ⟨CONTRACT_NAME, some ⟨2, 0, 0, some "beta"⟩⟩ } = .ok exState := by rfl

/-- newer version: accepted, kept -/
example : migrate { exState with cw2 := some ⟨CONTRACT_NAME, some ⟨3, 0, 0, some "rc1"⟩⟩ } =
    .ok { exState with cw2 := some ⟨CONTRACT_NAME, some ⟨3, 0, 0, some "rc1"⟩⟩ } := by rfl

/-- absent item / unparseable version: refused -/
example : (migrate { exState with cw2 := none }).isOk = false ∧
    (migrate { exState with cw2 := some ⟨CONTRACT_NAME, none⟩ }).isOk = false := by decide +kernel

example : (run exState [.migrate, .exec ⟨1, 1⟩ "k" (.execute [.bankSend "x" [("ua", 2)]]), .migrate]).allowances
    = [("k", ⟨[("ua", 3)], .never⟩)] := by decide +kernel

end CwPlus.Props.Cw1SubkeysMigrate
