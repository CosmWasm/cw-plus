import CwPlus.Base.Num
import CwPlus.Base.Expiration
import CwPlus.Base.AMap
import CwPlus.Base.Paginate
/-!
# Model of `contracts/cw20-ics20`

Transcribed from `contract.rs` (`instantiate`, `execute`, `execute_receive`, `execute_transfer`,
`execute_allow`, `migrate`, all seven queries), `ibc.rs` (`reply`, `ibc_channel_open/connect/close`,
`ibc_packet_receive`, `ibc_packet_ack`, `ibc_packet_timeout`, `check_gas_limit`, `send_amount`),
`state.rs` (`increase/reduce/undo_reduce_channel_balance`), `migrations.rs` (`v2::update_balances`),
`amount.rs`, cw-controllers `Admin`, cw-utils `one_coin` / `nonpayable` / `maybe_addr`.

Conventions
* `addr_validate` is an external call: address arguments carry the result (`AddrArg.valid`).
* Denominations are structural (`Denom.native d` / `Denom.cw20 addr`); the string form
  `"cw20:" ++ addr` exists only at the driver boundary (`Denom.render`).  Assumption: no native
  denomination starts with `cw20:`.
* The voucher denomination of an incoming packet is pre-split at the first two `/`
  (`splitn(3, '/')`): `none` = fewer than three parts.
* JSON decoding is not modelled here: undecodable packet data / acknowledgements / hook messages are `none`.
  (`Model/Ics20Wire.lean` computes these arguments from the bytes on the wire with `Base/Json.lean`.)
* `World` adds the runtime: bank and cw20 balances, dispatch of the (single) payout / refund
  sub-message with `reply_on_error` semantics as implemented by wasmd / cw-multi-test.
-/
namespace CwPlus.Ics20
open CwPlus

structure AddrArg where
  valid : Bool
  text : String
  deriving Repr, DecidableEq, Inhabited

inductive Denom where
  | native (d : String)
  | cw20 (addr : String)
  deriving Repr, DecidableEq, Inhabited

/-- `Amount::denom()` / the storage key. -/
def Denom.render : Denom → String
  | .native d => d
  | .cw20 a => "cw20:" ++ a

structure Config where
  defaultTimeout : Nat
  defaultGasLimit : Option Nat
  deriving Repr, DecidableEq, Inhabited

structure ChanState where
  outstanding : Nat
  totalSent : Nat
  deriving Repr, DecidableEq, Inhabited

structure ReplyArgs where
  channel : String
  denom : Denom
  amount : Nat
  deriving Repr, DecidableEq, Inhabited

/-- semver `major.minor.patch[-pre]` -/
structure Version where
  major : Nat
  minor : Nat
  patch : Nat
  pre : Option String := none
  deriving Repr, DecidableEq, Inhabited

/-- semver precedence (one pre-release identifier, compared as a string; a pre-release is
smaller than the release). -/
def Version.lt (a b : Version) : Bool :=
  if a.major ≠ b.major then decide (a.major < b.major)
  else if a.minor ≠ b.minor then decide (a.minor < b.minor)
  else if a.patch ≠ b.patch then decide (a.patch < b.patch)
  else match a.pre, b.pre with
    | some x, some y => decide (x < y)
    | some _, none => true
    | none, _ => false

def Version.le (a b : Version) : Bool := !(Version.lt b a)

def CONTRACT_NAME : String := "crates.io:cw20-ics20"
def CONTRACT_VERSION : Version := ⟨2, 0, 0, none⟩
def MIGRATE_MIN_VERSION : Version := ⟨0, 11, 1, none⟩
def MIGRATE_VERSION_2 : Version := ⟨0, 12, 0, some "alpha1"⟩
def MIGRATE_VERSION_3 : Version := ⟨0, 13, 0, none⟩
def ICS20_VERSION : String := "ics20-1"
def RECEIVE_ID : Nat := 1337
def ACK_FAILURE_ID : Nat := 0xfa17

abbrev ChanMap := AMap (String × Denom) ChanState

/-- `ChannelInfo`: our channel id, the counterparty endpoint, the connection. -/
structure ChanInfo where
  id : String
  cpPort : String
  cpChan : String
  connection : String
  deriving Repr, DecidableEq, Inhabited

/-- What `IbcChannel` says about the other side: `counterparty_endpoint` and `connection_id`. -/
structure Peer where
  port : String := "transfer"
  chan : String := ""
  connection : String := "connection-0"
  deriving Repr, DecidableEq, Inhabited

structure State where
  config : Config
  /-- `some gov`: the stored `CONFIG` JSON still has the pre-0.12 layout
  `{default_timeout, gov_contract}`.  The current `Config` type is `deny_unknown_fields`, so
  `CONFIG.load` of the current code fails on it; `v1::CONFIG.load` succeeds only on it. -/
  v1gov : Option Addr := none
  /-- cw-controllers `ADMIN` (`Item<Option<Addr>>`); the contract only ever stores `Some(addr)`,
  so `none` here means: the item is absent (pre-0.12 layout) and `ADMIN.get` fails. -/
  admin : Option Addr
  /-- `ALLOW_LIST`: token ↦ optional gas limit -/
  allow : AMap Addr (Option Nat)
  /-- keys of `CHANNEL_INFO` -/
  channels : List String
  /-- values of `CHANNEL_INFO` (same keys as `channels`: `Props/Ics20Channels.lean`, `reach_registry`) -/
  chanInfo : AMap String ChanInfo := []
  /-- `CHANNEL_STATE[(channel, denom)]` -/
  chan : ChanMap
  replyArgs : Option ReplyArgs := none
  versionName : String
  version : Version
  deriving Repr, Inhabited

/-- `Ics20Packet` (the denomination as it appears in an outgoing packet). -/
structure Packet where
  amount : Nat
  denom : Denom
  receiver : String
  sender : String
  memo : Option String
  deriving Repr, DecidableEq, Inhabited

/-- `IbcMsg::SendPacket` -/
structure SendOut where
  channel : String
  packet : Packet
  /-- timeout timestamp in ns -/
  timeout : Nat
  deriving Repr, DecidableEq, Inhabited

/-- The payout / refund sub-message (`SubMsg::reply_on_error(send_amount(..), id)` with `gas_limit`):
`BankMsg::Send{to, [amount denom]}` or `WasmMsg::Execute{token, Transfer{to, amount}}`. -/
structure SubMsg where
  to : String
  amount : Nat
  denom : Denom
  gas : Option Nat
  replyId : Nat
  deriving Repr, DecidableEq, Inhabited

inductive Ack where
  | success
  | error
  deriving Repr, DecidableEq, Inhabited

structure TransferMsg where
  channel : String
  remote : String
  timeout : Option Nat
  memo : Option String
  deriving Repr, DecidableEq, Inhabited

structure InstMsg where
  defaultTimeout : Nat
  gov : AddrArg
  allowlist : List (AddrArg × Option Nat)
  defaultGasLimit : Option Nat
  deriving Repr, Inhabited

/-! ## state.rs -/

/-- `CONFIG.load` by the current code. -/
def loadConfig (s : State) : Res Config :=
  if s.v1gov.isSome then .error "config.v1layout" else .ok s.config

/-- `increase_channel_balance` (`+=` on `Uint128` panics on overflow). -/
def increaseBalance (m : ChanMap) (c : String) (d : Denom) (amt : Nat) : Res ChanMap := do
  let cs := (m.get? (c, d)).getD ⟨0, 0⟩
  let o ← addU128 cs.outstanding amt
  let t ← addU128 cs.totalSent amt
  pure (m.set (c, d) ⟨o, t⟩)

/-- `reduce_channel_balance`: error if the entry is missing or too small. -/
def reduceBalance (m : ChanMap) (c : String) (d : Denom) (amt : Nat) : Res ChanMap :=
  match m.get? (c, d) with
  | none => .error "insufficient.missing"
  | some cs => do
    let o ← subU128 cs.outstanding amt
    pure (m.set (c, d) ⟨o, cs.totalSent⟩)

/-- `undo_reduce_channel_balance`: adds back `outstanding` only. -/
def undoReduce (m : ChanMap) (c : String) (d : Denom) (amt : Nat) : Res ChanMap := do
  let cs := (m.get? (c, d)).getD ⟨0, 0⟩
  let o ← addU128 cs.outstanding amt
  pure (m.set (c, d) ⟨o, cs.totalSent⟩)

def outstanding (s : State) (c : String) (d : Denom) : Nat :=
  match s.chan.get? (c, d) with | some cs => cs.outstanding | none => 0

/-! ## instantiate -/

def addAllows : List (AddrArg × Option Nat) → AMap Addr (Option Nat) → Res (AMap Addr (Option Nat))
  | [], m => .ok m
  | (a, g) :: rest, m => do
    check a.valid "addr"
    addAllows rest (m.set a.text g)

def instantiate (m : InstMsg) : Res State := do
  check m.gov.valid "addr"
  let allow ← addAllows m.allowlist []
  pure { config := ⟨m.defaultTimeout, m.defaultGasLimit⟩, admin := some m.gov.text, allow := allow,
         channels := [], chan := [], versionName := CONTRACT_NAME, version := CONTRACT_VERSION }

/-! ## execute -/

/-- The cw20 gate of `execute_transfer`: a cw20 token needs an allow-list entry unless a default
gas limit is configured. -/
def transferGate (s : State) (cfg : Config) (d : Denom) : Bool :=
  match d with
  | .native _ => true
  | .cw20 a => cfg.defaultGasLimit.isSome || s.allow.contains a

/-- `execute_transfer`.  `sender` is the packet's sender; for cw20 the token address is
`info.sender` (always a valid address). -/
def execTransfer (s : State) (blk : Block) (msg : TransferMsg) (d : Denom) (amt : Nat) (sender : Addr) :
    Res (State × SendOut) := do
  check (amt != 0) "nofunds"
  check (s.channels.contains msg.channel) "nochannel"
  let cfg ← loadConfig s
  check (transferGate s cfg d) "notallowed"
  let delta := msg.timeout.getD cfg.defaultTimeout
  -- `Timestamp::plus_seconds`: `delta * 10^9` and the addition are overflow-checked u64 operations
  check (decide (delta * 1000000000 ≤ U64_MAX)) "overflow.timeout"
  let timeout ← addU64 blk.time (delta * 1000000000)
  -- `Ics20Packet::validate`
  check (decide (amt ≤ U64_MAX)) "amount.overflow"
  let chan ← increaseBalance s.chan msg.channel d amt
  pure ({ s with chan := chan }, ⟨msg.channel, ⟨amt, d, msg.remote, sender, msg.memo⟩, timeout⟩)

/-- `ExecuteMsg::Transfer` with `info.funds`: `one_coin`. -/
def execTransferNative (s : State) (blk : Block) (snd : Addr) (funds : List (String × Nat)) (msg : TransferMsg) :
    Res (State × SendOut) :=
  match funds with
  | [] => .error "nofunds"
  | [(d, amt)] => execTransfer s blk msg (.native d) amt snd
  | _ => .error "multipledenoms"

/-- `ExecuteMsg::Receive` (cw20 hook): `info.sender` is the token; `nonpayable`; the inner message
must decode; the wrapper's sender must validate. -/
def execReceive (s : State) (blk : Block) (token : Addr) (funds : List (String × Nat))
    (sender : AddrArg) (amt : Nat) (msg : Option TransferMsg) : Res (State × SendOut) := do
  check funds.isEmpty "nonpayable"
  match msg with
  | none => .error "decode"
  | some m => do
    check sender.valid "addr"
    execTransfer s blk m (.cw20 token) amt sender.text

/-- `execute_allow` -/
def execAllow (s : State) (snd : Addr) (contract : AddrArg) (gas : Option Nat) : Res State := do
  check (s.admin == some snd) "unauthorized"
  check contract.valid "addr"
  let okToSet : Bool :=
    match s.allow.get? contract.text, gas with
    | some none, some _ => false
    | some (some old), some new => !(decide (new < old))
    | _, _ => true
  check okToSet "cannotlowergas"
  pure { s with allow := s.allow.set contract.text gas }

/-- `ExecuteMsg::UpdateAdmin { admin }`: always `Some(admin)`, so the admin can never be cleared. -/
def execUpdateAdmin (s : State) (snd : Addr) (admin : AddrArg) : Res State := do
  check admin.valid "addr"
  check (s.admin == some snd) "unauthorized"
  pure { s with admin := some admin.text }

/-! ## IBC entry points -/

/-- `enforce_order_and_version` -/
def enforceOrderAndVersion (version : String) (counterparty : Option String) (ordered : Bool) : Res Unit := do
  check (version == ICS20_VERSION) "version"
  check (match counterparty with | some v => v == ICS20_VERSION | none => true) "version.counterparty"
  check (!ordered) "ordered"

/-- `ibc_channel_open` (`OpenInit`: no counterparty version, `OpenTry`: with one): checks only, no
write, answers `None` (= keep the proposed version). -/
def ibcChannelOpen (version : String) (counterparty : Option String) (ordered : Bool) : Res Unit :=
  enforceOrderAndVersion version counterparty ordered

/-- `ibc_channel_connect` (`OpenAck`: with counterparty version, `OpenConfirm`: without): the same
checks, then `CHANNEL_INFO.save(id, info)` (overwrites the info of a known id). -/
def ibcChannelConnect (s : State) (id version : String) (counterparty : Option String) (ordered : Bool)
    (peer : Peer := {}) : Res State := do
  enforceOrderAndVersion version counterparty ordered
  pure { s with channels := if s.channels.contains id then s.channels else s.channels ++ [id],
                chanInfo := s.chanInfo.set id ⟨id, peer.port, peer.chan, peer.connection⟩ }

/-- `ibc_channel_close` (`CloseInit` and `CloseConfirm` alike) is `unimplemented!()`: it panics, the
transaction is aborted, nothing is written. -/
def ibcChannelClose (_s : State) (_id : String) : Res State := .error "unimplemented"

/-- `check_gas_limit`; `tv` = result of `addr_validate` on the cw20 address. -/
def checkGasLimit (s : State) (d : Denom) (tv : Bool) : Res (Option Nat) :=
  match d with
  | .native _ => .ok none
  | .cw20 a => do
    check tv "addr"
    match s.allow.get? a with
    | some g => pure g
    | none => do
      let cfg ← loadConfig s
      match cfg.defaultGasLimit with
      | some base => pure (some base)
      | none => .error "notallowed"

/-- An incoming packet as the contract sees it. -/
structure PacketIn where
  srcPort : String
  srcChan : String
  destChan : String
  /-- `none`: `from_json(&packet.data)` fails -/
  amount : Option Nat
  /-- voucher denom split at the first two `/`; `none`: fewer than three parts -/
  voucher : Option (String × String × Denom)
  receiver : String
  sender : String
  deriving Repr, Inhabited

/-- `do_ibc_packet_receive` (order after the D5 fix: parse → voucher → gas limit → reduce →
REPLY_ARGS → sub-message). -/
def doReceive (s : State) (p : PacketIn) (tv : Bool) : Res (State × SubMsg) :=
  match p.amount with
  | none => .error "decode"
  | some amt =>
    match p.voucher with
    | none => .error "noforeigntokens"
    | some (port, ch, d) => do
      check (port == p.srcPort) "otherport"
      check (ch == p.srcChan) "otherchannel"
      let gas ← checkGasLimit s d tv
      let chan ← reduceBalance s.chan p.destChan d amt
      pure ({ s with chan := chan, replyArgs := some ⟨p.destChan, d, amt⟩ },
            ⟨p.receiver, amt, d, gas, RECEIVE_ID⟩)

/-- `ibc_packet_receive`: total.  Every error of `do_ibc_packet_receive` becomes an error
acknowledgement; all its fallible steps precede its first write, so the state is the old one. -/
def ibcPacketReceive (s : State) (p : PacketIn) (tv : Bool) : State × Ack × Option SubMsg :=
  match doReceive s p tv with
  | .ok (s', sub) => (s', .success, some sub)
  | .error _ => (s, .error, none)

/-- `reply`: `subOk = false` is `SubMsgResult::Err`.  Returns the new state and `data`. -/
def reply (s : State) (id : Nat) (subOk : Bool) : Res (State × Option Ack) :=
  if id = RECEIVE_ID then
    if subOk then .ok (s, none)
    else
      match s.replyArgs with
      | none => .error "replyargs"
      | some ra => do
        let chan ← undoReduce s.chan ra.channel ra.denom ra.amount
        pure ({ s with chan := chan }, some .error)
  else if id = ACK_FAILURE_ID then
    if subOk then .ok (s, none) else .ok (s, some .error)
  else .error "unknownreplyid"

/-- `on_packet_failure` (error acknowledgement or timeout of a packet we sent on `chan`). -/
def onPacketFailure (s : State) (chan : String) (data : Option Packet) (tv : Bool) : Res (State × SubMsg) :=
  match data with
  | none => .error "decode"
  | some p => do
    let ch ← reduceBalance s.chan chan p.denom p.amount
    let gas ← checkGasLimit s p.denom tv
    pure ({ s with chan := ch }, ⟨p.sender, p.amount, p.denom, gas, ACK_FAILURE_ID⟩)

/-- `ibc_packet_ack`; `ackOk = none`: the acknowledgement does not decode. -/
def ibcPacketAck (s : State) (chan : String) (data : Option Packet) (ackOk : Option Bool) (tv : Bool) :
    Res (State × Option SubMsg) :=
  match ackOk with
  | none => .error "decode.ack"
  | some true =>
    match data with
    | none => .error "decode"
    | some _ => .ok (s, none)
  | some false => do
    let (s', sub) ← onPacketFailure s chan data tv
    pure (s', some sub)

def ibcPacketTimeout (s : State) (chan : String) (data : Option Packet) (tv : Bool) : Res (State × Option SubMsg) := do
  let (s', sub) ← onPacketFailure s chan data tv
  pure (s', some sub)

/-! ## migrate -/

/-- `v2::update_denom` over the entries of the single channel; `hold d` is the contract's real
balance (`none`: the balance query fails). -/
def updateDenoms (ch : String) (hold : Denom → Option Nat) : List ((String × Denom) × ChanState) → ChanMap → Res ChanMap
  | [], m => .ok m
  | ((c, d), cs) :: rest, m =>
    if c = ch then
      match hold d with
      | none => .error "balancequery"
      | some bal => do
        let diff ← subU128 bal cs.outstanding
        if diff = 0 then updateDenoms ch hold rest m
        else do
          let o ← addU128 cs.outstanding diff
          let t ← addU128 cs.totalSent diff
          updateDenoms ch hold rest (m.set (c, d) ⟨o, t⟩)
    else updateDenoms ch hold rest m

/-- `v2::update_balances` -/
def updateBalances (s : State) (hold : Denom → Option Nat) : Res State :=
  match s.channels with
  | [] => .ok s
  | [ch] => do
    let m ← updateDenoms ch hold s.chan s.chan
    pure { s with chan := m }
  | _ => .error "multiplechannels"

def migrate (s : State) (gas : Option Nat) (hold : Denom → Option Nat) : Res State := do
  let stored := s.version
  check (s.versionName == CONTRACT_NAME) "cannotmigrate.name"
  check (!(Version.lt CONTRACT_VERSION stored)) "cannotmigrate.newer"
  check (!(Version.lt stored MIGRATE_MIN_VERSION)) "cannotmigrate.old"
  let s1 ← (if Version.le stored MIGRATE_VERSION_2 then
      match s.v1gov with
      | none => .error "v1config"
      | some g => pure { s with admin := some g, config := ⟨s.config.defaultTimeout, none⟩, v1gov := none }
    else pure s : Res State)
  let s2 ← (if Version.le stored MIGRATE_VERSION_3 then updateBalances s1 hold else pure s1 : Res State)
  let s3 ← (match gas with
    | some g => do
      let cfg ← loadConfig s2
      pure { s2 with config := ⟨cfg.defaultTimeout, some g⟩ }
    | none => pure s2 : Res State)
  pure (if Version.lt stored CONTRACT_VERSION then { s3 with version := CONTRACT_VERSION } else s3)

/-! ## queries -/

/-- `Channel{id}`: `(denom string, outstanding, total_sent)` in storage-key order. -/
def queryChannel (s : State) (id : String) : Res (List (String × ChanState)) := do
  check (s.channels.contains id) "nochannel"
  let entries : AMap String ChanState := (s.chan.filter (fun e => e.1.1 == id)).map (fun e => (e.1.2.render, e.2))
  pure (Paginate.sortedEntries Paginate.strLt entries)

/-- The `info` part of `Channel{id}` (`CHANNEL_INFO.load`). -/
def queryChannelInfo (s : State) (id : String) : Res ChanInfo :=
  match s.chanInfo.get? id with
  | some i => .ok i
  | none => .error "nochannel"

/-- `ListChannels{}`: every stored `ChannelInfo`, ascending by channel id (not paginated). -/
def queryListChannels (s : State) : List ChanInfo :=
  (Paginate.sortedEntries Paginate.strLt s.chanInfo).map (·.2)

/-- `Port{}`: forwards `IbcQuery::PortId` to the chain; `envPort` is the chain's answer
(`none`: the chain has no IBC port bound for this contract / the query fails). -/
def queryPort (envPort : Option String) : Res String :=
  match envPort with
  | some p => .ok p
  | none => .error "portquery"

/-- `Config{}`: `(default_timeout, default_gas_limit, gov_contract)` -/
def queryConfig (s : State) : Res (Nat × Option Nat × String) := do
  let cfg ← loadConfig s
  match s.admin with
  | none => .error "admin.absent"
  | some a => pure (cfg.defaultTimeout, cfg.defaultGasLimit, a)

/-- `Admin{}`: `ADMIN.get` is `Item::load`, which fails when the item is absent. -/
def queryAdmin (s : State) : Res Addr :=
  match s.admin with
  | none => .error "admin.absent"
  | some a => .ok a

/-- `Allowed{contract}`: `(is_allowed, gas_limit)` -/
def queryAllowed (s : State) (c : AddrArg) : Res (Bool × Option Nat) := do
  check c.valid "addr"
  match s.allow.get? c.text with
  | none => pure (false, none)
  | some g => pure (true, g)

/-- `ListAllowed{start_after, limit}`: the cursor goes through `maybe_addr` (must validate). -/
def queryListAllowed (s : State) (after : Option AddrArg) (limit : Option Nat) : Res (List (Addr × Option Nat)) := do
  check (match after with | some a => a.valid | none => true) "addr"
  pure (Paginate.page Paginate.strLt (Paginate.sortedEntries Paginate.strLt s.allow) (after.map (·.text)) limit)

/-! ## World: balances and sub-message dispatch -/

structure World where
  st : State
  /-- the ics20 contract's own address -/
  self : Addr
  /-- the cw20 contracts that exist -/
  tokens : List Addr
  /-- tokens whose `Transfer` fails while the fault flag is set (bank sends always can) -/
  faulty : List Addr
  /-- native balances, keyed `(account, denom)` -/
  bank : AMap (Addr × String) Nat
  /-- cw20 balances, keyed `(token, account)` -/
  tok : AMap (Addr × Addr) Nat
  deriving Repr, Inhabited

def World.bankBal (w : World) (a : Addr) (d : String) : Nat := (w.bank.get? (a, d)).getD 0
def World.tokBal (w : World) (t a : Addr) : Nat := (w.tok.get? (t, a)).getD 0

/-- The contract's real holdings of a denomination (`none`: not a token that exists). -/
def World.holdings (w : World) : Denom → Option Nat
  | .native d => some (w.bankBal w.self d)
  | .cw20 t => if w.tokens.contains t then some (w.tokBal t w.self) else none

/-- Move native coins (fails on insufficient funds). -/
def World.bankSend (w : World) (src dst : Addr) (d : String) (amt : Nat) : Option World :=
  if w.bankBal src d < amt then none
  else
    let b1 := w.bank.set (src, d) (w.bankBal src d - amt)
    let b2 := b1.set (dst, d) (((b1.get? (dst, d)).getD 0) + amt)
    some { w with bank := b2 }

/-- cw20 `Transfer` / the balance move of `Send` (fails on insufficient funds). -/
def World.tokSend (w : World) (t src dst : Addr) (amt : Nat) : Option World :=
  if w.tokBal t src < amt then none
  else
    let b1 := w.tok.set (t, src) (w.tokBal t src - amt)
    let b2 := b1.set (t, dst) (((b1.get? (t, dst)).getD 0) + amt)
    some { w with tok := b2 }

/-- Execute the payout / refund sub-message in its own transaction: `none` = the sub-call failed
and was rolled back.  `toValid`: the recipient validates; `fail`: the fault flag of the op. -/
def World.payout (w : World) (sub : SubMsg) (toValid fail : Bool) : Option World :=
  match sub.denom with
  | .native d =>
    -- the bank rejects empty amounts and (in the harness' bank) invalid recipients
    if fail || !toValid || sub.amount == 0 then none else w.bankSend w.self sub.to d sub.amount
  | .cw20 t =>
    if !w.tokens.contains t || (fail && w.faulty.contains t) || !toValid then none
    else w.tokSend t w.self sub.to sub.amount

/-- Dispatch of a handler response with at most one `reply_on_error` sub-message: a failing
sub-call is rolled back and `reply` runs; its `data` overrides the handler's. -/
def World.dispatch (w : World) (sub : Option SubMsg) (toValid fail : Bool) (data : Option Ack) :
    Res (World × Option Ack) :=
  match sub with
  | none => .ok (w, data)
  | some sm =>
    match w.payout sm toValid fail with
    | some w' => .ok (w', data)
    | none => do
      let (st', d) ← reply w.st sm.replyId false
      pure ({ w with st := st' }, d.or data)

inductive Op where
  | connect (id version : String) (counterparty : Option String) (ordered : Bool) (peer : Peer)
  /-- `ibc_channel_open` (handshake step before `connect`) -/
  | chanOpen (version : String) (counterparty : Option String) (ordered : Bool)
  /-- `ibc_channel_close` -/
  | chanClose (id : String)
  /-- user sends `ExecuteMsg::Transfer` with funds -/
  | transferNative (snd : Addr) (funds : List (String × Nat)) (msg : TransferMsg)
  /-- user calls `Send{contract: ics20, amount, msg}` on a real cw20 token -/
  | sendCw20 (snd token : Addr) (amt : Nat) (msg : Option TransferMsg)
  /-- an account that is not a token contract calls `ExecuteMsg::Receive` directly -/
  | hook (snd : Addr) (funds : List (String × Nat)) (sender : AddrArg) (amt : Nat) (msg : Option TransferMsg)
  | allow (snd : Addr) (contract : AddrArg) (gas : Option Nat)
  | updateAdmin (snd : Addr) (admin : AddrArg)
  | migrate (gas : Option Nat)
  | recv (p : PacketIn) (rcvValid tv fail : Bool)
  | ack (chan : String) (data : Option Packet) (ackOk : Option Bool) (sndValid tv fail : Bool)
  | timeout (chan : String) (data : Option Packet) (sndValid tv fail : Bool)
  deriving Repr, Inhabited

/-- What a transaction shows to the outside. -/
structure Outcome where
  ack : Option Ack := none
  sent : List SendOut := []
  sub : Option SubMsg := none
  deriving Repr, Inhabited

/-- One transaction against the world.  `.error` = the whole transaction is rolled back. -/
def World.exec (w : World) (blk : Block) : Op → Res (World × Outcome)
  | .connect id v cv ord peer => do
    let s ← ibcChannelConnect w.st id v cv ord peer
    pure ({ w with st := s }, {})
  | .chanOpen v cv ord => do
    ibcChannelOpen v cv ord
    pure (w, {})
  | .chanClose id => do
    let s ← ibcChannelClose w.st id
    pure ({ w with st := s }, {})
  | .transferNative snd funds msg => do
    -- the contract never sends a message to itself
    check (snd != w.self) "impossible.self"
    -- the runtime moves the funds first (fails if the sender cannot cover them)
    let w1 ← (match funds with
      | [(d, amt)] =>
        (if amt = 0 then .error "bank.empty" else
          match w.bankSend snd w.self d amt with
          | some w1 => .ok w1
          | none => .error "bank.insufficient")
      | [] => .ok w
      | _ => .error "multipledenoms" : Res World)
    let (s, out) ← execTransferNative w1.st blk snd funds msg
    pure ({ w1 with st := s }, { sent := [out] })
  | .sendCw20 snd token amt msg => do
    check (snd != w.self) "impossible.self"
    check (w.tokens.contains token) "notoken"
    let w1 ← (match w.tokSend token snd w.self amt with
      | some w1 => .ok w1
      | none => .error "cw20.insufficient" : Res World)
    let (s, out) ← execReceive w1.st blk token [] ⟨true, snd⟩ amt msg
    pure ({ w1 with st := s }, { sent := [out] })
  | .hook snd funds sender amt msg => do
    -- a real token contract calls `Receive` only from `Send` (after crediting the contract)
    check (!w.tokens.contains snd) "impossible.token"
    check funds.isEmpty "nonpayable"
    let (s, out) ← execReceive w.st blk snd funds sender amt msg
    pure ({ w with st := s }, { sent := [out] })
  | .allow snd c g => do
    let s ← execAllow w.st snd c g
    pure ({ w with st := s }, {})
  | .updateAdmin snd a => do
    let s ← execUpdateAdmin w.st snd a
    pure ({ w with st := s }, {})
  | .migrate g => do
    let s ← migrate w.st g w.holdings
    pure ({ w with st := s }, {})
  | .recv p rcvValid tv fail => do
    let (s, ack, sub) := ibcPacketReceive w.st p tv
    let (w', data) ← World.dispatch { w with st := s } sub rcvValid fail (some ack)
    pure (w', { ack := data, sub := sub })
  | .ack chan data ackOk sndValid tv fail => do
    let (s, sub) ← ibcPacketAck w.st chan data ackOk tv
    let (w', d) ← World.dispatch { w with st := s } sub sndValid fail none
    pure (w', { ack := d, sub := sub })
  | .timeout chan data sndValid tv fail => do
    let (s, sub) ← ibcPacketTimeout w.st chan data tv
    let (w', d) ← World.dispatch { w with st := s } sub sndValid fail none
    pure (w', { ack := d, sub := sub })

/-- Transaction semantics: a failed transaction leaves the world unchanged. -/
def World.step (w : World) (blk : Block) (op : Op) : World :=
  match w.exec blk op with
  | .ok (w', _) => w'
  | .error _ => w

end CwPlus.Ics20
