import CwPlus.Lemmas.MsgWire
import CwPlus.Props.C02
import CwPlus.Props.C14
import CwPlus.Props.C14Stake
/-!
# The JSON messages sent to other contracts, byte for byte (part of C02 and C14)

`Model/MsgWire.lean` is a byte-level model of what `to_json_binary` writes for `Cw20ReceiveMsg` (the notification of
`Send` / `SendFrom`), `MemberChangedHookMsg` (the cw4 membership hooks) and the cw20 `Transfer` / `TransferFrom`
payloads, and of what a receiver built with the same libraries reads.  Here each kind of message is read back
exactly (every text, every payload, every amount below 2^128, every weight below 2^64 or absent), different messages
have different bytes, the bytes are UTF-8 under exactly one outer key, and no kind is read as another.  Then the
messages that the cw20-base, cw4-group and cw4-stake models emit (C02 `send_notifies_once`, C14 `one_msg_per_hook`,
`diffs_truthful`, `bond_unbond_diffs_truthful`) are shown to carry exactly these bytes.

The tie: the harness prints the real `WasmMsg::Execute.msg` bytes (`raw=`, `hookraw=`, `xferraw=`), the driver
renders the same keys with the encoders of `Model/MsgWire.lean`; they are compared after every op
(`corpus/C02/msgwire_directed.ops` carries senders and payloads that need every escape and every padding).
-/
namespace CwPlus.Props.MsgWire
open CwPlus CwPlus.Json CwPlus.MsgWire

/- A struct is read back by running the field loop of its visitor on the output of its serialiser: with these
steps `simp` runs the loop, given the `…FieldValue` function and what the value parsers do on the value tokens. -/
attribute [local simp] fieldKeys_escape skipWs_cons isWs field_append parseObj_first parseObj_next parseObj_end
  endMap_close parseStringValue_encStr

/-! ## base64 -/

/-- `Binary::from_base64(binary.to_base64()) = Ok(binary)` for every byte string — the encoder
pads, the decoder (`DecodePaddingMode::Indifferent`, trailing bits refused) accepts the padded form and returns
the bytes. -/
theorem b64_roundtrip (bs : Bytes) : b64Dec (b64Enc bs) = some bs := b64Dec_b64Enc bs

/-- base64 is injective -/
theorem b64Enc_injective (a b : Bytes) (h : b64Enc a = b64Enc b) : a = b :=
  Option.some.inj ((b64_roundtrip a).symm.trans ((congrArg b64Dec h).trans (b64_roundtrip b)))

set_option maxRecDepth 1000000 in
example : bytesToString (b64Enc (strBytes "{\"k\":1}")) = "eyJrIjoxfQ==" := by decide +kernel
set_option maxRecDepth 1000000 in
example : bytesToString (b64Enc (strBytes "ab")) = "YWI=" := by decide +kernel
set_option maxRecDepth 1000000 in
example : bytesToString (b64Enc [0xfb, 0xff, 0xfe]) = "+//+" := by decide +kernel
set_option maxRecDepth 1000000 in
example : b64Enc [] = [] := rfl
set_option maxRecDepth 1000000 in
/-- the decoder accepts what the real one accepts: missing padding is fine, trailing bits are not -/
example : b64Dec (strBytes "YWI") = some (strBytes "ab") ∧ b64Dec (strBytes "YWJ=") = none ∧
    b64Dec (strBytes "Y") = none ∧ b64Dec (strBytes "YW=I") = none := by
  repeat rw [strBytes_ofList]
  decide +kernel

/-! ## `Cw20ReceiveMsg` -/

/-- The notifications for which the round trip is proved: the amount is a `Uint128`; every sender text (all of
Unicode, control characters, quotes, backslashes) and every payload are supported. -/
def SupportedReceive (m : Receive) : Prop := m.amount < 2 ^ 128

instance (m : Receive) : Decidable (SupportedReceive m) := inferInstanceAs (Decidable (_ < _))

theorem parseReceiveBody_encode (m : Receive) (h : SupportedReceive m) (rest : Bytes) :
    parseReceiveBody (encodeReceiveBody m ++ rest) = .ok (m, rest) := by
  simp [parseReceiveBody, encodeReceiveBody, recvFieldValue, parseAmountValue_amountTok _ _ h,
    parseBinaryValue_binaryTok]

/-- What `Cw20ReceiveMsg::into_json_binary` writes, a receiving contract's `from_json`
reads back as `Receive(Cw20ReceiveMsg { sender, amount, msg })` with the same three values — for every sender
text, every amount below 2^128 and every payload (empty, JSON text, arbitrary bytes). -/
theorem decode_encode_receive (m : Receive) (h : SupportedReceive m) : decodeReceive (encodeReceive m) = .ok m := by
  rw [decodeReceive, encodeReceive, variantKeys_escape.1]
  exact decodeNewtypeVariant_encode _ _ m _ (parseReceiveBody_encode m h _)

/-- Different notifications (sender, amount or payload) have different bytes. -/
theorem encodeReceive_injective (m n : Receive) (hm : SupportedReceive m) (hn : SupportedReceive n)
    (h : encodeReceive m = encodeReceive n) : m = n :=
  eq_of_decode_eq (decode_encode_receive m hm) (decode_encode_receive n hn) h

/-- a step along a serialised struct: the byte in front of a field (`{` or `,`), the field, what follows it -/
private theorem isText_fieldThen {c : UInt8} {key val rest : Bytes} (hc : c < 0x80) (hk : ∀ b ∈ key, b < 0x80)
    (hv : IsText val) (hr : IsText rest) : IsText (c :: (field key val ++ rest)) :=
  .cons hc (.append (isText_field _ _ hk hv) hr)

/-- the bytes of a notification are valid UTF-8 (a `String` front end would lose nothing) -/
theorem isText_encodeReceive (m : Receive) : IsText (encodeReceive m) :=
  have hbin : IsText (binaryTok m.msg) :=
    .cons (by decide) (.append (isText_b64Enc _) (isText_ascii _ (by decide)))
  have hbody : IsText (encodeReceiveBody m) :=
    isText_fieldThen (by decide) (by decide) (isText_encStr _) (isText_fieldThen (by decide) (by decide) (isText_amountTok _)
      (isText_fieldThen (by decide) (by decide) hbin isText_close))
  isText_fieldThen (by decide) (by decide) hbody isText_close

/-- an object with one key, as text: what stands in front of the value is `{"key":`, behind it `}` -/
private theorem envelope (pre : String) (key body : Bytes) (h : strBytes pre = 0x7b :: 0x22 :: (key ++ [0x22, 0x3a])) :
    0x7b :: (field key body ++ [0x7d]) = strBytes pre ++ body ++ strBytes "}" := by
  have h2 : strBytes "}" = [0x7d] := by decide +kernel
  rw [h, h2]; simp [field]

/-- The bytes are exactly `{"receive":` + the struct + `}` — one outer key, the variant
name of `ReceiverExecuteMsg::Receive` in snake_case. -/
theorem encodeReceive_envelope (m : Receive) :
    encodeReceive m = strBytes "{\"receive\":" ++ encodeReceiveBody m ++ strBytes "}" :=
  envelope _ _ _ (by decide +kernel)

set_option maxRecDepth 1000000 in
/-- the literal bytes of a sample notification: 40 tokens from `alice`, payload `{"k":1}` -/
example : encodeReceive ⟨"alice", 40, strBytes "{\"k\":1}"⟩ =
    strBytes "{\"receive\":{\"sender\":\"alice\",\"amount\":\"40\",\"msg\":\"eyJrIjoxfQ==\"}}" := by
  rw [strBytes_ofList, strBytes_ofList]; decide +kernel
set_option maxRecDepth 1000000 in
/-- an empty payload is `"msg":""` (no special case in `/repo`), a sender that needs escaping -/
example : encodeReceive ⟨"a\"b\\\x01é", 0, []⟩ =
    strBytes "{\"receive\":{\"sender\":\"a\\\"b\\\\\\u0001é\",\"amount\":\"0\",\"msg\":\"\"}}" := by rw [strBytes_ofList]; decide +kernel
set_option maxRecDepth 1000000 in
example : SupportedReceive ⟨"a\"b\\\x01é", 2 ^ 128 - 1, strBytes "{}"⟩ := by decide +kernel
set_option maxRecDepth 1000000 in
example : decodeReceive (encodeReceive ⟨"a\"b\\\x01é", 2 ^ 128 - 1, strBytes "{}"⟩) =
    .ok ⟨"a\"b\\\x01é", 2 ^ 128 - 1, strBytes "{}"⟩ := by decide +kernel
set_option maxRecDepth 1000000 in
/-- the hypothesis is needed: 2^128 is written but not read back -/
example : (decodeReceive (encodeReceive ⟨"s", 2 ^ 128, []⟩)).toOption = none := by decide +kernel
set_option maxRecDepth 1000000 in
/-- the decoder is the real one's: whitespace, any field order, unpadded base64 are accepted; an unknown field
(`deny_unknown_fields`), a repeated field, a missing field, a number for the amount are not -/
example : decodeReceive (strBytes " { \"receive\" : { \"msg\":\"YQ\" , \"amount\":\"+07\",\"sender\":\"s\" } } ") =
    .ok ⟨"s", 7, strBytes "a"⟩ := by rw [strBytes_ofList]; decide +kernel
set_option maxRecDepth 1000000 in
example : (decodeReceive (strBytes "{\"receive\":{\"sender\":\"s\",\"amount\":\"1\",\"msg\":\"\",\"x\":1}}")).toOption = none ∧
    (decodeReceive (strBytes "{\"receive\":{\"sender\":\"s\",\"sender\":\"s\",\"amount\":\"1\",\"msg\":\"\"}}")).toOption = none ∧
    (decodeReceive (strBytes "{\"receive\":{\"sender\":\"s\",\"amount\":\"1\"}}")).toOption = none ∧
    (decodeReceive (strBytes "{\"receive\":{\"sender\":\"s\",\"amount\":1,\"msg\":\"\"}}")).toOption = none ∧
    (decodeReceive (strBytes "{\"transfer\":{\"sender\":\"s\",\"amount\":\"1\",\"msg\":\"\"}}")).toOption = none := by
  repeat rw [strBytes_ofList]
  decide +kernel

/-! ## `MemberChangedHookMsg` -/

/-- The hook messages for which the round trip is proved: every weight that is present is a `u64`; every key
text and any number of diffs are supported. -/
def SupportedDiff (d : MemberDiff) : Prop := OptU64 d.old ∧ OptU64 d.new

def SupportedDiffs (ds : List MemberDiff) : Prop := ∀ d ∈ ds, SupportedDiff d

instance (o : Option Nat) : Decidable (OptU64 o) := by
  cases o with
  | none => exact isTrue trivial
  | some n => exact inferInstanceAs (Decidable (n < 2 ^ 64))

instance (d : MemberDiff) : Decidable (SupportedDiff d) := inferInstanceAs (Decidable (_ ∧ _))
instance (ds : List MemberDiff) : Decidable (SupportedDiffs ds) := inferInstanceAs (Decidable (∀ d ∈ ds, _))

theorem parseDiff_encode (d : MemberDiff) (h : SupportedDiff d) (rest : Bytes) :
    parseDiff (encodeDiff d ++ rest) = .ok (d, rest) := by
  simp [parseDiff, encodeDiff, diffFieldValue, parseOptU64Value_optU64Tok _ _ _ h.1,
    parseOptU64Value_optU64Tok _ _ _ h.2, isDigit]

/-- an element of the sequence, the first one or one after a comma: the loop goes on behind it -/
private theorem parseDiffSeq_elem (f : Nat) (d : MemberDiff) (h : SupportedDiff d) (rest : Bytes) :
    parseDiffSeq (f + 1) true (encodeDiff d ++ rest) = (parseDiffSeq f false rest).map (fun p => (d :: p.1, p.2)) ∧
    parseDiffSeq (f + 1) false (0x2c :: (encodeDiff d ++ rest)) =
      (parseDiffSeq f false rest).map (fun p => (d :: p.1, p.2)) := by
  have hd := parseDiff_encode d h rest
  obtain ⟨t, ht⟩ : ∃ t, encodeDiff d = 0x7b :: t := ⟨_, rfl⟩
  rw [ht, List.cons_append] at hd
  rw [ht]
  constructor <;> cases hr : parseDiffSeq f false rest <;>
    simp [parseDiffSeq, skipWs_cons, isWs, seqPos, hd, hr, Except.map]

private theorem length_le_encodeDiffsTail (ds : List MemberDiff) : ds.length ≤ (encodeDiffsTail ds).length := by
  induction ds with
  | nil => exact Nat.le_refl _
  | cons d r ih => simp only [encodeDiffsTail, List.length_cons, List.length_append]; omega

private theorem parseDiffSeq_tail (rest : Bytes) (ds : List MemberDiff) (hs : SupportedDiffs ds) (fuel : Nat)
    (hf : ds.length < fuel) :
    parseDiffSeq fuel false (encodeDiffsTail ds ++ 0x5d :: rest) = .ok (ds, 0x5d :: rest) := by
  induction ds generalizing fuel with
  | nil =>
    obtain ⟨f, rfl⟩ : ∃ f, fuel = f + 1 := ⟨fuel - 1, by omega⟩
    simp [encodeDiffsTail, parseDiffSeq, skipWs_cons, isWs]
  | cons d r ih =>
    obtain ⟨f, rfl⟩ : ∃ f, fuel = f + 1 := ⟨fuel - 1, by omega⟩
    simp only [encodeDiffsTail, List.cons_append, List.append_assoc]
    rw [(parseDiffSeq_elem f d (hs d (by simp)) _).2, ih (fun x hx => hs x (by simp [hx])) f (by simpa using hf)]
    rfl

theorem parseDiffsValue_encode (ds : List MemberDiff) (h : SupportedDiffs ds) (rest : Bytes) :
    parseDiffsValue (encodeDiffs ds ++ rest) = .ok (ds, rest) := by
  cases ds with
  | nil => simp [encodeDiffs, parseDiffsValue, skipWs_cons, isWs, parseDiffSeq, endSeq]
  | cons d r =>
    have hlen := length_le_encodeDiffsTail r
    simp only [parseDiffsValue, encodeDiffs, List.cons_append, List.append_assoc, List.nil_append]
    rw [skipWs_cons _ _ (by decide)]
    simp only [if_true, List.length_append]
    rw [(parseDiffSeq_elem _ d (h d (by simp)) _).1,
      parseDiffSeq_tail rest r (fun x hx => h x (by simp [hx])) _ (by simp only [List.length_cons]; omega)]
    simp [Except.map, endSeq, skipWs_cons, isWs]

theorem parseHookBody_encode (ds : List MemberDiff) (h : SupportedDiffs ds) (rest : Bytes) :
    parseHookBody (encodeHookBody ds ++ rest) = .ok (ds, rest) := by
  simp [parseHookBody, encodeHookBody, hookFieldValue, parseDiffsValue_encode ds h]

/-- What `MemberChangedHookMsg::into_json_binary` writes, a hook contract's `from_json`
reads back as `MemberChangedHook(MemberChangedHookMsg { diffs })` with the same diffs in the same order — for any
number of diffs (also none), every key text, weights absent (`null`) or any `u64`. -/
theorem decode_encode_hook (ds : List MemberDiff) (h : SupportedDiffs ds) : decodeHook (encodeHook ds) = .ok ds := by
  rw [decodeHook, encodeHook, variantKeys_escape.2.1]
  exact decodeNewtypeVariant_encode _ _ ds _ (parseHookBody_encode ds h _)

/-- Different diff lists have different bytes. -/
theorem encodeHook_injective (a b : List MemberDiff) (ha : SupportedDiffs a) (hb : SupportedDiffs b)
    (h : encodeHook a = encodeHook b) : a = b :=
  eq_of_decode_eq (decode_encode_hook a ha) (decode_encode_hook b hb) h

private theorem isText_optU64Tok (o : Option Nat) : IsText (optU64Tok o) := by
  cases o with
  | none => exact isText_ascii _ (by decide)
  | some n => exact isText_decDigits n

private theorem isText_encodeDiff (d : MemberDiff) : IsText (encodeDiff d) :=
  isText_fieldThen (by decide) (by decide) (isText_encStr _) (isText_fieldThen (by decide) (by decide) (isText_optU64Tok _)
    (isText_fieldThen (by decide) (by decide) (isText_optU64Tok _) isText_close))

private theorem isText_encodeDiffsTail (ds : List MemberDiff) : IsText (encodeDiffsTail ds) := by
  induction ds with
  | nil => exact IsText.nil
  | cons d r ih => exact .cons (by decide) (.append (isText_encodeDiff d) ih)

/-- the bytes of a hook message are valid UTF-8 -/
theorem isText_encodeHook (ds : List MemberDiff) : IsText (encodeHook ds) := by
  have hseq : IsText (encodeDiffs ds) := by
    cases ds with
    | nil => exact isText_ascii _ (by decide)
    | cons d r =>
      exact .cons (by decide) (.append (isText_encodeDiff d)
        (.append (isText_encodeDiffsTail r) (isText_ascii _ (by decide))))
  have hbody : IsText (encodeHookBody ds) := isText_fieldThen (by decide) (by decide) hseq isText_close
  exact isText_fieldThen (by decide) (by decide) hbody isText_close

/-- The bytes are exactly `{"member_changed_hook":{"diffs":` + the sequence + `}}`. -/
theorem encodeHook_envelope (ds : List MemberDiff) :
    encodeHook ds = strBytes "{\"member_changed_hook\":{\"diffs\":" ++ encodeDiffs ds ++ strBytes "}}" := by
  have h1 : strBytes "{\"member_changed_hook\":{\"diffs\":" =
      0x7b :: 0x22 :: (keyMemberChangedHook ++ (0x22 :: 0x3a :: 0x7b :: 0x22 :: (keyDiffs ++ [0x22, 0x3a]))) := by
    decide +kernel
  have h2 : strBytes "}}" = [0x7d, 0x7d] := by decide +kernel
  rw [h1, h2]; simp [encodeHook, encodeHookBody, field]

/-- A notification and a hook message never have the same bytes (the outer keys differ), and neither decodes as
the other. -/
theorem receive_ne_hook (m : Receive) (ds : List MemberDiff) :
    encodeReceive m ≠ encodeHook ds ∧ (decodeHook (encodeReceive m)).toOption = none := by
  have hd : (decodeHook (encodeReceive m)).toOption = none := by
    rw [decodeHook, encodeReceive, variantKeys_escape.1, field_append, decodeNewtypeVariant_other _ _ _ _ (by decide)]
    rfl
  refine ⟨fun h => ?_, hd⟩
  -- compare the bytes at position 2: `r` against `m`
  have := congrArg (fun l => (l.drop 2).head?) h
  simp [encodeReceive, encodeHook, field, keyReceive, keyMemberChangedHook] at this

set_option maxRecDepth 1000000 in
/-- the literal bytes of a sample hook message: `bob` joins with weight 5, `al` leaves (had the largest weight),
`x` goes from 0 to 10 -/
example : encodeHook [⟨"bob", none, some 5⟩, ⟨"al", some 18446744073709551615, none⟩, ⟨"x", some 0, some 10⟩] =
    strBytes ("{\"member_changed_hook\":{\"diffs\":[{\"key\":\"bob\",\"old\":null,\"new\":5}," ++
      "{\"key\":\"al\",\"old\":18446744073709551615,\"new\":null},{\"key\":\"x\",\"old\":0,\"new\":10}]}}") := by
  rw [strBytes_append, strBytes_ofList, strBytes_ofList]; decide +kernel
set_option maxRecDepth 1000000 in
example : encodeHook [] = strBytes "{\"member_changed_hook\":{\"diffs\":[]}}" := by rw [strBytes_ofList]; decide +kernel
set_option maxRecDepth 1000000 in
example : SupportedDiffs [⟨"b\"ob", none, some 5⟩, ⟨"al", some 18446744073709551615, none⟩] := by decide +kernel
set_option maxRecDepth 1000000 in
example : decodeHook (encodeHook [⟨"b\"ob", none, some 5⟩, ⟨"al", some 18446744073709551615, none⟩]) =
    .ok [⟨"b\"ob", none, some 5⟩, ⟨"al", some 18446744073709551615, none⟩] := by decide +kernel
set_option maxRecDepth 1000000 in
/-- the hypothesis is needed: 2^64 is written but not read back -/
example : (decodeHook (encodeHook [⟨"a", some (2 ^ 64), none⟩])).toOption = none := by decide +kernel
set_option maxRecDepth 1000000 in
/-- the decoder is the real one's: a missing `old` / `new` is `None`, a leading comma in the array passes,
`07` is `0` followed by garbage, a weight in quotes or negative is refused, an unknown field is refused -/
example : decodeHook (strBytes " { \"member_changed_hook\" : { \"diffs\" : [ , {\"key\":\"a\"} , {\"new\" : 7 , \"key\":\"b\"} ] } } ") =
    .ok [⟨"a", none, none⟩, ⟨"b", none, some 7⟩] := by rw [strBytes_ofList]; decide +kernel
set_option maxRecDepth 1000000 in
example : (decodeHook (strBytes "{\"member_changed_hook\":{\"diffs\":[{\"key\":\"a\",\"old\":07}]}}")).toOption = none ∧
    (decodeHook (strBytes "{\"member_changed_hook\":{\"diffs\":[{\"key\":\"a\",\"old\":\"7\"}]}}")).toOption = none ∧
    (decodeHook (strBytes "{\"member_changed_hook\":{\"diffs\":[{\"key\":\"a\",\"old\":-1}]}}")).toOption = none ∧
    (decodeHook (strBytes "{\"member_changed_hook\":{\"diffs\":[{\"key\":\"a\",\"weight\":1}]}}")).toOption = none ∧
    (decodeHook (strBytes "{\"member_changed_hook\":{\"diffs\":[{\"old\":1}]}}")).toOption = none ∧
    (decodeHook (strBytes "{\"member_changed_hook\":{\"diffs\":[{\"key\":\"a\"},]}}")).toOption = none := by
  repeat rw [strBytes_ofList]
  decide +kernel

/-! ## Lifting to the contract models: cw20-base (C02) -/

/-- the notification that a `Send` / `SendFrom` by `snd` must carry -/
def expectedReceive (snd : Addr) (amt : Nat) (payload : String) : Receive := ⟨snd, amt, strBytes payload⟩

private theorem credit_amt_lt {b b2 : AMap Addr Nat} {a : Addr} {amt : Nat} (h : Cw20.credit b a amt = .ok b2) :
    amt < 2 ^ 128 := by
  have := (Cw20.credit_ok_iff.mp h).1
  rw [U128_MAX_eq] at this
  omega

/-- C02 `send_notifies_once` on the wire: a successful `Send` / `SendFrom` emits
exactly one message; it goes to the named contract and the bytes of its `msg` are
`encodeReceive ⟨caller, amount, payload⟩` — the caller is `info.sender` (for `SendFrom` the spender, not the owner),
the amount is the amount moved, the payload the attached bytes unchanged — and a receiver decodes these bytes to
exactly these three values.  Every other successful call emits no bytes at all. -/
theorem send_emits_encoded_receive {s s' : Cw20.State} {blk : Block} {snd : Addr} {msg : Cw20.Msg}
    {out : List Cw20.Out} (h : Cw20.execute s blk snd msg = .ok (s', out)) :
    (∀ c amt p, msg = .send c amt p →
      out.map (fun o => (o.contract, wireOfCw20 o)) = [(c.text, encodeReceive (expectedReceive snd amt p))] ∧
      decodeReceive (encodeReceive (expectedReceive snd amt p)) = .ok (expectedReceive snd amt p)) ∧
    (∀ o c amt p, msg = .sendFrom o c amt p →
      out.map (fun o => (o.contract, wireOfCw20 o)) = [(c.text, encodeReceive (expectedReceive snd amt p))] ∧
      decodeReceive (encodeReceive (expectedReceive snd amt p)) = .ok (expectedReceive snd amt p)) ∧
    ((∀ c amt p, msg ≠ .send c amt p) → (∀ o c amt p, msg ≠ .sendFrom o c amt p) → out.map wireOfCw20 = []) := by
  have ho := C02.send_notifies_once h
  refine ⟨?_, ?_, ?_⟩
  · rintro c amt p rfl
    simp only [Cw20.execute] at h
    obtain ⟨_, _, _, _, hc, _, _⟩ := Cw20.execSend_ok h
    refine ⟨by rw [ho]; rfl, decode_encode_receive _ (credit_amt_lt hc)⟩
  · rintro o c amt p rfl
    simp only [Cw20.execute] at h
    obtain ⟨_, _, _, _, _, _, _, hc, _, _⟩ := Cw20.execSendFrom_ok h
    refine ⟨by rw [ho]; rfl, decode_encode_receive _ (credit_amt_lt hc)⟩
  · intro h1 h2
    rw [ho]
    cases msg <;> simp [C02.expectedOut] <;> first | exact (h1 _ _ _ rfl).elim | exact (h2 _ _ _ _ rfl).elim

set_option maxRecDepth 1000000 in
/-- the bytes of the model's notification for a sample `Send`: 7 tokens from `alice` to `pool`, payload `{}` -/
example :
    let s : Cw20.State := { supply := 10, mint := none, balances := [("alice", 10)], allow := [], allowSp := [],
                            version := ⟨"crates.io:cw20-base", 2, 0, 0, none⟩ }
    (match Cw20.execute s ⟨1, 1⟩ "alice" (.send ⟨true, "pool"⟩ 7 "{}") with
     | .ok (_, out) => out.map (fun o => (o.contract, bytesToString (wireOfCw20 o)))
     | .error _ => []) =
    [("pool", "{\"receive\":{\"sender\":\"alice\",\"amount\":\"7\",\"msg\":\"e30=\"}}")] := by decide +kernel

/-! ## Lifting: cw4-group (C14) -/

/-- C14 `one_msg_per_hook` / `diffs_truthful` on the wire: a successful
`UpdateMembers` sends to every registered hook, in registration order, one message whose bytes are
`encodeHook diffs` — the same bytes for every hook, `diffs` being the diffs `update_members` computed (which by
`C14.diffs_truthful` replay the old member table into the new one).  Also with no diff at all
(`{"member_changed_hook":{"diffs":[]}}`). -/
theorem updateMembers_emits_encoded_hooks {s s' : Cw4Group.State} {h : Nat} {snd : Addr}
    {rem : List Cw4Group.AddrArg} {add : List (Cw4Group.AddrArg × Nat)} {out : List Cw4Group.Out}
    (he : Cw4Group.execute s h snd (.updateMembers rem add) = .ok (s', out)) :
    ∃ diffs, Cw4Group.updateMembers s h snd rem add = .ok (s', diffs) ∧
      out.map (fun o => (o.hook, wireOfGroup o)) = s.hooks.map (fun hk => (hk, encodeHook (diffs.map diffOfGroup))) := by
  obtain ⟨diffs, hu, rfl⟩ := Cw4Group.execUpdateMembers_ok_iff.mp he
  exact ⟨diffs, hu, by simp [Cw4Group.hookMsg, wireOfGroup, Function.comp_def]⟩

/-- every other successful call of cw4-group emits no bytes -/
theorem group_other_ops_no_bytes {s s' : Cw4Group.State} {h : Nat} {snd : Addr} {msg : Cw4Group.Msg}
    {out : List Cw4Group.Out} (he : Cw4Group.execute s h snd msg = .ok (s', out))
    (hm : ∀ rem add, msg ≠ .updateMembers rem add) : out.map wireOfGroup = [] := by
  rw [C14.other_ops_silent he hm]; rfl

/-- the range invariant of the member table: every stored weight is a `u64` -/
def WeightsInRange (m : Snapshot.SnapMap Addr Nat) : Prop := ∀ a w, m.get? a = some w → w < 2 ^ 64

private theorem WeightsInRange.get? {m : Snapshot.SnapMap Addr Nat} (hm : WeightsInRange m) (a : Addr) :
    OptU64 (m.get? a) := by
  cases hg : m.get? a with
  | none => trivial
  | some v => exact hm _ _ hg

private theorem write_inRange {m : Snapshot.SnapMap Addr Nat} (hm : WeightsInRange m) (a : Addr) (h : Nat)
    (new : Option Nat) (hn : OptU64 new) : WeightsInRange (m.write a h new) := by
  intro x w hx
  rw [Snapshot.SnapMap.get?_write] at hx
  split at hx
  · subst hx; exact hn
  · exact hm x w hx

private theorem applyAdds_inRange {h : Nat} (l : List (Cw4Group.AddrArg × Nat)) {m m' : Snapshot.SnapMap Addr Nat}
    {t t' : Nat} {ds : List Cw4Group.Diff} (hm : WeightsInRange m) (he : Cw4Group.applyAdds h l m t = .ok (m', t', ds)) :
    WeightsInRange m' ∧ SupportedDiffs (ds.map diffOfGroup) := by
  induction l generalizing m t ds with
  | nil => obtain ⟨rfl, _, rfl⟩ := Cw4Group.applyAdds_nil_ok he; exact ⟨hm, nofun⟩
  | cons x r ih =>
    obtain ⟨_, _, hle, ds', hr, rfl⟩ := Cw4Group.applyAdds_cons_ok he
    have hw : x.2 < 2 ^ 64 := by rw [U64_MAX_eq] at hle; omega
    obtain ⟨hm1, hd1⟩ := ih (write_inRange hm x.1.text h (some x.2) hw) hr
    exact ⟨hm1, List.forall_mem_cons.2 ⟨⟨hm.get? x.1.text, hw⟩, hd1⟩⟩

private theorem applyRemoves_inRange {h : Nat} (l : List Cw4Group.AddrArg) {m m' : Snapshot.SnapMap Addr Nat}
    {t t' : Nat} {ds : List Cw4Group.Diff} (hm : WeightsInRange m) (he : Cw4Group.applyRemoves h l m t = .ok (m', t', ds)) :
    WeightsInRange m' ∧ SupportedDiffs (ds.map diffOfGroup) := by
  induction l generalizing m t ds with
  | nil => obtain ⟨rfl, _, rfl⟩ := Cw4Group.applyRemoves_nil_ok he; exact ⟨hm, nofun⟩
  | cons a r ih =>
    rcases (Cw4Group.applyRemoves_cons_ok he).2 with ⟨_, hr⟩ | ⟨w, ds', hg, _, hr, rfl⟩
    · exact ih hm hr
    · obtain ⟨hm1, hd1⟩ := ih (write_inRange hm a.text h none trivial) hr
      exact ⟨hm1, List.forall_mem_cons.2 ⟨⟨hm _ _ hg, trivial⟩, hd1⟩⟩

/-- When every stored weight is a `u64` (the range invariant, which the
handler preserves) the bytes every hook receives decode — `from_json` of a hook contract — to exactly the true
diffs, and the invariant holds again afterwards. -/
theorem updateMembers_hooks_decodable {s s' : Cw4Group.State} {h : Nat} {snd : Addr}
    {rem : List Cw4Group.AddrArg} {add : List (Cw4Group.AddrArg × Nat)} {diffs : List Cw4Group.Diff}
    (hu : Cw4Group.updateMembers s h snd rem add = .ok (s', diffs)) (hm : WeightsInRange s.members) :
    decodeHook (encodeHook (diffs.map diffOfGroup)) = .ok (diffs.map diffOfGroup) ∧ WeightsInRange s'.members := by
  obtain ⟨_, _, t0, m1, t1, d1, m2, t2, d2, _, h1, h2, rfl, rfl⟩ := Cw4Group.updateMembers_ok hu
  obtain ⟨hm1, hs1⟩ := applyAdds_inRange _ hm h1
  obtain ⟨hm2, hs2⟩ := applyRemoves_inRange _ hm1 h2
  refine ⟨decode_encode_hook _ ?_, hm2⟩
  rw [List.map_append]
  exact List.forall_mem_append.2 ⟨hs1, hs2⟩

set_option maxRecDepth 1000000 in
/-- the bytes both hooks of `C14.exHooked` receive for `C14.exUpdate` -/
example : (C14.outOf (Cw4Group.execute C14.exHooked 11 "adm" C14.exUpdate)).map
      (fun o => (o.hook, bytesToString (wireOfGroup o))) =
    (C14.exHooked.hooks.map fun hk => (hk, bytesToString (encodeHook (C14.exDiffs.map diffOfGroup)))) := by
  -- compared as bytes: reading four byte strings of this length back as `String`s is what is dear
  have h : (C14.outOf (Cw4Group.execute C14.exHooked 11 "adm" C14.exUpdate)).map (fun o => (o.hook, wireOfGroup o)) =
      C14.exHooked.hooks.map fun hk => (hk, encodeHook (C14.exDiffs.map diffOfGroup)) := by decide +kernel
  simpa only [List.map_map, Function.comp_def] using
    congrArg (List.map fun p : String × Bytes => (p.1, bytesToString p.2)) h

/-! ## Lifting: cw4-stake (C14) -/

/-- C14 `bond_unbond_diffs_truthful` on the wire: a successful bond (native funds or cw20
send) or unbond by `a` emits nothing when `a`'s weight is unchanged and otherwise, for every hook registered at
that moment, in order, one message whose bytes are `encodeHook [⟨a, weight before, weight after⟩]` — a single diff
with the true weights (`null` for a non-member). -/
theorem stake_hooks_encoded {w w' : Cw4Stake.World} {blk : Block} {op : Cw4Stake.Op} {out : List Cw4Stake.Out}
    {a : Addr} (h : Cw4Stake.tx w blk op = .ok (w', out)) (hs : C14Stake.Op.staker op = some a) :
    out.map wireOfStake =
      if Cw4Stake.weightOf w'.st a = Cw4Stake.weightOf w.st a then []
      else w.st.hooks.map fun _ => some (encodeHook [⟨a, Cw4Stake.weightOf w.st a, Cw4Stake.weightOf w'.st a⟩]) := by
  rw [(C14Stake.bond_unbond_diffs_truthful h hs).1]
  unfold C14Stake.expectedMsgs
  split
  · rfl
  · simp [wireOfStake, Function.comp_def]

/-- the hook message of a bond / unbond is decodable when both weights are `u64`s; both ranges are hypotheses here,
nothing of the cw4-stake model is used -/
theorem stake_hook_decodable (a : Addr) (old new : Option Nat) (ho : OptU64 old) (hn : OptU64 new) :
    decodeHook (encodeHook [⟨a, old, new⟩]) = .ok [⟨a, old, new⟩] :=
  decode_encode_hook _ (List.forall_mem_singleton.2 ⟨ho, hn⟩)

/-- The payout of a successful `Claim` in a cw20-denominated staking contract is one
`WasmMsg::Execute` whose bytes are `encodeTransfer claimer released` (`Cw20ExecuteMsg::Transfer`); with a native
denomination it is a `BankMsg` and carries no JSON. -/
theorem claim_transfer_encoded {s s' : Cw4Stake.State} {blk : Block} {snd : Addr} {out : List Cw4Stake.Out}
    (h : Cw4Stake.execClaim s blk snd = .ok (s', out)) :
    out.map wireOfStake =
      [match s.cfg.denom with
       | .native _ => none
       | .cw20 _ => some (encodeTransfer snd
           (Cw4Stake.amountSum (Cw4Stake.matured blk (Cw4Stake.claimsOf s snd))))] := by
  obtain ⟨_, hr⟩ := Cw4Stake.execClaim_ok h
  cases hr
  simp only [List.map_cons, List.map_nil, Cw4Stake.payout]
  split <;> simp_all [wireOfStake]

/-! ## cw20 `Transfer` / `TransferFrom` -/

theorem parseTransferBody_encode (t : Transfer) (h : t.amount < 2 ^ 128) (rest : Bytes) :
    parseTransferBody (encodeTransferBody t ++ rest) = .ok (t, rest) := by
  simp [parseTransferBody, encodeTransferBody, xferFieldValue, parseAmountValue_amountTok _ _ h]

theorem encodeTransfer_eq (r : String) (a : Nat) :
    encodeTransfer r a = 0x7b :: (field keyTransfer (encodeTransferBody ⟨r, a⟩) ++ [0x7d]) := rfl

/-- What `to_json_binary(&Cw20ExecuteMsg::Transfer { recipient, amount })` writes, the
token contract's `from_json::<Cw20ExecuteMsg>` reads back as `Transfer` with the same recipient and amount — for
every recipient text and every amount below 2^128. -/
theorem decode_encode_transfer (r : String) (a : Nat) (h : a < 2 ^ 128) :
    decodeTransfer (encodeTransfer r a) = .ok ⟨r, a⟩ := by
  rw [decodeTransfer, encodeTransfer_eq, variantKeys_escape.2.2.1]
  exact decodeNewtypeVariant_encode _ _ _ _ (parseTransferBody_encode ⟨r, a⟩ h _)

/-- Another recipient or another amount, other bytes. -/
theorem encodeTransfer_injective (r r' : String) (a a' : Nat) (ha : a < 2 ^ 128) (ha' : a' < 2 ^ 128)
    (h : encodeTransfer r a = encodeTransfer r' a') : r = r' ∧ a = a' := by
  have := eq_of_decode_eq (decode_encode_transfer r a ha) (decode_encode_transfer r' a' ha') h
  exact ⟨congrArg Transfer.recipient this, congrArg Transfer.amount this⟩

/-- the bytes of a `Transfer` payload are valid UTF-8 -/
theorem isText_encodeTransfer (r : String) (a : Nat) : IsText (encodeTransfer r a) :=
  have hbody : IsText (encodeTransferBody ⟨r, a⟩) :=
    isText_fieldThen (by decide) (by decide) (isText_encStr _)
      (isText_fieldThen (by decide) (by decide) (isText_amountTok _) isText_close)
  isText_fieldThen (by decide) (by decide) hbody isText_close

/-- The bytes are exactly `{"transfer":` + the struct + `}` — one outer key, the variant
name in snake_case. -/
theorem encodeTransfer_envelope (r : String) (a : Nat) :
    encodeTransfer r a = strBytes "{\"transfer\":" ++ encodeTransferBody ⟨r, a⟩ ++ strBytes "}" :=
  envelope _ _ _ (by decide +kernel)

theorem parseTransferFromBody_encode (t : TransferFrom) (h : t.amount < 2 ^ 128) (rest : Bytes) :
    parseTransferFromBody (encodeTransferFromBody t ++ rest) = .ok (t, rest) := by
  simp [parseTransferFromBody, encodeTransferFromBody, xferFromFieldValue, parseAmountValue_amountTok _ _ h]

theorem encodeTransferFrom_eq (o r : String) (a : Nat) :
    encodeTransferFrom o r a = 0x7b :: (field keyTransferFrom (encodeTransferFromBody ⟨o, r, a⟩) ++ [0x7d]) := rfl

/-- What `to_json_binary(&Cw20ExecuteMsg::TransferFrom { owner, recipient, amount })`
writes, the token contract's `from_json::<Cw20ExecuteMsg>` reads back as `TransferFrom` with the same owner,
recipient and amount — for every text and every amount below 2^128. -/
theorem decode_encode_transferFrom (o r : String) (a : Nat) (h : a < 2 ^ 128) :
    decodeTransferFrom (encodeTransferFrom o r a) = .ok ⟨o, r, a⟩ := by
  rw [decodeTransferFrom, encodeTransferFrom_eq, variantKeys_escape.2.2.2]
  exact decodeNewtypeVariant_encode _ _ _ _ (parseTransferFromBody_encode ⟨o, r, a⟩ h _)

/-- Another owner, recipient or amount, other bytes. -/
theorem encodeTransferFrom_injective (o o' r r' : String) (a a' : Nat) (ha : a < 2 ^ 128) (ha' : a' < 2 ^ 128)
    (h : encodeTransferFrom o r a = encodeTransferFrom o' r' a') : o = o' ∧ r = r' ∧ a = a' := by
  have := eq_of_decode_eq (decode_encode_transferFrom o r a ha) (decode_encode_transferFrom o' r' a' ha') h
  exact ⟨congrArg TransferFrom.owner this, congrArg TransferFrom.recipient this, congrArg TransferFrom.amount this⟩

/-- the bytes of a `TransferFrom` payload are valid UTF-8 -/
theorem isText_encodeTransferFrom (o r : String) (a : Nat) : IsText (encodeTransferFrom o r a) :=
  have hbody : IsText (encodeTransferFromBody ⟨o, r, a⟩) :=
    isText_fieldThen (by decide) (by decide) (isText_encStr _) (isText_fieldThen (by decide) (by decide) (isText_encStr _)
      (isText_fieldThen (by decide) (by decide) (isText_amountTok _) isText_close))
  isText_fieldThen (by decide) (by decide) hbody isText_close

/-- The bytes are exactly `{"transfer_from":` + the struct + `}`. -/
theorem encodeTransferFrom_envelope (o r : String) (a : Nat) :
    encodeTransferFrom o r a = strBytes "{\"transfer_from\":" ++ encodeTransferFromBody ⟨o, r, a⟩ ++ strBytes "}" :=
  envelope _ _ _ (by decide +kernel)

/-- The two calls never have the same bytes, and neither is read as the other (the
variant name `transfer` is not a prefix match: `transfer_from` is another identifier). -/
theorem transfer_ne_transferFrom (r o r' : String) (a a' : Nat) :
    encodeTransfer r a ≠ encodeTransferFrom o r' a' ∧
    (decodeTransferFrom (encodeTransfer r a)).toOption = none ∧
    (decodeTransfer (encodeTransferFrom o r' a')).toOption = none := by
  have hd1 : (decodeTransferFrom (encodeTransfer r a)).toOption = none := by
    rw [decodeTransferFrom, encodeTransfer_eq, variantKeys_escape.2.2.1, field_append,
      decodeNewtypeVariant_other _ _ _ _ (by decide)]
    rfl
  have hd2 : (decodeTransfer (encodeTransferFrom o r' a')).toOption = none := by
    rw [decodeTransfer, encodeTransferFrom_eq, variantKeys_escape.2.2.2, field_append,
      decodeNewtypeVariant_other _ _ _ _ (by decide)]
    rfl
  refine ⟨fun h => ?_, hd1, hd2⟩
  -- compare the bytes at position 10: `"` against `_`
  have := congrArg (fun l => (l.drop 10).head?) h
  simp [encodeTransfer, encodeTransferFrom, field, keyTransfer, keyTransferFrom] at this

set_option maxRecDepth 1000000 in
example : encodeTransfer "bob" 5 = strBytes "{\"transfer\":{\"recipient\":\"bob\",\"amount\":\"5\"}}" := by rw [strBytes_ofList]; decide +kernel
set_option maxRecDepth 1000000 in
example : encodeTransferFrom "al" "bob" 5 =
    strBytes "{\"transfer_from\":{\"owner\":\"al\",\"recipient\":\"bob\",\"amount\":\"5\"}}" := by rw [strBytes_ofList]; decide +kernel

end CwPlus.Props.MsgWire
