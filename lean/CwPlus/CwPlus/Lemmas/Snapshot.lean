import CwPlus.Base.Snapshot
import CwPlus.Lemmas.History
/-!
# Lemmas about the snapshot model (`Base/Snapshot.lean`)

* characterisation of the search `firstGE` ("the logged entry with the least height `≥ h`");
* one write at a height `hw` that is at least every logged height is invisible to every query at a height
  `h ≤ hw` (`Cell.atHeight_write_le`) and keeps the log bounded by `hw` (`Cell.logLe_write`); a query above
  every logged height returns the current value (`Cell.atHeight_of_logLt`);
* from the first two of these alone (the fields `hide` and `keep` of `Blocks`), for any state changed by steps made
  in blocks of non-decreasing height: steps in block `h` or later are invisible at `h` (`Blocks.read_foldl_filter`).
  Its instances: a list of writes to a cell (`Cell.atHeight_writes`) or to a map (`SnapMap.atHeight_writes`), and the
  histories of the contracts, whose every call performs a list of writes at the height of its block
  (`SnapMap.SameBlock`).

The predicates and operations that the statements of C09 use are defined here: `Cell.LogLe`, `writes`, `Ordered`,
`SameBlock` and the same four for `SnapMap`, and `SnapMap.SumInv`.  `Cell.Ordered`, `SnapMap.Ordered`, and
`Cw4Group.Ordered` / `C09Stake.Ordered` for the histories of the two contracts, are one notion at four types of
step: each unfolds to the block-order hypothesis `ops.Pairwise (fun x y => B.ht x ≤ B.ht y)` of
`Blocks.read_foldl_filter` at the respective `blocks`.

Core only (no Mathlib).
-/
namespace CwPlus

/-- Induction over a list from its end (histories grow at the end). -/
theorem List.rev_induction {α : Type} {P : List α → Prop} (nil : P [])
    (snoc : ∀ (l : List α) (a : α), P l → P (l ++ [a])) : ∀ l, P l := by
  intro l
  have : ∀ r : List α, P r.reverse := by
    intro r
    induction r with
    | nil => exact nil
    | cons a r ih => simpa using snoc _ a ih
  simpa using this l.reverse

end CwPlus

namespace CwPlus.Snapshot

variable {κ ν : Type}

/-! ## Steps in blocks -/

/-- A state `σ` changed by steps `α`, each made in a block `ht a`.  `Le s b`: `s` has recorded nothing above
block `b`; `read s h`: what `s` answers about height `h`.  A step in a block at or above everything recorded
keeps that bound (`keep`) and is invisible at or below its block (`hide`): all that the snapshot theorems use. -/
structure Blocks (σ α β : Type) where
  step : σ → α → σ
  ht : α → Nat
  Le : σ → Nat → Prop
  read : σ → Nat → β
  mono : ∀ {s b b'}, Le s b → b ≤ b' → Le s b'
  keep : ∀ {s a B}, Le s B → ht a ≤ B → Le (step s a) B
  hide : ∀ {s a h}, Le s (ht a) → h ≤ ht a → read (step s a) h = read s h

namespace Blocks
variable {σ α β : Type} (B : Blocks σ α β)

theorem foldl_le {s : σ} {b : Nat} (hs : B.Le s b) (ops : List α) (hb : ∀ o ∈ ops, B.ht o ≤ b) :
    B.Le (ops.foldl B.step s) b :=
  foldl_invariant (B.Le · b) (fun _ hs o ho => B.keep hs (hb o ho)) hs

theorem read_foldl_of_le {s : σ} {b : Nat} (hs : B.Le s b) (ops : List α) (hge : ∀ o ∈ ops, b ≤ B.ht o)
    (hord : ops.Pairwise (fun x y => B.ht x ≤ B.ht y)) {h : Nat} (hh : ∀ o ∈ ops, h ≤ B.ht o) :
    B.read (ops.foldl B.step s) h = B.read s h := by
  induction ops generalizing s b with
  | nil => rfl
  | cons a ops ih =>
    have hs' := B.mono hs (hge a (List.mem_cons_self ..))
    rw [List.pairwise_cons] at hord
    rw [List.foldl_cons, ih (B.keep hs' (Nat.le_refl _)) hord.1 hord.2 fun o ho => hh o (List.mem_cons_of_mem _ ho)]
    exact B.hide hs' (hh a (List.mem_cons_self ..))

/-- **Steps made in block `h` or later are invisible at `h`**: a read at `h` after steps in block order sees
exactly the steps of the blocks before `h`. -/
theorem read_foldl_filter {s : σ} {b : Nat} (hs : B.Le s b) (ops : List α) (hge : ∀ o ∈ ops, b ≤ B.ht o)
    (hord : ops.Pairwise (fun x y => B.ht x ≤ B.ht y)) (h : Nat) :
    B.read (ops.foldl B.step s) h = B.read ((ops.filter (fun o => B.ht o < h)).foldl B.step s) h := by
  induction ops generalizing s b with
  | nil => rfl
  | cons a ops ih =>
    have ha := hge a (List.mem_cons_self ..)
    by_cases hlt : B.ht a < h
    · rw [List.filter_cons_of_pos (by simpa using hlt), List.foldl_cons, List.foldl_cons]
      exact ih (B.keep (B.mono hs ha) (Nat.le_refl _)) (List.pairwise_cons.mp hord).1 (List.pairwise_cons.mp hord).2
    · -- block order: nothing from here on lies before `h`
      have hall : ∀ o ∈ a :: ops, h ≤ B.ht o := fun o ho => by
        rcases List.mem_cons.mp ho with rfl | ho
        · omega
        · have := List.rel_of_pairwise_cons hord ho; omega
      rw [List.filter_eq_nil_iff.mpr fun o ho => by have := hall o ho; simp; omega]
      exact B.read_foldl_of_le hs _ hge hord hall

end Blocks

/-! ## `firstGE` -/

theorem firstGE_cons_none {log : Log ν} {h : Nat} (e : Nat × Option ν) (hn : firstGE log h = none) :
    firstGE (e :: log) h = if h ≤ e.1 then some e else none := by
  simp only [firstGE, hn]

theorem firstGE_cons_some {log : Log ν} {h : Nat} {b : Nat × Option ν} (e : Nat × Option ν)
    (hb : firstGE log h = some b) : firstGE (e :: log) h = if h ≤ e.1 ∧ e.1 < b.1 then some e else some b := by
  simp only [firstGE, hb]

theorem firstGE_mem {log : Log ν} {h : Nat} {e : Nat × Option ν} (he : firstGE log h = some e) :
    e ∈ log ∧ h ≤ e.1 := by
  induction log generalizing e with
  | nil => cases he
  | cons x rest ih =>
    cases hf : firstGE rest h with
    | none =>
      rw [firstGE_cons_none x hf] at he
      split at he
      · cases he; exact ⟨List.mem_cons_self .., ‹_›⟩
      · cases he
    | some b =>
      rw [firstGE_cons_some x hf] at he
      split at he
      · cases he; exact ⟨List.mem_cons_self .., (‹_ ∧ _›).1⟩
      · cases he; exact ⟨List.mem_cons_of_mem _ (ih hf).1, (ih hf).2⟩

theorem firstGE_eq_none_iff {log : Log ν} {h : Nat} : firstGE log h = none ↔ ∀ e ∈ log, e.1 < h := by
  induction log with
  | nil => exact ⟨fun _ _ he => (nomatch he), fun _ => rfl⟩
  | cons x rest ih =>
    rw [List.forall_mem_cons]
    cases hf : firstGE rest h with
    | none =>
      rw [firstGE_cons_none x hf, ← ih, hf]
      split <;> simp <;> omega
    | some b =>
      rw [firstGE_cons_some x hf]
      have hb := firstGE_mem hf
      constructor
      · intro hc; split at hc <;> cases hc
      · intro hall; exact absurd (hall.2 b hb.1) (by omega)

/-- The entry found is the least one among those at or above `h`. -/
theorem firstGE_least {log : Log ν} {h : Nat} {e : Nat × Option ν} (he : firstGE log h = some e) :
    ∀ e' ∈ log, h ≤ e'.1 → e.1 ≤ e'.1 := by
  induction log generalizing e with
  | nil => cases he
  | cons x rest ih =>
    rw [List.forall_mem_cons]
    cases hf : firstGE rest h with
    | none =>
      rw [firstGE_cons_none x hf] at he
      have hlt := firstGE_eq_none_iff.mp hf
      split at he
      · cases he; exact ⟨fun _ => Nat.le_refl _, fun e' hm hge => by have := hlt e' hm; omega⟩
      · cases he
    | some b =>
      rw [firstGE_cons_some x hf] at he
      have hb := ih hf
      split at he
      · cases he; exact ⟨fun _ => Nat.le_refl _, fun e' hm hge => by have := hb e' hm hge; omega⟩
      · cases he; exact ⟨fun hge => by omega, hb⟩

theorem firstGE_cons_newest_some {log : Log ν} {hw : Nat} {o : Option ν} (hlt : ∀ e ∈ log, e.1 < hw) {h : Nat}
    {b : Nat × Option ν} (hb : firstGE log h = some b) : firstGE ((hw, o) :: log) h = some b := by
  have := hlt b (firstGE_mem hb).1
  rw [firstGE_cons_some _ hb, if_neg (by omega)]

theorem logHas_iff {log : Log ν} {h : Nat} : logHas log h = true ↔ ∃ e ∈ log, e.1 = h := by
  simp [logHas]

/-! ## Cells -/

namespace Cell

/-- Every logged height is at most `b`. -/
def LogLe (c : Cell ν) (b : Nat) : Prop := ∀ e ∈ c.log, e.1 ≤ b

theorem LogLe.mono {c : Cell ν} {b b' : Nat} (h : c.LogLe b) (hb : b ≤ b') : c.LogLe b' :=
  fun e he => Nat.le_trans (h e he) hb

theorem logLe_empty (b : Nat) : (Cell.empty : Cell ν).LogLe b := by
  intro e he; simp [Cell.empty] at he

@[simp] theorem write_cur (c : Cell ν) (h : Nat) (v : Option ν) : (c.write h v).cur = v := rfl

/-- A write at `hw` keeps every bound `B ≥ hw`. -/
theorem logLe_write {c : Cell ν} {B hw : Nat} {v : Option ν} (hc : c.LogLe B) (hB : hw ≤ B) :
    (c.write hw v).LogLe B := by
  intro e he
  simp only [write] at he
  split at he
  · exact hc e he
  · rcases List.mem_cons.mp he with rfl | hm
    · exact hB
    · exact hc e hm

theorem atHeight_of_logLt {c : Cell ν} {h : Nat} (hlt : ∀ e ∈ c.log, e.1 < h) : c.atHeight h = c.cur := by
  simp [atHeight, firstGE_eq_none_iff.mpr hlt]

theorem atHeight_of_logLe {c : Cell ν} {b h : Nat} (hc : c.LogLe b) (hb : b < h) : c.atHeight h = c.cur :=
  atHeight_of_logLt (fun e he => Nat.lt_of_le_of_lt (hc e he) hb)

/-- **First change in a block wins, later blocks are invisible**: a write at a height `hw` that is at least
every logged height does not change the answer of any query at a height `h ≤ hw`. -/
theorem atHeight_write_le {c : Cell ν} {hw h : Nat} {v : Option ν} (hc : c.LogLe hw) (hh : h ≤ hw) :
    (c.write hw v).atHeight h = c.atHeight h := by
  by_cases hhas : logHas c.log hw = true
  · -- the block already has its entry: the log is unchanged and the search succeeds
    obtain ⟨e, hem, heq⟩ := logHas_iff.mp hhas
    have hne : firstGE c.log h ≠ none := by
      intro hn; have := firstGE_eq_none_iff.mp hn e hem; omega
    simp only [write, atHeight, hhas, if_true]
    cases hf : firstGE c.log h with
    | none => exact absurd hf hne
    | some b => rfl
  · have hlt : ∀ e ∈ c.log, e.1 < hw := by
      intro e he
      have h1 := hc e he
      have h2 : e.1 ≠ hw := fun heq => hhas (logHas_iff.mpr ⟨e, he, heq⟩)
      omega
    simp only [write, atHeight, hhas]
    cases hf : firstGE c.log h with
    | none => simp [firstGE_cons_none _ hf, hh]
    | some b => simp [firstGE_cons_newest_some hlt hf]

/-- A list of writes `(height, new)`. -/
def writes (c : Cell ν) (ws : List (Nat × Option ν)) : Cell ν := ws.foldl (fun c w => c.write w.1 w.2) c

@[simp] theorem writes_nil (c : Cell ν) : c.writes [] = c := rfl
@[simp] theorem writes_cons (c : Cell ν) (w : Nat × Option ν) (ws : List (Nat × Option ν)) :
    c.writes (w :: ws) = (c.write w.1 w.2).writes ws := rfl

/-- Writes to one slot, as steps in blocks. -/
def blocks : Blocks (Cell ν) (Nat × Option ν) (Option ν) where
  step c w := c.write w.1 w.2
  ht w := w.1
  Le := LogLe
  read := atHeight
  mono := LogLe.mono
  keep := logLe_write
  hide := atHeight_write_le

theorem logLe_writes {c : Cell ν} {B : Nat} {ws : List (Nat × Option ν)} (hc : c.LogLe B)
    (hB : ∀ w ∈ ws, w.1 ≤ B) : (c.writes ws).LogLe B :=
  blocks.foldl_le hc ws hB

/-- Non-decreasing heights. -/
def Ordered (ws : List (Nat × Option ν)) : Prop := ws.Pairwise (fun a b => a.1 ≤ b.1)

/-- Writes at heights `≥ h` are invisible to a query at `h`. -/
theorem atHeight_writes_filter {c : Cell ν} {b : Nat} (ws : List (Nat × Option ν)) (hc : c.LogLe b)
    (hge : ∀ w ∈ ws, b ≤ w.1) (hord : Ordered ws) (h : Nat) :
    (c.writes ws).atHeight h = (c.writes (ws.filter (fun w => w.1 < h))).atHeight h :=
  blocks.read_foldl_filter hc ws hge hord h

/-- **Generic snapshot theorem, one slot**: for writes with non-decreasing heights applied to a slot whose
log is bounded by `b ≤` every write height, a query at a height `h > b` returns the value the slot had after
exactly the writes with height `< h` (before the first write: the initial value; at a write height: the
value before that block's first write; in the future: the current value). -/
theorem atHeight_writes {c : Cell ν} {b : Nat} (ws : List (Nat × Option ν)) (hc : c.LogLe b)
    (hge : ∀ w ∈ ws, b ≤ w.1) (hord : Ordered ws) (h : Nat) (hb : b < h) :
    (c.writes ws).atHeight h = (c.writes (ws.filter (fun w => w.1 < h))).cur := by
  rw [atHeight_writes_filter ws hc hge hord h]
  refine atHeight_of_logLe (b := h - 1) (logLe_writes (hc.mono (by omega)) fun w hw => ?_) (by omega)
  have := (List.mem_filter.mp hw).2
  simp at this; omega

theorem atHeight_writes_le {c : Cell ν} {b : Nat} (ws : List (Nat × Option ν)) (hc : c.LogLe b)
    (hge : ∀ w ∈ ws, b ≤ w.1) (hord : Ordered ws) (h : Nat) (hb : h ≤ b) :
    (c.writes ws).atHeight h = c.atHeight h :=
  blocks.read_foldl_of_le hc ws hge hord fun w hw => Nat.le_trans hb (hge w hw)

end Cell

/-! ## Maps -/

namespace SnapMap
variable [DecidableEq κ]

@[simp] theorem cell_cur (m : SnapMap κ ν) (k : κ) : (m.cell k).cur = m.get? k := rfl

theorem atHeight_eq (m : SnapMap κ ν) (k : κ) (h : Nat) : m.atHeight k h = (m.cell k).atHeight h := rfl

theorem cell_write (m : SnapMap κ ν) (k' k : κ) (hw : Nat) (v : Option ν) :
    (m.write k' hw v).cell k = if k' = k then (m.cell k).write hw v else m.cell k := by
  by_cases hk : k' = k
  · subst hk
    have hcur : (m.write k' hw v).cur.get? k' = v := by cases v <;> simp [write]
    have hlog : (m.write k' hw v).logOf k' =
        if logHas (m.logOf k') hw then m.logOf k' else (hw, m.cur.get? k') :: m.logOf k' := by
      by_cases hl : logHas (m.logOf k') hw = true
      · simp only [write, hl, if_true]; rfl
      · simp only [write, hl]; simp [logOf]
    simp only [cell, Cell.write, if_true, hcur, hlog]
    rfl
  · have hcur : (m.write k' hw v).cur.get? k = m.cur.get? k := by
      cases v <;> simp [write, AMap.get?_set_ne, AMap.get?_erase_ne, hk]
    have hlog : (m.write k' hw v).logOf k = m.logOf k := by
      by_cases hl : logHas (m.logOf k') hw = true
      · simp [write, logOf] at *; simp [hl]
      · simp [write, logOf] at *; simp [hl, AMap.get?_set_ne, hk]
    simp [cell, hcur, hlog, hk]

@[simp] theorem get?_write (m : SnapMap κ ν) (k' k : κ) (hw : Nat) (v : Option ν) :
    (m.write k' hw v).get? k = if k' = k then v else m.get? k := by
  have := congrArg Cell.cur (cell_write m k' k hw v)
  simp only [cell_cur] at this
  rw [this]; split <;> simp

theorem nodup_write {m : SnapMap κ ν} (k : κ) (h : Nat) (new : Option ν) (hm : AMap.NodupKeys m.cur) :
    AMap.NodupKeys (m.write k h new).cur := by
  cases new with
  | none => exact AMap.nodup_erase hm
  | some v => exact AMap.nodup_set hm

omit [DecidableEq κ] in
theorem nodup_empty : AMap.NodupKeys (({} : SnapMap κ ν).cur) :=
  List.nodup_nil

theorem sum_write (m : SnapMap κ Nat) (k : κ) (h : Nat) (new : Option Nat) (hn : AMap.NodupKeys m.cur) :
    AMap.sum (m.write k h new).cur + (m.get? k).getD 0 = AMap.sum m.cur + new.getD 0 := by
  cases new with
  | none => exact AMap.sum_erase m.cur k hn
  | some v => exact AMap.sum_set m.cur k v

/-- `t` is the total of a map of `u64` weights: the sum of the current view, which has one entry per key, and
it fits `u64` (cw4-group keeps it in `TOTAL` and in the running total of its loops, cw4-stake in `TOTAL`). -/
def SumInv (m : SnapMap κ Nat) (t : Nat) : Prop :=
  t = AMap.sum m.cur ∧ AMap.NodupKeys m.cur ∧ t ≤ U64_MAX

/-- The old value of any key is part of the total: subtracting it cannot underflow. -/
theorem SumInv.old_le {m : SnapMap κ Nat} {t : Nat} (hi : SumInv m t) (k : κ) : (m.get? k).getD 0 ≤ t := by
  rw [hi.1]; exact AMap.get?_le_sum m.cur k

theorem SumInv.write {m : SnapMap κ Nat} {t t' : Nat} (hi : SumInv m t) (k : κ) (h : Nat) (new : Option Nat)
    (ht : t' + (m.get? k).getD 0 = t + new.getD 0) (hle : t' ≤ U64_MAX) : SumInv (m.write k h new) t' := by
  obtain ⟨rfl, hn, _⟩ := hi
  have hs := sum_write m k h new hn
  exact ⟨by omega, nodup_write k h new hn, hle⟩

/-- Every logged height of every key is at most `b`. -/
def LogLe (m : SnapMap κ ν) (b : Nat) : Prop := ∀ k, (m.cell k).LogLe b

theorem LogLe.mono {m : SnapMap κ ν} {b b' : Nat} (h : m.LogLe b) (hb : b ≤ b') : m.LogLe b' :=
  fun k => (h k).mono hb

theorem logLe_empty (b : Nat) : (SnapMap.empty : SnapMap κ ν).LogLe b := by
  intro k e he; simp [SnapMap.empty, cell, logOf] at he

theorem logLe_ofMap (m0 : AMap κ ν) (b : Nat) : (SnapMap.ofMap m0).LogLe b := by
  intro k e he; simp [SnapMap.ofMap, cell, logOf] at he

theorem logLe_write {m : SnapMap κ ν} {B hw : Nat} {k : κ} {v : Option ν} (hm : m.LogLe B) (hB : hw ≤ B) :
    (m.write k hw v).LogLe B := by
  intro k2
  rw [cell_write]
  split
  · exact Cell.logLe_write (hm k2) hB
  · exact hm k2

/-- A write at a height that is at least every logged height is invisible at or below that height. -/
theorem atHeight_write_le {m : SnapMap κ ν} {k' : κ} {hw h : Nat} {v : Option ν} (hm : m.LogLe hw) (hh : h ≤ hw)
    (k : κ) : (m.write k' hw v).atHeight k h = m.atHeight k h := by
  rw [atHeight_eq, cell_write]
  split
  · exact Cell.atHeight_write_le (hm k) hh
  · rfl

/-- One map write: key, height, new value (`none` = remove). -/
abbrev MWrite (κ ν : Type) := κ × Nat × Option ν

def writes (m : SnapMap κ ν) (ws : List (MWrite κ ν)) : SnapMap κ ν :=
  ws.foldl (fun m w => m.write w.1 w.2.1 w.2.2) m

@[simp] theorem writes_nil (m : SnapMap κ ν) : m.writes [] = m := rfl
@[simp] theorem writes_cons (m : SnapMap κ ν) (w : MWrite κ ν) (ws : List (MWrite κ ν)) :
    m.writes (w :: ws) = (m.write w.1 w.2.1 w.2.2).writes ws := rfl
theorem writes_append (m : SnapMap κ ν) (ws ws' : List (MWrite κ ν)) :
    m.writes (ws ++ ws') = (m.writes ws).writes ws' := List.foldl_append ..

def Ordered (ws : List (MWrite κ ν)) : Prop := ws.Pairwise (fun a b => a.2.1 ≤ b.2.1)

/-- Writes to a map, read at every key, as steps in blocks. -/
def blocks : Blocks (SnapMap κ ν) (MWrite κ ν) (κ → Option ν) where
  step m w := m.write w.1 w.2.1 w.2.2
  ht w := w.2.1
  Le := LogLe
  read m h k := m.atHeight k h
  mono := LogLe.mono
  keep := logLe_write
  hide hm hh := funext (atHeight_write_le hm hh)

theorem logLe_writes {m : SnapMap κ ν} {B : Nat} {ws : List (MWrite κ ν)} (hm : m.LogLe B)
    (hB : ∀ w ∈ ws, w.2.1 ≤ B) : (m.writes ws).LogLe B :=
  blocks.foldl_le hm ws hB

/-- **Generic snapshot theorem** (maps; "unaffected by any change made in block `h` or later"): for every
list of writes with non-decreasing heights, every key and every height, the writes at heights `≥ h` are
invisible to `atHeight k h`. -/
theorem atHeight_writes_filter {m : SnapMap κ ν} {b : Nat} (ws : List (MWrite κ ν)) (hm : m.LogLe b)
    (hge : ∀ w ∈ ws, b ≤ w.2.1) (hord : Ordered ws) (k : κ) (h : Nat) :
    (m.writes ws).atHeight k h = (m.writes (ws.filter (fun w => w.2.1 < h))).atHeight k h :=
  congrFun (blocks.read_foldl_filter hm ws hge hord h) k

theorem atHeight_of_logLe {m : SnapMap κ ν} {b h : Nat} (hm : m.LogLe b) (hb : b < h) (k : κ) :
    m.atHeight k h = m.get? k := Cell.atHeight_of_logLe (hm k) hb

/-- **Generic snapshot theorem** (maps): `atHeight k h` after all the writes is the current value of `k`
after exactly the writes with height `< h`. -/
theorem atHeight_writes {m : SnapMap κ ν} {b : Nat} (ws : List (MWrite κ ν)) (hm : m.LogLe b)
    (hge : ∀ w ∈ ws, b ≤ w.2.1) (hord : Ordered ws) (k : κ) (h : Nat) (hb : b < h) :
    (m.writes ws).atHeight k h = (m.writes (ws.filter (fun w => w.2.1 < h))).get? k := by
  rw [atHeight_writes_filter ws hm hge hord k h]
  refine atHeight_of_logLe (b := h - 1) (logLe_writes (hm.mono (by omega)) fun w hw => ?_) (by omega) k
  have := (List.mem_filter.mp hw).2
  simp at this; omega

theorem atHeight_writes_le {m : SnapMap κ ν} {b : Nat} (ws : List (MWrite κ ν)) (hm : m.LogLe b)
    (hge : ∀ w ∈ ws, b ≤ w.2.1) (hord : Ordered ws) (k : κ) (h : Nat) (hb : h ≤ b) :
    (m.writes ws).atHeight k h = m.atHeight k h :=
  congrFun (blocks.read_foldl_of_le hm ws hge hord fun w hw => Nat.le_trans hb (hge w hw)) k

/-! ### Block form: what one contract call does to a snapshot map -/

/-- `m'` results from `m` by a list of writes, all at height `hw` (one call in block `hw`). -/
def SameBlock (m m' : SnapMap κ ν) (hw : Nat) : Prop :=
  ∃ ws : List (MWrite κ ν), (∀ w ∈ ws, w.2.1 = hw) ∧ m' = m.writes ws

theorem SameBlock.refl (m : SnapMap κ ν) (hw : Nat) : SameBlock m m hw := ⟨[], by simp, rfl⟩

theorem SameBlock.write (m : SnapMap κ ν) (k : κ) (hw : Nat) (v : Option ν) : SameBlock m (m.write k hw v) hw :=
  ⟨[(k, hw, v)], by simp, rfl⟩

theorem SameBlock.trans {m1 m2 m3 : SnapMap κ ν} {hw : Nat} (h12 : SameBlock m1 m2 hw) (h23 : SameBlock m2 m3 hw) :
    SameBlock m1 m3 hw := by
  obtain ⟨w1, h1, rfl⟩ := h12
  obtain ⟨w2, h2, rfl⟩ := h23
  exact ⟨w1 ++ w2, fun w hw' => (List.mem_append.mp hw').elim (h1 w) (h2 w), (writes_append _ _ _).symm⟩

omit [DecidableEq κ] in
theorem ordered_of_same {ws : List (MWrite κ ν)} {hw : Nat} (h : ∀ w ∈ ws, w.2.1 = hw) : Ordered ws :=
  List.pairwise_of_forall_mem_list fun a ha b hb => by rw [h a ha, h b hb]; exact Nat.le_refl _

/-- Instance of the generic theorem for one block: the writes of block `hw` are invisible at every `h ≤ hw`. -/
theorem SameBlock.atHeight_le {m m' : SnapMap κ ν} {hw : Nat} (hs : SameBlock m m' hw) (hm : m.LogLe hw)
    (k : κ) {h : Nat} (hh : h ≤ hw) : m'.atHeight k h = m.atHeight k h := by
  obtain ⟨ws, hws, rfl⟩ := hs
  exact atHeight_writes_le ws hm (fun w hw' => Nat.le_of_eq (hws w hw').symm) (ordered_of_same hws) k h hh

theorem SameBlock.logLe {m m' : SnapMap κ ν} {hw B : Nat} (hs : SameBlock m m' hw) (hm : m.LogLe B) (hB : hw ≤ B) :
    m'.LogLe B := by
  obtain ⟨ws, hws, rfl⟩ := hs
  exact logLe_writes hm (fun w hw' => by rw [hws w hw']; exact hB)

theorem SameBlock.nodup {m m' : SnapMap κ ν} {hw : Nat} (hs : SameBlock m m' hw) (hm : AMap.NodupKeys m.cur) :
    AMap.NodupKeys m'.cur := by
  obtain ⟨ws, -, rfl⟩ := hs
  induction ws generalizing m with
  | nil => exact hm
  | cons w ws ih => exact ih (nodup_write _ _ _ hm)

end SnapMap

/-! ### Block form for items -/

namespace Cell

def SameBlock (c c' : Cell ν) (hw : Nat) : Prop :=
  ∃ ws : List (Nat × Option ν), (∀ w ∈ ws, w.1 = hw) ∧ c' = c.writes ws

theorem SameBlock.refl (c : Cell ν) (hw : Nat) : SameBlock c c hw := ⟨[], by simp, rfl⟩

theorem SameBlock.write (c : Cell ν) (hw : Nat) (v : Option ν) : SameBlock c (c.write hw v) hw :=
  ⟨[(hw, v)], by simp, rfl⟩

theorem SameBlock.atHeight_le {c c' : Cell ν} {hw : Nat} (hs : SameBlock c c' hw) (hc : c.LogLe hw)
    {h : Nat} (hh : h ≤ hw) : c'.atHeight h = c.atHeight h := by
  obtain ⟨ws, hws, rfl⟩ := hs
  exact atHeight_writes_le ws hc (fun w hw' => Nat.le_of_eq (hws w hw').symm)
    (List.pairwise_of_forall_mem_list fun a ha b hb => by rw [hws a ha, hws b hb]; exact Nat.le_refl _) h hh

theorem SameBlock.logLe {c c' : Cell ν} {hw B : Nat} (hs : SameBlock c c' hw) (hc : c.LogLe B) (hB : hw ≤ B) :
    c'.LogLe B := by
  obtain ⟨ws, hws, rfl⟩ := hs
  exact logLe_writes hc (fun w hw' => by rw [hws w hw']; exact hB)

end Cell

end CwPlus.Snapshot
