import CwPlus.Lemmas.Cw3Arith
/-!
# C04 — cw3: threshold arithmetic is exact, rounds up, and decides early only soundly

All theorems are about the model `CwPlus.Cw3` of `packages/cw3/src/proposal.rs` and hold for ALL
weights `≤ U64_MAX` and all decimals (18-digit atomics) `≤ 10^18`; nothing is sampled.
Helper arithmetic lives in `Lemmas/Cw3Arith.lean`.
-/
namespace CwPlus.Props.C04
open CwPlus CwPlus.Cw3

/-! ## `votes_needed` -/

/-- C04 "for all weights up to the 64-bit limit": the required weight never exceeds the base weight,
so the `as u64` cast of the Rust code is lossless. -/
theorem vn_le {w a : Nat} (ha : a ≤ DEC_ONE) (hw : w ≤ U64_MAX) : votesNeeded w a ≤ w := by
  rw [vn_eq_raw ha hw]; exact vnRaw_le ha

/-- no intermediate overflow: `10^9·w` fits `u128`, `mul_floor` fits `Uint128`, the cast is the identity -/
theorem vn_no_overflow {w a : Nat} (ha : a ≤ DEC_ONE) (hw : w ≤ U64_MAX) :
    PRECISION_FACTOR * w ≤ U128_MAX ∧ PRECISION_FACTOR * w * a / DEC_ONE ≤ U128_MAX ∧
    votesNeeded w a = (PRECISION_FACTOR * w * a / DEC_ONE + PRECISION_FACTOR - 1) / PRECISION_FACTOR :=
  ⟨(vn_intermediate_fits ha hw).1, (vn_intermediate_fits ha hw).2, vn_eq_raw ha hw⟩

/-- the required weight is monotone in the base weight -/
theorem vn_mono {w w' a : Nat} (ha : a ≤ DEC_ONE) (hw : w' ≤ U64_MAX) (h : w ≤ w') :
    votesNeeded w a ≤ votesNeeded w' a := by
  rw [vn_eq_raw ha hw, vn_eq_raw ha (Nat.le_trans h hw)]; exact vnRaw_mono h

/-- C04 "exact, rounded up": for a percentage with at most 9 decimal places (`a = 10^9·p`)
`votes_needed` is exactly `⌈w·p / 10^9⌉`. -/
theorem vn_exact {w p : Nat} (hp : p ≤ PRECISION_FACTOR) (hw : w ≤ U64_MAX) :
    votesNeeded w (PRECISION_FACTOR * p) = (w * p + PRECISION_FACTOR - 1) / PRECISION_FACTOR := by
  have ha : PRECISION_FACTOR * p ≤ DEC_ONE := by
    simp only [PRECISION_FACTOR, DEC_ONE] at *; omega
  rw [vn_eq_raw ha hw, vnRaw_exact]

/-- C04 "within one vote, never stricter than exact" (18-digit decimals): the library floors
`10^9·w·a / 10^18` before taking the ceiling, so it may require one vote LESS than the exact
ceiling `⌈w·a / 10^18⌉`, never more. -/
theorem vn_within_one {w a : Nat} (ha : a ≤ DEC_ONE) (hw : w ≤ U64_MAX) :
    votesNeeded w a ≤ exactCeil w a ∧ exactCeil w a ≤ votesNeeded w a + 1 := by
  rw [vn_eq_raw ha hw]; exact vnRaw_within_one w a

theorem vn_le_iff_within_one {w a y : Nat} (ha : a ≤ DEC_ONE) (hw : w ≤ U64_MAX) :
    (w * a ≤ y * DEC_ONE → votesNeeded w a ≤ y) ∧ (votesNeeded w a ≤ y → w * a ≤ (y + 1) * DEC_ONE) := by
  have h := vn_within_one ha hw
  exact ⟨fun hy => Nat.le_trans h.1 ((exactCeil_le_iff w a y).mpr hy),
    fun hy => (exactCeil_le_iff w a (y + 1)).mp (Nat.le_trans h.2 (Nat.succ_le_succ hy))⟩

/-- the requirements for `a` and for `1 - a` together cover the whole base weight
(so "passed" and "rejected" can never both hold) -/
theorem vn_compl {w a : Nat} (ha : a ≤ DEC_ONE) (hw : w ≤ U64_MAX) :
    w ≤ votesNeeded w a + votesNeeded w (DEC_ONE - a) := by
  rw [vn_eq_raw ha hw, vn_eq_raw (Nat.sub_le _ _) hw]; exact vnRaw_compl ha

/-! ## Premise, closed forms of the decision functions -/

/-- all votes cast -/
@[reducible] def cast (v : Votes) : Nat := v.yes + v.no + v.abstain + v.veto

/-- tally after further votes `c` -/
@[reducible] def plus (v c : Votes) : Votes := ⟨v.yes + c.yes, v.no + c.no, v.abstain + c.abstain, v.veto + c.veto⟩

/-- The premise of C04: the tally does not exceed the total weight (a `u64`) and the threshold
passed `Threshold::validate` for this total. -/
structure Premise (p : Tally) : Prop where
  tally_le : cast p.votes ≤ p.totalWeight
  total_u64 : p.totalWeight ≤ U64_MAX
  valid : p.threshold.validate p.totalWeight = .ok ()

theorem Premise.add_votes {p : Tally} (h : Premise p) {c : Votes} (hc : cast (plus p.votes c) ≤ p.totalWeight) :
    Premise { p with votes := plus p.votes c } := ⟨hc, h.total_u64, h.valid⟩

theorem valid_count {k total : Nat} (h : (Threshold.absoluteCount k).validate total = .ok ()) :
    0 < k ∧ k ≤ total := by
  simp [Threshold.validate] at h; omega

theorem valid_pct {a total : Nat} (h : (Threshold.absolutePercentage a).validate total = .ok ()) :
    DEC_ONE / 2 ≤ a ∧ a ≤ DEC_ONE := by
  simpa [Threshold.validate] using h

theorem valid_quorum {t q total : Nat} (h : (Threshold.thresholdQuorum t q).validate total = .ok ()) :
    DEC_ONE / 2 ≤ t ∧ t ≤ DEC_ONE ∧ 0 < q ∧ q ≤ DEC_ONE := by
  simp [Threshold.validate] at h; omega

theorem total_ok {v : Votes} (h : cast v ≤ U64_MAX) : v.total = .ok (cast v) := by
  unfold cast at h
  simp [Votes.total, addU64, cast, bind, Except.bind]
  have h1 : v.yes + v.no ≤ U64_MAX := by omega
  have h2 : v.yes + v.no + v.abstain ≤ U64_MAX := by omega
  simp [h1, h2, h]

/-- What `is_passed` computes, as a pure formula.  Only the base of a quorum threshold depends
on expiry: the opinions cast once expired, the whole non-abstaining weight before. -/
def libPassesAt (thr : Threshold) (total : Nat) (v : Votes) (expired : Bool) : Bool :=
  decide (0 < v.yes) &&
  match thr with
  | .absoluteCount k => decide (k ≤ v.yes)
  | .absolutePercentage a => decide (votesNeeded (total - v.abstain) a ≤ v.yes)
  | .thresholdQuorum t q =>
    decide (votesNeeded total q ≤ cast v) &&
    decide (votesNeeded ((if expired then cast v else total) - v.abstain) t ≤ v.yes)

/-- The library's decision on a FINAL tally (what `is_passed` computes once the proposal has expired). -/
def libPasses (thr : Threshold) (total : Nat) (v : Votes) : Bool := libPassesAt thr total v true

/-- The documented cw3 rule on a final tally in EXACT arithmetic (cross-multiplied integers,
independent of `votes_needed`): `yes ≥ k`; `yes/(total-abstain) ≥ a`; quorum `cast/total ≥ q` and
`yes/(cast-abstain) ≥ t`; and at least some Yes weight. -/
def exactPasses (thr : Threshold) (total : Nat) (v : Votes) : Bool :=
  decide (0 < v.yes) &&
  match thr with
  | .absoluteCount k => decide (k ≤ v.yes)
  | .absolutePercentage a => decide ((total - v.abstain) * a ≤ v.yes * DEC_ONE)
  | .thresholdQuorum t q =>
    decide (total * q ≤ cast v * DEC_ONE) && decide ((cast v - v.abstain) * t ≤ v.yes * DEC_ONE)

/-- the same with one vote of slack on every percentage requirement -/
def laxPasses (thr : Threshold) (total : Nat) (v : Votes) : Bool :=
  decide (0 < v.yes) &&
  match thr with
  | .absoluteCount k => decide (k ≤ v.yes)
  | .absolutePercentage a => decide ((total - v.abstain) * a ≤ (v.yes + 1) * DEC_ONE)
  | .thresholdQuorum t q =>
    decide (total * q ≤ (cast v + 1) * DEC_ONE) && decide ((cast v - v.abstain) * t ≤ (v.yes + 1) * DEC_ONE)

theorem isPassed_count {p : Tally} {k : Nat} (blk : Block) (ht : p.threshold = .absoluteCount k) :
    isPassed p blk = .ok (decide (0 < p.votes.yes ∧ k ≤ p.votes.yes)) := by
  unfold isPassed; rw [ht]
  by_cases h0 : p.votes.yes = 0
  · simp [h0]
  · have : 0 < p.votes.yes := by omega
    simp [h0, this]

/-! ## No panic inside the premise; never passed without Yes weight -/

theorem abstain_le_cast (v : Votes) : v.abstain ≤ cast v :=
  Nat.le_trans (Nat.le_add_left _ _) (Nat.le_add_right _ _)

theorem Premise.abstain_le {p : Tally} (h : Premise p) : p.votes.abstain ≤ p.totalWeight :=
  Nat.le_trans (abstain_le_cast _) h.tally_le

theorem isPassed_eq {p : Tally} (h : Premise p) (blk : Block) :
    isPassed p blk = .ok (libPassesAt p.threshold p.totalWeight p.votes (p.expires.isExpired blk)) := by
  unfold isPassed libPassesAt
  by_cases h0 : p.votes.yes = 0
  · rw [if_pos h0, h0]; rfl
  · rw [if_neg h0, decide_eq_true (Nat.pos_of_ne_zero h0), Bool.true_and]
    cases p.threshold with
    | absoluteCount k => rfl
    | absolutePercentage a => exact subU64_bind_of_le h.abstain_le _
    | thresholdQuorum t q =>
      simp only []
      rw [total_ok (Nat.le_trans h.tally_le h.total_u64), Res.ok_bind]
      by_cases hq : cast p.votes < votesNeeded p.totalWeight q
      · rw [if_pos hq, decide_eq_false (Nat.not_le_of_lt hq)]; rfl
      · rw [if_neg hq, decide_eq_true (Nat.le_of_not_lt hq), Bool.true_and]
        cases p.expires.isExpired blk
        · exact subU64_bind_of_le h.abstain_le _
        · exact subU64_bind_of_le (abstain_le_cast _) _

/-- What `is_rejected` computes, as a pure formula. -/
def libRejectsAt (thr : Threshold) (total : Nat) (v : Votes) (expired : Bool) : Bool :=
  match thr with
  | .absoluteCount k => decide (total - k < v.no)
  | .absolutePercentage a => decide (votesNeeded (total - v.abstain) (DEC_ONE - a) < v.no)
  | .thresholdQuorum t _ =>
    decide (votesNeeded ((if expired then cast v else total) - v.abstain) (DEC_ONE - t) < v.no)

theorem isRejected_eq {p : Tally} (h : Premise p) (blk : Block) :
    isRejected p blk = .ok (libRejectsAt p.threshold p.totalWeight p.votes (p.expires.isExpired blk)) := by
  have hv := h.valid
  unfold isRejected libRejectsAt
  generalize p.threshold = thr at hv ⊢
  cases thr with
  | absoluteCount k => exact subU64_bind_of_le (valid_count hv).2 _
  | absolutePercentage a =>
    simp only []
    rw [subU64_bind_of_le h.abstain_le, oneMinus_bind_of_le (valid_pct hv).2]; rfl
  | thresholdQuorum t q =>
    simp only []
    cases p.expires.isExpired blk
    · rw [if_neg Bool.false_ne_true, subU64_bind_of_le h.abstain_le, oneMinus_bind_of_le (valid_quorum hv).2.1]; rfl
    · rw [if_pos rfl, total_ok (Nat.le_trans h.tally_le h.total_u64), Res.ok_bind,
        subU64_bind_of_le (abstain_le_cast _), oneMinus_bind_of_le (valid_quorum hv).2.1]; rfl

theorem currentStatus_open_eq {p : Tally} (h : Premise p) (ho : p.status = .open) (blk : Block) :
    currentStatus p blk = .ok
      (if libPassesAt p.threshold p.totalWeight p.votes (p.expires.isExpired blk) = true then .passed
       else if (libRejectsAt p.threshold p.totalWeight p.votes (p.expires.isExpired blk)
         || p.expires.isExpired blk) = true then .rejected else .open) := by
  unfold currentStatus
  rw [if_neg (by simp [ho]), isPassed_eq h blk, Res.ok_bind, isRejected_eq h blk]
  cases libPassesAt p.threshold p.totalWeight p.votes (p.expires.isExpired blk)
  · cases libRejectsAt p.threshold p.totalWeight p.votes (p.expires.isExpired blk) <;>
      cases p.expires.isExpired blk <;> rfl
  · rfl

theorem cs_open_passed_iff {p : Tally} (h : Premise p) (ho : p.status = .open) (blk : Block) :
    currentStatus p blk = .ok .passed ↔
      libPassesAt p.threshold p.totalWeight p.votes (p.expires.isExpired blk) = true := by
  rw [currentStatus_open_eq h ho blk]
  cases libPassesAt p.threshold p.totalWeight p.votes (p.expires.isExpired blk) <;>
    cases (libRejectsAt p.threshold p.totalWeight p.votes (p.expires.isExpired blk) || p.expires.isExpired blk) <;> simp

theorem isPassed_of_status_passed {p : Tally} (h : Premise p) (ho : p.status = .open) {blk : Block}
    (hs : currentStatus p blk = .ok .passed) : isPassed p blk = .ok true :=
  (isPassed_eq h blk).trans (congrArg _ ((cs_open_passed_iff h ho blk).mp hs))

theorem cs_open_rejected_iff {p : Tally} (h : Premise p) (ho : p.status = .open) (blk : Block) :
    currentStatus p blk = .ok .rejected ↔
      libPassesAt p.threshold p.totalWeight p.votes (p.expires.isExpired blk) = false ∧
      (libRejectsAt p.threshold p.totalWeight p.votes (p.expires.isExpired blk) || p.expires.isExpired blk) = true := by
  rw [currentStatus_open_eq h ho blk]
  cases libPassesAt p.threshold p.totalWeight p.votes (p.expires.isExpired blk) <;>
    cases (libRejectsAt p.threshold p.totalWeight p.votes (p.expires.isExpired blk) || p.expires.isExpired blk) <;> simp

/-- C04 "for all weights up to the 64-bit limit": inside the premise none of the `u64`
subtractions/additions, the `Decimal` subtraction or the `as u64` cast can fail — the three
decision functions return a value. -/
theorem no_panic {p : Tally} (h : Premise p) (blk : Block) :
    (∃ b, isPassed p blk = .ok b) ∧ (∃ b, isRejected p blk = .ok b) ∧ (∃ s, currentStatus p blk = .ok s) := by
  refine ⟨⟨_, isPassed_eq h blk⟩, ⟨_, isRejected_eq h blk⟩, ?_⟩
  by_cases ho : p.status = .open
  · exact ⟨_, currentStatus_open_eq h ho blk⟩
  · exact ⟨_, by unfold currentStatus; rw [if_pos ho]⟩

/-- C04 "never Passed without Yes weight" — for EVERY tally and threshold, even outside the premise
(this is the guard added by the fix of defect D1). -/
theorem passed_needs_yes {p : Tally} {blk : Block} (h : isPassed p blk = .ok true) : 0 < p.votes.yes := by
  unfold isPassed at h
  by_cases h0 : p.votes.yes = 0
  · rw [if_pos h0] at h; cases h
  · omega

/-! ## After expiry the decision is the documented formula -/

/-- C04 clause 1, all threshold kinds at once: once expired, `is_passed` is `libPasses`
(Yes weight present, and the required Yes weight `votes_needed`, i.e. the percentage rounded up,
is reached; quorum computed over all votes cast, threshold over the opinions cast). -/
theorem expired_decision_eq_formula {p : Tally} (h : Premise p) {blk : Block}
    (he : p.expires.isExpired blk = true) :
    isPassed p blk = .ok (libPasses p.threshold p.totalWeight p.votes) := by
  rw [isPassed_eq h blk, he]; rfl

/-- AbsoluteCount `k`: passed iff `yes ≥ k` (exact; `k ≥ 1` by validation, `0 < yes` is the D1 guard) -/
theorem expired_decision_eq_formula_count {p : Tally} {k : Nat} (blk : Block)
    (ht : p.threshold = .absoluteCount k) :
    isPassed p blk = .ok (decide (0 < p.votes.yes ∧ k ≤ p.votes.yes)) := isPassed_count blk ht

/-- AbsolutePercentage `a`: passed iff `0 < yes` and `yes ≥ votes_needed(total - abstain, a)` -/
theorem expired_decision_eq_formula_pct {p : Tally} {a : Nat} (h : Premise p) (blk : Block)
    (ht : p.threshold = .absolutePercentage a) :
    isPassed p blk = .ok (decide (0 < p.votes.yes ∧
      votesNeeded (p.totalWeight - p.votes.abstain) a ≤ p.votes.yes)) := by
  rw [isPassed_eq h blk, ht, Bool.decide_and]; rfl

/-- ThresholdQuorum `t q`, expired: passed iff `0 < yes`, `cast ≥ votes_needed(total, q)` and
`yes ≥ votes_needed(cast - abstain, t)` -/
theorem expired_decision_eq_formula_quorum {p : Tally} {t q : Nat} (h : Premise p) {blk : Block}
    (ht : p.threshold = .thresholdQuorum t q) (he : p.expires.isExpired blk = true) :
    isPassed p blk = .ok (decide (0 < p.votes.yes ∧ votesNeeded p.totalWeight q ≤ cast p.votes ∧
      votesNeeded (cast p.votes - p.votes.abstain) t ≤ p.votes.yes)) := by
  rw [isPassed_eq h blk, ht, he, Bool.decide_and, Bool.decide_and]; rfl

theorem vn_le_iff_exact9 {w a y : Nat} (h9 : PRECISION_FACTOR ∣ a) (ha : a ≤ DEC_ONE) (hw : w ≤ U64_MAX) :
    votesNeeded w a ≤ y ↔ w * a ≤ y * DEC_ONE := by
  obtain ⟨p, rfl⟩ := h9
  rw [vn_eq_raw ha hw, vnRaw_le_iff, Nat.mul_left_comm w PRECISION_FACTOR p]
  generalize w * p = A
  simp only [PRECISION_FACTOR, DEC_ONE]; omega

/-- thresholds written with at most 9 decimal places -/
def nineDecimals : Threshold → Prop
  | .absoluteCount _ => True
  | .absolutePercentage a => PRECISION_FACTOR ∣ a
  | .thresholdQuorum t q => PRECISION_FACTOR ∣ t ∧ PRECISION_FACTOR ∣ q

/-- C04 "up to 9 decimal places (exact)": for such thresholds the library's final decision IS the
documented formula in exact rational arithmetic (cross-multiplied). -/
theorem libPasses_eq_exact9 {thr : Threshold} {total : Nat} {v : Votes}
    (hv : thr.validate total = .ok ()) (hc : cast v ≤ total) (hu : total ≤ U64_MAX) (h9 : nineDecimals thr) :
    libPasses thr total v = exactPasses thr total v := by
  have hab : v.abstain ≤ total := by unfold cast at hc; omega
  cases thr with
  | absoluteCount k => rfl
  | absolutePercentage a =>
    have := vn_le_iff_exact9 (w := total - v.abstain) (y := v.yes) h9 (valid_pct hv).2 (by omega)
    simp only [libPasses, libPassesAt, exactPasses, this]
  | thresholdQuorum t q =>
    have hq := valid_quorum hv
    have e1 := vn_le_iff_exact9 (w := total) (y := cast v) h9.2 hq.2.2.2 hu
    have e2 := vn_le_iff_exact9 (w := cast v - v.abstain) (y := v.yes) h9.1 hq.2.1 (by omega)
    simp only [libPasses, libPassesAt, exactPasses, e1, e2, if_true]

/-- C04 "up to 18 decimal places (within one vote, never stricter than exact)": whenever the exact
formula passes the library passes, and whenever the library passes the exact formula passes with
at most one vote of slack on each percentage requirement. -/
theorem libPasses_within_one {thr : Threshold} {total : Nat} {v : Votes}
    (hv : thr.validate total = .ok ()) (hc : cast v ≤ total) (hu : total ≤ U64_MAX) :
    (exactPasses thr total v = true → libPasses thr total v = true) ∧
    (libPasses thr total v = true → laxPasses thr total v = true) := by
  have hab : v.abstain ≤ total := by unfold cast at hc; omega
  cases thr with
  | absoluteCount k => exact ⟨id, id⟩
  | absolutePercentage a =>
    have := vn_le_iff_within_one (w := total - v.abstain) (y := v.yes) (valid_pct hv).2 (by omega)
    simp only [libPasses, libPassesAt, exactPasses, laxPasses, Bool.and_eq_true, decide_eq_true_eq]
    exact ⟨fun h => ⟨h.1, this.1 h.2⟩, fun h => ⟨h.1, this.2 h.2⟩⟩
  | thresholdQuorum t q =>
    have hq := valid_quorum hv
    have e1 := vn_le_iff_within_one (w := total) (y := cast v) hq.2.2.2 hu
    have e2 := vn_le_iff_within_one (w := cast v - v.abstain) (y := v.yes) hq.2.1 (by omega)
    simp only [libPasses, libPassesAt, exactPasses, laxPasses, Bool.and_eq_true, decide_eq_true_eq, if_true]
    exact ⟨fun h => ⟨h.1, e1.1 h.2.1, e2.1 h.2.2⟩, fun h => ⟨h.1, e1.2 h.2.1, e2.2 h.2.2⟩⟩

theorem exact_false_of_lib_false {thr : Threshold} {total : Nat} {v : Votes}
    (hv : thr.validate total = .ok ()) (hc : cast v ≤ total) (hu : total ≤ U64_MAX)
    (h : libPasses thr total v = false) : exactPasses thr total v = false :=
  Bool.eq_false_iff.mpr fun hx => by rw [(libPasses_within_one hv hc hu).1 hx] at h; cases h

/-- C04 clause 1 for 9-decimal thresholds, on the decision function itself -/
theorem expired_decision_exact9 {p : Tally} (h : Premise p) {blk : Block}
    (he : p.expires.isExpired blk = true) (h9 : nineDecimals p.threshold) :
    isPassed p blk = .ok (exactPasses p.threshold p.totalWeight p.votes) := by
  rw [expired_decision_eq_formula h he, libPasses_eq_exact9 h.valid h.tally_le h.total_u64 h9]

/-- C04 clause 1 for 18-digit thresholds, on the decision function itself: never stricter than the
exact formula, at most one vote more permissive. -/
theorem expired_decision_within_one {p : Tally} (h : Premise p) {blk : Block}
    (he : p.expires.isExpired blk = true) :
    (exactPasses p.threshold p.totalWeight p.votes = true → isPassed p blk = .ok true) ∧
    (isPassed p blk = .ok true → laxPasses p.threshold p.totalWeight p.votes = true) := by
  have := libPasses_within_one (v := p.votes) h.valid h.tally_le h.total_u64
  rw [expired_decision_eq_formula h he]
  exact ⟨fun hx => congrArg _ (this.1 hx), fun hx => this.2 (Except.ok.inj hx)⟩

/-- **C04 clause 1 for `current_status` itself**: inside the premise, the status computed for a proposal stored Open
that has expired is decided by the documented formula alone — Passed if `libPasses` (Yes weight present and the
percentage, rounded up, reached; quorum over all votes cast, threshold over the opinions cast), Rejected otherwise;
never Open, never an error. -/
theorem expired_status_eq_formula {p : Tally} (h : Premise p) (ho : p.status = .open) {blk : Block}
    (he : p.expires.isExpired blk = true) :
    currentStatus p blk = .ok (if libPasses p.threshold p.totalWeight p.votes then .passed else .rejected) := by
  rw [currentStatus_open_eq h ho blk, he, libPasses, Bool.or_true]
  cases libPassesAt p.threshold p.totalWeight p.votes true <;> rfl

/-- … for thresholds with at most 9 decimals: decided by the EXACT cross-multiplied rule. -/
theorem expired_status_exact9 {p : Tally} (h : Premise p) (ho : p.status = .open) {blk : Block}
    (he : p.expires.isExpired blk = true) (h9 : nineDecimals p.threshold) :
    currentStatus p blk = .ok (if exactPasses p.threshold p.totalWeight p.votes then .passed else .rejected) := by
  rw [expired_status_eq_formula h ho he, libPasses_eq_exact9 h.valid h.tally_le h.total_u64 h9]

/-- … for 18-digit thresholds: Passed whenever the exact rule passes, Rejected whenever even the rule with one vote of
slack fails. -/
theorem expired_status_within_one {p : Tally} (h : Premise p) (ho : p.status = .open) {blk : Block}
    (he : p.expires.isExpired blk = true) :
    (exactPasses p.threshold p.totalWeight p.votes = true → currentStatus p blk = .ok .passed) ∧
    (laxPasses p.threshold p.totalWeight p.votes = false → currentStatus p blk = .ok .rejected) := by
  have hw := libPasses_within_one (v := p.votes) h.valid h.tally_le h.total_u64
  rw [expired_status_eq_formula h ho he]
  constructor
  · intro hx; rw [hw.1 hx]; rfl
  · intro hx
    cases hl : libPasses p.threshold p.totalWeight p.votes with
    | false => rfl
    | true => rw [hw.2 hl] at hx; cases hx

/-! ## Early decisions are sound; never both -/

theorem cast_plus (v c : Votes) : cast (plus v c) = cast v + cast c := by
  simp only [cast]; omega

/-- The base of a percentage requirement (the opinions: the whole weight — once expired, for a quorum threshold, the
votes cast — less the abstentions) only shrinks as votes come in … -/
theorem opinions_le (e : Bool) {total : Nat} {v c : Votes} (hc : cast (plus v c) ≤ total) :
    (if e = true then cast (plus v c) else total) - (plus v c).abstain ≤ total - v.abstain :=
  Nat.le_trans (Nat.sub_le_sub_right (by cases e with | false => exact Nat.le_refl _ | true => exact hc) _)
    (Nat.sub_le_sub_left (Nat.le_add_right _ _) _)

/-- … and always holds the Yes and the No weight. -/
theorem yes_no_le_opinions (e : Bool) {total : Nat} {v : Votes} (hc : cast v ≤ total) :
    v.yes + v.no ≤ (if e = true then cast v else total) - v.abstain :=
  Nat.le_sub_of_add_le (Nat.le_trans (Nat.le_add_right _ v.veto)
    (by cases e with | false => exact hc | true => exact Nat.le_refl _))

theorem libPassesAt_open_completion {thr : Threshold} {total : Nat} {v : Votes}
    (hv : thr.validate total = .ok ()) (hu : total ≤ U64_MAX)
    (hp : libPassesAt thr total v false = true) (c : Votes) (hc : cast (plus v c) ≤ total) (e : Bool) :
    libPassesAt thr total (plus v c) e = true := by
  have hb : total - v.abstain ≤ U64_MAX := Nat.le_trans (Nat.sub_le _ _) hu
  cases thr with
  | absoluteCount k =>
    simp only [libPassesAt, Bool.and_eq_true, decide_eq_true_eq] at hp ⊢
    exact ⟨Nat.lt_of_lt_of_le hp.1 (Nat.le_add_right _ _), Nat.le_trans hp.2 (Nat.le_add_right _ _)⟩
  | absolutePercentage a =>
    simp only [libPassesAt, Bool.and_eq_true, decide_eq_true_eq] at hp ⊢
    exact ⟨Nat.lt_of_lt_of_le hp.1 (Nat.le_add_right _ _),
      Nat.le_trans (vn_mono (valid_pct hv).2 hb (opinions_le false hc)) (Nat.le_trans hp.2 (Nat.le_add_right _ _))⟩
  | thresholdQuorum t q =>
    simp only [libPassesAt, Bool.and_eq_true, decide_eq_true_eq, Bool.false_eq_true, if_false] at hp ⊢
    refine ⟨Nat.lt_of_lt_of_le hp.1 (Nat.le_add_right _ _), Nat.le_trans hp.2.1 ?_,
      Nat.le_trans (vn_mono (valid_quorum hv).2.1 hb (opinions_le e hc)) (Nat.le_trans hp.2.2 (Nat.le_add_right _ _))⟩
    rw [cast_plus]; exact Nat.le_add_right _ _

/-- C04 clause 2a: before expiry the library reports Passed only if EVERY completion of the
outstanding votes (any further yes/no/abstain/veto weights `c` keeping the tally within the total)
still passes as a final tally — stated against the library's own after-expiry decision. -/
theorem passed_sound {p : Tally} (h : Premise p) {blk : Block} (hne : p.expires.isExpired blk = false)
    (hp : isPassed p blk = .ok true) (c : Votes) (hc : cast (plus p.votes c) ≤ p.totalWeight) :
    libPasses p.threshold p.totalWeight (plus p.votes c) = true := by
  rw [isPassed_eq h blk, hne] at hp
  exact libPassesAt_open_completion h.valid h.total_u64 (Except.ok.inj hp) c hc true

/-- … the same on the decision function: the completed proposal, evaluated at any block at which it
has expired, is passed. -/
theorem passed_sound_at {p : Tally} (h : Premise p) {blk : Block} (hne : p.expires.isExpired blk = false)
    (hp : isPassed p blk = .ok true) (c : Votes) (hc : cast (plus p.votes c) ≤ p.totalWeight)
    {blk' : Block} (he : p.expires.isExpired blk' = true) :
    isPassed { p with votes := plus p.votes c } blk' = .ok true := by
  rw [expired_decision_eq_formula (h.add_votes hc) he]
  exact congrArg _ (passed_sound h hne hp c hc)

/-- against exact arithmetic the early Passed is sound within one vote (exact for 9 decimals) -/
theorem passed_sound_exact {p : Tally} (h : Premise p) {blk : Block} (hne : p.expires.isExpired blk = false)
    (hp : isPassed p blk = .ok true) (c : Votes) (hc : cast (plus p.votes c) ≤ p.totalWeight) :
    laxPasses p.threshold p.totalWeight (plus p.votes c) = true ∧
    (nineDecimals p.threshold → exactPasses p.threshold p.totalWeight (plus p.votes c) = true) := by
  have hl := passed_sound h hne hp c hc
  refine ⟨(libPasses_within_one h.valid hc h.total_u64).2 hl, fun h9 => ?_⟩
  rw [← libPasses_eq_exact9 h.valid hc h.total_u64 h9]; exact hl

/-- Yes and No weights that fit into the base `O` cannot meet both requirements, for `a` and for `1 - a`, because the two
together cover the base (`vn_compl`). -/
theorem vn_not_both {O a y n : Nat} (ha : a ≤ DEC_ONE) (hOu : O ≤ U64_MAX) (hyn : y + n ≤ O)
    (hp : votesNeeded O a ≤ y) : ¬ votesNeeded O (DEC_ONE - a) < n := by
  have := vn_compl ha hOu
  omega

theorem lib_not_both {thr : Threshold} {total : Nat} {v : Votes} (hv : thr.validate total = .ok ())
    (hc : cast v ≤ total) (hu : total ≤ U64_MAX) (e : Bool) :
    ¬ (libPassesAt thr total v e = true ∧ libRejectsAt thr total v e = true) := by
  rintro ⟨hp, hr⟩
  have hb : ∀ e : Bool, (if e = true then cast v else total) - v.abstain ≤ U64_MAX := fun e =>
    Nat.le_trans (Nat.sub_le _ _) (by cases e with | false => exact hu | true => exact Nat.le_trans hc hu)
  cases thr with
  | absoluteCount k =>
    have := valid_count hv
    simp only [libRejectsAt, libPassesAt, Bool.and_eq_true, decide_eq_true_eq] at hr hp
    simp only [cast] at hc
    omega
  | absolutePercentage a =>
    simp only [libRejectsAt, libPassesAt, Bool.and_eq_true, decide_eq_true_eq] at hr hp
    exact vn_not_both (valid_pct hv).2 (hb false) (yes_no_le_opinions false hc) hp.2 hr
  | thresholdQuorum t q =>
    simp only [libRejectsAt, libPassesAt, Bool.and_eq_true, decide_eq_true_eq] at hr hp
    exact vn_not_both (valid_quorum hv).2.1 (hb e) (yes_no_le_opinions e hc) hp.2.2 hr

/-- A rejection before expiry stands after further votes, expired or not: the No weight only grows and the requirement
it has to exceed only shrinks with its base. -/
theorem libRejectsAt_open_mono {thr : Threshold} {total : Nat} {v : Votes}
    (hv : thr.validate total = .ok ()) (hu : total ≤ U64_MAX)
    (hr : libRejectsAt thr total v false = true) (c : Votes) (hc : cast (plus v c) ≤ total) (e : Bool) :
    libRejectsAt thr total (plus v c) e = true := by
  have hb : total - v.abstain ≤ U64_MAX := Nat.le_trans (Nat.sub_le _ _) hu
  cases thr with
  | absoluteCount k =>
    simp only [libRejectsAt, decide_eq_true_eq] at hr ⊢
    exact Nat.lt_of_lt_of_le hr (Nat.le_add_right _ _)
  | absolutePercentage a =>
    simp only [libRejectsAt, decide_eq_true_eq] at hr ⊢
    exact Nat.lt_of_le_of_lt (vn_mono (Nat.sub_le _ _) hb (opinions_le false hc))
      (Nat.lt_of_lt_of_le hr (Nat.le_add_right _ _))
  | thresholdQuorum t q =>
    simp only [libRejectsAt, decide_eq_true_eq, Bool.false_eq_true, if_false] at hr ⊢
    exact Nat.lt_of_le_of_lt (vn_mono (Nat.sub_le _ _) hb (opinions_le e hc))
      (Nat.lt_of_lt_of_le hr (Nat.le_add_right _ _))

/-- … so it excludes that any completion passes as a final tally. -/
theorem libRejectsAt_open_completion {thr : Threshold} {total : Nat} {v : Votes}
    (hv : thr.validate total = .ok ()) (hu : total ≤ U64_MAX)
    (hr : libRejectsAt thr total v false = true) (c : Votes) (hc : cast (plus v c) ≤ total) :
    libPasses thr total (plus v c) = false :=
  Bool.eq_false_iff.mpr fun hp => lib_not_both hv hc hu true ⟨hp, libRejectsAt_open_mono hv hu hr c hc true⟩

/-- C04 clause 2b: before expiry the library reports Rejected only if NO completion of the
outstanding votes passes as a final tally. -/
theorem rejected_sound {p : Tally} (h : Premise p) {blk : Block} (hne : p.expires.isExpired blk = false)
    (hr : isRejected p blk = .ok true) (c : Votes) (hc : cast (plus p.votes c) ≤ p.totalWeight) :
    libPasses p.threshold p.totalWeight (plus p.votes c) = false := by
  rw [isRejected_eq h blk, hne] at hr
  exact libRejectsAt_open_completion h.valid h.total_u64 (Except.ok.inj hr) c hc

/-- … on the decision function -/
theorem rejected_sound_at {p : Tally} (h : Premise p) {blk : Block} (hne : p.expires.isExpired blk = false)
    (hr : isRejected p blk = .ok true) (c : Votes) (hc : cast (plus p.votes c) ≤ p.totalWeight)
    {blk' : Block} (he : p.expires.isExpired blk' = true) :
    isPassed { p with votes := plus p.votes c } blk' = .ok false := by
  rw [expired_decision_eq_formula (h.add_votes hc) he]
  exact congrArg _ (rejected_sound h hne hr c hc)

/-- an early Rejected also excludes every completion in EXACT arithmetic (the library is never
stricter than exact, so "no completion passes the library" implies "none passes exactly") -/
theorem rejected_sound_exact {p : Tally} (h : Premise p) {blk : Block} (hne : p.expires.isExpired blk = false)
    (hr : isRejected p blk = .ok true) (c : Votes) (hc : cast (plus p.votes c) ≤ p.totalWeight) :
    exactPasses p.threshold p.totalWeight (plus p.votes c) = false :=
  exact_false_of_lib_false h.valid hc h.total_u64 (rejected_sound h hne hr c hc)

/-- C04 clause 3: no tally is reported both passed and rejected (expired or not). -/
theorem not_both {p : Tally} (h : Premise p) (blk : Block) :
    ¬ (isPassed p blk = .ok true ∧ isRejected p blk = .ok true) := by
  rw [isPassed_eq h blk, isRejected_eq h blk]
  exact fun ⟨hp, hr⟩ => lib_not_both h.valid h.tally_le h.total_u64 _ ⟨Except.ok.inj hp, Except.ok.inj hr⟩

/-! ## Stability (reused by C03/C05) -/

/-- block `b'` is not earlier than `b` -/
def later (b b' : Block) : Prop := b.height ≤ b'.height ∧ b.time ≤ b'.time

theorem expired_mono {e : Expiration} {b b' : Block} (hl : later b b') (he : e.isExpired b = true) :
    e.isExpired b' = true := by
  obtain ⟨h1, h2⟩ := hl
  cases e <;> simp only [Expiration.isExpired, decide_eq_true_eq] at he ⊢ <;> first | omega | exact he

def noVotes : Votes := ⟨0, 0, 0, 0⟩

theorem plus_noVotes (v : Votes) : plus v noVotes = v := by cases v; rfl

/-- Once passed, always passed: if `is_passed` holds at block `b` it holds at every later block `b'`,
also after further votes `c` (votes are only accepted before expiry: `c` is empty if the proposal
had already expired at `b`). -/
theorem passed_stable {p : Tally} (h : Premise p) {b b' : Block} (hl : later b b')
    (hp : isPassed p b = .ok true) (c : Votes) (hc : cast (plus p.votes c) ≤ p.totalWeight)
    (hvote : p.expires.isExpired b = true → c = noVotes) :
    isPassed { p with votes := plus p.votes c } b' = .ok true := by
  rw [isPassed_eq (h.add_votes hc) b']
  rw [isPassed_eq h b] at hp
  have hp := Except.ok.inj hp
  apply congrArg
  cases he : p.expires.isExpired b with
  | false =>
    rw [he] at hp
    exact libPassesAt_open_completion h.valid h.total_u64 hp c hc _
  | true =>
    rw [he] at hp
    have he' : p.expires.isExpired b' = true := expired_mono hl he
    show libPassesAt p.threshold p.totalWeight (plus p.votes c) (p.expires.isExpired b') = true
    rw [hvote he, plus_noVotes, he']; exact hp

theorem passed_stable_time {p : Tally} (h : Premise p) {b b' : Block} (hl : later b b')
    (hp : isPassed p b = .ok true) : isPassed p b' = .ok true := by
  have := passed_stable h hl hp noVotes (by rw [plus_noVotes]; exact h.tally_le) (fun _ => rfl)
  rw [plus_noVotes] at this
  exact this

/-- hence the reported status of an Open-stored proposal that is Passed stays Passed -/
theorem status_passed_stable {p : Tally} (h : Premise p) {b b' : Block} (hl : later b b')
    (hs : currentStatus p b = .ok .passed) (c : Votes) (hc : cast (plus p.votes c) ≤ p.totalWeight)
    (hvote : p.expires.isExpired b = true → c = noVotes) :
    currentStatus { p with votes := plus p.votes c } b' = .ok .passed := by
  have h' := h.add_votes hc
  by_cases ho : p.status = .open
  · exact (cs_open_passed_iff h' ho b').mpr (Except.ok.inj ((isPassed_eq h' b').symm.trans
      (passed_stable h hl (isPassed_of_status_passed h ho hs) c hc hvote)))
  · unfold currentStatus at hs ⊢
    rw [if_pos ho] at hs ⊢; exact hs

/-! ## Completeness of the early Passed, stability of Rejected -/

/-- Converse of `passed_sound`: before expiry, if every completion of the outstanding votes passes
as a final tally, the library already reports Passed (two completions suffice: nobody else votes,
and everybody else votes No). -/
theorem passed_complete {p : Tally} (h : Premise p) {blk : Block} (hne : p.expires.isExpired blk = false)
    (hall : ∀ c : Votes, cast (plus p.votes c) ≤ p.totalWeight →
      libPasses p.threshold p.totalWeight (plus p.votes c) = true) :
    isPassed p blk = .ok true := by
  rw [isPassed_eq h blk, hne]
  apply congrArg
  have hc := h.tally_le
  have h0 := hall noVotes (by rw [plus_noVotes]; exact hc)
  rw [plus_noVotes] at h0
  cases ht : p.threshold with
  | absoluteCount k => rw [ht] at h0; exact h0
  | absolutePercentage a => rw [ht] at h0; exact h0
  | thresholdQuorum t q =>
    -- everybody else votes No: the votes cast are then the whole weight
    have hfull : cast (plus p.votes ⟨0, p.totalWeight - cast p.votes, 0, 0⟩) = p.totalWeight := by
      rw [cast_plus, show cast ⟨0, p.totalWeight - cast p.votes, 0, 0⟩ = p.totalWeight - cast p.votes from
        Nat.zero_add _]
      exact Nat.add_sub_cancel' hc
    have h1 := hall ⟨0, p.totalWeight - cast p.votes, 0, 0⟩ (Nat.le_of_eq hfull)
    rw [ht] at h0 h1
    simp only [libPasses, libPassesAt, hfull, Bool.and_eq_true, decide_eq_true_eq, if_true, Bool.false_eq_true,
      if_false] at h0 h1 ⊢
    exact ⟨h0.1, h0.2.1, h1.2.2⟩

/-- Once Rejected, always Rejected: if an Open-stored proposal is reported Rejected at block `b`
(voted down early, or expired without passing), it is reported Rejected at every later block `b'`,
also after further votes `c` (none if it had already expired at `b`). -/
theorem rejected_stable {p : Tally} (h : Premise p) {b b' : Block} (hl : later b b')
    (hs : currentStatus p b = .ok .rejected) (c : Votes) (hc : cast (plus p.votes c) ≤ p.totalWeight)
    (hvote : p.expires.isExpired b = true → c = noVotes) :
    currentStatus { p with votes := plus p.votes c } b' = .ok .rejected := by
  by_cases ho : p.status = .open
  · obtain ⟨hpb, hrj⟩ := (cs_open_rejected_iff h ho b).mp hs
    refine (cs_open_rejected_iff (h.add_votes hc) ho b').mpr ?_
    show libPassesAt p.threshold p.totalWeight (plus p.votes c) (p.expires.isExpired b') = false ∧
      (libRejectsAt p.threshold p.totalWeight (plus p.votes c) (p.expires.isExpired b') || p.expires.isExpired b') = true
    cases he : p.expires.isExpired b with
    | true =>
      -- already expired at `b`: no further votes, still expired, same decision
      rw [hvote he, plus_noVotes, expired_mono hl he]
      rw [he] at hpb
      exact ⟨hpb, Bool.or_true _⟩
    | false =>
      -- voted down before expiry: the rejection stands, and excludes Passed
      rw [he, Bool.or_false] at hrj
      have hr' := libRejectsAt_open_mono h.valid h.total_u64 hrj c hc (p.expires.isExpired b')
      exact ⟨Bool.eq_false_iff.mpr fun hp' => lib_not_both h.valid hc h.total_u64 _ ⟨hp', hr'⟩, by rw [hr']; rfl⟩
  · unfold currentStatus at hs ⊢
    rw [if_pos ho] at hs ⊢; exact hs

/-! ## The excluded region -/

/-- Outside the premise: an `AbsoluteCount` weight above the total (rejected by
`Threshold::validate`; reachable in cw3-flex only if the group shrinks later) makes `is_rejected`
panic on the `u64` subtraction `total_weight - weight`, while `is_passed` is simply `false` for
tallies within the total. -/
theorem count_above_total {p : Tally} {k : Nat} (blk : Block) (ht : p.threshold = .absoluteCount k)
    (hk : p.totalWeight < k) :
    (∃ e, isRejected p blk = .error e) ∧ (cast p.votes ≤ p.totalWeight → isPassed p blk = .ok false) := by
  constructor
  · refine ⟨"underflow.u64", ?_⟩
    unfold isRejected; rw [ht]
    simp only []
    rw [subU64_bind_of_lt hk]
  · intro hc
    rw [isPassed_count blk ht]
    unfold cast at hc
    exact congrArg _ (decide_eq_false (by omega))

/-! ## The hypotheses are satisfiable (closed instances, by evaluation) -/

/-- decidable equality of results, only to let `decide` evaluate the closed examples below -/
@[instance_reducible] def decEqRes {α : Type} [DecidableEq α] : DecidableEq (Res α)
  | .ok a, .ok b => if h : a = b then isTrue (h ▸ rfl) else isFalse (fun e => h (Except.ok.inj e))
  | .error a, .error b => if h : a = b then isTrue (h ▸ rfl) else isFalse (fun e => h (Except.error.inj e))
  | .ok _, .error _ => isFalse (fun e => nomatch e)
  | .error _, .ok _ => isFalse (fun e => nomatch e)
attribute [local instance] decEqRes

/-- 9-decimal example: 51 % of 15 with 2 abstaining needs `⌈13·0.51⌉ = 7` -/
example : votesNeeded 13 510000000000000000 = 7 := by decide
/-- 18-digit example where the library is one vote more permissive than exact: `w = 2`,
`a = 0.5 + 10^-18` ("more than half"): exact `⌈w·a⌉ = 2`, library `1` -/
example : votesNeeded 2 500000000000000001 = 1 ∧ exactCeil 2 500000000000000001 = 2 := by decide
/-- the top of the range: no wrap-around at `w = 2^64 - 1`, `a = 1` -/
example : votesNeeded U64_MAX DEC_ONE = U64_MAX := by decide

def exQuorum : Tally :=
  { status := .open, threshold := .thresholdQuorum 600000000000000000 400000000000000000,
    totalWeight := 30, votes := ⟨18, 3, 2, 0⟩, expires := .atHeight 100 }

example : Premise exQuorum := ⟨by decide, by decide, by decide⟩
/-- passed early (block 50 < 100): 18 ≥ ⌈0.6·28⌉ = 17 and 23 ≥ 12 -/
example : isPassed exQuorum ⟨50, 0⟩ = .ok true ∧ isRejected exQuorum ⟨50, 0⟩ = .ok false ∧
    exQuorum.expires.isExpired ⟨50, 0⟩ = false := by decide
/-- a completion (all 7 outstanding vote no), evaluated after expiry: still passed, 18 ≥ ⌈0.6·28⌉ -/
example : isPassed { exQuorum with votes := plus exQuorum.votes ⟨0, 7, 0, 0⟩ } ⟨100, 0⟩ = .ok true := by decide

def exRejected : Tally :=
  { status := .open, threshold := .absolutePercentage 666666667000000000,
    totalWeight := 18446744073709551615, votes := ⟨5, 6148914691236517205, 10, 0⟩, expires := .never }

example : Premise exRejected := ⟨by decide, by decide, by decide⟩
example : isRejected exRejected ⟨1, 1⟩ = .ok true ∧ isPassed exRejected ⟨1, 1⟩ = .ok false ∧
    currentStatus exRejected ⟨1, 1⟩ = .ok .rejected := by decide

/-- the D1 witness: everybody abstains -/
def exAllAbstain : Tally :=
  { status := .open, threshold := .absolutePercentage 500000000000000000,
    totalWeight := 10, votes := ⟨0, 0, 10, 0⟩, expires := .atHeight 100 }

example : Premise exAllAbstain := ⟨by decide, by decide, by decide⟩
/-- … not passed; Open while voting, Rejected once expired -/
example : isPassed exAllAbstain ⟨100, 0⟩ = .ok false ∧ currentStatus exAllAbstain ⟨50, 0⟩ = .ok .open ∧
    currentStatus exAllAbstain ⟨100, 0⟩ = .ok .rejected := by decide

/-- the excluded region is really excluded by `validate`, and really panics -/
def exAbove : Tally :=
  { status := .open, threshold := .absoluteCount 11, totalWeight := 10, votes := ⟨1, 1, 0, 0⟩, expires := .never }

example : (Threshold.absoluteCount 11).validate 10 ≠ .ok () ∧
    isRejected exAbove ⟨1, 1⟩ = .error "underflow.u64" ∧ isPassed exAbove ⟨1, 1⟩ = .ok false := by decide

/-- non-vacuity of `expired_status_eq_formula` / `expired_status_exact9`: `exQuorum` (premise above, stored Open,
9-decimal threshold) expired at block 100: Passed by the formula; `exAllAbstain` expired: Rejected by the formula -/
example : exQuorum.status = .open ∧ exQuorum.expires.isExpired ⟨100, 0⟩ = true ∧
    libPasses exQuorum.threshold exQuorum.totalWeight exQuorum.votes = true ∧
    exactPasses exQuorum.threshold exQuorum.totalWeight exQuorum.votes = true ∧
    currentStatus exQuorum ⟨100, 0⟩ = .ok .passed ∧
    libPasses exAllAbstain.threshold exAllAbstain.totalWeight exAllAbstain.votes = false := by decide
example : nineDecimals exQuorum.threshold := ⟨⟨600000000, by decide⟩, ⟨400000000, by decide⟩⟩

/-- **`is_rejected` is NOT complete, also for `AbsoluteCount`** (and likewise for `AbsolutePercentage`): it counts only No
votes, so abstentions and vetoes that make passing impossible do not trigger it.  Total 10, count 6, five abstained:
no completion of the outstanding 5 votes can reach 6 Yes, yet `is_rejected` is false (the proposal is reported Open
until it expires, then Rejected).  So a `rejected_complete` converse of `rejected_sound` is false of the code for
every threshold kind — not only because the quorum is ignored. -/
theorem rejected_not_complete_count :
    (∀ c : Votes, cast (plus ⟨0, 0, 5, 0⟩ c) ≤ 10 → libPasses (.absoluteCount 6) 10 (plus ⟨0, 0, 5, 0⟩ c) = false) ∧
    libRejectsAt (.absoluteCount 6) 10 ⟨0, 0, 5, 0⟩ false = false ∧
    isRejected ⟨.open, .absoluteCount 6, 10, ⟨0, 0, 5, 0⟩, .atHeight 100⟩ ⟨50, 0⟩ = .ok false ∧
    currentStatus ⟨.open, .absoluteCount 6, 10, ⟨0, 0, 5, 0⟩, .atHeight 100⟩ ⟨50, 0⟩ = .ok .open := by
  refine ⟨?_, by decide, by decide, by decide⟩
  intro c hc
  simp only [libPasses, libPassesAt, Bool.and_eq_false_iff, decide_eq_false_iff_not]
  simp only [cast] at hc
  right; omega

/-! ## Quorum tightness, completeness of the early Rejected under exact conditions, no regress -/

/-- **For `ThresholdQuorum` an early (or late) Passed implies the quorum is already met**: `is_passed = true` only if the
votes cast reach `votes_needed(total_weight, quorum)` — before expiry as well as after; further votes can only add to
the votes cast, so the quorum stays met (`passed_stable`). -/
theorem passed_implies_quorum {p : Tally} {t q : Nat} (h : Premise p) {blk : Block}
    (ht : p.threshold = .thresholdQuorum t q) (hp : isPassed p blk = .ok true) :
    votesNeeded p.totalWeight q ≤ cast p.votes := by
  rw [isPassed_eq h blk, ht] at hp
  have := Except.ok.inj hp
  simp only [libPassesAt, Bool.and_eq_true, decide_eq_true_eq] at this
  exact this.2.1

/-- … in exact arithmetic: the turnout `cast / total` is at least `quorum`, up to the one vote of `vn_within_one`
(`total·q ≤ (cast + 1)·10^18`), and exactly (`total·q ≤ cast·10^18`) for a quorum with at most 9 decimals. -/
theorem passed_implies_quorum_exact {p : Tally} {t q : Nat} (h : Premise p) {blk : Block}
    (ht : p.threshold = .thresholdQuorum t q) (hp : isPassed p blk = .ok true) :
    p.totalWeight * q ≤ (cast p.votes + 1) * DEC_ONE ∧
    (PRECISION_FACTOR ∣ q → p.totalWeight * q ≤ cast p.votes * DEC_ONE) := by
  have hq := passed_implies_quorum h ht hp
  have hv := h.valid; rw [ht] at hv
  have hqq := (valid_quorum hv).2.2.2
  exact ⟨(vn_le_iff_within_one hqq h.total_u64).2 hq, fun h9 => (vn_le_iff_exact9 h9 hqq h.total_u64).mp hq⟩

/-- **Tightness of the quorum test**: conversely, a ThresholdQuorum proposal whose votes cast do not reach
`votes_needed(total, quorum)` is never Passed, whatever the Yes share — not before expiry, not after. -/
theorem no_quorum_not_passed {p : Tally} {t q : Nat} (h : Premise p) (blk : Block)
    (ht : p.threshold = .thresholdQuorum t q) (hq : cast p.votes < votesNeeded p.totalWeight q) :
    isPassed p blk = .ok false := by
  rw [isPassed_eq h blk, ht]
  simp only [libPassesAt, decide_eq_false (Nat.not_le_of_lt hq), Bool.false_and, Bool.and_false]

/-- No completion of the outstanding votes passes as a final tally. -/
def NoCompletionPasses (thr : Threshold) (total : Nat) (v : Votes) : Prop :=
  ∀ c : Votes, cast (plus v c) ≤ total → libPasses thr total (plus v c) = false

/-- **AbsoluteCount: what "no completion passes" means, exactly.**  With a validated count `k` (`1 ≤ k ≤ total`) and a
tally within the total, no completion of the outstanding votes can pass iff the weight that has NOT voted Yes-or-nothing
— No, Abstain and Veto together — exceeds `total - k`. -/
theorem noCompletionPasses_count_iff {k total : Nat} {v : Votes} (hk : 0 < k ∧ k ≤ total) (hc : cast v ≤ total) :
    NoCompletionPasses (.absoluteCount k) total v ↔ total - k < v.no + v.abstain + v.veto := by
  obtain ⟨y, n, ab, ve⟩ := v
  simp only [cast] at hc
  constructor
  · intro hall
    have := hall ⟨total - (y + n + ab + ve), 0, 0, 0⟩ (by simp only [cast]; omega)
    simp only [libPasses, libPassesAt, Bool.and_eq_false_iff, decide_eq_false_iff_not] at this
    simp only
    omega
  · intro hlt c hcc
    simp only [cast] at hcc
    simp only [libPasses, libPassesAt, Bool.and_eq_false_iff, decide_eq_false_iff_not]
    simp only at hlt
    right; omega

/-- `is_rejected` for AbsoluteCount counts the No weight only: it is true iff `total - k < no`. -/
theorem isRejected_count_iff {p : Tally} {k : Nat} (h : Premise p) (blk : Block) (ht : p.threshold = .absoluteCount k) :
    isRejected p blk = .ok true ↔ p.totalWeight - k < p.votes.no := by
  rw [isRejected_eq h blk, ht]
  simp [libRejectsAt]

/-- **`rejected_complete_no_only` — the exact condition under which the early Rejected IS complete, AbsoluteCount.**
(`rejected_not_complete_count` shows the unconditional converse of `rejected_sound` is false.)  For an `AbsoluteCount`
threshold, if nobody has abstained or vetoed so far (`abstain = 0 ∧ veto = 0`: only Yes/No votes have been cast), then
`is_rejected` is true EXACTLY when no completion of the outstanding votes can pass — before expiry as well as after.  In
general (`noCompletionPasses_count_iff`, `isRejected_count_iff`) the gap between "cannot pass any more" and "reported
Rejected" is exactly the abstained and vetoed weight: the first compares `total - k` with `no + abstain + veto`, the code
with `no` alone. -/
theorem rejected_complete_no_only {p : Tally} {k : Nat} (h : Premise p) (blk : Block)
    (ht : p.threshold = .absoluteCount k) (hab : p.votes.abstain = 0) (hve : p.votes.veto = 0) :
    isRejected p blk = .ok true ↔ NoCompletionPasses p.threshold p.totalWeight p.votes := by
  have hv := h.valid; rw [ht] at hv
  rw [isRejected_count_iff h blk ht, ht, noCompletionPasses_count_iff (valid_count hv) h.tally_le, hab, hve]
  simp

/-- **AbsolutePercentage: complete under `abstain = 0 ∧ veto = 0` only when the two roundings are tight.**  For an
`AbsolutePercentage a` threshold with only Yes/No votes cast, not everybody having voted No (`no < total`), and
`votes_needed(total, a) + votes_needed(total, 1 - a) = total` (no rounding loss: e.g. `total·a` is a whole number of
votes), `is_rejected` is true whenever no completion of the outstanding votes can pass.  Without the tightness condition
this is false: `rejected_not_complete_pct_no_only`. -/
theorem rejected_complete_pct_no_only_tight {p : Tally} {a : Nat} (h : Premise p) (blk : Block)
    (ht : p.threshold = .absolutePercentage a) (hab : p.votes.abstain = 0) (hve : p.votes.veto = 0)
    (hno : p.votes.no < p.totalWeight)
    (htight : votesNeeded p.totalWeight a + votesNeeded p.totalWeight (DEC_ONE - a) = p.totalWeight)
    (hall : NoCompletionPasses p.threshold p.totalWeight p.votes) : isRejected p blk = .ok true := by
  have hc := h.tally_le
  -- everybody else votes Yes: the Yes weight is then `total - no`
  have := hall ⟨p.totalWeight - cast p.votes, 0, 0, 0⟩ (by simp only [cast] at hc ⊢; omega)
  rw [ht] at this
  rw [isRejected_eq h blk, ht]
  apply congrArg
  simp only [libPasses, libPassesAt, libRejectsAt, cast, hab, hve, Nat.add_zero, Nat.sub_zero, Bool.and_eq_false_iff,
    decide_eq_false_iff_not, decide_eq_true_eq] at this hc ⊢
  omega

/-- **AbsolutePercentage with only Yes/No votes is NOT complete in general** (rounding): total 10, threshold 51 %, five No
votes and nothing else.  Passing needs `⌈10·0.51⌉ = 6` Yes, at most 5 are outstanding — no completion passes — but
`is_rejected` compares `no = 5 > ⌈10·0.49⌉ = 5`, false: the proposal is reported Open until it expires. -/
theorem rejected_not_complete_pct_no_only :
    NoCompletionPasses (.absolutePercentage 510000000000000000) 10 ⟨0, 5, 0, 0⟩ ∧
    isRejected ⟨.open, .absolutePercentage 510000000000000000, 10, ⟨0, 5, 0, 0⟩, .atHeight 100⟩ ⟨50, 0⟩ = .ok false ∧
    currentStatus ⟨.open, .absolutePercentage 510000000000000000, 10, ⟨0, 5, 0, 0⟩, .atHeight 100⟩ ⟨50, 0⟩ = .ok .open := by
  refine ⟨?_, by decide, by decide⟩
  intro c hc
  simp only [cast] at hc
  simp only [libPasses, libPassesAt, Bool.and_eq_false_iff, decide_eq_false_iff_not]
  right
  -- 51 % has two decimals, so the requirement is the exact comparison `(10 - abstain)·0.51 ≤ yes`
  rw [vn_le_iff_exact9 ⟨510000000, by decide⟩ (by decide) (Nat.le_trans (Nat.sub_le _ _) (by decide))]
  simp only [DEC_ONE]
  omega

/-- **… nor when everybody has voted No**: a single voter of weight 1 votes No under a 50 % threshold.  Nothing is
outstanding and nothing can pass, yet `no = 1 > ⌈1·0.5⌉ = 1` is false: reported Open until expiry. -/
theorem rejected_not_complete_all_no :
    NoCompletionPasses (.absolutePercentage 500000000000000000) 1 ⟨0, 1, 0, 0⟩ ∧
    isRejected ⟨.open, .absolutePercentage 500000000000000000, 1, ⟨0, 1, 0, 0⟩, .atHeight 100⟩ ⟨50, 0⟩ = .ok false := by
  refine ⟨?_, by decide⟩
  intro c hc
  obtain ⟨cy, cn, cab, cve⟩ := c
  simp only [cast] at hc
  simp only [libPasses, libPassesAt, Bool.and_eq_false_iff, decide_eq_false_iff_not]
  left; omega

/-- **`status_never_regresses_with_votes`**: the status reported for a proposal never goes back as time passes and
further votes arrive.  Inside the premise, if `current_status` answers `s` at block `b`, then after any further votes `c`
(tally still within the total; none if the proposal had already expired at `b`) it answers at every later block `b'`, and
the answer is `s` again unless `s` was Open: Passed stays Passed (`status_passed_stable`), Rejected stays Rejected
(`rejected_stable`), a stored Executed/Rejected/Passed status is returned unchanged; only Open may move on. -/
theorem status_never_regresses_with_votes {p : Tally} (h : Premise p) {b b' : Block} (hl : later b b') {s : Status}
    (hs : currentStatus p b = .ok s) (c : Votes) (hc : cast (plus p.votes c) ≤ p.totalWeight)
    (hvote : p.expires.isExpired b = true → c = noVotes) :
    ∃ s', currentStatus { p with votes := plus p.votes c } b' = .ok s' ∧ (s' = s ∨ s = .open) := by
  cases s with
  | passed => exact ⟨_, status_passed_stable h hl hs c hc hvote, Or.inl rfl⟩
  | rejected => exact ⟨_, rejected_stable h hl hs c hc hvote, Or.inl rfl⟩
  | «open» => exact ⟨_, (no_panic (h.add_votes hc) b').2.2.choose_spec, Or.inr rfl⟩
  | pending | executed =>
    -- not the answer for an Open-stored tally, so the stored status, which is returned unchanged
    have hst : p.status ≠ .open := fun ho => by
      rw [currentStatus_open_eq h ho b] at hs
      have := Except.ok.inj hs
      split at this <;> (try split at this) <;> cases this
    unfold currentStatus at hs ⊢
    rw [if_pos hst] at hs ⊢
    exact ⟨_, hs, Or.inl rfl⟩

/-- non-vacuity of `passed_implies_quorum(_exact)` / `status_never_regresses_with_votes`: `exQuorum` is Passed before
expiry with 23 votes cast ≥ `⌈0.4·30⌉ = 12`; -/
example : isPassed exQuorum ⟨50, 0⟩ = .ok true ∧ votesNeeded exQuorum.totalWeight 400000000000000000 = 12 ∧
    cast exQuorum.votes = 23 ∧ currentStatus exQuorum ⟨50, 0⟩ = .ok .passed ∧
    currentStatus { exQuorum with votes := plus exQuorum.votes ⟨0, 7, 0, 0⟩ } ⟨100, 0⟩ = .ok .passed := by decide

/-- non-vacuity of `no_quorum_not_passed`: 5 of 30 voted, all Yes — below the quorum of 12: not passed, early or late -/
example : isPassed { exQuorum with votes := ⟨5, 0, 0, 0⟩ } ⟨50, 0⟩ = .ok false ∧
    isPassed { exQuorum with votes := ⟨5, 0, 0, 0⟩ } ⟨100, 0⟩ = .ok false := by decide

/-- non-vacuity of `rejected_complete_no_only`: count 6 of 10, five No votes and nothing else: rejected, and indeed no
completion passes; with four No votes: neither. -/
example : Premise ⟨.open, .absoluteCount 6, 10, ⟨0, 5, 0, 0⟩, .atHeight 100⟩ ∧
    isRejected ⟨.open, .absoluteCount 6, 10, ⟨0, 5, 0, 0⟩, .atHeight 100⟩ ⟨50, 0⟩ = .ok true ∧
    isRejected ⟨.open, .absoluteCount 6, 10, ⟨0, 4, 0, 0⟩, .atHeight 100⟩ ⟨50, 0⟩ = .ok false ∧
    libPasses (.absoluteCount 6) 10 (plus ⟨0, 4, 0, 0⟩ ⟨6, 0, 0, 0⟩) = true :=
  ⟨⟨by decide, by decide, by decide⟩, by decide, by decide, by decide⟩

/-- non-vacuity of `rejected_complete_pct_no_only_tight`: 50 % of 10 is tight (`5 + 5 = 10`); six No votes: rejected -/
example : votesNeeded 10 500000000000000000 + votesNeeded 10 (DEC_ONE - 500000000000000000) = 10 ∧
    isRejected ⟨.open, .absolutePercentage 500000000000000000, 10, ⟨0, 6, 0, 0⟩, .atHeight 100⟩ ⟨50, 0⟩ = .ok true := by
  decide

end CwPlus.Props.C04
