import CwPlus.Lemmas.Cw3Fixed
import CwPlus.Lemmas.Cw3CoreNodup
/-!
# cw3-fixed-multisig: `PROPOSALS` never holds an id twice

Established by `instantiate` (empty core), preserved by every handler call, hence true in every reachable
world (`reachable_nodup`).  `VOTERS` and the ballots of a proposal are covered by `Inv.votersNodup` and
`WF.nodup` (`Lemmas/Cw3Fixed.lean`, `Lemmas/Cw3Core.lean`).
-/
namespace CwPlus.Cw3Fixed
open CwPlus CwPlus.Cw3 CwPlus.Cw3Core

theorem instantiate_nodup {m : InstMsg} {s : State} (h : instantiate m = .ok s) :
    AMap.NodupKeys s.core.proposals := by
  rw [instantiate_core h]; exact Cw3Core.nodup_empty

theorem execute_nodup {s s' : State} {blk : Block} {snd : Addr} {m : ExecMsg} {out : List Msg}
    (hn : AMap.NodupKeys s.core.proposals) (h : execute s blk snd m = .ok (s', out)) :
    AMap.NodupKeys s'.core.proposals := by
  obtain ⟨_, _, hc⟩ := execute_cases h
  rcases hc with ⟨t, d, msgs, latest, w, id, _, _, _, hp⟩ | ⟨id, v, _, _, hv⟩ | ⟨id, _, he⟩ | ⟨id, _, _, hcl⟩
  · exact propose_nodup hp hn
  · exact vote_nodup hv hn
  · exact Cw3Core.execute_nodup he hn
  · exact close_nodup hcl hn

theorem reachable_nodup {fuel : Nat} {w : World} (h : Reachable fuel w) : AMap.NodupKeys w.ms.core.proposals := by
  obtain ⟨m, s, self, bank, sink, ops, hi, rfl⟩ := h
  exact run_state_inv (fun s => AMap.NodupKeys s.core.proposals) (fun _ _ _ _ _ _ hn h => execute_nodup hn h)
    fuel ops _ (instantiate_nodup hi)

end CwPlus.Cw3Fixed
