import CwPlus.Model.Ics20
import CwPlus.Lemmas.History
/-!
Lemmas of the cw20-ics20 model: pointwise effect of `increase/reduce/undo_reduce_channel_balance` on the
channel-state map; one inversion per handler and per entry point of `World.exec`, and of `migrate`
(`migrate_ok`); the ghost ledgers of C11/C12 and every successful transaction by kind (`Tx`, `exec_tx`,
`exec_st`), from which the step lemmas of the invariants are proved one fact per kind.
-/
namespace CwPlus.Ics20
open CwPlus

abbrev Key := String × Denom

/-- outstanding balance stored under a key (0 if absent) -/
def outAt (m : ChanMap) (k : Key) : Nat :=
  match m.get? k with | some cs => cs.outstanding | none => 0

/-- total_sent stored under a key (0 if absent) -/
def totAt (m : ChanMap) (k : Key) : Nat :=
  match m.get? k with | some cs => cs.totalSent | none => 0

theorem outstanding_eq (s : State) (c : String) (d : Denom) : outstanding s c d = outAt s.chan (c, d) := rfl

theorem outAt_eq_getD (m : ChanMap) (k : Key) : outAt m k = ((m.get? k).getD ⟨0, 0⟩).outstanding := by
  unfold outAt; cases m.get? k <;> rfl

theorem totAt_eq_getD (m : ChanMap) (k : Key) : totAt m k = ((m.get? k).getD ⟨0, 0⟩).totalSent := by
  unfold totAt; cases m.get? k <;> rfl

theorem outAt_set (m : ChanMap) (k k' : Key) (v : ChanState) :
    outAt (m.set k v) k' = if k' = k then v.outstanding else outAt m k' := by
  unfold outAt; rw [AMap.get?_set]
  by_cases h : k = k'
  · rw [if_pos h, if_pos h.symm]
  · rw [if_neg h, if_neg (Ne.symm h)]

theorem totAt_set (m : ChanMap) (k k' : Key) (v : ChanState) :
    totAt (m.set k v) k' = if k' = k then v.totalSent else totAt m k' := by
  unfold totAt; rw [AMap.get?_set]
  by_cases h : k = k'
  · rw [if_pos h, if_pos h.symm]
  · rw [if_neg h, if_neg (Ne.symm h)]

theorem increaseBalance_ok {m m' : ChanMap} {c : String} {d : Denom} {amt : Nat}
    (h : increaseBalance m c d amt = .ok m') :
    (∀ k, outAt m' k = if k = (c, d) then outAt m k + amt else outAt m k) ∧
    (∀ k, totAt m' k = if k = (c, d) then totAt m k + amt else totAt m k) ∧
    outAt m (c, d) + amt ≤ U128_MAX := by
  simp only [increaseBalance, addU128_bind_ok, Res.pure_ok] at h
  obtain ⟨h1, _, rfl⟩ := h
  refine ⟨fun k => ?_, fun k => ?_, outAt_eq_getD m _ ▸ h1⟩
  · rw [outAt_set]; split <;> simp [*, outAt_eq_getD]
  · rw [totAt_set]; split <;> simp [*, totAt_eq_getD]

theorem reduceBalance_ok {m m' : ChanMap} {c : String} {d : Denom} {amt : Nat}
    (h : reduceBalance m c d amt = .ok m') :
    ∃ cs, m.get? (c, d) = some cs ∧ amt ≤ cs.outstanding ∧ m' = m.set (c, d) ⟨cs.outstanding - amt, cs.totalSent⟩ ∧
    (∀ k, outAt m' k = if k = (c, d) then outAt m k - amt else outAt m k) ∧
    (∀ k, totAt m' k = totAt m k) := by
  unfold reduceBalance at h
  split at h
  · cases h
  · next cs hg =>
    simp only [subU128_bind_ok, Res.pure_ok] at h
    obtain ⟨hle, rfl⟩ := h
    refine ⟨cs, hg, hle, rfl, fun k => ?_, fun k => ?_⟩
    · rw [outAt_set]; split <;> simp [*, outAt_eq_getD]
    · rw [totAt_set]; split <;> simp [*, totAt_eq_getD]

theorem undoReduce_reduce {m m' : ChanMap} {c : String} {d : Denom} {amt : Nat}
    (h : reduceBalance m c d amt = .ok m') (hb : outAt m (c, d) ≤ U128_MAX) :
    undoReduce m' c d amt = .ok m := by
  obtain ⟨cs, hg, hle, rfl, _, _⟩ := reduceBalance_ok h
  have hb' : cs.outstanding ≤ U128_MAX := by simpa [outAt, hg] using hb
  simp only [undoReduce, AMap.get?_set_eq, Option.getD_some]
  have e : cs.outstanding - amt + amt = cs.outstanding := by omega
  simp [addU128, e, hb', AMap.set_set, bind, Except.bind, pure, Except.pure]
  exact AMap.set_get_self m (c, d) cs hg


theorem undoReduce_ok {m m' : ChanMap} {c : String} {d : Denom} {amt : Nat}
    (h : undoReduce m c d amt = .ok m') :
    (∀ k, outAt m' k = if k = (c, d) then outAt m k + amt else outAt m k) ∧ (∀ k, totAt m' k = totAt m k) := by
  simp only [undoReduce, addU128_bind_ok, Res.pure_ok] at h
  obtain ⟨_, rfl⟩ := h
  refine ⟨fun k => ?_, fun k => ?_⟩
  · rw [outAt_set]; split <;> simp [*, outAt_eq_getD]
  · rw [totAt_set]; split <;> simp [*, totAt_eq_getD]

theorem bankSend_spec {w w' : World} {src dst : Addr} {d : String} {amt : Nat} (h : w.bankSend src dst d amt = some w') :
    amt ≤ w.bankBal src d ∧ ∀ a x, w'.bankBal a x =
      if (dst, d) = (a, x) then (if (src, d) = (a, x) then w.bankBal a x - amt else w.bankBal a x) + amt
      else if (src, d) = (a, x) then w.bankBal a x - amt else w.bankBal a x := by
  unfold World.bankSend at h
  split at h
  · simp at h
  · rename_i hlt
    simp at h; subst h
    refine ⟨by omega, ?_⟩
    intro a x
    simp only [World.bankBal, AMap.get?_set]
    by_cases h1 : (dst, d) = (a, x)
    · cases h1
      by_cases h2 : (src, d) = (dst, d)
      · cases h2; simp
      · simp [h2]
    · by_cases h2 : (src, d) = (a, x)
      · cases h2; simp [h1]
      · simp [h1, h2]

theorem tokSend_spec {w w' : World} {t src dst : Addr} {amt : Nat} (h : w.tokSend t src dst amt = some w') :
    amt ≤ w.tokBal t src ∧ ∀ t' a, w'.tokBal t' a =
      if (t, dst) = (t', a) then (if (t, src) = (t', a) then w.tokBal t' a - amt else w.tokBal t' a) + amt
      else if (t, src) = (t', a) then w.tokBal t' a - amt else w.tokBal t' a := by
  unfold World.tokSend at h
  split at h
  · simp at h
  · rename_i hlt
    simp at h; subst h
    refine ⟨by omega, ?_⟩
    intro t' a
    simp only [World.tokBal, AMap.get?_set]
    by_cases h1 : (t, dst) = (t', a)
    · cases h1
      by_cases h2 : (t, src) = (t, dst)
      · cases h2; simp
      · simp [h2]
    · by_cases h2 : (t, src) = (t', a)
      · cases h2; simp [h1]
      · simp [h1, h2]

theorem undoReduce_reduce_eq {m m' m'' : ChanMap} {c : String} {d : Denom} {amt : Nat}
    (h : reduceBalance m c d amt = .ok m') (h2 : undoReduce m' c d amt = .ok m'') : m'' = m := by
  obtain ⟨cs, hg, hle, rfl, _, _⟩ := reduceBalance_ok h
  simp [undoReduce] at h2
  obtain ⟨_, rfl⟩ := h2
  have e : cs.outstanding - amt + amt = cs.outstanding := by omega
  rw [AMap.set_set, e]
  exact AMap.set_get_self m (c, d) cs hg


/-! ## What a transaction does, op by op -/

theorem bankSend_frame {w w' : World} {a b : Addr} {d : String} {n : Nat} (h : w.bankSend a b d n = some w') :
    w'.st = w.st ∧ w'.tok = w.tok ∧ w'.self = w.self ∧ w'.tokens = w.tokens ∧ w'.faulty = w.faulty := by
  unfold World.bankSend at h; split at h <;> simp at h; subst h; exact ⟨rfl, rfl, rfl, rfl, rfl⟩

theorem tokSend_frame {w w' : World} {t a b : Addr} {n : Nat} (h : w.tokSend t a b n = some w') :
    w'.st = w.st ∧ w'.bank = w.bank ∧ w'.self = w.self ∧ w'.tokens = w.tokens ∧ w'.faulty = w.faulty := by
  unfold World.tokSend at h; split at h <;> simp at h; subst h; exact ⟨rfl, rfl, rfl, rfl, rfl⟩

theorem doReceive_ok {s s1 : State} {p : PacketIn} {tv : Bool} {sub : SubMsg} (h : doReceive s p tv = .ok (s1, sub)) :
    ∃ amt d ch, p.amount = some amt ∧ p.voucher = some (p.srcPort, p.srcChan, d) ∧
      reduceBalance s.chan p.destChan d amt = .ok ch ∧
      s1 = { s with chan := ch, replyArgs := some ⟨p.destChan, d, amt⟩ } ∧
      sub.to = p.receiver ∧ sub.amount = amt ∧ sub.denom = d ∧ sub.replyId = RECEIVE_ID ∧
      (∃ g, checkGasLimit s d tv = .ok g ∧ sub.gas = g) := by
  unfold doReceive at h
  split at h
  · simp at h
  · rename_i amt ha
    split at h
    · simp at h
    · rename_i port c d hv
      simp at h
      obtain ⟨hp, hc, g, hg, ch, hch, rfl, rfl⟩ := h
      subst hp; subst hc
      exact ⟨amt, d, ch, ha, hv, hch, rfl, rfl, rfl, rfl, rfl, g, hg, rfl⟩

theorem onPacketFailure_ok {s s1 : State} {chan : String} {data : Option Packet} {tv : Bool} {sub : SubMsg}
    (h : onPacketFailure s chan data tv = .ok (s1, sub)) :
    ∃ p ch, data = some p ∧ reduceBalance s.chan chan p.denom p.amount = .ok ch ∧ s1 = { s with chan := ch } ∧
      sub.to = p.sender ∧ sub.amount = p.amount ∧ sub.denom = p.denom ∧ sub.replyId = ACK_FAILURE_ID := by
  unfold onPacketFailure at h
  split at h
  · simp at h
  · rename_i p
    simp at h
    obtain ⟨ch, hch, g, _, rfl, rfl⟩ := h
    exact ⟨p, ch, rfl, hch, rfl, rfl, rfl, rfl, rfl⟩

theorem execTransfer_ok {s s' : State} {blk : Block} {msg : TransferMsg} {d : Denom} {amt : Nat} {snd : Addr}
    {out : SendOut} (h : execTransfer s blk msg d amt snd = .ok (s', out)) :
    ∃ ch, increaseBalance s.chan msg.channel d amt = .ok ch ∧ s' = { s with chan := ch } ∧
      amt ≠ 0 ∧ amt ≤ U64_MAX ∧ msg.channel ∈ s.channels ∧ s.v1gov = none ∧
      out = ⟨msg.channel, ⟨amt, d, msg.remote, snd, msg.memo⟩,
             blk.time + (msg.timeout.getD s.config.defaultTimeout) * 1000000000⟩ ∧
      blk.time + (msg.timeout.getD s.config.defaultTimeout) * 1000000000 ≤ U64_MAX := by
  simp [execTransfer] at h
  obtain ⟨hne, hch, cfg, hc, _, _, hto, hamt, ch, hinc, rfl, rfl⟩ := h
  have hv : s.v1gov = none ∧ cfg = s.config := by
    unfold loadConfig at hc
    split at hc
    · simp at hc
    · rename_i hv; simp at hc; exact ⟨by simpa using hv, hc.symm⟩
  obtain ⟨hv, rfl⟩ := hv
  exact ⟨ch, hinc, rfl, hne, hamt, hch, hv, rfl, hto⟩


theorem execTransferNative_ok {s : State} {blk : Block} {snd : Addr} {funds : List (String × Nat)} {msg : TransferMsg}
    {r : State × SendOut} (h : execTransferNative s blk snd funds msg = .ok r) :
    ∃ d amt, funds = [(d, amt)] ∧ execTransfer s blk msg (.native d) amt snd = .ok r := by
  unfold execTransferNative at h
  split at h
  · cases h
  · exact ⟨_, _, rfl, h⟩
  · cases h

theorem execReceive_ok {s : State} {blk : Block} {token : Addr} {funds : List (String × Nat)} {sender : AddrArg}
    {amt : Nat} {msg : Option TransferMsg} {r : State × SendOut}
    (h : execReceive s blk token funds sender amt msg = .ok r) :
    ∃ m, msg = some m ∧ execTransfer s blk m (.cw20 token) amt sender.text = .ok r := by
  unfold execReceive at h
  obtain ⟨_, _, h⟩ := (Res.bind_ok ..).mp h
  split at h
  · cases h
  · obtain ⟨_, _, h⟩ := (Res.bind_ok ..).mp h
    exact ⟨_, rfl, h⟩

theorem exec_transferNative_ok {w w' : World} {blk : Block} {snd : Addr} {funds : List (String × Nat)}
    {msg : TransferMsg} {o : Outcome} (h : w.exec blk (.transferNative snd funds msg) = .ok (w', o)) :
    ∃ d amt w1 s out, funds = [(d, amt)] ∧ snd ≠ w.self ∧ w.bankSend snd w.self d amt = some w1 ∧
      execTransfer w.st blk msg (.native d) amt snd = .ok (s, out) ∧ w' = { w1 with st := s } ∧
      o = { sent := [out] } := by
  simp only [World.exec, Res.bind_ok] at h
  obtain ⟨_, hself, w1, hw1, ⟨s, out⟩, hs, h⟩ := h
  cases h
  obtain ⟨d, amt, rfl, ht⟩ := execTransferNative_ok hs
  simp only at hw1
  split at hw1
  · cases hw1
  · split at hw1
    · next hb =>
      cases hw1
      rw [(bankSend_frame hb).1] at ht
      exact ⟨d, amt, _, s, out, rfl, by simpa using hself, hb, ht, rfl, rfl⟩
    · cases hw1

theorem exec_sendCw20_ok {w w' : World} {blk : Block} {snd token : Addr} {amt : Nat}
    {msg : Option TransferMsg} {o : Outcome} (h : w.exec blk (.sendCw20 snd token amt msg) = .ok (w', o)) :
    ∃ w1 m s out, snd ≠ w.self ∧ w.tokens.contains token = true ∧ w.tokSend token snd w.self amt = some w1 ∧
      msg = some m ∧ execTransfer w.st blk m (.cw20 token) amt snd = .ok (s, out) ∧ w' = { w1 with st := s } ∧
      o = { sent := [out] } := by
  simp only [World.exec, Res.bind_ok] at h
  obtain ⟨_, hself, _, htok, w1, hw1, ⟨s, out⟩, hs, h⟩ := h
  cases h
  obtain ⟨m, rfl, ht⟩ := execReceive_ok hs
  split at hw1
  · next hb =>
    cases hw1
    rw [(tokSend_frame hb).1] at ht
    exact ⟨_, m, s, out, by simpa using hself, by simpa using htok, hb, rfl, ht, rfl, rfl⟩
  · cases hw1

theorem exec_hook_ok {w w' : World} {blk : Block} {snd : Addr} {funds : List (String × Nat)} {sender : AddrArg}
    {amt : Nat} {msg : Option TransferMsg} {o : Outcome}
    (h : w.exec blk (.hook snd funds sender amt msg) = .ok (w', o)) :
    ∃ m s out, w.tokens.contains snd = false ∧ msg = some m ∧
      execTransfer w.st blk m (.cw20 snd) amt sender.text = .ok (s, out) ∧ w' = { w with st := s } ∧
      o = { sent := [out] } := by
  simp only [World.exec, Res.bind_ok] at h
  obtain ⟨_, htok, _, _, ⟨s, out⟩, hs, h⟩ := h
  cases h
  obtain ⟨m, rfl, ht⟩ := execReceive_ok hs
  exact ⟨m, s, out, by simpa using htok, rfl, ht, rfl, rfl⟩

/-- Dispatch of a sub-message: it goes through, or it fails, is rolled back, and `reply` runs. -/
theorem dispatch_some {w w' : World} {sm : SubMsg} {tv f : Bool} {data d : Option Ack}
    (h : w.dispatch (some sm) tv f data = .ok (w', d)) :
    (w.payout sm tv f = some w' ∧ d = data) ∨
    (w.payout sm tv f = none ∧ ∃ st' d', reply w.st sm.replyId false = .ok (st', d') ∧ w' = { w with st := st' } ∧
      d = d'.or data) := by
  simp only [World.dispatch] at h
  split at h
  · next w2 hp => cases h; exact Or.inl ⟨hp, rfl⟩
  · next hp =>
    obtain ⟨⟨st', d'⟩, hr, h⟩ := (Res.bind_ok ..).mp h
    cases h
    exact Or.inr ⟨hp, st', d', hr, rfl, rfl⟩

theorem reply_receive_failed {s s' : State} {d : Option Ack} (h : reply s RECEIVE_ID false = .ok (s', d)) :
    ∃ ra ch, s.replyArgs = some ra ∧ undoReduce s.chan ra.channel ra.denom ra.amount = .ok ch ∧
      s' = { s with chan := ch } ∧ d = some .error := by
  simp only [reply, if_true, Bool.false_eq_true, if_false] at h
  split at h
  · cases h
  · next ra hra =>
    obtain ⟨ch, hch, h⟩ := (Res.bind_ok ..).mp h
    cases h
    exact ⟨ra, ch, hra, hch, rfl, rfl⟩

theorem reply_failure_failed {s s' : State} {d : Option Ack} (h : reply s ACK_FAILURE_ID false = .ok (s', d)) :
    s' = s ∧ d = some .error := by
  have hne : ACK_FAILURE_ID ≠ RECEIVE_ID := by decide
  simp only [reply, hne, if_true, Bool.false_eq_true, if_false] at h
  cases h
  exact ⟨rfl, rfl⟩


theorem dispatch_failure_cases {w w' : World} {s1 : State} {sub : SubMsg} {sv f : Bool} {d : Option Ack}
    (hid : sub.replyId = ACK_FAILURE_ID)
    (h : ({ w with st := s1 } : World).dispatch (some sub) sv f none = .ok (w', d)) :
    (({ w with st := s1 } : World).payout sub sv f = some w' ∧ d = none) ∨
    (({ w with st := s1 } : World).payout sub sv f = none ∧ w' = { w with st := s1 } ∧ d = some .error) := by
  rcases dispatch_some h with ⟨hp, rfl⟩ | ⟨hp, st', d', hr, rfl, rfl⟩
  · exact Or.inl ⟨hp, rfl⟩
  · rw [hid] at hr
    obtain ⟨rfl, rfl⟩ := reply_failure_failed hr
    exact Or.inr ⟨hp, rfl, rfl⟩

theorem ibcPacketAck_ok {s s' : State} {chan : String} {data : Option Packet} {ackOk : Option Bool} {tv : Bool}
    {sub : Option SubMsg} (h : ibcPacketAck s chan data ackOk tv = .ok (s', sub)) :
    (ackOk = some true ∧ (∃ p, data = some p) ∧ s' = s ∧ sub = none) ∨
    (ackOk = some false ∧ ∃ sm, onPacketFailure s chan data tv = .ok (s', sm) ∧ sub = some sm) := by
  unfold ibcPacketAck at h
  split at h
  · cases h
  · split at h
    · cases h
    · next p => cases h; exact Or.inl ⟨rfl, ⟨p, rfl⟩, rfl, rfl⟩
  · obtain ⟨⟨s1, sm⟩, hf, h⟩ := (Res.bind_ok ..).mp h
    cases h
    exact Or.inr ⟨rfl, sm, hf, rfl⟩

theorem ibcPacketTimeout_ok {s s' : State} {chan : String} {data : Option Packet} {tv : Bool}
    {sub : Option SubMsg} (h : ibcPacketTimeout s chan data tv = .ok (s', sub)) :
    ∃ sm, onPacketFailure s chan data tv = .ok (s', sm) ∧ sub = some sm := by
  obtain ⟨⟨s1, sm⟩, hf, h⟩ := (Res.bind_ok ..).mp h
  cases h
  exact ⟨sm, hf, rfl⟩

theorem exec_recv_ok {w w' : World} {blk : Block} {p : PacketIn} {rv tv f : Bool} {o : Outcome}
    (h : w.exec blk (.recv p rv tv f) = .ok (w', o)) :
    ((∃ e, doReceive w.st p tv = .error e) ∧ w' = w ∧ o.ack = some .error ∧ o.sub = none) ∨
    (∃ s1 sub, doReceive w.st p tv = .ok (s1, sub) ∧ o.sub = some sub ∧
      ((({ w with st := s1 } : World).payout sub rv f = some w' ∧ o.ack = some .success) ∨
       (({ w with st := s1 } : World).payout sub rv f = none ∧ o.ack = some .error ∧
          ∃ ra ch, s1.replyArgs = some ra ∧ undoReduce s1.chan ra.channel ra.denom ra.amount = .ok ch ∧
            w' = { w with st := { s1 with chan := ch } }))) := by
  simp only [World.exec, ibcPacketReceive] at h
  cases hd : doReceive w.st p tv with
  | error e =>
    rw [hd] at h
    cases h
    exact Or.inl ⟨⟨e, rfl⟩, rfl, rfl, rfl⟩
  | ok r =>
    obtain ⟨s1, sub⟩ := r
    rw [hd] at h
    obtain ⟨⟨w1, d⟩, hdisp, h⟩ := (Res.bind_ok ..).mp h
    cases h
    refine Or.inr ⟨s1, sub, rfl, rfl, ?_⟩
    rcases dispatch_some hdisp with ⟨hp, rfl⟩ | ⟨hp, st', d', hr, rfl, rfl⟩
    · exact Or.inl ⟨hp, rfl⟩
    · obtain ⟨_, _, _, _, _, _, _, _, _, _, hid, _⟩ := doReceive_ok hd
      rw [hid] at hr
      obtain ⟨ra, ch, hra, hch, rfl, rfl⟩ := reply_receive_failed hr
      exact Or.inr ⟨hp, rfl, ra, ch, hra, hch, rfl⟩

/-- A success acknowledgement changes nothing.  An error acknowledgement reduces the books, then the refund
either goes out or is swallowed (`exec_timeout_cases`: the same for a timeout). -/
theorem exec_ack_ok {w w' : World} {blk : Block} {chan : String} {data : Option Packet} {ackOk : Option Bool}
    {sv tv f : Bool} {o : Outcome} (h : w.exec blk (.ack chan data ackOk sv tv f) = .ok (w', o)) :
    (ackOk = some true ∧ (∃ p, data = some p) ∧ w' = w ∧ o.ack = none ∧ o.sub = none) ∨
    (ackOk = some false ∧ ∃ s1 sub, onPacketFailure w.st chan data tv = .ok (s1, sub) ∧ o.sub = some sub ∧
      ((({ w with st := s1 } : World).payout sub sv f = some w' ∧ o.ack = none) ∨
       (({ w with st := s1 } : World).payout sub sv f = none ∧ w' = { w with st := s1 } ∧ o.ack = some .error))) := by
  simp only [World.exec, Res.bind_ok] at h
  obtain ⟨⟨s, sub⟩, hs, ⟨w1, d⟩, hd, h⟩ := h
  cases h
  rcases ibcPacketAck_ok hs with ⟨rfl, hp, rfl, rfl⟩ | ⟨rfl, sm, hf, rfl⟩
  · cases hd
    exact Or.inl ⟨rfl, hp, rfl, rfl, rfl⟩
  · obtain ⟨_, _, _, _, _, _, _, _, hid⟩ := onPacketFailure_ok hf
    exact Or.inr ⟨rfl, s, sm, hf, rfl, dispatch_failure_cases hid hd⟩

theorem exec_timeout_cases {w w' : World} {blk : Block} {chan : String} {data : Option Packet}
    {sv tv f : Bool} {o : Outcome} (h : w.exec blk (.timeout chan data sv tv f) = .ok (w', o)) :
    ∃ s1 sub, onPacketFailure w.st chan data tv = .ok (s1, sub) ∧ o.sub = some sub ∧
      ((({ w with st := s1 } : World).payout sub sv f = some w' ∧ o.ack = none) ∨
       (({ w with st := s1 } : World).payout sub sv f = none ∧ w' = { w with st := s1 } ∧ o.ack = some .error)) := by
  simp only [World.exec, Res.bind_ok] at h
  obtain ⟨⟨s, sub⟩, hs, ⟨w1, d⟩, hd, h⟩ := h
  cases h
  obtain ⟨sm, hf, rfl⟩ := ibcPacketTimeout_ok hs
  obtain ⟨_, _, _, _, _, _, _, _, hid⟩ := onPacketFailure_ok hf
  exact ⟨s, sm, hf, rfl, dispatch_failure_cases hid hd⟩

/-- A bank send between two different accounts: the amount leaves the one, arrives at the other, and no
other balance of either kind changes. -/
theorem bankSend_moved {w w' : World} {src dst : Addr} {d : String} {amt : Nat} (h : w.bankSend src dst d amt = some w')
    (hne : src ≠ dst) :
    amt ≤ w.bankBal src d ∧ w'.bankBal dst d = w.bankBal dst d + amt ∧ w'.bankBal src d + amt = w.bankBal src d ∧
    (∀ a x, (a, x) ≠ (dst, d) → (a, x) ≠ (src, d) → w'.bankBal a x = w.bankBal a x) ∧ w'.tok = w.tok := by
  obtain ⟨hle, hb⟩ := bankSend_spec h
  refine ⟨hle, ?_, ?_, ?_, (bankSend_frame h).2.1⟩
  · have := hb dst d; simp [hne] at this; exact this
  · have := hb src d; simp [Ne.symm hne] at this; rw [this]; omega
  · intro a x h1 h2
    have := hb a x
    simp [Ne.symm h1, Ne.symm h2] at this; exact this

/-- The same for a cw20 `Transfer`. -/
theorem tokSend_moved {w w' : World} {t src dst : Addr} {amt : Nat} (h : w.tokSend t src dst amt = some w')
    (hne : src ≠ dst) :
    amt ≤ w.tokBal t src ∧ w'.tokBal t dst = w.tokBal t dst + amt ∧ w'.tokBal t src + amt = w.tokBal t src ∧
    (∀ t' a, (t', a) ≠ (t, dst) → (t', a) ≠ (t, src) → w'.tokBal t' a = w.tokBal t' a) ∧ w'.bank = w.bank := by
  obtain ⟨hle, hb⟩ := tokSend_spec h
  refine ⟨hle, ?_, ?_, ?_, (tokSend_frame h).2.1⟩
  · have := hb t dst; simp [hne] at this; exact this
  · have := hb t src; simp [Ne.symm hne] at this; rw [this]; omega
  · intro t' a h1 h2
    have := hb t' a
    simp [Ne.symm h1, Ne.symm h2] at this; exact this

/-- A payout that goes through is a bank send of a native coin or a `Transfer` of a token that exists, from
the contract to the recipient. -/
theorem payout_spec {w w' : World} {sub : SubMsg} {tv f : Bool} (h : w.payout sub tv f = some w') :
    (∃ dn, sub.denom = .native dn ∧ w.bankSend w.self sub.to dn sub.amount = some w') ∨
    (∃ t, sub.denom = .cw20 t ∧ w.tokens.contains t = true ∧ w.tokSend t w.self sub.to sub.amount = some w') := by
  unfold World.payout at h
  split at h
  · next dn hd =>
    split at h
    · cases h
    · exact Or.inl ⟨dn, hd, h⟩
  · next t hd =>
    split at h
    · cases h
    · next hc =>
      simp at hc
      exact Or.inr ⟨t, hd, by simpa using hc.1.1, h⟩
theorem payout_frame {w w' : World} {sub : SubMsg} {tv f : Bool} (h : w.payout sub tv f = some w') :
    w'.st = w.st ∧ w'.self = w.self ∧ w'.tokens = w.tokens ∧ w'.faulty = w.faulty := by
  rcases payout_spec h with ⟨_, _, hb⟩ | ⟨_, _, _, hb⟩
  · have := bankSend_frame hb; exact ⟨this.1, this.2.2.1, this.2.2.2.1, this.2.2.2.2⟩
  · have := tokSend_frame hb; exact ⟨this.1, this.2.2.1, this.2.2.2.1, this.2.2.2.2⟩

theorem exec_chanOpen {w w' : World} {blk : Block} {v : String} {cv : Option String} {ord : Bool} {o : Outcome}
    (h : w.exec blk (.chanOpen v cv ord) = .ok (w', o)) : w' = w ∧ o = {} := by
  simp only [World.exec, Res.bind_ok] at h
  obtain ⟨_, _, h⟩ := h
  simp at h
  exact ⟨h.1.symm, h.2.symm⟩

theorem exec_chanClose {w w' : World} {blk : Block} {id : String} {o : Outcome}
    (h : w.exec blk (.chanClose id) = .ok (w', o)) : False := by
  simp [World.exec, ibcChannelClose, bind, Except.bind] at h

/-- The four transactions that only run a handler on the state. -/
theorem exec_st_ok {w w' : World} {o : Outcome} {r : Res State}
    (h : (do let s ← r; pure (({ w with st := s } : World), ({} : Outcome))) = .ok (w', o)) :
    ∃ s, r = .ok s ∧ w' = { w with st := s } ∧ o = {} := by
  obtain ⟨s, hs, h⟩ := (Res.bind_ok ..).mp h
  cases h
  exact ⟨s, hs, rfl, rfl⟩

theorem exec_connect {w w' : World} {blk : Block} {id v : String} {cv : Option String} {ord : Bool} {peer : Peer}
    {o : Outcome} (h : w.exec blk (.connect id v cv ord peer) = .ok (w', o)) :
    ∃ s, ibcChannelConnect w.st id v cv ord peer = .ok s ∧ w' = { w with st := s } ∧ o = {} := exec_st_ok h

theorem exec_allow {w w' : World} {blk : Block} {snd : Addr} {c : AddrArg} {g : Option Nat} {o : Outcome}
    (h : w.exec blk (.allow snd c g) = .ok (w', o)) :
    ∃ s, execAllow w.st snd c g = .ok s ∧ w' = { w with st := s } ∧ o = {} := exec_st_ok h

theorem exec_updateAdmin {w w' : World} {blk : Block} {snd : Addr} {a : AddrArg} {o : Outcome}
    (h : w.exec blk (.updateAdmin snd a) = .ok (w', o)) :
    ∃ s, execUpdateAdmin w.st snd a = .ok s ∧ w' = { w with st := s } ∧ o = {} := exec_st_ok h

theorem exec_migrate {w w' : World} {blk : Block} {g : Option Nat} {o : Outcome}
    (h : w.exec blk (.migrate g) = .ok (w', o)) :
    ∃ s, migrate w.st g w.holdings = .ok s ∧ w' = { w with st := s } ∧ o = {} := exec_st_ok h

theorem ibcChannelConnect_ok {s s' : State} {id v : String} {cv : Option String} {ord : Bool} {peer : Peer}
    (h : ibcChannelConnect s id v cv ord peer = .ok s') :
    enforceOrderAndVersion v cv ord = .ok () ∧
    s' = { s with channels := if s.channels.contains id then s.channels else s.channels ++ [id],
                  chanInfo := s.chanInfo.set id ⟨id, peer.port, peer.chan, peer.connection⟩ } := by
  obtain ⟨_, he, h⟩ := (Res.bind_ok ..).mp h
  cases h
  exact ⟨he, rfl⟩

theorem execAllow_ok {s s' : State} {snd : Addr} {c : AddrArg} {g : Option Nat} (h : execAllow s snd c g = .ok s') :
    s.admin = some snd ∧ c.valid = true ∧ s' = { s with allow := s.allow.set c.text g } := by
  simp only [execAllow, check_bind_ok, Res.pure_ok] at h
  obtain ⟨ha, hv, _, rfl⟩ := h
  exact ⟨by simpa using ha, hv, rfl⟩

theorem execUpdateAdmin_ok {s s' : State} {snd : Addr} {a : AddrArg} (h : execUpdateAdmin s snd a = .ok s') :
    s.admin = some snd ∧ a.valid = true ∧ s' = { s with admin := some a.text } := by
  simp only [execUpdateAdmin, check_bind_ok, Res.pure_ok] at h
  obtain ⟨hv, ha, rfl⟩ := h
  exact ⟨by simpa using ha, hv, rfl⟩

theorem exec_migrate_frame {w w' : World} {blk : Block} {g : Option Nat} {o : Outcome}
    (h : w.exec blk (.migrate g) = .ok (w', o)) :
    migrate w.st g w.holdings = .ok w'.st ∧ w'.bank = w.bank ∧ w'.tok = w.tok ∧ w'.self = w.self ∧ w'.tokens = w.tokens ∧
    o.ack = none ∧ o.sub = none ∧ o.sent = [] := by
  obtain ⟨s, hs, rfl, rfl⟩ := exec_migrate h
  exact ⟨hs, rfl, rfl, rfl, rfl, rfl, rfl, rfl⟩

theorem holdings_congr {w w' : World} (e2 : w'.bank = w.bank) (e3 : w'.tok = w.tok) (e4 : w'.self = w.self)
    (e5 : w'.tokens = w.tokens) (d : Denom) : w'.holdings d = w.holdings d := by
  cases d <;> simp [World.holdings, World.bankBal, World.tokBal, e2, e3, e4, e5]

theorem holdings_st (w : World) (s : State) (x : Denom) : ({ w with st := s } : World).holdings x = w.holdings x :=
  holdings_congr rfl rfl rfl rfl x

/-- A bank send changes the contract's holdings by what arrives at the contract and what leaves it.  Both sides
are under `Option.map (· + …)`: no subtraction, and `none` (a denomination that does not exist) is carried
along.  Users instantiate `src`/`dst` with `w.self` and let `simp` decide the two tests. -/
theorem bankSend_holdings {w w1 : World} {src dst : Addr} {d : String} {amt : Nat}
    (hb : w.bankSend src dst d amt = some w1) (x : Denom) :
    (w1.holdings x).map (· + if src = w.self ∧ Denom.native d = x then amt else 0) =
    (w.holdings x).map (· + if dst = w.self ∧ Denom.native d = x then amt else 0) := by
  obtain ⟨hle, hbal⟩ := bankSend_spec hb
  obtain ⟨_, htk, hsf, htok, _⟩ := bankSend_frame hb
  cases x with
  | native y =>
    simp only [World.holdings, hsf, Option.map_some, hbal w.self y, Denom.native.injEq, Prod.mk.injEq]
    by_cases h1 : src = w.self <;> by_cases h2 : dst = w.self <;> by_cases h3 : d = y <;>
      simp [h1, h2, h3] at hle ⊢ <;> omega
  | cw20 t => simp [World.holdings, hsf, htok, World.tokBal, htk]

/-- The same for a cw20 `Transfer`. -/
theorem tokSend_holdings {w w1 : World} {token src dst : Addr} {amt : Nat}
    (hb : w.tokSend token src dst amt = some w1) (x : Denom) :
    (w1.holdings x).map (· + if src = w.self ∧ Denom.cw20 token = x then amt else 0) =
    (w.holdings x).map (· + if dst = w.self ∧ Denom.cw20 token = x then amt else 0) := by
  obtain ⟨hle, hbal⟩ := tokSend_spec hb
  obtain ⟨_, hbk, hsf, htok, _⟩ := tokSend_frame hb
  cases x with
  | native y => simp [World.holdings, hsf, World.bankBal, hbk]
  | cw20 t =>
    cases hc : w.tokens.contains t with
    | false => simp only [World.holdings, htok, hc, Bool.false_eq_true, if_false, Option.map_none]
    | true =>
      simp only [World.holdings, hsf, htok, hc, if_true, Option.map_some, hbal t w.self, Denom.cw20.injEq, Prod.mk.injEq]
      by_cases h1 : src = w.self <;> by_cases h2 : dst = w.self <;> by_cases h3 : token = t <;>
        simp [h1, h2, h3] at hle ⊢ <;> omega

/-! ## `migrate` -/

theorem loadConfig_ok {s : State} {cfg : Config} (h : loadConfig s = .ok cfg) : s.v1gov = none ∧ cfg = s.config := by
  unfold loadConfig at h
  split at h
  · cases h
  · rename_i hv; exact ⟨by simpa using hv, (Except.ok.inj h).symm⟩

theorem updateBalances_cases {s s' : State} {hold : Denom → Option Nat} (h : updateBalances s hold = .ok s') :
    (s.channels = [] ∧ s' = s) ∨
    (∃ ch m, s.channels = [ch] ∧ updateDenoms ch hold s.chan s.chan = .ok m ∧ s' = { s with chan := m }) := by
  unfold updateBalances at h
  split at h
  · rename_i hch; exact Or.inl ⟨hch, (Except.ok.inj h).symm⟩
  · rename_i ch hch
    obtain ⟨m, hm, h⟩ := (Res.bind_ok ..).mp h
    exact Or.inr ⟨ch, m, hch, hm, (Except.ok.inj h).symm⟩
  · cases h

/-- `migrate` rewrites five fields and nothing else: the pre-0.12 config is converted (stored version ≤
0.12.0-alpha1: `adm`, `v1`, `c0`), the books are reconciled (≤ 0.13.0: `m`), the default gas limit is set if
the message carries one (`cfg`), and an older stored version is bumped to the current one. -/
theorem migrate_ok {s s' : State} {gas : Option Nat} {hold : Denom → Option Nat} (h : migrate s gas hold = .ok s') :
    ∃ adm v1 c0 cfg m,
      s' = { s with admin := adm, config := cfg, v1gov := v1, chan := m,
                    version := if Version.lt s.version CONTRACT_VERSION then CONTRACT_VERSION else s.version } ∧
      ((Version.le s.version MIGRATE_VERSION_2 = false ∧ adm = s.admin ∧ v1 = s.v1gov ∧ c0 = s.config) ∨
       (Version.le s.version MIGRATE_VERSION_2 = true ∧
         ∃ g, s.v1gov = some g ∧ adm = some g ∧ v1 = none ∧ c0 = ⟨s.config.defaultTimeout, none⟩)) ∧
      ((gas = none ∧ cfg = c0) ∨ (∃ g, gas = some g ∧ v1 = none ∧ cfg = ⟨c0.defaultTimeout, some g⟩)) ∧
      ((Version.le s.version MIGRATE_VERSION_3 = false ∧ m = s.chan) ∨
       (Version.le s.version MIGRATE_VERSION_3 = true ∧
         ((s.channels = [] ∧ m = s.chan) ∨ ∃ ch, s.channels = [ch] ∧ updateDenoms ch hold s.chan s.chan = .ok m))) ∧
      s.versionName = CONTRACT_NAME ∧ Version.lt CONTRACT_VERSION s.version = false ∧
      Version.lt s.version MIGRATE_MIN_VERSION = false := by
  simp only [migrate, Res.bind_ok, Res.pure_ok] at h
  obtain ⟨_, hn, _, hnew, _, hold', s1, h1, s2, h2, s3, h3, rfl⟩ := h
  have g1 : ∃ adm v1 c0, s1 = { s with admin := adm, config := c0, v1gov := v1 } ∧
      ((Version.le s.version MIGRATE_VERSION_2 = false ∧ adm = s.admin ∧ v1 = s.v1gov ∧ c0 = s.config) ∨
       (Version.le s.version MIGRATE_VERSION_2 = true ∧
         ∃ g, s.v1gov = some g ∧ adm = some g ∧ v1 = none ∧ c0 = ⟨s.config.defaultTimeout, none⟩)) := by
    split at h1
    · rename_i hv
      split at h1
      · cases h1
      · rename_i g hg
        exact ⟨_, _, _, (Except.ok.inj h1).symm, Or.inr ⟨hv, g, hg, rfl, rfl, rfl⟩⟩
    · rename_i hv
      exact ⟨_, _, _, (Except.ok.inj h1).symm, Or.inl ⟨by simpa using hv, rfl, rfl, rfl⟩⟩
  obtain ⟨adm, v1, c0, rfl, hA⟩ := g1
  have g2 : ∃ m, s2 = { s with admin := adm, config := c0, v1gov := v1, chan := m } ∧
      ((Version.le s.version MIGRATE_VERSION_3 = false ∧ m = s.chan) ∨
       (Version.le s.version MIGRATE_VERSION_3 = true ∧
         ((s.channels = [] ∧ m = s.chan) ∨ ∃ ch, s.channels = [ch] ∧ updateDenoms ch hold s.chan s.chan = .ok m))) := by
    split at h2
    · rename_i hv
      rcases updateBalances_cases h2 with ⟨hc, rfl⟩ | ⟨ch, m, hc, hm, rfl⟩
      · exact ⟨_, rfl, Or.inr ⟨hv, Or.inl ⟨hc, rfl⟩⟩⟩
      · exact ⟨m, rfl, Or.inr ⟨hv, Or.inr ⟨ch, hc, hm⟩⟩⟩
    · rename_i hv
      exact ⟨_, (Except.ok.inj h2).symm, Or.inl ⟨by simpa using hv, rfl⟩⟩
  obtain ⟨m, rfl, hB⟩ := g2
  have g3 : ∃ cfg, s3 = { s with admin := adm, config := cfg, v1gov := v1, chan := m } ∧
      ((gas = none ∧ cfg = c0) ∨ (∃ g, gas = some g ∧ v1 = none ∧ cfg = ⟨c0.defaultTimeout, some g⟩)) := by
    split at h3
    · rename_i g
      obtain ⟨cfg, hc, h3⟩ := (Res.bind_ok ..).mp h3
      obtain ⟨hv, rfl⟩ := loadConfig_ok hc
      exact ⟨_, (Except.ok.inj h3).symm, Or.inr ⟨g, rfl, hv, rfl⟩⟩
    · exact ⟨_, (Except.ok.inj h3).symm, Or.inl ⟨rfl, rfl⟩⟩
  obtain ⟨cfg, rfl, hC⟩ := g3
  refine ⟨adm, v1, c0, cfg, m, ?_, hA, hC, hB, by simpa using hn, by simpa using hnew, by simpa using hold'⟩
  split <;> rfl

/-- The cw20 gate of `execute_transfer`: a cw20 transfer is accepted only with the current config layout and
if a default gas limit is configured or the token is on the allow list. -/
theorem execTransfer_gate {s : State} {blk : Block} {msg : TransferMsg} {t : Addr} {amt : Nat} {snd : Addr}
    {r : State × SendOut} (h : execTransfer s blk msg (.cw20 t) amt snd = .ok r) :
    s.v1gov = none ∧ (s.config.defaultGasLimit.isSome ∨ (s.allow.get? t).isSome) := by
  simp only [execTransfer, Res.bind_ok] at h
  obtain ⟨_, _, _, _, cfg, hc, _, hg, _⟩ := h
  obtain ⟨hv, rfl⟩ := loadConfig_ok hc
  refine ⟨hv, ?_⟩
  simp [transferGate, AMap.contains] at hg
  rcases hg with h | h
  · left; simp [h]
  · right; exact h

/-! ## Ghost ledgers -/

/-- Ghost ledgers per (channel, denomination) and the set of packets in flight. -/
structure Ghost where
  /-- Σ amounts of accepted transfers (what a migration books as outstanding counts as sent) -/
  sent : Key → Nat
  /-- Σ amounts of sends that failed (error acknowledgement) or timed out -/
  failed : Key → Nat
  /-- Σ amounts redeemed by successfully acknowledged incoming packets -/
  redeemed : Key → Nat
  /-- Σ tokens that actually left the contract for this key: redemptions and refunds that went out -/
  paidOut : Key → Nat
  /-- Σ refunds whose sub-call failed (books reduced, tokens stay in escrow) -/
  swallowed : Key → Nat
  /-- packets sent and not yet acknowledged / timed out -/
  inflight : List (String × Packet)

def bump (f : Key → Nat) (k : Key) (n : Nat) : Key → Nat := fun k' => if k' = k then f k' + n else f k'

@[simp] theorem bump_apply (f : Key → Nat) (k k' : Key) (n : Nat) :
    bump f k n k' = if k' = k then f k' + n else f k' := rfl

/-- Ghosts of a fresh start: everything outstanding counts as sent, nothing else happened. -/
def Ghost.init (w : World) : Ghost :=
  { sent := outAt w.st.chan, failed := fun _ => 0, redeemed := fun _ => 0, paidOut := fun _ => 0,
    swallowed := fun _ => 0, inflight := [] }

/-- IBC core delivers at most one acknowledgement or timeout per sent packet, with the original data. -/
def admissible (g : Ghost) : Op → Bool
  | .ack chan (some p) _ _ _ _ => g.inflight.contains (chan, p)
  | .ack _ none _ _ _ _ => false
  | .timeout chan (some p) _ _ _ => g.inflight.contains (chan, p)
  | .timeout _ none _ _ _ => false
  | _ => true

def Ghost.failure (g : Ghost) (chan : String) (p : Packet) (o : Outcome) : Ghost :=
  let k : Key := (chan, p.denom)
  let g := { g with failed := bump g.failed k p.amount, inflight := g.inflight.erase (chan, p) }
  match o.ack with
  | none => { g with paidOut := bump g.paidOut k p.amount }
  | some _ => { g with swallowed := bump g.swallowed k p.amount }

theorem failure_fields (g : Ghost) (chan : String) (p : Packet) (o : Outcome) :
    (g.failure chan p o).sent = g.sent ∧ (g.failure chan p o).failed = bump g.failed (chan, p.denom) p.amount ∧
    (g.failure chan p o).redeemed = g.redeemed ∧ (g.failure chan p o).inflight = g.inflight.erase (chan, p) := by
  unfold Ghost.failure
  cases o.ack <;> exact ⟨rfl, rfl, rfl, rfl⟩

/-- Ghost update after a successful transaction. -/
def Ghost.update (g : Ghost) (w' : World) (op : Op) (o : Outcome) : Ghost :=
  match op with
  | .transferNative .. | .sendCw20 .. | .hook .. =>
    (match o.sent with
     | [out] => { g with sent := bump g.sent (out.channel, out.packet.denom) out.packet.amount,
                         inflight := (out.channel, out.packet) :: g.inflight }
     | _ => g)
  | .recv p _ _ _ =>
    (match o.ack, o.sub with
     | some .success, some sub =>
       { g with redeemed := bump g.redeemed (p.destChan, sub.denom) sub.amount,
                paidOut := bump g.paidOut (p.destChan, sub.denom) sub.amount }
     | _, _ => g)
  | .ack chan (some p) (some false) _ _ _ => g.failure chan p o
  | .ack chan (some p) (some true) _ _ _ => { g with inflight := g.inflight.erase (chan, p) }
  | .timeout chan (some p) _ _ _ => g.failure chan p o
  -- a migration re-baselines: whatever it books as outstanding counts as sent
  | .migrate _ => { g with sent := fun k => outAt w'.st.chan k + g.failed k + g.redeemed k }
  | _ => g

def stepG (wg : World × Ghost) (blk : Block) (op : Op) : World × Ghost :=
  if admissible wg.2 op then
    match wg.1.exec blk op with
    | .ok (w', o) => (w', wg.2.update w' op o)
    | .error _ => wg
  else wg

/-- One ghost step over an arbitrary op: no `admissible` filter (a forged or repeated acknowledgement /
timeout is executed like everything else). -/
def stepU (wg : World × Ghost) (blk : Block) (op : Op) : World × Ghost :=
  match wg.1.exec blk op with
  | .ok (w', o) => (w', wg.2.update w' op o)
  | .error _ => wg

/-- Histories with ghosts. -/
def runG (wg : World × Ghost) (ops : List (Block × Op)) : World × Ghost :=
  ops.foldl (fun wg o => stepG wg o.1 o.2) wg

/-- The accounting invariant: `outstanding + failed + redeemed = sent` and every reduction of the
books is matched by tokens that left or by a swallowed refund. -/
def LedgerInv (wg : World × Ghost) : Prop :=
  (∀ k, outAt wg.1.st.chan k + wg.2.failed k + wg.2.redeemed k = wg.2.sent k) ∧
  (∀ k, wg.2.paidOut k + wg.2.swallowed k = wg.2.failed k + wg.2.redeemed k)

theorem ledgerInv_init (w : World) : LedgerInv (w, Ghost.init w) := by
  constructor <;> intro k <;> simp [Ghost.init]


/-! ## Every successful transaction, by kind -/

def Op.isTransfer : Op → Bool
  | .transferNative .. | .sendCw20 .. | .hook .. => true
  | _ => false

/-- Transfers, acknowledgements and timeouts: the ops whose packets the ghosts keep track of. -/
def Op.touchesPackets : Op → Bool
  | .transferNative .. | .sendCw20 .. | .hook .. | .ack .. | .timeout .. => true
  | _ => false

theorem Op.isTransfer_of_not_touches {op : Op} (h : op.touchesPackets = false) : op.isTransfer = false := by
  cases op <;> first | rfl | cases h

theorem Ghost.update_transfer {op : Op} (hop : op.isTransfer = true) (g : Ghost) (w' : World) (out : SendOut) :
    g.update w' op { sent := [out] } =
      { g with sent := bump g.sent (out.channel, out.packet.denom) out.packet.amount,
               inflight := (out.channel, out.packet) :: g.inflight } := by
  cases op <;> first | rfl | cases hop

/-- What a successful transaction `op` from `w` to `w'` with outcome `o` is, as far as books, balances and
ghosts go.  `quiet`: handshakes, governance, a refused packet, a packet whose payout failed and was undone
by `reply`.  `escrow`: an accepted transfer of either kind; `w1` is the world after the funds moved.
`redeem`: an incoming packet that was paid out.  `refund`: an error acknowledgement or timeout; the refund
went out or was swallowed.  `acked`: a success acknowledgement.
Consumers match the fields by position.  In `quiet`, `hchan`, `hver`, `hchs` follow from `hst` and are kept
because every invariant needs them.  Three fields of `escrow` serve one consumer each: `hfr`
(`exec_self_tokens`, Lemmas/Ics20Env), `hden` (`exec_keysFaithful`, Lemmas/Ics20Env), `hhook`
(`C11.exec_conservation`: the token of a direct hook call does not exist, so no holdings move). -/
inductive Tx (w : World) (op : Op) (w' : World) (o : Outcome) : Prop
  | quiet (s' : State) (hw : w' = { w with st := s' }) (hchan : s'.chan = w.st.chan)
      (hver : s'.version = w.st.version) (hchs : ∀ c ∈ w.st.channels, c ∈ s'.channels)
      (hop : op.touchesPackets = false) (hg : ∀ g : Ghost, g.update w' op o = g)
      (ho : o.sub = none ∨ o.ack = some .error)
      (hst : (∃ id v cv ord peer, op = .connect id v cv ord peer ∧ ibcChannelConnect w.st id v cv ord peer = .ok s') ∨
        (∃ snd c g, op = .allow snd c g ∧ execAllow w.st snd c g = .ok s') ∨
        (∃ snd a, op = .updateAdmin snd a ∧ execUpdateAdmin w.st snd a = .ok s') ∨
        (∃ ra, s' = { w.st with replyArgs := ra }))
  | migrate (gas : Option Nat) (s' : State) (hop : op = .migrate gas)
      (hm : Ics20.migrate w.st gas w.holdings = .ok s') (hw : w' = { w with st := s' }) (ho : o = {})
  | escrow (w1 : World) (out : SendOut) (ch : ChanMap) (hop : op.isTransfer = true)
      (hinc : increaseBalance w.st.chan out.channel out.packet.denom out.packet.amount = .ok ch)
      (hmem : out.channel ∈ w.st.channels) (hne : out.packet.amount ≠ 0)
      (hgate : ∀ t, out.packet.denom = .cw20 t →
        w.st.v1gov = none ∧ (w.st.config.defaultGasLimit.isSome ∨ (w.st.allow.get? t).isSome))
      (hw : w' = { w1 with st := { w.st with chan := ch } })
      (hfr : w1.self = w.self ∧ w1.tokens = w.tokens)
      (hhold : ∀ x, w1.holdings x = (w.holdings x).map (· + if out.packet.denom = x then out.packet.amount else 0))
      (hhook : ∀ snd funds sender amt msg, op = .hook snd funds sender amt msg → w.holdings out.packet.denom = none)
      (hden : (∃ t, out.packet.denom = .cw20 t) ∨
        ∃ snd d amt msg, op = .transferNative snd [(d, amt)] msg ∧ out.packet.denom = .native d)
      (ho : o = { sent := [out] })
  | redeem (p : PacketIn) (rv tv f : Bool) (d : Denom) (amt : Nat) (ch : ChanMap) (sub : SubMsg)
      (hop : op = .recv p rv tv f) (hpkt : p.amount = some amt ∧ p.voucher = some (p.srcPort, p.srcChan, d))
      (hred : reduceBalance w.st.chan p.destChan d amt = .ok ch)
      (hsub : sub.denom = d ∧ sub.amount = amt ∧ sub.to = p.receiver)
      (hpay : ({ w with st := { w.st with chan := ch, replyArgs := some ⟨p.destChan, d, amt⟩ } } : World).payout sub rv f
        = some w')
      (hst : w'.st = { w.st with chan := ch, replyArgs := some ⟨p.destChan, d, amt⟩ })
      (ho : o.ack = some .success ∧ o.sub = some sub)
  | refund (chan : String) (p : Packet) (sv tv f : Bool) (ch : ChanMap) (sub : SubMsg)
      (hop : op = .ack chan (some p) (some false) sv tv f ∨ op = .timeout chan (some p) sv tv f)
      (hred : reduceBalance w.st.chan chan p.denom p.amount = .ok ch)
      (hsub : sub.denom = p.denom ∧ sub.amount = p.amount ∧ sub.to = p.sender) (ho : o.sub = some sub)
      (hpay : (({ w with st := { w.st with chan := ch } } : World).payout sub sv f = some w' ∧ o.ack = none) ∨
              (w' = { w with st := { w.st with chan := ch } } ∧ o.ack = some .error))
      (hst : w'.st = { w.st with chan := ch })
  | acked (chan : String) (p : Packet) (sv tv f : Bool) (hop : op = .ack chan (some p) (some true) sv tv f)
      (hw : w' = w) (ho : o.ack = none ∧ o.sub = none)

theorem Ghost.update_refund {op : Op} {chan : String} {p : Packet} {sv tv f : Bool}
    (hop : op = .ack chan (some p) (some false) sv tv f ∨ op = .timeout chan (some p) sv tv f) (g : Ghost) (w' : World)
    (o : Outcome) : g.update w' op o = g.failure chan p o := by
  rcases hop with rfl | rfl <;> rfl

theorem execTransfer_escrow {s s' : State} {blk : Block} {msg : TransferMsg} {d : Denom} {amt : Nat} {snd : Addr}
    {out : SendOut} (h : execTransfer s blk msg d amt snd = .ok (s', out)) :
    ∃ ch, increaseBalance s.chan out.channel out.packet.denom out.packet.amount = .ok ch ∧ s' = { s with chan := ch } ∧
      out.channel ∈ s.channels ∧ out.packet.amount ≠ 0 ∧ out.packet.denom = d ∧ out.packet.amount = amt := by
  obtain ⟨ch, hinc, rfl, hne, _, hmem, _, rfl, _⟩ := execTransfer_ok h
  exact ⟨ch, hinc, rfl, hmem, hne, rfl, rfl⟩

/-- Paid or swallowed, a refund leaves the contract state as `on_packet_failure` wrote it. -/
theorem refund_st {w w' : World} {s1 : State} {sub : SubMsg} {sv f : Bool} {a : Option Ack}
    (hc : (({ w with st := s1 } : World).payout sub sv f = some w' ∧ a = none) ∨
          (({ w with st := s1 } : World).payout sub sv f = none ∧ w' = { w with st := s1 } ∧ a = some .error)) :
    w'.st = s1 := by
  rcases hc with ⟨hp, _⟩ | ⟨_, rfl, _⟩
  · exact (payout_frame hp).1
  · rfl

theorem exec_tx {w w' : World} {blk : Block} {op : Op} {o : Outcome} (h : w.exec blk op = .ok (w', o)) :
    Tx w op w' o := by
  have same : ∀ c ∈ w.st.channels, c ∈ w.st.channels := fun _ hc => hc
  cases op with
  | connect id v cv ord peer =>
    obtain ⟨s, hs, rfl, rfl⟩ := exec_connect h
    obtain ⟨_, rfl⟩ := ibcChannelConnect_ok hs
    refine .quiet { w.st with channels := _, chanInfo := _ } rfl rfl rfl (fun c hc => ?_) rfl (fun _ => rfl) (Or.inl rfl)
      (Or.inl ⟨id, v, cv, ord, peer, rfl, hs⟩)
    dsimp only
    split
    · exact hc
    · exact List.mem_append_left _ hc
  | chanOpen v cv ord =>
    obtain ⟨rfl, rfl⟩ := exec_chanOpen h
    exact .quiet w'.st rfl rfl rfl (fun _ hc => hc) rfl (fun _ => rfl) (Or.inl rfl) (Or.inr (Or.inr (Or.inr ⟨_, rfl⟩)))
  | chanClose id => exact (exec_chanClose h).elim
  | allow snd c g =>
    obtain ⟨s, hs, rfl, rfl⟩ := exec_allow h
    obtain ⟨_, _, rfl⟩ := execAllow_ok hs
    exact .quiet { w.st with allow := _ } rfl rfl rfl same rfl (fun _ => rfl) (Or.inl rfl)
      (Or.inr (Or.inl ⟨snd, c, g, rfl, hs⟩))
  | updateAdmin snd a =>
    obtain ⟨s, hs, rfl, rfl⟩ := exec_updateAdmin h
    obtain ⟨_, _, rfl⟩ := execUpdateAdmin_ok hs
    exact .quiet { w.st with admin := _ } rfl rfl rfl same rfl (fun _ => rfl) (Or.inl rfl)
      (Or.inr (Or.inr (Or.inl ⟨snd, a, rfl, hs⟩)))
  | migrate g =>
    obtain ⟨s, hs, rfl, rfl⟩ := exec_migrate h
    exact .migrate g s rfl hs rfl rfl
  | transferNative snd funds msg =>
    obtain ⟨d, amt, w1, s, out, rfl, hself, hb, hs, rfl, rfl⟩ := exec_transferNative_ok h
    obtain ⟨ch, hinc, rfl, hmem, hne, hd, ha⟩ := execTransfer_escrow hs
    have f := bankSend_frame hb
    exact .escrow w1 out ch rfl hinc hmem hne (fun t ht => by rw [hd] at ht; cases ht) rfl ⟨f.2.2.1, f.2.2.2.1⟩
      (fun x => by simpa [hself, hd, ha] using bankSend_holdings hb x) (fun _ _ _ _ _ e => Op.noConfusion e)
      (Or.inr ⟨snd, d, amt, msg, rfl, hd⟩) rfl
  | sendCw20 snd token amt msg =>
    obtain ⟨w1, m, s, out, hself, _, hb, rfl, hs, rfl, rfl⟩ := exec_sendCw20_ok h
    obtain ⟨ch, hinc, rfl, hmem, hne, hd, ha⟩ := execTransfer_escrow hs
    have f := tokSend_frame hb
    exact .escrow w1 out ch rfl hinc hmem hne (fun t ht => by rw [hd] at ht; cases ht; exact execTransfer_gate hs) rfl
      ⟨f.2.2.1, f.2.2.2.1⟩ (fun x => by simpa [hself, hd, ha] using tokSend_holdings hb x) (fun _ _ _ _ _ e => Op.noConfusion e)
      (Or.inl ⟨_, hd⟩) rfl
  | hook snd funds sender amt msg =>
    obtain ⟨m, s, out, hnt, rfl, hs, rfl, rfl⟩ := exec_hook_ok h
    obtain ⟨ch, hinc, rfl, hmem, hne, hd, ha⟩ := execTransfer_escrow hs
    -- the caller is no token contract: its denomination has no holdings, every other is untouched
    have hnone : w.holdings out.packet.denom = none := by
      rw [hd]; simp only [World.holdings, hnt, Bool.false_eq_true, if_false]
    refine .escrow w out ch rfl hinc hmem hne (fun t ht => by rw [hd] at ht; cases ht; exact execTransfer_gate hs) rfl
      ⟨rfl, rfl⟩ (fun x => ?_) (fun _ _ _ _ _ _ => hnone) (Or.inl ⟨_, hd⟩) rfl
    by_cases hx : out.packet.denom = x
    · subst hx; rw [hnone]; rfl
    · simp only [hx, if_false, Nat.add_zero]
      cases w.holdings x <;> rfl
  | recv p rv tv f =>
    rcases exec_recv_ok h with ⟨_, rfl, ha, hsub⟩ | ⟨s1, sub, hd, hsub, hc⟩
    · exact .quiet w'.st rfl rfl rfl (fun _ hc => hc) rfl (fun g => by simp only [Ghost.update, ha, hsub]) (Or.inl hsub)
        (Or.inr (Or.inr (Or.inr ⟨_, rfl⟩)))
    · obtain ⟨amt, d, ch, hamt, hvch, hred, rfl, hto, hsa, hsd, _, _⟩ := doReceive_ok hd
      rcases hc with ⟨hp, ha⟩ | ⟨_, ha, ra, ch2, hra, hundo, rfl⟩
      · exact .redeem p rv tv f d amt ch sub rfl ⟨hamt, hvch⟩ hred ⟨hsd, hsa, hto⟩ hp (payout_frame hp).1 ⟨ha, hsub⟩
      · cases hra
        cases undoReduce_reduce_eq hred hundo
        exact .quiet { w.st with replyArgs := some ⟨p.destChan, d, amt⟩ } rfl rfl rfl same rfl
          (fun g => by simp only [Ghost.update, ha, hsub]) (Or.inr ha) (Or.inr (Or.inr (Or.inr ⟨_, rfl⟩)))
  | ack chan data ackOk sv tv f =>
    rcases exec_ack_ok h with ⟨rfl, ⟨p, rfl⟩, rfl, ha, hsub⟩ | ⟨rfl, s1, sub, hf, hsub, hc⟩
    · exact .acked chan p sv tv f rfl rfl ⟨ha, hsub⟩
    · obtain ⟨p, ch, rfl, hred, rfl, hto, hsa, hsd, _⟩ := onPacketFailure_ok hf
      exact .refund chan p sv tv f ch sub (Or.inl rfl) hred ⟨hsd, hsa, hto⟩ hsub
        (hc.imp id (fun hc => ⟨hc.2.1, hc.2.2⟩)) (refund_st hc)
  | timeout chan data sv tv f =>
    obtain ⟨s1, sub, hf, hsub, hc⟩ := exec_timeout_cases h
    obtain ⟨p, ch, rfl, hred, rfl, hto, hsa, hsd, _⟩ := onPacketFailure_ok hf
    exact .refund chan p sv tv f ch sub (Or.inr rfl) hred ⟨hsd, hsa, hto⟩ hsub
      (hc.imp id (fun hc => ⟨hc.2.1, hc.2.2⟩)) (refund_st hc)

/-- What a transaction does to the contract state: `connect`, `allow`, `updateAdmin` and `migrate` run their
handler; every other transaction rewrites at most the books and the scratch item `REPLY_ARGS`. -/
def StStep (s : State) (hold : Denom → Option Nat) (op : Op) (s' : State) : Prop :=
  (∃ id v cv ord peer, op = .connect id v cv ord peer ∧ ibcChannelConnect s id v cv ord peer = .ok s') ∨
  (∃ snd c g, op = .allow snd c g ∧ execAllow s snd c g = .ok s') ∨
  (∃ snd a, op = .updateAdmin snd a ∧ execUpdateAdmin s snd a = .ok s') ∨
  (∃ g, op = .migrate g ∧ migrate s g hold = .ok s') ∨
  (∃ ch ra, s' = { s with chan := ch, replyArgs := ra })

theorem exec_st {w w' : World} {blk : Block} {op : Op} {o : Outcome} (h : w.exec blk op = .ok (w', o)) :
    StStep w.st w.holdings op w'.st := by
  cases exec_tx h with
  | quiet s' hw _ _ _ _ _ _ hst =>
    subst hw
    rcases hst with h1 | h1 | h1 | ⟨ra, rfl⟩
    · exact Or.inl h1
    · exact Or.inr (Or.inl h1)
    · exact Or.inr (Or.inr (Or.inl h1))
    · exact Or.inr (Or.inr (Or.inr (Or.inr ⟨w.st.chan, ra, rfl⟩)))
  | migrate gas s' hop hm hw _ => subst hw; exact Or.inr (Or.inr (Or.inr (Or.inl ⟨gas, hop, hm⟩)))
  | escrow w1 out ch _ _ _ _ _ hw _ _ _ _ _ => subst hw; exact Or.inr (Or.inr (Or.inr (Or.inr ⟨ch, w.st.replyArgs, rfl⟩)))
  | redeem p rv tv f d amt ch sub _ _ _ _ _ hst _ => exact Or.inr (Or.inr (Or.inr (Or.inr ⟨ch, _, hst⟩)))
  | refund chan p sv tv f ch sub _ _ _ _ _ hst => exact Or.inr (Or.inr (Or.inr (Or.inr ⟨ch, w.st.replyArgs, hst⟩)))
  | acked chan p sv tv f _ hw _ =>
    subst hw; exact Or.inr (Or.inr (Or.inr (Or.inr ⟨w'.st.chan, w'.st.replyArgs, rfl⟩)))

/-- A refund or a redemption: the books of its key go down by an amount they covered. -/
theorem reduceBalance_outAt {m m' : ChanMap} {c : String} {d : Denom} {amt : Nat} (h : reduceBalance m c d amt = .ok m') :
    amt ≤ outAt m (c, d) ∧ ∀ k, outAt m' k = if k = (c, d) then outAt m k - amt else outAt m k := by
  obtain ⟨cs, hg, hle, _, ho, _⟩ := reduceBalance_ok h
  exact ⟨by simpa [outAt, hg] using hle, ho⟩

theorem exec_ledger {w w' : World} {g : Ghost} {blk : Block} {op : Op} {o : Outcome}
    (hi : LedgerInv (w, g)) (h : w.exec blk op = .ok (w', o)) : LedgerInv (w', g.update w' op o) := by
  obtain ⟨h12, hj⟩ := hi
  simp only at h12 hj
  cases exec_tx h with
  | quiet s' hw hchan _ _ _ hg _ _ =>
    subst hw; rw [hg]
    refine ⟨fun k => ?_, hj⟩
    show outAt s'.chan k + _ + _ = _
    rw [hchan]; exact h12 k
  | migrate gas s' hop _ hw _ => subst hop hw; exact ⟨fun _ => rfl, hj⟩
  | escrow w1 out ch hop hinc _ _ _ hw _ _ _ _ ho =>
    subst hw ho; rw [Ghost.update_transfer hop]
    refine ⟨fun k => ?_, hj⟩
    show outAt ch k + g.failed k + g.redeemed k = bump g.sent _ _ k
    rw [(increaseBalance_ok hinc).1 k, bump_apply]
    split <;> have := h12 k <;> omega
  | redeem p rv tv f d amt ch sub hop _ hred hsub _ hst ho =>
    subst hop
    obtain ⟨hle, hout⟩ := reduceBalance_outAt hred
    simp only [LedgerInv, Ghost.update, ho.1, ho.2, hst, hsub.1, hsub.2.1, bump_apply, hout]
    refine ⟨fun k => ?_, fun k => by split <;> have := hj k <;> omega⟩
    split
    · next hk => subst hk; have := h12 (p.destChan, d); omega
    · exact h12 k
  | refund chan p sv tv f ch sub hop hred _ _ hpay hst =>
    obtain ⟨hle, hout⟩ := reduceBalance_outAt hred
    rw [Ghost.update_refund hop]
    have hbooks : ∀ k, (if k = (chan, p.denom) then outAt w.st.chan k - p.amount else outAt w.st.chan k)
        + bump g.failed (chan, p.denom) p.amount k + g.redeemed k = g.sent k := by
      intro k
      rw [bump_apply]
      split
      · next hk => subst hk; have := h12 (chan, p.denom); omega
      · exact h12 k
    simp only [LedgerInv, Ghost.failure, hst]
    rcases hpay with ⟨_, ha⟩ | ⟨_, ha⟩ <;> simp only [ha, hout] <;>
      exact ⟨hbooks, fun k => by simp only [bump_apply]; split <;> have := hj k <;> omega⟩
  | acked chan p sv tv f hop hw _ => subst hop hw; exact ⟨h12, hj⟩

/-! ## Induction over histories

A failed transaction leaves the world (and the ghosts) as they are, so a property that every successful
transaction preserves holds along every history. -/

theorem step_cases {P : World → Prop} {w : World} (blk : Block) (op : Op) (h0 : P w)
    (hstep : ∀ w' o, w.exec blk op = .ok (w', o) → P w') : P (w.step blk op) := by
  unfold World.step
  split
  · rename_i w' o h; exact hstep w' o h
  · exact h0

/-- The step may use that its transaction occurs in the history. -/
theorem run_induction_mem {P : World → Prop} (ops : List (Block × Op))
    (hstep : ∀ w blk op w' o, (blk, op) ∈ ops → P w → w.exec blk op = .ok (w', o) → P w') {w : World}
    (h0 : P w) : P (ops.foldl (fun w o => w.step o.1 o.2) w) :=
  foldl_invariant P (fun w hw o ho => step_cases o.1 o.2 hw (fun w' o' h => hstep w o.1 o.2 w' o' ho hw h)) h0

theorem run_induction {P : World → Prop}
    (hstep : ∀ w blk op w' o, P w → w.exec blk op = .ok (w', o) → P w') (ops : List (Block × Op)) {w : World}
    (h0 : P w) : P (ops.foldl (fun w o => w.step o.1 o.2) w) :=
  run_induction_mem ops (fun w blk op w' o _ => hstep w blk op w' o) h0

theorem stepU_cases {P : World × Ghost → Prop} {wg : World × Ghost} (blk : Block) (op : Op) (h0 : P wg)
    (hstep : ∀ w' o, wg.1.exec blk op = .ok (w', o) → P (w', wg.2.update w' op o)) : P (stepU wg blk op) := by
  unfold stepU
  split
  · rename_i w' o h; exact hstep w' o h
  · exact h0

theorem stepG_cases {P : World × Ghost → Prop} {wg : World × Ghost} (blk : Block) (op : Op) (h0 : P wg)
    (hstep : ∀ w' o, wg.1.exec blk op = .ok (w', o) → P (w', wg.2.update w' op o)) : P (stepG wg blk op) := by
  unfold stepG
  split
  · exact stepU_cases blk op h0 hstep
  · exact h0

theorem runG_induction {P : World × Ghost → Prop}
    (hstep : ∀ w g blk op w' o, P (w, g) → w.exec blk op = .ok (w', o) → P (w', g.update w' op o))
    (ops : List (Block × Op)) {wg : World × Ghost} (h0 : P wg) : P (runG wg ops) :=
  foldl_invariant P (fun wg h op _ => stepG_cases op.1 op.2 h (fun w' o hx => hstep wg.1 wg.2 op.1 op.2 w' o h hx)) h0

theorem stepG_ledger {wg : World × Ghost} (blk : Block) (op : Op) (hi : LedgerInv wg) : LedgerInv (stepG wg blk op) :=
  stepG_cases blk op hi (fun _ _ h => exec_ledger hi h)

theorem runG_ledger {wg : World × Ghost} (ops : List (Block × Op)) (hi : LedgerInv wg) : LedgerInv (runG wg ops) :=
  runG_induction (fun _ _ _ _ _ _ hi h => exec_ledger hi h) ops hi

/-! ## Sum over channels of the outstanding balance of one denomination -/

/-- Σ over all channel-state entries of denomination `d` of the outstanding balance. -/
def sumDenom (m : ChanMap) (d : Denom) : Nat :=
  match m with
  | [] => 0
  | (k, cs) :: rest => (if k.2 = d then cs.outstanding else 0) + sumDenom rest d

theorem sumDenom_set (m : ChanMap) (k : Key) (v : ChanState) (d : Denom) :
    sumDenom (m.set k v) d + (if k.2 = d then outAt m k else 0) =
    sumDenom m d + (if k.2 = d then v.outstanding else 0) := by
  induction m with
  | nil => simp [AMap.set, sumDenom, outAt]
  | cons e rest ih =>
    obtain ⟨k', cs⟩ := e
    by_cases h : k' = k
    · subst h
      simp [AMap.set, sumDenom, outAt, AMap.get?]
      split <;> omega
    · have e1 : outAt ((k', cs) :: rest) k = outAt rest k := by simp [outAt, AMap.get?, h]
      simp only [AMap.set, h, if_false, sumDenom, e1]
      omega

theorem outAt_le_sumDenom (m : ChanMap) (k : Key) : outAt m k ≤ sumDenom m k.2 := by
  induction m with
  | nil => simp [outAt]
  | cons e rest ih =>
    obtain ⟨k', cs⟩ := e
    by_cases h : k' = k
    · subst h; simp [outAt, AMap.get?, sumDenom]
    · have e1 : outAt ((k', cs) :: rest) k = outAt rest k := by simp [outAt, AMap.get?, h]
      rw [e1]; simp only [sumDenom]; omega

theorem reduce_sum {m m' : ChanMap} {c : String} {d : Denom} {amt : Nat} (h : reduceBalance m c d amt = .ok m') (x : Denom) :
    sumDenom m' x + (if d = x then amt else 0) = sumDenom m x := by
  obtain ⟨hle, _⟩ := reduceBalance_outAt h
  obtain ⟨cs, hg, _, rfl, _, _⟩ := reduceBalance_ok h
  have := sumDenom_set m (c, d) ⟨cs.outstanding - amt, cs.totalSent⟩ x
  dsimp only at this
  have e : outAt m (c, d) = cs.outstanding := by rw [outAt_eq_getD, hg]; rfl
  rw [e] at this hle
  by_cases hx : d = x
  · simp only [if_pos hx] at this ⊢; omega
  · simp only [if_neg hx] at this ⊢; omega

theorem increase_sum {m m' : ChanMap} {c : String} {d : Denom} {amt : Nat} (h : increaseBalance m c d amt = .ok m') (x : Denom) :
    sumDenom m' x = sumDenom m x + (if d = x then amt else 0) := by
  simp only [increaseBalance, addU128_bind_ok, Res.pure_ok] at h
  obtain ⟨_, _, rfl⟩ := h
  have := sumDenom_set m (c, d) ⟨((m.get? (c, d)).getD ⟨0, 0⟩).outstanding + amt, ((m.get? (c, d)).getD ⟨0, 0⟩).totalSent + amt⟩ x
  dsimp only at this
  rw [outAt_eq_getD] at this
  by_cases hx : d = x
  · simp only [if_pos hx] at this ⊢; omega
  · simp only [if_neg hx] at this ⊢; omega

end CwPlus.Ics20
