import CwPlus.Base.NativeBalance
/-!
# `NativeBalance`: when does a subtraction succeed?

`Base/NativeBalance.lean` proves what a *successful* `subCoin` / `subCoins` does to the per-denom totals.
This file adds the converse ("liveness"): on a balance with unique denoms a list of positive coins can be
subtracted exactly when, denom by denom, the coins together do not exceed what the balance holds
(`subCoins_isOk_iff`), and a monotonicity statement (`subCoins_mono`): what can be subtracted from a balance
can be subtracted from every pointwise larger one.  At the end: when `add` and `subSaturating` succeed, and that
`subSaturating` is exact on unique denoms.
-/
namespace CwPlus.NativeBalance

/-- A positive total means the denom is present. -/
theorem find?_isSome_of_total_pos {b : NativeBalance} {d : String} (h : 0 < total b d) : ∃ a, find? b d = some a := by
  cases hf : find? b d with
  | some a => exact ⟨a, rfl⟩
  | none => rw [find?_none_total hf] at h; omega

/-- `Sub<Coin>` succeeds exactly when the denom is present and its first coin covers the amount. -/
theorem subCoin_isOk_iff_find (b : NativeBalance) (c : Coin) :
    (subCoin b c).isOk = true ↔ ∃ held, find? b c.1 = some held ∧ c.2 ≤ held := by
  simp only [Res.isOk_iff_exists, subCoin_ok_iff]
  exact ⟨fun ⟨_, held, hf, hle, _⟩ => ⟨held, hf, hle⟩, fun ⟨held, hf, hle⟩ => ⟨_, held, hf, hle, rfl⟩⟩

/-- On a balance with unique denoms, a *positive* coin can be subtracted exactly when the balance holds at
least that much of its denom.  (A zero coin of an absent denom fails with `sub.no_denom`: positivity cannot be
dropped.) -/
theorem subCoin_isOk_iff {b : NativeBalance} (hu : UniqueDenoms b) {c : Coin} (hpos : 0 < c.2) :
    (subCoin b c).isOk = true ↔ c.2 ≤ total b c.1 := by
  rw [subCoin_isOk_iff_find, total_eq_find?_of_unique hu]
  cases hf : find? b c.1 with
  | none => simp; omega
  | some held => simp

/-- **Liveness of `Sub<Vec<Coin>>`.**  On a balance with unique denoms a list of positive coins can be
subtracted exactly when, for every denom, the coins of that denom together do not exceed what the balance
holds.  (`total_subCoins` is the "only if" direction plus the exact remainder.) -/
theorem subCoins_isOk_iff {b : NativeBalance} (hu : UniqueDenoms b) {cs : List Coin} (hpos : ∀ c ∈ cs, 0 < c.2) :
    (subCoins b cs).isOk = true ↔ ∀ d, coinsTotal cs d ≤ total b d := by
  induction cs generalizing b with
  | nil => simp [subCoins, Res.isOk]
  | cons c rest ih =>
    have hc : 0 < c.2 := hpos c (by simp)
    have hrest : ∀ c ∈ rest, 0 < c.2 := fun x hx => hpos x (by simp [hx])
    constructor
    · intro h
      obtain ⟨b', hb'⟩ := (Res.isOk_iff_exists _).mp h
      intro d
      have := total_subCoins hb' d
      omega
    · intro h
      have h1 : (subCoin b c).isOk = true := by
        rw [subCoin_isOk_iff hu hc]
        have := h c.1
        simp only [coinsTotal, total_cons, if_true] at this
        omega
      obtain ⟨b1, hb1⟩ := (Res.isOk_iff_exists _).mp h1
      have h2 : (subCoins b1 rest).isOk = true := by
        rw [ih (unique_subCoin hu hb1) hrest]
        intro d
        have e1 := total_subCoin hb1 d
        have e2 := h d
        simp only [coinsTotal, total_cons] at e2 ⊢
        omega
      simp only [subCoins, hb1, bind, Except.bind]
      exact h2

/-- The same as a statement about failure: the subtraction fails exactly when some denom is overdrawn. -/
theorem subCoins_error_iff {b : NativeBalance} (hu : UniqueDenoms b) {cs : List Coin} (hpos : ∀ c ∈ cs, 0 < c.2) :
    (∃ e, subCoins b cs = .error e) ↔ ∃ d, total b d < coinsTotal cs d := by
  rw [← Res.isOk_false_iff_exists]
  have := subCoins_isOk_iff hu hpos
  cases hr : (subCoins b cs).isOk
  · rw [hr] at this
    simp only [Bool.false_eq_true, false_iff, Classical.not_forall, Nat.not_le] at this
    simpa using this
  · rw [hr] at this
    simp only [true_iff] at this
    simp only [Bool.true_eq_false, false_iff, not_exists, Nat.not_lt]
    exact this

/-- `Below b' b`: every coin `find` sees in `b'` is seen in `b` with at least that amount. -/
def Below (b' b : NativeBalance) : Prop := ∀ d x, find? b' d = some x → ∃ y, find? b d = some y ∧ x ≤ y

theorem Below.refl (b : NativeBalance) : Below b b := fun _ x h => ⟨x, h, Nat.le_refl _⟩

theorem Below.trans {a b c : NativeBalance} (h1 : Below a b) (h2 : Below b c) : Below a c := by
  intro d x hx
  obtain ⟨y, hy, hxy⟩ := h1 d x hx
  obtain ⟨z, hz, hyz⟩ := h2 d y hy
  exact ⟨z, hz, Nat.le_trans hxy hyz⟩

/-- What a successful `subCoin` did, in terms of `find?` (unique denoms). -/
theorem find?_subCoin {b b1 : NativeBalance} (hu : UniqueDenoms b) {c : Coin} (h : subCoin b c = .ok b1) (d : String) :
    ∃ held, find? b c.1 = some held ∧ c.2 ≤ held ∧
      find? b1 d = if c.1 = d then (if held - c.2 = 0 then none else some (held - c.2)) else find? b d := by
  obtain ⟨held, hf, hle, rfl⟩ := subCoin_ok_iff.mp h
  refine ⟨held, hf, hle, ?_⟩
  split
  · by_cases e : c.1 = d
    · subst e; rw [if_pos rfl, find?_removeFirst_self hu]
    · rw [if_neg e, find?_removeFirst_ne b e]
  · rw [find?_setFirst, hf]; rfl

/-- Subtracting only lowers. -/
theorem subCoin_below {b b1 : NativeBalance} (hu : UniqueDenoms b) {c : Coin} (h : subCoin b c = .ok b1) : Below b1 b := by
  intro d x hx
  obtain ⟨held, hf, hle, hd⟩ := find?_subCoin hu h d
  rw [hd] at hx
  by_cases e : c.1 = d
  · subst e
    simp only [if_true] at hx
    split at hx
    · cases hx
    · cases hx; exact ⟨held, hf, by omega⟩
  · simp only [e, if_false] at hx; exact ⟨x, hx, Nat.le_refl _⟩

theorem subCoins_below {b b1 : NativeBalance} (hu : UniqueDenoms b) {cs : List Coin} (h : subCoins b cs = .ok b1) :
    Below b1 b := by
  induction cs generalizing b with
  | nil => rw [subCoins_nil_ok_iff.mp h]; exact Below.refl _
  | cons c rest ih =>
    obtain ⟨b2, h1, h2⟩ := subCoins_cons_ok_iff.mp h
    exact (ih (unique_subCoin hu h1) h2).trans (subCoin_below hu h1)

/-- One coin, monotone: a coin that can be taken from `b'` can be taken from every `b` above it, and the
remainders are again ordered. -/
theorem subCoin_mono {b' b b'1 : NativeBalance} (hu' : UniqueDenoms b') (hu : UniqueDenoms b) (hb : Below b' b)
    {c : Coin} (h : subCoin b' c = .ok b'1) : ∃ b1, subCoin b c = .ok b1 ∧ Below b'1 b1 := by
  obtain ⟨x, hx, hcx, _⟩ := find?_subCoin hu' h c.1
  obtain ⟨y, hy, hxy⟩ := hb c.1 x hx
  have hok : (subCoin b c).isOk = true := (subCoin_isOk_iff_find b c).mpr ⟨y, hy, by omega⟩
  obtain ⟨b1, hb1⟩ := (Res.isOk_iff_exists _).mp hok
  refine ⟨b1, hb1, ?_⟩
  intro d z hz
  obtain ⟨x', hx', _, hd'⟩ := find?_subCoin hu' h d
  obtain ⟨y', hy', _, hd⟩ := find?_subCoin hu hb1 d
  rw [hx] at hx'; cases hx'
  rw [hy] at hy'; cases hy'
  rw [hd'] at hz
  rw [hd]
  by_cases e : c.1 = d
  · subst e
    simp only [if_true] at hz ⊢
    split at hz
    · cases hz
    · cases hz
      have : ¬ (y - c.2 = 0) := by omega
      simp only [this, if_false]
      exact ⟨_, rfl, by omega⟩
  · simp only [e, if_false] at hz ⊢
    exact hb d z hz

/-- **Monotonicity of `Sub<Vec<Coin>>`** (unique denoms): what can be subtracted from `b'` can be subtracted
from every balance above it.  Without unique denoms this fails: from `[(a,1),(a,5)]` one can take `a1` and then
`a5`, but not `a5` at once. -/
theorem subCoins_mono {b' b : NativeBalance} (hu' : UniqueDenoms b') (hu : UniqueDenoms b) (hb : Below b' b)
    {cs : List Coin} (h : (subCoins b' cs).isOk = true) : (subCoins b cs).isOk = true := by
  induction cs generalizing b' b with
  | nil => simp [subCoins, Res.isOk]
  | cons c rest ih =>
    obtain ⟨r, hr⟩ := (Res.isOk_iff_exists _).mp h
    obtain ⟨b'1, h1, h2⟩ := subCoins_cons_ok_iff.mp hr
    obtain ⟨b1, hb1, hbel⟩ := subCoin_mono hu' hu hb h1
    simp only [subCoins, hb1, bind, Except.bind]
    exact ih (unique_subCoin hu' h1) (unique_subCoin hu hb1) hbel (by rw [h2]; rfl)

/-- Hence a segment of a list that can be subtracted can be subtracted on its own. -/
theorem subCoins_isOk_of_append {b b' : NativeBalance} (hu : UniqueDenoms b) {pre cs post : List Coin}
    (h : subCoins b (pre ++ (cs ++ post)) = .ok b') : (subCoins b cs).isOk = true := by
  obtain ⟨b1, h1, h2⟩ := subCoins_append_ok_iff.mp h
  obtain ⟨b2, h3, _⟩ := subCoins_append_ok_iff.mp h2
  exact subCoins_mono (unique_subCoins hu h1) hu (subCoins_below hu h1) (by rw [h3]; rfl)

/-- With unique denominations (which every reachable allowance has, see `wf_run`) the saturation is exact:
the named denomination becomes `old - amt` (truncated at zero). -/
theorem subSaturating_exact {b b' : NativeBalance} {c : Coin} (hu : UniqueDenoms b)
    (h : subSaturating b c = .ok b') : total b' c.1 = total b c.1 - c.2 := by
  obtain ⟨held, hf, rfl⟩ := subSaturating_ok_iff.mp h
  have ht := total_eq_find?_of_unique hu c.1
  have := total_lower hf (held - c.2) c.1
  rw [hf] at ht
  rw [if_pos rfl, if_pos rfl, show total b c.1 = held from ht] at this
  rw [show total b c.1 = held from ht]
  exact Nat.add_right_cancel (this.trans (Nat.add_comm ..))

theorem add_isOk_iff (b : NativeBalance) (c : Coin) :
    (add b c).isOk = true ↔ ∀ held, find? b c.1 = some held → held + c.2 ≤ U128_MAX := by
  unfold add
  cases hf : find? b c.1 with
  | none => simp [Res.isOk, pure, Except.pure]
  | some held =>
    by_cases hle : held + c.2 ≤ U128_MAX
    · simp [addU128, hle, Res.isOk, bind, Except.bind, pure, Except.pure]
    · simp [addU128, hle, Res.isOk, bind, Except.bind]

theorem subSaturating_isOk_iff (b : NativeBalance) (c : Coin) :
    (subSaturating b c).isOk = true ↔ ∃ held, find? b c.1 = some held := by
  simp only [Res.isOk_iff_exists, subSaturating_ok_iff]
  exact ⟨fun ⟨_, held, hf, _⟩ => ⟨held, hf⟩, fun ⟨held, hf⟩ => ⟨_, held, hf, rfl⟩⟩

/-- the duplicate-denom counterexample to monotonicity -/
example : (subCoins [("a", 1), ("a", 5)] [("a", 1)]).toOption = some [("a", 5)]
    ∧ (subCoins [("a", 5)] [("a", 5)]).isOk = true
    ∧ (subCoins [("a", 1), ("a", 5)] [("a", 5)]).isOk = false := by decide +kernel

/-- positivity cannot be dropped from `subCoins_isOk_iff`: a zero coin of an absent denom fails although no
denom is overdrawn -/
example : (subCoins [("a", 1)] [("b", 0)]).isOk = false ∧ ∀ d, coinsTotal [("b", 0)] d ≤ total [("a", 1)] d := by
  refine ⟨by decide, fun d => ?_⟩
  simp [coinsTotal, total]

example : (subCoins [("ua", 10), ("ub", 5)] [("ua", 4), ("ub", 5), ("ua", 6)]).toOption = some [] := by decide +kernel

end CwPlus.NativeBalance
