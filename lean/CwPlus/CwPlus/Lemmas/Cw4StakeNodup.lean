import CwPlus.Lemmas.Cw4Stake
/-!
# cw4-stake: the current view of `MEMBERS` never holds a key twice

`AMap.NodupKeys s.members.cur` holds after `instantiate` (empty map) and is preserved by every transaction of
the world, which only writes `MEMBERS` (`tx_sameBlock`), hence by every history (`run_nodup`).  Core only.
-/
namespace CwPlus.Cw4Stake
open CwPlus CwPlus.Snapshot

theorem instantiate_nodup {m : InstMsg} {s : State} (h : instantiate m = .ok s) : AMap.NodupKeys s.members.cur := by
  obtain ⟨adm, rfl⟩ := instantiate_ok h
  exact SnapMap.nodup_empty

theorem updateMembership_nodup {s : State} {h : Nat} {a : Addr} {ns : Nat} {r : State × List Out}
    (hr : updateMembership s h a ns = .ok r) (hs : AMap.NodupKeys s.members.cur) : AMap.NodupKeys r.1.members.cur := by
  obtain ⟨new, _, rfl, _⟩ := updateMembership_ok hr
  exact (um_sameBlock _ _ _ _).nodup hs

theorem tx_nodup {w w' : World} {blk : Block} {op : Op} {out : List Out} (hs : AMap.NodupKeys w.st.members.cur)
    (h : tx w blk op = .ok (w', out)) : AMap.NodupKeys w'.st.members.cur :=
  (tx_sameBlock h).nodup hs

theorem run_nodup {w : World} (hs : AMap.NodupKeys w.st.members.cur) (ops : List (Block × Op)) :
    AMap.NodupKeys (run w ops).st.members.cur :=
  run_inv (fun w => AMap.NodupKeys w.st.members.cur) (fun _ _ _ _ _ hq h => tx_nodup hq h) hs ops

end CwPlus.Cw4Stake
