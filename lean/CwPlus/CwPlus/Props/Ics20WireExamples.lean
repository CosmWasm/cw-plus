import CwPlus.Lemmas.StrBytes
/-!
Directed inputs for the wire format of cw20-ics20, evaluated by the kernel (generated by
`tools/gen_wire_corpus.py`; the same bytes are in `corpus/C12/wire_directed.ops`, where the real
`from_json` gets them).  `.toOption = none` = the input is refused.
-/
namespace CwPlus.Props.Ics20WireExamples
open CwPlus.Json

/-- `canonical`: what `to_json_binary` writes -/
example : decodePacketBytes (strBytes "{\"amount\":\"7\",\"denom\":\"transfer/channel-1/uatom\",\"receiver\":\"cosmwasm1gndjljtes6kcasm6c94qsudnggqzvtmxl33wpttg30z0ccwkj8nsu8dvnd\",\"sender\":\"remote0\"}") =
    .ok ⟨7, "transfer/channel-1/uatom", "cosmwasm1gndjljtes6kcasm6c94qsudnggqzvtmxl33wpttg30z0ccwkj8nsu8dvnd", "remote0", none⟩ := by rw [strBytes_ofList]; decide +kernel
/-- `memo_escapes`: an escape-needing memo: quote, backslash, newline, U+0001, a two-byte character -/
example : decodePacketBytes (strBytes "{\"amount\":\"7\",\"denom\":\"transfer/channel-1/uatom\",\"receiver\":\"cosmwasm1gndjljtes6kcasm6c94qsudnggqzvtmxl33wpttg30z0ccwkj8nsu8dvnd\",\"sender\":\"remote0\",\"memo\":\"a\\\"b\\\\c\\nd\\u0001é\"}") =
    .ok ⟨7, "transfer/channel-1/uatom", "cosmwasm1gndjljtes6kcasm6c94qsudnggqzvtmxl33wpttg30z0ccwkj8nsu8dvnd", "remote0", some "a\"b\\c\nd\x01é"⟩ := by rw [strBytes_ofList]; decide +kernel
/-- `memo_null`: explicit null = None -/
example : decodePacketBytes (strBytes "{\"amount\":\"7\",\"denom\":\"transfer/channel-1/uatom\",\"receiver\":\"cosmwasm1gndjljtes6kcasm6c94qsudnggqzvtmxl33wpttg30z0ccwkj8nsu8dvnd\",\"sender\":\"remote0\",\"memo\":null}") =
    .ok ⟨7, "transfer/channel-1/uatom", "cosmwasm1gndjljtes6kcasm6c94qsudnggqzvtmxl33wpttg30z0ccwkj8nsu8dvnd", "remote0", none⟩ := by rw [strBytes_ofList]; decide +kernel
/-- `memo_empty` -/
example : decodePacketBytes (strBytes "{\"amount\":\"7\",\"denom\":\"transfer/channel-1/uatom\",\"receiver\":\"cosmwasm1gndjljtes6kcasm6c94qsudnggqzvtmxl33wpttg30z0ccwkj8nsu8dvnd\",\"sender\":\"remote0\",\"memo\":\"\"}") =
    .ok ⟨7, "transfer/channel-1/uatom", "cosmwasm1gndjljtes6kcasm6c94qsudnggqzvtmxl33wpttg30z0ccwkj8nsu8dvnd", "remote0", some ""⟩ := by rw [strBytes_ofList]; decide +kernel
/-- `permuted`: field order is free -/
example : decodePacketBytes (strBytes "{\"memo\":\"m\",\"sender\":\"remote0\",\"receiver\":\"cosmwasm1gndjljtes6kcasm6c94qsudnggqzvtmxl33wpttg30z0ccwkj8nsu8dvnd\",\"denom\":\"transfer/channel-1/uatom\",\"amount\":\"7\"}") =
    .ok ⟨7, "transfer/channel-1/uatom", "cosmwasm1gndjljtes6kcasm6c94qsudnggqzvtmxl33wpttg30z0ccwkj8nsu8dvnd", "remote0", some "m"⟩ := by rw [strBytes_ofList]; decide +kernel
/-- `unknown_scalar`: no deny_unknown_fields: an unknown key is skipped -/
example : decodePacketBytes (strBytes "{\"amount\":\"7\",\"extra\":123,\"denom\":\"transfer/channel-1/uatom\",\"receiver\":\"cosmwasm1gndjljtes6kcasm6c94qsudnggqzvtmxl33wpttg30z0ccwkj8nsu8dvnd\",\"sender\":\"remote0\"}") =
    .ok ⟨7, "transfer/channel-1/uatom", "cosmwasm1gndjljtes6kcasm6c94qsudnggqzvtmxl33wpttg30z0ccwkj8nsu8dvnd", "remote0", none⟩ := by rw [strBytes_ofList]; decide +kernel
/-- `unknown_nested`: nested object / array, also one that repeats a known key inside -/
example : decodePacketBytes (strBytes "{\"x\":{\"a\":[1,2,{\"b\":null}],\"c\":\"d\",\"amount\":\"9\"},\"amount\":\"7\",\"denom\":\"transfer/channel-1/uatom\",\"y\":[1,\"two\",[3],{}],\"receiver\":\"cosmwasm1gndjljtes6kcasm6c94qsudnggqzvtmxl33wpttg30z0ccwkj8nsu8dvnd\",\"sender\":\"remote0\"}") =
    .ok ⟨7, "transfer/channel-1/uatom", "cosmwasm1gndjljtes6kcasm6c94qsudnggqzvtmxl33wpttg30z0ccwkj8nsu8dvnd", "remote0", none⟩ := by rw [strBytes_ofList]; decide +kernel
/-- `unknown_chomped`: a skipped scalar is not parsed, only chomped up to the next , } ] -/
example : decodePacketBytes (strBytes "{\"amount\":\"7\",\"denom\":\"transfer/channel-1/uatom\",\"x\":12abc,\"receiver\":\"cosmwasm1gndjljtes6kcasm6c94qsudnggqzvtmxl33wpttg30z0ccwkj8nsu8dvnd\",\"y\":tru,\"z\":1 2,\"sender\":\"remote0\"}") =
    .ok ⟨7, "transfer/channel-1/uatom", "cosmwasm1gndjljtes6kcasm6c94qsudnggqzvtmxl33wpttg30z0ccwkj8nsu8dvnd", "remote0", none⟩ := by rw [strBytes_ofList]; decide +kernel
/-- `unknown_twice`: an unknown key may repeat -/
example : decodePacketBytes (strBytes "{\"amount\":\"7\",\"x\":1,\"denom\":\"transfer/channel-1/uatom\",\"x\":2,\"receiver\":\"cosmwasm1gndjljtes6kcasm6c94qsudnggqzvtmxl33wpttg30z0ccwkj8nsu8dvnd\",\"sender\":\"remote0\"}") =
    .ok ⟨7, "transfer/channel-1/uatom", "cosmwasm1gndjljtes6kcasm6c94qsudnggqzvtmxl33wpttg30z0ccwkj8nsu8dvnd", "remote0", none⟩ := by rw [strBytes_ofList]; decide +kernel
/-- `duplicate_amount`: a repeated known key is an error -/
example : (decodePacketBytes (strBytes "{\"amount\":\"7\",\"amount\":\"7\",\"denom\":\"transfer/channel-1/uatom\",\"receiver\":\"cosmwasm1gndjljtes6kcasm6c94qsudnggqzvtmxl33wpttg30z0ccwkj8nsu8dvnd\",\"sender\":\"remote0\"}")).toOption = none := by rw [strBytes_ofList]; decide +kernel
/-- `duplicate_memo` -/
example : (decodePacketBytes (strBytes "{\"memo\":null,\"amount\":\"7\",\"denom\":\"transfer/channel-1/uatom\",\"receiver\":\"cosmwasm1gndjljtes6kcasm6c94qsudnggqzvtmxl33wpttg30z0ccwkj8nsu8dvnd\",\"sender\":\"remote0\",\"memo\":\"m\"}")).toOption = none := by rw [strBytes_ofList]; decide +kernel
/-- `missing_sender`: the four non-optional fields are required -/
example : (decodePacketBytes (strBytes "{\"amount\":\"7\",\"denom\":\"transfer/channel-1/uatom\",\"receiver\":\"cosmwasm1gndjljtes6kcasm6c94qsudnggqzvtmxl33wpttg30z0ccwkj8nsu8dvnd\"}")).toOption = none := by rw [strBytes_ofList]; decide +kernel
/-- `missing_amount` -/
example : (decodePacketBytes (strBytes "{\"denom\":\"transfer/channel-1/uatom\",\"receiver\":\"cosmwasm1gndjljtes6kcasm6c94qsudnggqzvtmxl33wpttg30z0ccwkj8nsu8dvnd\",\"sender\":\"remote0\"}")).toOption = none := by rw [strBytes_ofList]; decide +kernel
/-- `uppercase_key`: keys are case sensitive: `Amount` is an unknown key, `amount` is then missing -/
example : (decodePacketBytes (strBytes "{\"Amount\":\"7\",\"denom\":\"transfer/channel-1/uatom\",\"receiver\":\"cosmwasm1gndjljtes6kcasm6c94qsudnggqzvtmxl33wpttg30z0ccwkj8nsu8dvnd\",\"sender\":\"remote0\"}")).toOption = none := by rw [strBytes_ofList]; decide +kernel
/-- `amount_u64_plus_1`: 18446744073709551616 decodes (the u64 limit is checked on sending only) -/
example : decodePacketBytes (strBytes "{\"amount\":\"18446744073709551616\",\"denom\":\"transfer/channel-1/uatom\",\"receiver\":\"cosmwasm1gndjljtes6kcasm6c94qsudnggqzvtmxl33wpttg30z0ccwkj8nsu8dvnd\",\"sender\":\"remote0\"}") =
    .ok ⟨18446744073709551616, "transfer/channel-1/uatom", "cosmwasm1gndjljtes6kcasm6c94qsudnggqzvtmxl33wpttg30z0ccwkj8nsu8dvnd", "remote0", none⟩ := by rw [strBytes_ofList]; decide +kernel
/-- `amount_u128_max`: 2^128-1 decodes -/
example : decodePacketBytes (strBytes "{\"amount\":\"340282366920938463463374607431768211455\",\"denom\":\"transfer/channel-1/uatom\",\"receiver\":\"cosmwasm1gndjljtes6kcasm6c94qsudnggqzvtmxl33wpttg30z0ccwkj8nsu8dvnd\",\"sender\":\"remote0\"}") =
    .ok ⟨340282366920938463463374607431768211455, "transfer/channel-1/uatom", "cosmwasm1gndjljtes6kcasm6c94qsudnggqzvtmxl33wpttg30z0ccwkj8nsu8dvnd", "remote0", none⟩ := by rw [strBytes_ofList]; decide +kernel
/-- `amount_u128_over`: 2^128 does not -/
example : (decodePacketBytes (strBytes "{\"amount\":\"340282366920938463463374607431768211456\",\"denom\":\"transfer/channel-1/uatom\",\"receiver\":\"cosmwasm1gndjljtes6kcasm6c94qsudnggqzvtmxl33wpttg30z0ccwkj8nsu8dvnd\",\"sender\":\"remote0\"}")).toOption = none := by rw [strBytes_ofList]; decide +kernel
/-- `amount_plus`: u128::from_str accepts one leading + -/
example : decodePacketBytes (strBytes "{\"amount\":\"+7\",\"denom\":\"transfer/channel-1/uatom\",\"receiver\":\"cosmwasm1gndjljtes6kcasm6c94qsudnggqzvtmxl33wpttg30z0ccwkj8nsu8dvnd\",\"sender\":\"remote0\"}") =
    .ok ⟨7, "transfer/channel-1/uatom", "cosmwasm1gndjljtes6kcasm6c94qsudnggqzvtmxl33wpttg30z0ccwkj8nsu8dvnd", "remote0", none⟩ := by rw [strBytes_ofList]; decide +kernel
/-- `amount_zeros`: ... and leading zeros -/
example : decodePacketBytes (strBytes "{\"amount\":\"007\",\"denom\":\"transfer/channel-1/uatom\",\"receiver\":\"cosmwasm1gndjljtes6kcasm6c94qsudnggqzvtmxl33wpttg30z0ccwkj8nsu8dvnd\",\"sender\":\"remote0\"}") =
    .ok ⟨7, "transfer/channel-1/uatom", "cosmwasm1gndjljtes6kcasm6c94qsudnggqzvtmxl33wpttg30z0ccwkj8nsu8dvnd", "remote0", none⟩ := by rw [strBytes_ofList]; decide +kernel
/-- `amount_plus_zeros` -/
example : decodePacketBytes (strBytes "{\"amount\":\"+0000000000000000000000000000000000000000007\",\"denom\":\"transfer/channel-1/uatom\",\"receiver\":\"cosmwasm1gndjljtes6kcasm6c94qsudnggqzvtmxl33wpttg30z0ccwkj8nsu8dvnd\",\"sender\":\"remote0\"}") =
    .ok ⟨7, "transfer/channel-1/uatom", "cosmwasm1gndjljtes6kcasm6c94qsudnggqzvtmxl33wpttg30z0ccwkj8nsu8dvnd", "remote0", none⟩ := by rw [strBytes_ofList]; decide +kernel
/-- `amount_minus` -/
example : (decodePacketBytes (strBytes "{\"amount\":\"-7\",\"denom\":\"transfer/channel-1/uatom\",\"receiver\":\"cosmwasm1gndjljtes6kcasm6c94qsudnggqzvtmxl33wpttg30z0ccwkj8nsu8dvnd\",\"sender\":\"remote0\"}")).toOption = none := by rw [strBytes_ofList]; decide +kernel
/-- `amount_minus_zero` -/
example : (decodePacketBytes (strBytes "{\"amount\":\"-0\",\"denom\":\"transfer/channel-1/uatom\",\"receiver\":\"cosmwasm1gndjljtes6kcasm6c94qsudnggqzvtmxl33wpttg30z0ccwkj8nsu8dvnd\",\"sender\":\"remote0\"}")).toOption = none := by rw [strBytes_ofList]; decide +kernel
/-- `amount_empty` -/
example : (decodePacketBytes (strBytes "{\"amount\":\"\",\"denom\":\"transfer/channel-1/uatom\",\"receiver\":\"cosmwasm1gndjljtes6kcasm6c94qsudnggqzvtmxl33wpttg30z0ccwkj8nsu8dvnd\",\"sender\":\"remote0\"}")).toOption = none := by rw [strBytes_ofList]; decide +kernel
/-- `amount_only_plus` -/
example : (decodePacketBytes (strBytes "{\"amount\":\"+\",\"denom\":\"transfer/channel-1/uatom\",\"receiver\":\"cosmwasm1gndjljtes6kcasm6c94qsudnggqzvtmxl33wpttg30z0ccwkj8nsu8dvnd\",\"sender\":\"remote0\"}")).toOption = none := by rw [strBytes_ofList]; decide +kernel
/-- `amount_two_plus` -/
example : (decodePacketBytes (strBytes "{\"amount\":\"++7\",\"denom\":\"transfer/channel-1/uatom\",\"receiver\":\"cosmwasm1gndjljtes6kcasm6c94qsudnggqzvtmxl33wpttg30z0ccwkj8nsu8dvnd\",\"sender\":\"remote0\"}")).toOption = none := by rw [strBytes_ofList]; decide +kernel
/-- `amount_blank_before` -/
example : (decodePacketBytes (strBytes "{\"amount\":\" 7\",\"denom\":\"transfer/channel-1/uatom\",\"receiver\":\"cosmwasm1gndjljtes6kcasm6c94qsudnggqzvtmxl33wpttg30z0ccwkj8nsu8dvnd\",\"sender\":\"remote0\"}")).toOption = none := by rw [strBytes_ofList]; decide +kernel
/-- `amount_blank_after` -/
example : (decodePacketBytes (strBytes "{\"amount\":\"7 \",\"denom\":\"transfer/channel-1/uatom\",\"receiver\":\"cosmwasm1gndjljtes6kcasm6c94qsudnggqzvtmxl33wpttg30z0ccwkj8nsu8dvnd\",\"sender\":\"remote0\"}")).toOption = none := by rw [strBytes_ofList]; decide +kernel
/-- `amount_exponent` -/
example : (decodePacketBytes (strBytes "{\"amount\":\"7e0\",\"denom\":\"transfer/channel-1/uatom\",\"receiver\":\"cosmwasm1gndjljtes6kcasm6c94qsudnggqzvtmxl33wpttg30z0ccwkj8nsu8dvnd\",\"sender\":\"remote0\"}")).toOption = none := by rw [strBytes_ofList]; decide +kernel
/-- `amount_hex` -/
example : (decodePacketBytes (strBytes "{\"amount\":\"0x7\",\"denom\":\"transfer/channel-1/uatom\",\"receiver\":\"cosmwasm1gndjljtes6kcasm6c94qsudnggqzvtmxl33wpttg30z0ccwkj8nsu8dvnd\",\"sender\":\"remote0\"}")).toOption = none := by rw [strBytes_ofList]; decide +kernel
/-- `amount_arabic_digits`: only ASCII digits -/
example : (decodePacketBytes (strBytes "{\"amount\":\"٧\",\"denom\":\"transfer/channel-1/uatom\",\"receiver\":\"cosmwasm1gndjljtes6kcasm6c94qsudnggqzvtmxl33wpttg30z0ccwkj8nsu8dvnd\",\"sender\":\"remote0\"}")).toOption = none := by rw [strBytes_ofList]; decide +kernel
/-- `amount_number`: the amount must be a JSON string -/
example : (decodePacketBytes (strBytes "{\"amount\":7,\"denom\":\"transfer/channel-1/uatom\",\"receiver\":\"cosmwasm1gndjljtes6kcasm6c94qsudnggqzvtmxl33wpttg30z0ccwkj8nsu8dvnd\",\"sender\":\"remote0\"}")).toOption = none := by rw [strBytes_ofList]; decide +kernel
/-- `amount_escaped_digit`: the digit as an escape is the same string -/
example : decodePacketBytes (strBytes "{\"amount\":\"\\u0037\",\"denom\":\"transfer/channel-1/uatom\",\"receiver\":\"cosmwasm1gndjljtes6kcasm6c94qsudnggqzvtmxl33wpttg30z0ccwkj8nsu8dvnd\",\"sender\":\"remote0\"}") =
    .ok ⟨7, "transfer/channel-1/uatom", "cosmwasm1gndjljtes6kcasm6c94qsudnggqzvtmxl33wpttg30z0ccwkj8nsu8dvnd", "remote0", none⟩ := by rw [strBytes_ofList]; decide +kernel
/-- `ws_everywhere`: blank, \n, \t, \r between all tokens and around the document -/
example : decodePacketBytes (strBytes "\n { \"amount\" :\t\"7\" ,\r\n\"denom\": \"transfer/channel-1/uatom\" , \"receiver\" : \"cosmwasm1gndjljtes6kcasm6c94qsudnggqzvtmxl33wpttg30z0ccwkj8nsu8dvnd\",\t\"sender\"\n:\n\"remote0\" } \r\n") =
    .ok ⟨7, "transfer/channel-1/uatom", "cosmwasm1gndjljtes6kcasm6c94qsudnggqzvtmxl33wpttg30z0ccwkj8nsu8dvnd", "remote0", none⟩ := by rw [strBytes_ofList]; decide +kernel
/-- `ws_vertical_tab`: 0x0b is not whitespace -/
example : (decodePacketBytes (strBytes "{\"amount\":\"7\",\x0b\"denom\":\"transfer/channel-1/uatom\",\"receiver\":\"cosmwasm1gndjljtes6kcasm6c94qsudnggqzvtmxl33wpttg30z0ccwkj8nsu8dvnd\",\"sender\":\"remote0\"}")).toOption = none := by rw [strBytes_ofList]; decide +kernel
/-- `ws_formfeed`: 0x0c is not whitespace -/
example : (decodePacketBytes (strBytes "\x0c{\"amount\":\"7\",\"denom\":\"transfer/channel-1/uatom\",\"receiver\":\"cosmwasm1gndjljtes6kcasm6c94qsudnggqzvtmxl33wpttg30z0ccwkj8nsu8dvnd\",\"sender\":\"remote0\"}")).toOption = none := by rw [strBytes_ofList]; decide +kernel
/-- `ws_nbsp`: U+00A0 is not whitespace -/
example : (decodePacketBytes (strBytes "{\"amount\":\"7\",\"denom\":\"transfer/channel-1/uatom\",\"receiver\":\"cosmwasm1gndjljtes6kcasm6c94qsudnggqzvtmxl33wpttg30z0ccwkj8nsu8dvnd\",\"sender\":\"remote0\"} ")).toOption = none := by rw [strBytes_ofList]; decide +kernel
/-- `bom`: a byte order mark is not skipped -/
example : (decodePacketBytes (strBytes "﻿{\"amount\":\"7\",\"denom\":\"transfer/channel-1/uatom\",\"receiver\":\"cosmwasm1gndjljtes6kcasm6c94qsudnggqzvtmxl33wpttg30z0ccwkj8nsu8dvnd\",\"sender\":\"remote0\"}")).toOption = none := by rw [strBytes_ofList]; decide +kernel
/-- `trailing_ws`: only whitespace may follow -/
example : decodePacketBytes (strBytes "{\"amount\":\"7\",\"denom\":\"transfer/channel-1/uatom\",\"receiver\":\"cosmwasm1gndjljtes6kcasm6c94qsudnggqzvtmxl33wpttg30z0ccwkj8nsu8dvnd\",\"sender\":\"remote0\"} \n\t\r") =
    .ok ⟨7, "transfer/channel-1/uatom", "cosmwasm1gndjljtes6kcasm6c94qsudnggqzvtmxl33wpttg30z0ccwkj8nsu8dvnd", "remote0", none⟩ := by rw [strBytes_ofList]; decide +kernel
/-- `trailing_char` -/
example : (decodePacketBytes (strBytes "{\"amount\":\"7\",\"denom\":\"transfer/channel-1/uatom\",\"receiver\":\"cosmwasm1gndjljtes6kcasm6c94qsudnggqzvtmxl33wpttg30z0ccwkj8nsu8dvnd\",\"sender\":\"remote0\"}x")).toOption = none := by rw [strBytes_ofList]; decide +kernel
/-- `trailing_brace` -/
example : (decodePacketBytes (strBytes "{\"amount\":\"7\",\"denom\":\"transfer/channel-1/uatom\",\"receiver\":\"cosmwasm1gndjljtes6kcasm6c94qsudnggqzvtmxl33wpttg30z0ccwkj8nsu8dvnd\",\"sender\":\"remote0\"}}")).toOption = none := by rw [strBytes_ofList]; decide +kernel
/-- `trailing_object` -/
example : (decodePacketBytes (strBytes "{\"amount\":\"7\",\"denom\":\"transfer/channel-1/uatom\",\"receiver\":\"cosmwasm1gndjljtes6kcasm6c94qsudnggqzvtmxl33wpttg30z0ccwkj8nsu8dvnd\",\"sender\":\"remote0\"} {}")).toOption = none := by rw [strBytes_ofList]; decide +kernel
/-- `trailing_nul` -/
example : (decodePacketBytes (strBytes "{\"amount\":\"7\",\"denom\":\"transfer/channel-1/uatom\",\"receiver\":\"cosmwasm1gndjljtes6kcasm6c94qsudnggqzvtmxl33wpttg30z0ccwkj8nsu8dvnd\",\"sender\":\"remote0\"}\x00")).toOption = none := by rw [strBytes_ofList]; decide +kernel
/-- `truncated_1` -/
example : (decodePacketBytes (strBytes "{\"amount\":\"7\",\"denom\":\"transfer/channel-1/uatom\",\"receiver\":\"cosmwasm1gndjljtes6kcasm6c94qsudnggqzvtmxl33wpttg30z0ccwkj8nsu8dvnd\",\"sender\":\"remote0\"")).toOption = none := by rw [strBytes_ofList]; decide +kernel
/-- `truncated_2` -/
example : (decodePacketBytes (strBytes "{\"amount\":\"7\",\"denom\":\"transfer/channel-")).toOption = none := by rw [strBytes_ofList]; decide +kernel
/-- `truncated_3` -/
example : (decodePacketBytes (strBytes "{\"amount\":\"7\",\"denom\":\"")).toOption = none := by rw [strBytes_ofList]; decide +kernel
/-- `empty`: no data at all -/
example : (decodePacketBytes (strBytes "")).toOption = none := by rw [strBytes_ofList]; decide +kernel
/-- `only_ws` -/
example : (decodePacketBytes (strBytes "  ")).toOption = none := by rw [strBytes_ofList]; decide +kernel
/-- `receiver_all_escaped`: every character of the receiver as \uXXXX: the same string, the same payout -/
example : decodePacketBytes (strBytes "{\"amount\":\"7\",\"denom\":\"transfer/channel-1/uatom\",\"receiver\":\"\\u0063\\u006f\\u0073\\u006d\\u0077\\u0061\\u0073\\u006d\\u0031\\u0067\\u006e\\u0064\\u006a\\u006c\\u006a\\u0074\\u0065\\u0073\\u0036\\u006b\\u0063\\u0061\\u0073\\u006d\\u0036\\u0063\\u0039\\u0034\\u0071\\u0073\\u0075\\u0064\\u006e\\u0067\\u0067\\u0071\\u007a\\u0076\\u0074\\u006d\\u0078\\u006c\\u0033\\u0033\\u0077\\u0070\\u0074\\u0074\\u0067\\u0033\\u0030\\u007a\\u0030\\u0063\\u0063\\u0077\\u006b\\u006a\\u0038\\u006e\\u0073\\u0075\\u0038\\u0064\\u0076\\u006e\\u0064\",\"sender\":\"remote0\"}") =
    .ok ⟨7, "transfer/channel-1/uatom", "cosmwasm1gndjljtes6kcasm6c94qsudnggqzvtmxl33wpttg30z0ccwkj8nsu8dvnd", "remote0", none⟩ := by rw [strBytes_ofList]; decide +kernel
/-- `denom_all_escaped` -/
example : decodePacketBytes (strBytes "{\"amount\":\"7\",\"denom\":\"\\u0074\\u0072\\u0061\\u006e\\u0073\\u0066\\u0065\\u0072\\u002f\\u0063\\u0068\\u0061\\u006e\\u006e\\u0065\\u006c\\u002d\\u0031\\u002f\\u0075\\u0061\\u0074\\u006f\\u006d\",\"receiver\":\"cosmwasm1gndjljtes6kcasm6c94qsudnggqzvtmxl33wpttg30z0ccwkj8nsu8dvnd\",\"sender\":\"remote0\"}") =
    .ok ⟨7, "transfer/channel-1/uatom", "cosmwasm1gndjljtes6kcasm6c94qsudnggqzvtmxl33wpttg30z0ccwkj8nsu8dvnd", "remote0", none⟩ := by rw [strBytes_ofList]; decide +kernel
/-- `sender_short_escapes`: the eight short escapes and one \u escape -/
example : decodePacketBytes (strBytes "{\"amount\":\"7\",\"denom\":\"transfer/channel-1/uatom\",\"receiver\":\"cosmwasm1gndjljtes6kcasm6c94qsudnggqzvtmxl33wpttg30z0ccwkj8nsu8dvnd\",\"sender\":\"re\\\"mo\\\\te\\n\\u0041\\/\\b\\f\\r\\t\"}") =
    .ok ⟨7, "transfer/channel-1/uatom", "cosmwasm1gndjljtes6kcasm6c94qsudnggqzvtmxl33wpttg30z0ccwkj8nsu8dvnd", "re\"mo\\te\nA/\x08\x0c\r\t", none⟩ := by rw [strBytes_ofList]; decide +kernel
/-- `surrogate_pair`: a surrogate pair is one character -/
example : decodePacketBytes (strBytes "{\"amount\":\"7\",\"denom\":\"transfer/channel-1/uatom\",\"receiver\":\"cosmwasm1gndjljtes6kcasm6c94qsudnggqzvtmxl33wpttg30z0ccwkj8nsu8dvnd\",\"sender\":\"remote0\",\"memo\":\"\\ud83d\\ude00\"}") =
    .ok ⟨7, "transfer/channel-1/uatom", "cosmwasm1gndjljtes6kcasm6c94qsudnggqzvtmxl33wpttg30z0ccwkj8nsu8dvnd", "remote0", some "😀"⟩ := by rw [strBytes_ofList]; decide +kernel
/-- `surrogate_upper_case_hex` -/
example : decodePacketBytes (strBytes "{\"amount\":\"7\",\"denom\":\"transfer/channel-1/uatom\",\"receiver\":\"cosmwasm1gndjljtes6kcasm6c94qsudnggqzvtmxl33wpttg30z0ccwkj8nsu8dvnd\",\"sender\":\"remote0\",\"memo\":\"\\uD83D\\uDE00\\u00E9\\u20AC\"}") =
    .ok ⟨7, "transfer/channel-1/uatom", "cosmwasm1gndjljtes6kcasm6c94qsudnggqzvtmxl33wpttg30z0ccwkj8nsu8dvnd", "remote0", some "😀é€"⟩ := by rw [strBytes_ofList]; decide +kernel
/-- `surrogate_lone_high` -/
example : (decodePacketBytes (strBytes "{\"amount\":\"7\",\"denom\":\"transfer/channel-1/uatom\",\"receiver\":\"cosmwasm1gndjljtes6kcasm6c94qsudnggqzvtmxl33wpttg30z0ccwkj8nsu8dvnd\",\"sender\":\"remote0\",\"memo\":\"\\ud83d\"}")).toOption = none := by rw [strBytes_ofList]; decide +kernel
/-- `surrogate_lone_high_then_text` -/
example : (decodePacketBytes (strBytes "{\"amount\":\"7\",\"denom\":\"transfer/channel-1/uatom\",\"receiver\":\"cosmwasm1gndjljtes6kcasm6c94qsudnggqzvtmxl33wpttg30z0ccwkj8nsu8dvnd\",\"sender\":\"remote0\",\"memo\":\"\\ud83dabc\"}")).toOption = none := by rw [strBytes_ofList]; decide +kernel
/-- `surrogate_lone_low` -/
example : (decodePacketBytes (strBytes "{\"amount\":\"7\",\"denom\":\"transfer/channel-1/uatom\",\"receiver\":\"cosmwasm1gndjljtes6kcasm6c94qsudnggqzvtmxl33wpttg30z0ccwkj8nsu8dvnd\",\"sender\":\"remote0\",\"memo\":\"\\ude00\"}")).toOption = none := by rw [strBytes_ofList]; decide +kernel
/-- `surrogate_reversed` -/
example : (decodePacketBytes (strBytes "{\"amount\":\"7\",\"denom\":\"transfer/channel-1/uatom\",\"receiver\":\"cosmwasm1gndjljtes6kcasm6c94qsudnggqzvtmxl33wpttg30z0ccwkj8nsu8dvnd\",\"sender\":\"remote0\",\"memo\":\"\\ude00\\ud83d\"}")).toOption = none := by rw [strBytes_ofList]; decide +kernel
/-- `surrogate_high_high` -/
example : (decodePacketBytes (strBytes "{\"amount\":\"7\",\"denom\":\"transfer/channel-1/uatom\",\"receiver\":\"cosmwasm1gndjljtes6kcasm6c94qsudnggqzvtmxl33wpttg30z0ccwkj8nsu8dvnd\",\"sender\":\"remote0\",\"memo\":\"\\ud800\\ud800\"}")).toOption = none := by rw [strBytes_ofList]; decide +kernel
/-- `surrogate_interrupted`: quirk of `unescape`: an escape between the two halves does not reset the pending high surrogate -/
example : decodePacketBytes (strBytes "{\"amount\":\"7\",\"denom\":\"transfer/channel-1/uatom\",\"receiver\":\"cosmwasm1gndjljtes6kcasm6c94qsudnggqzvtmxl33wpttg30z0ccwkj8nsu8dvnd\",\"sender\":\"remote0\",\"memo\":\"\\ud800\\u0041\\udc00\"}") =
    .ok ⟨7, "transfer/channel-1/uatom", "cosmwasm1gndjljtes6kcasm6c94qsudnggqzvtmxl33wpttg30z0ccwkj8nsu8dvnd", "remote0", some "A𐀀"⟩ := by rw [strBytes_ofList]; decide +kernel
/-- `surrogate_interrupted_short`: ... also a short escape -/
example : decodePacketBytes (strBytes "{\"amount\":\"7\",\"denom\":\"transfer/channel-1/uatom\",\"receiver\":\"cosmwasm1gndjljtes6kcasm6c94qsudnggqzvtmxl33wpttg30z0ccwkj8nsu8dvnd\",\"sender\":\"remote0\",\"memo\":\"\\ud800\\n\\udc00\"}") =
    .ok ⟨7, "transfer/channel-1/uatom", "cosmwasm1gndjljtes6kcasm6c94qsudnggqzvtmxl33wpttg30z0ccwkj8nsu8dvnd", "remote0", some "\n𐀀"⟩ := by rw [strBytes_ofList]; decide +kernel
/-- `surrogate_then_escape_end`: ... but the string must not end there -/
example : (decodePacketBytes (strBytes "{\"amount\":\"7\",\"denom\":\"transfer/channel-1/uatom\",\"receiver\":\"cosmwasm1gndjljtes6kcasm6c94qsudnggqzvtmxl33wpttg30z0ccwkj8nsu8dvnd\",\"sender\":\"remote0\",\"memo\":\"\\ud800\\u0041\"}")).toOption = none := by rw [strBytes_ofList]; decide +kernel
/-- `escape_bad_letter` -/
example : (decodePacketBytes (strBytes "{\"amount\":\"7\",\"denom\":\"transfer/channel-1/uatom\",\"receiver\":\"cosmwasm1gndjljtes6kcasm6c94qsudnggqzvtmxl33wpttg30z0ccwkj8nsu8dvnd\",\"sender\":\"remote0\",\"memo\":\"\\x41\"}")).toOption = none := by rw [strBytes_ofList]; decide +kernel
/-- `escape_short_u` -/
example : (decodePacketBytes (strBytes "{\"amount\":\"7\",\"denom\":\"transfer/channel-1/uatom\",\"receiver\":\"cosmwasm1gndjljtes6kcasm6c94qsudnggqzvtmxl33wpttg30z0ccwkj8nsu8dvnd\",\"sender\":\"remote0\",\"memo\":\"\\u12\"}")).toOption = none := by rw [strBytes_ofList]; decide +kernel
/-- `escape_bad_hex` -/
example : (decodePacketBytes (strBytes "{\"amount\":\"7\",\"denom\":\"transfer/channel-1/uatom\",\"receiver\":\"cosmwasm1gndjljtes6kcasm6c94qsudnggqzvtmxl33wpttg30z0ccwkj8nsu8dvnd\",\"sender\":\"remote0\",\"memo\":\"\\u123g\"}")).toOption = none := by rw [strBytes_ofList]; decide +kernel
/-- `escape_backslash_at_end`: the closing quote is escaped: the string does not end -/
example : (decodePacketBytes (strBytes "{\"amount\":\"7\",\"denom\":\"transfer/channel-1/uatom\",\"receiver\":\"cosmwasm1gndjljtes6kcasm6c94qsudnggqzvtmxl33wpttg30z0ccwkj8nsu8dvnd\",\"sender\":\"remote0\",\"memo\":\"abc\\\"}")).toOption = none := by rw [strBytes_ofList]; decide +kernel
/-- `escape_nul`: \u0000 is a character -/
example : decodePacketBytes (strBytes "{\"amount\":\"7\",\"denom\":\"transfer/channel-1/uatom\",\"receiver\":\"cosmwasm1gndjljtes6kcasm6c94qsudnggqzvtmxl33wpttg30z0ccwkj8nsu8dvnd\",\"sender\":\"remote0\",\"memo\":\"a\\u0000b\"}") =
    .ok ⟨7, "transfer/channel-1/uatom", "cosmwasm1gndjljtes6kcasm6c94qsudnggqzvtmxl33wpttg30z0ccwkj8nsu8dvnd", "remote0", some "a\x00b"⟩ := by rw [strBytes_ofList]; decide +kernel
/-- `raw_control_no_backslash`: quirk of `parse_string`: without a backslash in the string, raw control bytes are accepted -/
example : decodePacketBytes (strBytes "{\"amount\":\"7\",\"denom\":\"transfer/channel-1/uatom\",\"receiver\":\"cosmwasm1gndjljtes6kcasm6c94qsudnggqzvtmxl33wpttg30z0ccwkj8nsu8dvnd\",\"sender\":\"li\nne\x01\"}") =
    .ok ⟨7, "transfer/channel-1/uatom", "cosmwasm1gndjljtes6kcasm6c94qsudnggqzvtmxl33wpttg30z0ccwkj8nsu8dvnd", "li\nne\x01", none⟩ := by rw [strBytes_ofList]; decide +kernel
/-- `raw_control_with_backslash`: ... with a backslash anywhere in the same string they are refused -/
example : (decodePacketBytes (strBytes "{\"amount\":\"7\",\"denom\":\"transfer/channel-1/uatom\",\"receiver\":\"cosmwasm1gndjljtes6kcasm6c94qsudnggqzvtmxl33wpttg30z0ccwkj8nsu8dvnd\",\"sender\":\"li\nne\\\\\"}")).toOption = none := by rw [strBytes_ofList]; decide +kernel
/-- `raw_del`: 0x7f is no control character for `unescape` -/
example : decodePacketBytes (strBytes "{\"amount\":\"7\",\"denom\":\"transfer/channel-1/uatom\",\"receiver\":\"cosmwasm1gndjljtes6kcasm6c94qsudnggqzvtmxl33wpttg30z0ccwkj8nsu8dvnd\",\"sender\":\"a\x7f\\\\\"}") =
    .ok ⟨7, "transfer/channel-1/uatom", "cosmwasm1gndjljtes6kcasm6c94qsudnggqzvtmxl33wpttg30z0ccwkj8nsu8dvnd", "a\x7f\\", none⟩ := by rw [strBytes_ofList]; decide +kernel
/-- `key_escaped`: keys are unescaped before they are compared -/
example : decodePacketBytes (strBytes "{\"amoun\\u0074\":\"7\",\"denom\":\"transfer/channel-1/uatom\",\"receiver\":\"cosmwasm1gndjljtes6kcasm6c94qsudnggqzvtmxl33wpttg30z0ccwkj8nsu8dvnd\",\"sender\":\"remote0\"}") =
    .ok ⟨7, "transfer/channel-1/uatom", "cosmwasm1gndjljtes6kcasm6c94qsudnggqzvtmxl33wpttg30z0ccwkj8nsu8dvnd", "remote0", none⟩ := by rw [strBytes_ofList]; decide +kernel
/-- `key_escaped_duplicate`: ... so this is a duplicate -/
example : (decodePacketBytes (strBytes "{\"amount\":\"7\",\"amoun\\u0074\":\"7\",\"denom\":\"transfer/channel-1/uatom\",\"receiver\":\"cosmwasm1gndjljtes6kcasm6c94qsudnggqzvtmxl33wpttg30z0ccwkj8nsu8dvnd\",\"sender\":\"remote0\"}")).toOption = none := by rw [strBytes_ofList]; decide +kernel
/-- `nonutf8_in_string`: not UTF-8 inside a string value -/
example : (decodePacketBytes (strBytes "{\"amount\":\"7\",\"denom\":\"transfer/channel-1/uatom\",\"receiver\":\"cosmwasm1gndjljtes6kcasm6c94qsudnggqzvtmxl33wpttg30z0ccwkj8nsu8dvnd\",\"sender\":\"rem" ++ [0xff] ++ strBytes "ote0\"}")).toOption = none := by rw [strBytes_ofList]; decide +kernel
/-- `nonutf8_overlong`: an overlong encoding is not UTF-8 -/
example : (decodePacketBytes (strBytes "{\"amount\":\"7\",\"denom\":\"transfer/channel-1/uatom\",\"receiver\":\"cosmwasm1gndjljtes6kcasm6c94qsudnggqzvtmxl33wpttg30z0ccwkj8nsu8dvnd\",\"sender\":\"rem" ++ [0xc0] ++ [0x80] ++ strBytes "ote0\"}")).toOption = none := by rw [strBytes_ofList]; decide +kernel
/-- `nonutf8_surrogate`: an encoded surrogate is not UTF-8 -/
example : (decodePacketBytes (strBytes "{\"amount\":\"7\",\"denom\":\"transfer/channel-1/uatom\",\"receiver\":\"cosmwasm1gndjljtes6kcasm6c94qsudnggqzvtmxl33wpttg30z0ccwkj8nsu8dvnd\",\"sender\":\"rem" ++ [0xed] ++ [0xa0] ++ [0x80] ++ strBytes "ote0\"}")).toOption = none := by rw [strBytes_ofList]; decide +kernel
/-- `nonutf8_too_large`: beyond U+10FFFF -/
example : (decodePacketBytes (strBytes "{\"amount\":\"7\",\"denom\":\"transfer/channel-1/uatom\",\"receiver\":\"cosmwasm1gndjljtes6kcasm6c94qsudnggqzvtmxl33wpttg30z0ccwkj8nsu8dvnd\",\"sender\":\"rem" ++ [0xf4] ++ [0x90] ++ [0x80] ++ [0x80] ++ strBytes "ote0\"}")).toOption = none := by rw [strBytes_ofList]; decide +kernel
/-- `nonutf8_truncated_char` -/
example : (decodePacketBytes (strBytes "{\"amount\":\"7\",\"denom\":\"transfer/channel-1/uatom\",\"receiver\":\"cosmwasm1gndjljtes6kcasm6c94qsudnggqzvtmxl33wpttg30z0ccwkj8nsu8dvnd\",\"sender\":\"rem" ++ [0xe2] ++ [0x82] ++ strBytes "\"}")).toOption = none := by rw [strBytes_ofList]; decide +kernel
/-- `nonutf8_skipped_scalar`: quirk: a skipped scalar is not looked at — bytes that are not UTF-8 pass -/
example : decodePacketBytes (strBytes "{\"amount\":\"7\",\"denom\":\"transfer/channel-1/uatom\",\"receiver\":\"cosmwasm1gndjljtes6kcasm6c94qsudnggqzvtmxl33wpttg30z0ccwkj8nsu8dvnd\",\"sender\":\"remote0\",\"x\":" ++ [0xff] ++ [0xfe] ++ strBytes "}") =
    .ok ⟨7, "transfer/channel-1/uatom", "cosmwasm1gndjljtes6kcasm6c94qsudnggqzvtmxl33wpttg30z0ccwkj8nsu8dvnd", "remote0", none⟩ := by rw [strBytes_ofList]; decide +kernel
/-- `nonutf8_skipped_string`: ... a skipped string is validated -/
example : (decodePacketBytes (strBytes "{\"amount\":\"7\",\"denom\":\"transfer/channel-1/uatom\",\"receiver\":\"cosmwasm1gndjljtes6kcasm6c94qsudnggqzvtmxl33wpttg30z0ccwkj8nsu8dvnd\",\"sender\":\"remote0\",\"x\":\"" ++ [0xff] ++ strBytes "\"}")).toOption = none := by rw [strBytes_ofList]; decide +kernel
/-- `nonutf8_unknown_key`: ... and so is an unknown key -/
example : (decodePacketBytes (strBytes "{\"amount\":\"7\",\"denom\":\"transfer/channel-1/uatom\",\"receiver\":\"cosmwasm1gndjljtes6kcasm6c94qsudnggqzvtmxl33wpttg30z0ccwkj8nsu8dvnd\",\"sender\":\"remote0\",\"" ++ [0xff] ++ strBytes "\":1}")).toOption = none := by rw [strBytes_ofList]; decide +kernel
/-- `nonutf8_leading` -/
example : (decodePacketBytes ([0x80] ++ strBytes "{\"amount\":\"7\",\"denom\":\"transfer/channel-1/uatom\",\"receiver\":\"cosmwasm1gndjljtes6kcasm6c94qsudnggqzvtmxl33wpttg30z0ccwkj8nsu8dvnd\",\"sender\":\"remote0\"}")).toOption = none := by rw [strBytes_ofList]; decide +kernel
/-- `utf8_four_bytes`: valid multi-byte characters pass verbatim -/
example : decodePacketBytes (strBytes "{\"amount\":\"7\",\"denom\":\"transfer/channel-1/uatom\",\"receiver\":\"cosmwasm1gndjljtes6kcasm6c94qsudnggqzvtmxl33wpttg30z0ccwkj8nsu8dvnd\",\"sender\":\"remote0\",\"memo\":\"😀日本é\"}") =
    .ok ⟨7, "transfer/channel-1/uatom", "cosmwasm1gndjljtes6kcasm6c94qsudnggqzvtmxl33wpttg30z0ccwkj8nsu8dvnd", "remote0", some "😀日本é"⟩ := by rw [strBytes_ofList]; decide +kernel
/-- `array_leading_comma`: quirk of `SeqAccess`: a leading comma in a skipped array is accepted -/
example : decodePacketBytes (strBytes "{\"amount\":\"7\",\"x\":[,1],\"denom\":\"transfer/channel-1/uatom\",\"receiver\":\"cosmwasm1gndjljtes6kcasm6c94qsudnggqzvtmxl33wpttg30z0ccwkj8nsu8dvnd\",\"sender\":\"remote0\"}") =
    .ok ⟨7, "transfer/channel-1/uatom", "cosmwasm1gndjljtes6kcasm6c94qsudnggqzvtmxl33wpttg30z0ccwkj8nsu8dvnd", "remote0", none⟩ := by rw [strBytes_ofList]; decide +kernel
/-- `array_leading_comma_no_sep`: ... and then one missing separator too -/
example : decodePacketBytes (strBytes "{\"amount\":\"7\",\"x\":[,\"a\" \"b\"],\"denom\":\"transfer/channel-1/uatom\",\"receiver\":\"cosmwasm1gndjljtes6kcasm6c94qsudnggqzvtmxl33wpttg30z0ccwkj8nsu8dvnd\",\"sender\":\"remote0\"}") =
    .ok ⟨7, "transfer/channel-1/uatom", "cosmwasm1gndjljtes6kcasm6c94qsudnggqzvtmxl33wpttg30z0ccwkj8nsu8dvnd", "remote0", none⟩ := by rw [strBytes_ofList]; decide +kernel
/-- `array_trailing_comma` -/
example : (decodePacketBytes (strBytes "{\"amount\":\"7\",\"x\":[1,],\"denom\":\"transfer/channel-1/uatom\",\"receiver\":\"cosmwasm1gndjljtes6kcasm6c94qsudnggqzvtmxl33wpttg30z0ccwkj8nsu8dvnd\",\"sender\":\"remote0\"}")).toOption = none := by rw [strBytes_ofList]; decide +kernel
/-- `array_double_comma` -/
example : (decodePacketBytes (strBytes "{\"amount\":\"7\",\"x\":[1,,2],\"denom\":\"transfer/channel-1/uatom\",\"receiver\":\"cosmwasm1gndjljtes6kcasm6c94qsudnggqzvtmxl33wpttg30z0ccwkj8nsu8dvnd\",\"sender\":\"remote0\"}")).toOption = none := by rw [strBytes_ofList]; decide +kernel
/-- `array_missing_sep_strings` -/
example : (decodePacketBytes (strBytes "{\"amount\":\"7\",\"x\":[\"a\" \"b\"],\"denom\":\"transfer/channel-1/uatom\",\"receiver\":\"cosmwasm1gndjljtes6kcasm6c94qsudnggqzvtmxl33wpttg30z0ccwkj8nsu8dvnd\",\"sender\":\"remote0\"}")).toOption = none := by rw [strBytes_ofList]; decide +kernel
/-- `array_unclosed` -/
example : (decodePacketBytes (strBytes "{\"amount\":\"7\",\"denom\":\"transfer/channel-1/uatom\",\"receiver\":\"cosmwasm1gndjljtes6kcasm6c94qsudnggqzvtmxl33wpttg30z0ccwkj8nsu8dvnd\",\"sender\":\"remote0\",\"x\":[1}")).toOption = none := by rw [strBytes_ofList]; decide +kernel
/-- `array_string_with_bracket` -/
example : decodePacketBytes (strBytes "{\"amount\":\"7\",\"x\":[\"a\\\"]\"],\"denom\":\"transfer/channel-1/uatom\",\"receiver\":\"cosmwasm1gndjljtes6kcasm6c94qsudnggqzvtmxl33wpttg30z0ccwkj8nsu8dvnd\",\"sender\":\"remote0\"}") =
    .ok ⟨7, "transfer/channel-1/uatom", "cosmwasm1gndjljtes6kcasm6c94qsudnggqzvtmxl33wpttg30z0ccwkj8nsu8dvnd", "remote0", none⟩ := by rw [strBytes_ofList]; decide +kernel
/-- `object_leading_comma`: an object does not take a leading comma -/
example : (decodePacketBytes (strBytes "{\"amount\":\"7\",\"x\":{,},\"denom\":\"transfer/channel-1/uatom\",\"receiver\":\"cosmwasm1gndjljtes6kcasm6c94qsudnggqzvtmxl33wpttg30z0ccwkj8nsu8dvnd\",\"sender\":\"remote0\"}")).toOption = none := by rw [strBytes_ofList]; decide +kernel
/-- `object_trailing_comma` -/
example : (decodePacketBytes (strBytes "{\"amount\":\"7\",\"x\":{\"a\":1,},\"denom\":\"transfer/channel-1/uatom\",\"receiver\":\"cosmwasm1gndjljtes6kcasm6c94qsudnggqzvtmxl33wpttg30z0ccwkj8nsu8dvnd\",\"sender\":\"remote0\"}")).toOption = none := by rw [strBytes_ofList]; decide +kernel
/-- `object_no_colon` -/
example : (decodePacketBytes (strBytes "{\"amount\":\"7\",\"x\":{\"a\" 1},\"denom\":\"transfer/channel-1/uatom\",\"receiver\":\"cosmwasm1gndjljtes6kcasm6c94qsudnggqzvtmxl33wpttg30z0ccwkj8nsu8dvnd\",\"sender\":\"remote0\"}")).toOption = none := by rw [strBytes_ofList]; decide +kernel
/-- `object_numeric_key` -/
example : (decodePacketBytes (strBytes "{\"amount\":\"7\",\"x\":{1:2},\"denom\":\"transfer/channel-1/uatom\",\"receiver\":\"cosmwasm1gndjljtes6kcasm6c94qsudnggqzvtmxl33wpttg30z0ccwkj8nsu8dvnd\",\"sender\":\"remote0\"}")).toOption = none := by rw [strBytes_ofList]; decide +kernel
/-- `object_empty` -/
example : decodePacketBytes (strBytes "{\"amount\":\"7\",\"x\":{},\"y\":[],\"denom\":\"transfer/channel-1/uatom\",\"receiver\":\"cosmwasm1gndjljtes6kcasm6c94qsudnggqzvtmxl33wpttg30z0ccwkj8nsu8dvnd\",\"sender\":\"remote0\"}") =
    .ok ⟨7, "transfer/channel-1/uatom", "cosmwasm1gndjljtes6kcasm6c94qsudnggqzvtmxl33wpttg30z0ccwkj8nsu8dvnd", "remote0", none⟩ := by rw [strBytes_ofList]; decide +kernel
/-- `value_missing` -/
example : (decodePacketBytes (strBytes "{\"amount\":\"7\",\"x\":,\"denom\":\"transfer/channel-1/uatom\",\"receiver\":\"cosmwasm1gndjljtes6kcasm6c94qsudnggqzvtmxl33wpttg30z0ccwkj8nsu8dvnd\",\"sender\":\"remote0\"}")).toOption = none := by rw [strBytes_ofList]; decide +kernel
/-- `nest_126`: 126 nested arrays inside the object: within the recursion limit of 128 -/
example : decodePacketBytes (strBytes "{\"amount\":\"7\",\"x\":[[[[[[[[[[[[[[[[[[[[[[[[[[[[[[[[[[[[[[[[[[[[[[[[[[[[[[[[[[[[[[[[[[[[[[[[[[[[[[[[[[[[[[[[[[[[[[[[[[[[[[[[[[[[[[[[[[[[[[[[[[[[[[]]]]]]]]]]]]]]]]]]]]]]]]]]]]]]]]]]]]]]]]]]]]]]]]]]]]]]]]]]]]]]]]]]]]]]]]]]]]]]]]]]]]]]]]]]]]]]]]]]]]]]]]]]]]]]]]]]]]]]]]]]]]]],\"denom\":\"transfer/channel-1/uatom\",\"receiver\":\"cosmwasm1gndjljtes6kcasm6c94qsudnggqzvtmxl33wpttg30z0ccwkj8nsu8dvnd\",\"sender\":\"remote0\"}") =
    .ok ⟨7, "transfer/channel-1/uatom", "cosmwasm1gndjljtes6kcasm6c94qsudnggqzvtmxl33wpttg30z0ccwkj8nsu8dvnd", "remote0", none⟩ := by rw [strBytes_ofList]; decide +kernel
/-- `nest_127`: 127: RecursionLimitExceeded -/
example : (decodePacketBytes (strBytes "{\"amount\":\"7\",\"x\":[[[[[[[[[[[[[[[[[[[[[[[[[[[[[[[[[[[[[[[[[[[[[[[[[[[[[[[[[[[[[[[[[[[[[[[[[[[[[[[[[[[[[[[[[[[[[[[[[[[[[[[[[[[[[[[[[[[[[[[[[[[[[[[]]]]]]]]]]]]]]]]]]]]]]]]]]]]]]]]]]]]]]]]]]]]]]]]]]]]]]]]]]]]]]]]]]]]]]]]]]]]]]]]]]]]]]]]]]]]]]]]]]]]]]]]]]]]]]]]]]]]]]]]]]]]]]],\"denom\":\"transfer/channel-1/uatom\",\"receiver\":\"cosmwasm1gndjljtes6kcasm6c94qsudnggqzvtmxl33wpttg30z0ccwkj8nsu8dvnd\",\"sender\":\"remote0\"}")).toOption = none := by rw [strBytes_ofList]; decide +kernel
/-- `nest_126_objects` -/
example : decodePacketBytes (strBytes "{\"amount\":\"7\",\"x\":{\"a\":{\"a\":{\"a\":{\"a\":{\"a\":{\"a\":{\"a\":{\"a\":{\"a\":{\"a\":{\"a\":{\"a\":{\"a\":{\"a\":{\"a\":{\"a\":{\"a\":{\"a\":{\"a\":{\"a\":{\"a\":{\"a\":{\"a\":{\"a\":{\"a\":{\"a\":{\"a\":{\"a\":{\"a\":{\"a\":{\"a\":{\"a\":{\"a\":{\"a\":{\"a\":{\"a\":{\"a\":{\"a\":{\"a\":{\"a\":{\"a\":{\"a\":{\"a\":{\"a\":{\"a\":{\"a\":{\"a\":{\"a\":{\"a\":{\"a\":{\"a\":{\"a\":{\"a\":{\"a\":{\"a\":{\"a\":{\"a\":{\"a\":{\"a\":{\"a\":{\"a\":{\"a\":{\"a\":{\"a\":{\"a\":{\"a\":{\"a\":{\"a\":{\"a\":{\"a\":{\"a\":{\"a\":{\"a\":{\"a\":{\"a\":{\"a\":{\"a\":{\"a\":{\"a\":{\"a\":{\"a\":{\"a\":{\"a\":{\"a\":{\"a\":{\"a\":{\"a\":{\"a\":{\"a\":{\"a\":{\"a\":{\"a\":{\"a\":{\"a\":{\"a\":{\"a\":{\"a\":{\"a\":{\"a\":{\"a\":{\"a\":{\"a\":{\"a\":{\"a\":{\"a\":{\"a\":{\"a\":{\"a\":{\"a\":{\"a\":{\"a\":{\"a\":{\"a\":{\"a\":{\"a\":{\"a\":{\"a\":{\"a\":{\"a\":{\"a\":{\"a\":{\"a\":{\"a\":{\"a\":{\"a\":{\"a\":1}}}}}}}}}}}}}}}}}}}}}}}}}}}}}}}}}}}}}}}}}}}}}}}}}}}}}}}}}}}}}}}}}}}}}}}}}}}}}}}}}}}}}}}}}}}}}}}}}}}}}}}}}}}}}}}}}}}}}}}}}}}}}},\"denom\":\"transfer/channel-1/uatom\",\"receiver\":\"cosmwasm1gndjljtes6kcasm6c94qsudnggqzvtmxl33wpttg30z0ccwkj8nsu8dvnd\",\"sender\":\"remote0\"}") =
    .ok ⟨7, "transfer/channel-1/uatom", "cosmwasm1gndjljtes6kcasm6c94qsudnggqzvtmxl33wpttg30z0ccwkj8nsu8dvnd", "remote0", none⟩ := by rw [strBytes_ofList]; decide +kernel
/-- `nest_127_objects` -/
example : (decodePacketBytes (strBytes "{\"amount\":\"7\",\"x\":{\"a\":{\"a\":{\"a\":{\"a\":{\"a\":{\"a\":{\"a\":{\"a\":{\"a\":{\"a\":{\"a\":{\"a\":{\"a\":{\"a\":{\"a\":{\"a\":{\"a\":{\"a\":{\"a\":{\"a\":{\"a\":{\"a\":{\"a\":{\"a\":{\"a\":{\"a\":{\"a\":{\"a\":{\"a\":{\"a\":{\"a\":{\"a\":{\"a\":{\"a\":{\"a\":{\"a\":{\"a\":{\"a\":{\"a\":{\"a\":{\"a\":{\"a\":{\"a\":{\"a\":{\"a\":{\"a\":{\"a\":{\"a\":{\"a\":{\"a\":{\"a\":{\"a\":{\"a\":{\"a\":{\"a\":{\"a\":{\"a\":{\"a\":{\"a\":{\"a\":{\"a\":{\"a\":{\"a\":{\"a\":{\"a\":{\"a\":{\"a\":{\"a\":{\"a\":{\"a\":{\"a\":{\"a\":{\"a\":{\"a\":{\"a\":{\"a\":{\"a\":{\"a\":{\"a\":{\"a\":{\"a\":{\"a\":{\"a\":{\"a\":{\"a\":{\"a\":{\"a\":{\"a\":{\"a\":{\"a\":{\"a\":{\"a\":{\"a\":{\"a\":{\"a\":{\"a\":{\"a\":{\"a\":{\"a\":{\"a\":{\"a\":{\"a\":{\"a\":{\"a\":{\"a\":{\"a\":{\"a\":{\"a\":{\"a\":{\"a\":{\"a\":{\"a\":{\"a\":{\"a\":{\"a\":{\"a\":{\"a\":{\"a\":{\"a\":{\"a\":{\"a\":{\"a\":{\"a\":{\"a\":{\"a\":{\"a\":{\"a\":1}}}}}}}}}}}}}}}}}}}}}}}}}}}}}}}}}}}}}}}}}}}}}}}}}}}}}}}}}}}}}}}}}}}}}}}}}}}}}}}}}}}}}}}}}}}}}}}}}}}}}}}}}}}}}}}}}}}}}}}}}}}}}}},\"denom\":\"transfer/channel-1/uatom\",\"receiver\":\"cosmwasm1gndjljtes6kcasm6c94qsudnggqzvtmxl33wpttg30z0ccwkj8nsu8dvnd\",\"sender\":\"remote0\"}")).toOption = none := by rw [strBytes_ofList]; decide +kernel
/-- `type_denom_number` -/
example : (decodePacketBytes (strBytes "{\"amount\":\"7\",\"denom\":5,\"receiver\":\"cosmwasm1gndjljtes6kcasm6c94qsudnggqzvtmxl33wpttg30z0ccwkj8nsu8dvnd\",\"sender\":\"remote0\"}")).toOption = none := by rw [strBytes_ofList]; decide +kernel
/-- `type_receiver_null` -/
example : (decodePacketBytes (strBytes "{\"amount\":\"7\",\"denom\":\"transfer/channel-1/uatom\",\"receiver\":null,\"sender\":\"remote0\"}")).toOption = none := by rw [strBytes_ofList]; decide +kernel
/-- `type_sender_array` -/
example : (decodePacketBytes (strBytes "{\"amount\":\"7\",\"denom\":\"transfer/channel-1/uatom\",\"receiver\":\"cosmwasm1gndjljtes6kcasm6c94qsudnggqzvtmxl33wpttg30z0ccwkj8nsu8dvnd\",\"sender\":[\"a\"]}")).toOption = none := by rw [strBytes_ofList]; decide +kernel
/-- `type_amount_object` -/
example : (decodePacketBytes (strBytes "{\"amount\":{\"a\":1},\"denom\":\"transfer/channel-1/uatom\",\"receiver\":\"cosmwasm1gndjljtes6kcasm6c94qsudnggqzvtmxl33wpttg30z0ccwkj8nsu8dvnd\",\"sender\":\"remote0\"}")).toOption = none := by rw [strBytes_ofList]; decide +kernel
/-- `type_memo_number` -/
example : (decodePacketBytes (strBytes "{\"amount\":\"7\",\"denom\":\"transfer/channel-1/uatom\",\"receiver\":\"cosmwasm1gndjljtes6kcasm6c94qsudnggqzvtmxl33wpttg30z0ccwkj8nsu8dvnd\",\"sender\":\"remote0\",\"memo\":7}")).toOption = none := by rw [strBytes_ofList]; decide +kernel
/-- `type_memo_nul`: `nul` is not `null` -/
example : (decodePacketBytes (strBytes "{\"amount\":\"7\",\"denom\":\"transfer/channel-1/uatom\",\"receiver\":\"cosmwasm1gndjljtes6kcasm6c94qsudnggqzvtmxl33wpttg30z0ccwkj8nsu8dvnd\",\"sender\":\"remote0\",\"memo\":nul}")).toOption = none := by rw [strBytes_ofList]; decide +kernel
/-- `type_memo_nullx`: `null` must be followed by a delimiter -/
example : (decodePacketBytes (strBytes "{\"amount\":\"7\",\"denom\":\"transfer/channel-1/uatom\",\"receiver\":\"cosmwasm1gndjljtes6kcasm6c94qsudnggqzvtmxl33wpttg30z0ccwkj8nsu8dvnd\",\"sender\":\"remote0\",\"memo\":nullx}")).toOption = none := by rw [strBytes_ofList]; decide +kernel
/-- `top_array` -/
example : (decodePacketBytes (strBytes "[]")).toOption = none := by rw [strBytes_ofList]; decide +kernel
/-- `top_string` -/
example : (decodePacketBytes (strBytes "\"str\"")).toOption = none := by rw [strBytes_ofList]; decide +kernel
/-- `top_null` -/
example : (decodePacketBytes (strBytes "null")).toOption = none := by rw [strBytes_ofList]; decide +kernel
/-- `top_number` -/
example : (decodePacketBytes (strBytes "123")).toOption = none := by rw [strBytes_ofList]; decide +kernel
/-- `top_empty_object` -/
example : (decodePacketBytes (strBytes "{}")).toOption = none := by rw [strBytes_ofList]; decide +kernel
/-- `punct_leading_comma` -/
example : (decodePacketBytes (strBytes "{,\"amount\":\"7\",\"denom\":\"transfer/channel-1/uatom\",\"receiver\":\"cosmwasm1gndjljtes6kcasm6c94qsudnggqzvtmxl33wpttg30z0ccwkj8nsu8dvnd\",\"sender\":\"remote0\"}")).toOption = none := by rw [strBytes_ofList]; decide +kernel
/-- `punct_double_comma` -/
example : (decodePacketBytes (strBytes "{\"amount\":\"7\",,\"denom\":\"transfer/channel-1/uatom\",\"receiver\":\"cosmwasm1gndjljtes6kcasm6c94qsudnggqzvtmxl33wpttg30z0ccwkj8nsu8dvnd\",\"sender\":\"remote0\"}")).toOption = none := by rw [strBytes_ofList]; decide +kernel
/-- `punct_trailing_comma` -/
example : (decodePacketBytes (strBytes "{\"amount\":\"7\",\"denom\":\"transfer/channel-1/uatom\",\"receiver\":\"cosmwasm1gndjljtes6kcasm6c94qsudnggqzvtmxl33wpttg30z0ccwkj8nsu8dvnd\",\"sender\":\"remote0\",}")).toOption = none := by rw [strBytes_ofList]; decide +kernel
/-- `punct_no_comma` -/
example : (decodePacketBytes (strBytes "{\"amount\":\"7\" \"denom\":\"transfer/channel-1/uatom\",\"receiver\":\"cosmwasm1gndjljtes6kcasm6c94qsudnggqzvtmxl33wpttg30z0ccwkj8nsu8dvnd\",\"sender\":\"remote0\"}")).toOption = none := by rw [strBytes_ofList]; decide +kernel
/-- `punct_no_colon` -/
example : (decodePacketBytes (strBytes "{\"amount\" \"7\",\"denom\":\"transfer/channel-1/uatom\",\"receiver\":\"cosmwasm1gndjljtes6kcasm6c94qsudnggqzvtmxl33wpttg30z0ccwkj8nsu8dvnd\",\"sender\":\"remote0\"}")).toOption = none := by rw [strBytes_ofList]; decide +kernel
/-- `punct_equals` -/
example : (decodePacketBytes (strBytes "{\"amount\"=\"7\",\"denom\":\"transfer/channel-1/uatom\",\"receiver\":\"cosmwasm1gndjljtes6kcasm6c94qsudnggqzvtmxl33wpttg30z0ccwkj8nsu8dvnd\",\"sender\":\"remote0\"}")).toOption = none := by rw [strBytes_ofList]; decide +kernel
/-- `punct_single_quotes` -/
example : (decodePacketBytes (strBytes "{'amount':'7','denom':'transfer/channel-1/uatom','receiver':'cosmwasm1gndjljtes6kcasm6c94qsudnggqzvtmxl33wpttg30z0ccwkj8nsu8dvnd','sender':'remote0'}")).toOption = none := by rw [strBytes_ofList]; decide +kernel
/-- `punct_two_colons` -/
example : (decodePacketBytes (strBytes "{\"amount\"::\"7\",\"denom\":\"transfer/channel-1/uatom\",\"receiver\":\"cosmwasm1gndjljtes6kcasm6c94qsudnggqzvtmxl33wpttg30z0ccwkj8nsu8dvnd\",\"sender\":\"remote0\"}")).toOption = none := by rw [strBytes_ofList]; decide +kernel
/-- `junk_after_value` -/
example : (decodePacketBytes (strBytes "{\"amount\":\"7\" junk,\"denom\":\"transfer/channel-1/uatom\",\"receiver\":\"cosmwasm1gndjljtes6kcasm6c94qsudnggqzvtmxl33wpttg30z0ccwkj8nsu8dvnd\",\"sender\":\"remote0\"}")).toOption = none := by rw [strBytes_ofList]; decide +kernel
/-- `ack_success_b1`: what `ack_success()` writes: base64 of b"1" -/
example : decodeAckBytes (strBytes "{\"result\":\"MQ==\"}") = .ok .success := by rw [strBytes_ofList]; decide +kernel
/-- `ack_success_go`: what ibc-go writes: base64 of the byte 0x01 -/
example : decodeAckBytes (strBytes "{\"result\":\"AQ==\"}") = .ok .success := by rw [strBytes_ofList]; decide +kernel
/-- `ack_success_ws_nopad`: whitespace; padding is optional -/
example : decodeAckBytes (strBytes " { \"result\" : \"AQ\" } ") = .ok .success := by rw [strBytes_ofList]; decide +kernel
/-- `ack_success_one_pad` -/
example : decodeAckBytes (strBytes "{\"result\":\"AQ=\"}") = .ok .success := by rw [strBytes_ofList]; decide +kernel
/-- `ack_success_empty` -/
example : decodeAckBytes (strBytes "{\"result\":\"\"}") = .ok .success := by rw [strBytes_ofList]; decide +kernel
/-- `ack_success_abc` -/
example : decodeAckBytes (strBytes "{\"result\":\"QUJD\"}") = .ok .success := by rw [strBytes_ofList]; decide +kernel
/-- `ack_success_abcd` -/
example : decodeAckBytes (strBytes "{\"result\":\"QUJDRA\"}") = .ok .success := by rw [strBytes_ofList]; decide +kernel
/-- `ack_b64_trailing_bits`: unused bits of the last symbol must be zero -/
example : (decodeAckBytes (strBytes "{\"result\":\"AR==\"}")).toOption = none := by rw [strBytes_ofList]; decide +kernel
/-- `ack_b64_trailing_bits_2` -/
example : (decodeAckBytes (strBytes "{\"result\":\"QUJDRB==\"}")).toOption = none := by rw [strBytes_ofList]; decide +kernel
/-- `ack_b64_one_symbol` -/
example : (decodeAckBytes (strBytes "{\"result\":\"A\"}")).toOption = none := by rw [strBytes_ofList]; decide +kernel
/-- `ack_b64_five_symbols` -/
example : (decodeAckBytes (strBytes "{\"result\":\"QUJDR\"}")).toOption = none := by rw [strBytes_ofList]; decide +kernel
/-- `ack_b64_pad_inside` -/
example : (decodeAckBytes (strBytes "{\"result\":\"A=Q=\"}")).toOption = none := by rw [strBytes_ofList]; decide +kernel
/-- `ack_b64_three_pads` -/
example : (decodeAckBytes (strBytes "{\"result\":\"AQ===\"}")).toOption = none := by rw [strBytes_ofList]; decide +kernel
/-- `ack_b64_pad_after_quad` -/
example : (decodeAckBytes (strBytes "{\"result\":\"QUJD=\"}")).toOption = none := by rw [strBytes_ofList]; decide +kernel
/-- `ack_b64_bad_symbol` -/
example : (decodeAckBytes (strBytes "{\"result\":\"!!!!\"}")).toOption = none := by rw [strBytes_ofList]; decide +kernel
/-- `ack_b64_url_alphabet`: the URL-safe alphabet is not accepted -/
example : (decodeAckBytes (strBytes "{\"result\":\"-_-_\"}")).toOption = none := by rw [strBytes_ofList]; decide +kernel
/-- `ack_b64_blank` -/
example : (decodeAckBytes (strBytes "{\"result\":\"AQ ==\"}")).toOption = none := by rw [strBytes_ofList]; decide +kernel
/-- `ack_result_null` -/
example : (decodeAckBytes (strBytes "{\"result\":null}")).toOption = none := by rw [strBytes_ofList]; decide +kernel
/-- `ack_error` -/
example : decodeAckBytes (strBytes "{\"error\":\"boom\"}") = .ok (.error "boom") := by rw [strBytes_ofList]; decide +kernel
/-- `ack_error_empty` -/
example : decodeAckBytes (strBytes "{\"error\":\"\"}") = .ok (.error "") := by rw [strBytes_ofList]; decide +kernel
/-- `ack_error_escapes` -/
example : decodeAckBytes (strBytes "{\"error\":\"a\\\"b\\\\c\\nd\\u0001é\"}") = .ok (.error "a\"b\\c\nd\x01é") := by rw [strBytes_ofList]; decide +kernel
/-- `ack_error_escaped_key` -/
example : decodeAckBytes (strBytes "\n{\"\\u0065rror\"\t:\r\"\\u0078\"}\n") = .ok (.error "x") := by rw [strBytes_ofList]; decide +kernel
/-- `ack_two_entries`: exactly one entry -/
example : (decodeAckBytes (strBytes "{\"error\":\"x\",\"result\":\"AQ==\"}")).toOption = none := by rw [strBytes_ofList]; decide +kernel
/-- `ack_trailing_comma` -/
example : (decodeAckBytes (strBytes "{\"error\":\"x\",}")).toOption = none := by rw [strBytes_ofList]; decide +kernel
/-- `ack_trailing_char` -/
example : (decodeAckBytes (strBytes "{\"error\":\"x\"} x")).toOption = none := by rw [strBytes_ofList]; decide +kernel
/-- `ack_trailing_brace` -/
example : (decodeAckBytes (strBytes "{\"error\":\"x\"}}")).toOption = none := by rw [strBytes_ofList]; decide +kernel
/-- `ack_unknown_variant` -/
example : (decodeAckBytes (strBytes "{\"other\":\"x\"}")).toOption = none := by rw [strBytes_ofList]; decide +kernel
/-- `ack_capital` -/
example : (decodeAckBytes (strBytes "{\"Error\":\"x\"}")).toOption = none := by rw [strBytes_ofList]; decide +kernel
/-- `ack_unit_variant` -/
example : (decodeAckBytes (strBytes "\"result\"")).toOption = none := by rw [strBytes_ofList]; decide +kernel
/-- `ack_error_number` -/
example : (decodeAckBytes (strBytes "{\"error\":5}")).toOption = none := by rw [strBytes_ofList]; decide +kernel
/-- `ack_empty` -/
example : (decodeAckBytes (strBytes "")).toOption = none := by rw [strBytes_ofList]; decide +kernel
/-- `ack_empty_object` -/
example : (decodeAckBytes (strBytes "{}")).toOption = none := by rw [strBytes_ofList]; decide +kernel
/-- `ack_array` -/
example : (decodeAckBytes (strBytes "[\"error\",\"x\"]")).toOption = none := by rw [strBytes_ofList]; decide +kernel
/-- `ack_nonutf8` -/
example : (decodeAckBytes (strBytes "{\"error\":\"" ++ [0xff] ++ strBytes "\"}")).toOption = none := by rw [strBytes_ofList]; decide +kernel

end CwPlus.Props.Ics20WireExamples
