import CwPlus.Model.Cw4Group
import CwPlus.Lemmas.Snapshot
import CwPlus.Lemmas.Cw4Group
import CwPlus.Lemmas.Paginate
import CwPlus.Lemmas.Cw4GroupNodup
/-!
# C09 — cw4: totals and point-in-time weights always match the true history (cw4-group part)

1. The generic snapshot theorem (`snapshot_atHeight`, `snapshot_atHeight_bounded`, `snapshot_later_invisible`):
   for any sequence of writes with non-decreasing heights, `atHeight k h` is the value of `k` after exactly
   the writes with height `< h`.  Proved in `Lemmas/Snapshot.lean` once for any state changed by steps made in
   blocks (`Blocks.read_foldl_filter`, by induction over the steps); write lists are one instance.
2. Instantiation for cw4-group: every `instantiate`/`execute` performs, on `MEMBERS` and on `TOTAL`, a list
   of writes at the height of its block (`execute_sameBlock`), so over every history of calls at
   non-decreasing block heights a member's weight and the total weight queried at height `h` equal the
   current values in the state reached by exactly the calls of the blocks before `h`
   (`member_at_height`, `total_at_height`; nothing / 0 at or before the instantiation height).
3. `total_eq_sum_members`: on every reachable state the stored total is the sum of the current member
   weights; the `u64` subtractions on the total never underflow (`update_members_no_underflow`).

**Raw keys.**  That the raw storage keys published by the cw4 spec (`TOTAL_KEY`, `member_key(addr)`) hold
the same values as the smart queries is proved in `Props/C09Raw.lean`, on the byte-level image of a model
state (`Base/RawStore.lean`, `Model/Cw4Raw.lean`); in *this* file raw and smart reads are the same map.  The
image is tied to the real storage by the observation field `rawkeys`; in addition the harness reads both keys
straight from the contract's storage after every op and the monitors `C09/raw-*` compare them with the smart
queries (`Driver/Cw4Group.lean`).
-/
namespace CwPlus.Props.C09
open CwPlus CwPlus.Cw4Group CwPlus.Snapshot

/-! ## 1. The generic snapshot theorem -/

section generic
variable {κ ν : Type} [DecidableEq κ]

/-- **Generic snapshot theorem.**  Start from any map of current values with an empty changelog and apply
any list of writes (`save`/`remove`) whose heights are non-decreasing.  Then for every key `k` and every
height `h`, `may_load_at_height(k, h)` is the value `k` has after exactly those writes whose height is
`< h`: the initial value before the first write, the value before the block's first write at a write
height, the current value in the future. -/
theorem snapshot_atHeight (m0 : AMap κ ν) (ws : List (SnapMap.MWrite κ ν)) (hord : SnapMap.Ordered ws)
    (k : κ) (h : Nat) :
    ((SnapMap.ofMap m0).writes ws).atHeight k h
      = ((SnapMap.ofMap m0).writes (ws.filter (fun w => w.2.1 < h))).get? k := by
  by_cases hh : 0 < h
  · exact SnapMap.atHeight_writes ws (SnapMap.logLe_ofMap m0 0) (fun _ _ => Nat.zero_le _) hord k h hh
  · have h0 : h = 0 := by omega
    subst h0
    rw [SnapMap.atHeight_writes_le ws (SnapMap.logLe_ofMap m0 0) (fun _ _ => Nat.zero_le _) hord k 0 (Nat.le_refl _)]
    have : ws.filter (fun w => w.2.1 < 0) = [] := by simp
    rw [this]
    simp [SnapMap.atHeight, SnapMap.cell, SnapMap.ofMap, SnapMap.logOf, Cell.atHeight, firstGE, SnapMap.get?]

/-- The same for a snapshot map that already has a history, all of it at heights `≤ b ≤` every new write:
every query above `b` sees exactly the writes below its height. -/
theorem snapshot_atHeight_bounded (m : SnapMap κ ν) (b : Nat) (hm : m.LogLe b) (ws : List (SnapMap.MWrite κ ν))
    (hge : ∀ w ∈ ws, b ≤ w.2.1) (hord : SnapMap.Ordered ws) (k : κ) (h : Nat) (hb : b < h) :
    (m.writes ws).atHeight k h = (m.writes (ws.filter (fun w => w.2.1 < h))).get? k :=
  SnapMap.atHeight_writes ws hm hge hord k h hb

/-- "Unaffected by any change made in block `h` or later", for every `h`. -/
theorem snapshot_later_invisible (m : SnapMap κ ν) (b : Nat) (hm : m.LogLe b) (ws : List (SnapMap.MWrite κ ν))
    (hge : ∀ w ∈ ws, b ≤ w.2.1) (hord : SnapMap.Ordered ws) (k : κ) (h : Nat) :
    (m.writes ws).atHeight k h = (m.writes (ws.filter (fun w => w.2.1 < h))).atHeight k h :=
  SnapMap.atHeight_writes_filter ws hm hge hord k h

/-- The same for a `SnapshotItem`. -/
theorem snapshot_item_atHeight (c : Cell ν) (b : Nat) (hc : c.LogLe b) (ws : List (Nat × Option ν))
    (hge : ∀ w ∈ ws, b ≤ w.1) (hord : Cell.Ordered ws) (h : Nat) (hb : b < h) :
    (c.writes ws).atHeight h = (c.writes (ws.filter (fun w => w.1 < h))).cur :=
  Cell.atHeight_writes ws hc hge hord h hb

end generic

/-! ## 2. cw4-group: every call is a list of writes at its block height -/

/-- Every successful call performs a list of writes at its block height on `MEMBERS` and on `TOTAL`. -/
theorem execute_sameBlock {s s' : State} {h : Nat} {snd : Addr} {msg : Msg} {out : List Out}
    (he : execute s h snd msg = .ok (s', out)) :
    SnapMap.SameBlock s.members s'.members h ∧ Cell.SameBlock s.total s'.total h :=
  Cw4Group.execute_sameBlock he

theorem instantiate_sameBlock {msg : InstMsg} {h0 : Nat} {s0 : State} (hi : instantiate msg h0 = .ok s0) :
    SnapMap.SameBlock SnapMap.empty s0.members h0 ∧ Cell.SameBlock Cell.empty s0.total h0 :=
  Cw4Group.instantiate_sameBlock hi

/-! ### Histories (`Op`, `stepOp`, `run`, `Ordered` are defined in `Lemmas/Cw4Group.lean`) -/

theorem stepOp_sameBlock (s : State) (op : Op) :
    SnapMap.SameBlock s.members (stepOp s op).members op.height ∧ Cell.SameBlock s.total (stepOp s op).total op.height :=
  stepOp_induct op (P := fun s' => SnapMap.SameBlock s.members s'.members op.height ∧ Cell.SameBlock s.total s'.total op.height)
    ⟨.refl _ _, .refl _ _⟩ execute_sameBlock

/-- Histories of calls as steps in blocks: `MEMBERS` (every address) and `TOTAL` read at a height. -/
def blocks : Blocks State Op ((Addr → Option Nat) × Option Nat) where
  step := stepOp
  ht := Op.height
  Le s b := s.members.LogLe b ∧ s.total.LogLe b
  read s h := (fun a => s.members.atHeight a h, s.total.atHeight h)
  mono hs hb := ⟨hs.1.mono hb, hs.2.mono hb⟩
  keep hs hb := ⟨(stepOp_sameBlock _ _).1.logLe hs.1 hb, (stepOp_sameBlock _ _).2.logLe hs.2 hb⟩
  hide hs hh := Prod.ext (funext fun a => (stepOp_sameBlock _ _).1.atHeight_le hs.1 a hh)
    ((stepOp_sameBlock _ _).2.atHeight_le hs.2 hh)

/-- **Point-in-time weights, general form**: from any state whose changelogs are bounded by `b`, after any
history of calls at non-decreasing heights `≥ b`, a query at a height `h > b` returns the *current* weight /
total of the state reached by exactly the calls of the blocks before `h` — the value that held at the
start of block `h`. -/
theorem run_atHeight {s : State} {b : Nat} (ops : List Op) (hm : s.members.LogLe b) (ht : s.total.LogLe b)
    (hge : ∀ op ∈ ops, b ≤ op.height) (hord : Ordered ops) (h : Nat) (hb : b < h) :
    (∀ a, (run s ops).members.atHeight a h = weight (run s (ops.filter (fun o => o.height < h))) a)
    ∧ (run s ops).total.atHeight h = (run s (ops.filter (fun o => o.height < h))).total.cur := by
  -- calls in block `h` or later are invisible at `h`; the calls before `h` have logged nothing at or above `h`
  have hf := Prod.mk.inj (blocks.read_foldl_filter ⟨hm, ht⟩ ops hge hord h)
  have hl : (run s (ops.filter (fun o => o.height < h))).members.LogLe (h - 1) ∧ _ :=
    blocks.foldl_le ⟨hm.mono (by omega), ht.mono (by omega)⟩ _
      fun op hop => Nat.le_sub_one_of_lt (of_decide_eq_true (List.mem_filter.mp hop).2)
  exact ⟨fun a => (congrFun hf.1 a).trans (SnapMap.atHeight_of_logLe hl.1 (by omega) a),
    hf.2.trans (Cell.atHeight_of_logLe hl.2 (by omega))⟩

theorem run_atHeight_le {s : State} {b : Nat} (ops : List Op) (hm : s.members.LogLe b) (ht : s.total.LogLe b)
    (hge : ∀ op ∈ ops, b ≤ op.height) (hord : Ordered ops) (h : Nat) (hb : h ≤ b) :
    (∀ a, (run s ops).members.atHeight a h = s.members.atHeight a h)
    ∧ (run s ops).total.atHeight h = s.total.atHeight h := by
  have hf := Prod.mk.inj
    (blocks.read_foldl_of_le ⟨hm, ht⟩ ops hge hord fun op hop => Nat.le_trans hb (hge op hop))
  exact ⟨congrFun hf.1, hf.2⟩

theorem instantiate_snapshots {msg : InstMsg} {h0 : Nat} {s0 : State} (hi : instantiate msg h0 = .ok s0) :
    s0.members.LogLe h0 ∧ s0.total.LogLe h0
      ∧ (∀ a h, h ≤ h0 → s0.members.atHeight a h = none) ∧ (∀ h, h ≤ h0 → s0.total.atHeight h = none) := by
  have hs := Cw4Group.instantiate_sameBlock hi
  refine ⟨hs.1.logLe (SnapMap.logLe_empty h0) (Nat.le_refl _), hs.2.logLe (Cell.logLe_empty h0) (Nat.le_refl _), ?_, ?_⟩
  · intro a h hh
    rw [hs.1.atHeight_le (SnapMap.logLe_empty h0) a hh]
    rfl
  · intro h hh
    rw [hs.2.atHeight_le (Cell.logLe_empty h0) hh]
    rfl

/-- **C09, point-in-time member weight** (`Member { addr, at_height: h }`).  For every accepted
instantiation at height `h0`, every history of calls at non-decreasing block heights `≥ h0`, every address
and every height `h` — from before instantiation into the future — the weight reported at height `h` is
the weight the address had at the start of block `h`: nothing for `h ≤ h0`, otherwise the current weight
in the state reached by exactly the calls of the blocks before `h`.  Calls made in block `h` or later
(first or repeated changes of the same address, removals, re-adds) do not affect it. -/
theorem member_at_height {msg : InstMsg} {h0 : Nat} {s0 : State} (hi : instantiate msg h0 = .ok s0)
    (ops : List Op) (hge : ∀ op ∈ ops, h0 ≤ op.height) (hord : Ordered ops) (a : Addr) (h : Nat) :
    (run s0 ops).members.atHeight a h
      = if h ≤ h0 then none else weight (run s0 (ops.filter (fun o => o.height < h))) a := by
  obtain ⟨hm, ht, hn, _⟩ := instantiate_snapshots hi
  split
  · rename_i hh
    rw [(run_atHeight_le ops hm ht hge hord h hh).1 a]
    exact hn a h hh
  · rename_i hh
    exact (run_atHeight ops hm ht hge hord h (by omega)).1 a

/-- **C09, point-in-time total** (`TotalWeight { at_height: h }`): 0 for `h ≤ h0`, otherwise the total
weight reported (without height) by the state reached by exactly the calls of the blocks before `h`. -/
theorem total_at_height {msg : InstMsg} {h0 : Nat} {s0 : State} (hi : instantiate msg h0 = .ok s0)
    (ops : List Op) (hge : ∀ op ∈ ops, h0 ≤ op.height) (hord : Ordered ops) (h : Nat) :
    queryTotalWeight (run s0 ops) (some h)
      = if h ≤ h0 then 0 else queryTotalWeight (run s0 (ops.filter (fun o => o.height < h))) none := by
  obtain ⟨hm, ht, _, hn⟩ := instantiate_snapshots hi
  simp only [queryTotalWeight]
  split
  · rename_i hh
    rw [(run_atHeight_le ops hm ht hge hord h hh).2, hn h hh]
    rfl
  · rename_i hh
    rw [(run_atHeight ops hm ht hge hord h (by omega)).2]

/-- The smart query `Member { addr, at_height }` is the snapshot read of the validated address. -/
theorem queryMember_eq (s : State) (a : AddrArg) (hv : a.valid = true) (at_ : Option Nat) :
    queryMember s a at_ = .ok (match at_ with | some h => s.members.atHeight a.text h | none => weight s a.text) := by
  simp [queryMember, hv, weight, check, bind, Except.bind, pure, Except.pure]
  rfl

/-! ## 3. The total is the sum of the member weights -/

/-- The invariant: the stored total is the sum of the current member weights and fits `u64`; the member
map has one entry per address. -/
def Inv (s : State) : Prop :=
  s.total.cur = some (AMap.sum s.members.cur) ∧ AMap.NodupKeys s.members.cur ∧ AMap.sum s.members.cur ≤ U64_MAX

theorem sumInv_write {m : SnapMap Addr Nat} {t : Nat} (hi : SnapMap.SumInv m t) (a : Addr) (h : Nat) (new : Option Nat)
    (hov : t - (m.get? a).getD 0 + new.getD 0 ≤ U64_MAX) :
    SnapMap.SumInv (m.write a h new) (t - (m.get? a).getD 0 + new.getD 0) :=
  hi.write a h new (by have := hi.old_le a; omega) hov

theorem createMembers_inv {h : Nat} (l : List (AddrArg × Nat)) {m m' : SnapMap Addr Nat} {t t' : Nat}
    (hnd : (l.map (·.1.text)).Nodup) (hfresh : ∀ a ∈ l, m.get? a.1.text = none)
    (hc : createMembers h l m t = .ok (m', t')) (hi : SnapMap.SumInv m t) : SnapMap.SumInv m' t' := by
  induction l generalizing m t with
  | nil => obtain ⟨rfl, rfl⟩ := createMembers_nil_ok hc; exact hi
  | cons p rest ih =>
    obtain ⟨hov, _, hc⟩ := createMembers_cons_ok hc
    rw [List.map_cons, List.nodup_cons] at hnd
    -- the address is new, so `total + w` is `total - old + w`
    have hw := sumInv_write hi p.1.text h (some p.2)
    rw [hfresh p (List.mem_cons_self ..)] at hw
    refine ih hnd.2 (fun x hx => ?_) hc (hw hov)
    rw [SnapMap.get?_write, if_neg (fun e => hnd.1 (List.mem_map.mpr ⟨x, hx, e.symm⟩))]
    exact hfresh x (List.mem_cons_of_mem _ hx)

theorem applyAdds_inv {h : Nat} (l : List (AddrArg × Nat)) {m m' : SnapMap Addr Nat} {t t' : Nat} {ds : List Diff}
    (hc : applyAdds h l m t = .ok (m', t', ds)) (hi : SnapMap.SumInv m t) : SnapMap.SumInv m' t' := by
  induction l generalizing m t ds with
  | nil => obtain ⟨rfl, rfl, _⟩ := applyAdds_nil_ok hc; exact hi
  | cons p rest ih =>
    obtain ⟨_, _, hov, _, hr, _⟩ := applyAdds_cons_ok hc
    exact ih hr (sumInv_write hi _ h (some p.2) hov)

theorem applyRemoves_inv {h : Nat} (l : List AddrArg) {m m' : SnapMap Addr Nat} {t t' : Nat} {ds : List Diff}
    (hc : applyRemoves h l m t = .ok (m', t', ds)) (hi : SnapMap.SumInv m t) : SnapMap.SumInv m' t' := by
  induction l generalizing m t ds with
  | nil => obtain ⟨rfl, rfl, _⟩ := applyRemoves_nil_ok hc; exact hi
  | cons a rest ih =>
    rcases (applyRemoves_cons_ok hc).2 with ⟨_, hr⟩ | ⟨w, _, hw, _, hr, _⟩
    · exact ih hr hi
    · have := sumInv_write hi a.text h none (Nat.le_trans (Nat.sub_le ..) hi.2.2)
      rw [hw] at this
      exact ih hr this

theorem nodup_sortMembers {l : List (AddrArg × Nat)} (h : uniqueMembers l = true) :
    ((sortMembers l).map (·.1.text)).Nodup := by
  have hp := (sortMembers_perm l).map (·.1.text)
  exact hp.nodup_iff.mpr (by simpa [uniqueMembers] using h)

/-- Every accepted instantiation establishes the invariant. -/
theorem instantiate_inv {msg : InstMsg} {h0 : Nat} {s0 : State} (hi : instantiate msg h0 = .ok s0) : Inv s0 := by
  obtain ⟨hu, _, m, t, hc, rfl⟩ := instantiate_ok hi
  obtain ⟨rfl, hn, hm⟩ := createMembers_inv _ (nodup_sortMembers hu) (fun _ _ => rfl) hc
    ⟨rfl, SnapMap.nodup_empty, Nat.zero_le _⟩
  exact ⟨rfl, hn, hm⟩

/-- Every successful call preserves the invariant. -/
theorem execute_inv {s s' : State} {h : Nat} {snd : Addr} {msg : Msg} {out : List Out}
    (hi : Inv s) (he : execute s h snd msg = .ok (s', out)) : Inv s' := by
  rcases (execute_ok he).2 with ⟨_, _, _, _, hu, _⟩ | ⟨_, _, hm, ht⟩
  · obtain ⟨_, _, t0, _, _, _, _, _, _, ht0, h1, h2, rfl, _⟩ := updateMembers_ok hu
    obtain ⟨ht, hn, hm⟩ := hi
    cases ht.symm.trans ht0
    obtain ⟨rfl, hn2, hm2⟩ := applyRemoves_inv _ h2 (applyAdds_inv _ h1 ⟨rfl, hn, hm⟩)
    exact ⟨rfl, hn2, hm2⟩
  · unfold Inv; rw [hm, ht]; exact hi

theorem stepOp_inv {s : State} (op : Op) (hi : Inv s) : Inv (stepOp s op) :=
  stepOp_induct op hi (execute_inv hi)

theorem run_inv {s : State} (ops : List Op) (hi : Inv s) : Inv (run s ops) :=
  run_induct execute_inv hi ops

/-- **C09, total = Σ weights.**  For every accepted instantiation and every history of calls (any senders,
any heights; adds, re-weights, removals, re-adds, overlapping lists, failed calls rolled back) the total
weight reported by `TotalWeight {}` is the sum of the current weights of all members, and it fits `u64`. -/
theorem total_eq_sum_members {msg : InstMsg} {h0 : Nat} {s0 : State} (hi : instantiate msg h0 = .ok s0)
    (ops : List Op) :
    queryTotalWeight (run s0 ops) none = AMap.sum (run s0 ops).members.cur
      ∧ AMap.sum (run s0 ops).members.cur ≤ U64_MAX := by
  obtain ⟨ht, _, hm⟩ := run_inv ops (instantiate_inv hi)
  exact ⟨by simp [queryTotalWeight, ht], hm⟩

open Paginate in
/-- The members as listed by `ListMembers` (ascending, all pages together) carry the same sum. -/
theorem listed_sum (s : State) : AMap.sum (sortedEntries strLt s.members.cur) = AMap.sum s.members.cur := by
  unfold AMap.sum sortedEntries
  exact ((List.mergeSort_perm _ _).map (fun p : Addr × Nat => p.2)).sum_nat

theorem applyAdds_no_underflow {h : Nat} (l : List (AddrArg × Nat)) {m : SnapMap Addr Nat} {t : Nat}
    (hi : SnapMap.SumInv m t) {e : String} (he : applyAdds h l m t = .error e) : e = "addr" ∨ e = "overflow.u64" := by
  induction l generalizing m t with
  | nil => cases he
  | cons p rest ih =>
    obtain ⟨a, w⟩ := p
    -- the places where one iteration can fail: the address, `total - old`, `+ new`, the rest of the loop
    simp only [applyAdds, Res.bind_error, check_error, subU64_error, addU64_error, check_ok, subU64_ok, addU64_ok] at he
    rcases he with ⟨_, rfl⟩ | ⟨_, _, ⟨hlt, rfl⟩ | ⟨_, ⟨_, rfl⟩, ⟨_, rfl⟩ | ⟨_, ⟨hov, rfl⟩, he | ⟨_, _, he⟩⟩⟩⟩
    · exact Or.inl rfl
    · exact absurd (hi.old_le a.text) (by omega)
    · exact Or.inr rfl
    · exact ih (sumInv_write hi a.text h (some w) hov) he
    · cases he

theorem applyRemoves_no_underflow {h : Nat} (l : List AddrArg) {m : SnapMap Addr Nat} {t : Nat}
    (hi : SnapMap.SumInv m t) {e : String} (he : applyRemoves h l m t = .error e) : e = "addr" := by
  induction l generalizing m t with
  | nil => cases he
  | cons a rest ih =>
    simp only [applyRemoves, Res.bind_error, check_error, check_ok] at he
    rcases he with ⟨_, rfl⟩ | ⟨_, _, he⟩
    · rfl
    · cases hw : m.get? a.text with
      | none => rw [hw] at he; exact ih hi he
      | some w =>
        rw [hw] at he
        have hle := hi.old_le a.text
        have hinv := sumInv_write hi a.text h none (Nat.le_trans (Nat.sub_le ..) hi.2.2)
        rw [hw] at hle hinv
        simp only [Res.bind_error, subU64_error, subU64_ok] at he
        rcases he with ⟨hlt, _⟩ | ⟨_, ⟨_, rfl⟩, he | ⟨_, _, he⟩⟩
        · exact absurd hle (by simpa using hlt)
        · exact ih hinv he
        · cases he

/-- **The `u64` arithmetic on the total cannot underflow**: on a state satisfying the invariant (every
reachable state), `UpdateMembers` never fails in one of its `checked_sub`s; it can fail only for a duplicate
address in `add`, a sender who is not the admin, an invalid address, or an overflow of the total. -/
theorem update_members_no_underflow {s : State} (hi : Inv s) (h : Nat) (snd : Addr) (rem : List AddrArg)
    (add : List (AddrArg × Nat)) {e : String} (he : execute s h snd (.updateMembers rem add) = .error e) :
    e = "duplicate" ∨ e = "unauthorized" ∨ e = "addr" ∨ e = "overflow.u64" := by
  obtain ⟨ht, hn, hm⟩ := hi
  simp only [execute, execUpdateMembers, updateMembers, ht, Res.bind_error, check_error, check_ok] at he
  rcases he with (⟨_, rfl⟩ | ⟨_, _, ⟨_, rfl⟩ | ⟨_, _, he | ⟨r1, h1, he | ⟨_, _, he⟩⟩⟩⟩) | ⟨_, _, he⟩
  · exact Or.inl rfl
  · exact Or.inr (Or.inl rfl)
  · rcases applyAdds_no_underflow _ ⟨rfl, hn, hm⟩ he with h | h <;> simp [h]
  · simp [applyRemoves_no_underflow _ (applyAdds_inv _ h1 ⟨rfl, hn, hm⟩) he]
  · cases he
  · cases he

/-- In particular no `checked_sub` on the total ever fails on a reachable state. -/
theorem update_members_never_underflows {msg : InstMsg} {h0 : Nat} {s0 : State} (hi : instantiate msg h0 = .ok s0)
    (ops : List Op) (h : Nat) (snd : Addr) (rem : List AddrArg) (add : List (AddrArg × Nat)) :
    execute (run s0 ops) h snd (.updateMembers rem add) ≠ .error "underflow.u64" :=
  -- "underflow.u64" is none of the four possible errors
  fun he => absurd (update_members_no_underflow (run_inv ops (instantiate_inv hi)) h snd rem add he) (by decide +kernel)

/-! ## Non-vacuity: a concrete history (several changes to one address in one block, a failing stranger,
removal and re-add in one block) on which the hypotheses hold and the conclusions are non-trivial -/

def exInst : InstMsg := { admin := some ⟨true, "adm"⟩, members := [(⟨true, "bob"⟩, 3), (⟨true, "alice"⟩, 5)] }

def exOps : List Op :=
  [ ⟨12, "adm", .updateMembers [⟨true, "bob"⟩] [(⟨true, "carol"⟩, 1), (⟨true, "alice"⟩, 7)]⟩,
    ⟨12, "adm", .updateMembers [] [(⟨true, "alice"⟩, 9)]⟩,
    ⟨12, "bob", .updateMembers [] [(⟨true, "bob"⟩, 100)]⟩,
    ⟨15, "adm", .updateMembers [⟨true, "alice"⟩] []⟩,
    ⟨15, "adm", .updateMembers [] [(⟨true, "alice"⟩, 2)]⟩,
    ⟨20, "adm", .updateMembers [] [(⟨true, "bob"⟩, 4)]⟩ ]

def exState : State := (match instantiate exInst 10 with | .ok s => s | .error _ => State.empty)

theorem exInst_ok : instantiate exInst 10 = .ok exState := by rfl

example : instantiate exInst 10 = .ok exState := exInst_ok
example : Ordered exOps ∧ ∀ op ∈ exOps, 10 ≤ op.height := by unfold Ordered; decide

example :
    let s := run exState exOps
    s.members.atHeight "alice" 10 = none ∧ s.members.atHeight "alice" 11 = some 5
    ∧ s.members.atHeight "alice" 12 = some 5 ∧ s.members.atHeight "alice" 13 = some 9
    ∧ s.members.atHeight "alice" 15 = some 9 ∧ s.members.atHeight "alice" 16 = some 2
    ∧ s.members.atHeight "bob" 12 = some 3 ∧ s.members.atHeight "bob" 13 = none
    ∧ s.members.atHeight "bob" 20 = none ∧ s.members.atHeight "bob" 21 = some 4
    ∧ queryTotalWeight s (some 10) = 0 ∧ queryTotalWeight s (some 12) = 8 ∧ queryTotalWeight s (some 13) = 10
    ∧ queryTotalWeight s (some 16) = 3 ∧ queryTotalWeight s (some 21) = 7 ∧ queryTotalWeight s none = 7
    ∧ AMap.sum s.members.cur = 7 := by decide +kernel

/-- The theorems apply to this history. -/
example (a : Addr) (h : Nat) :
    (run exState exOps).members.atHeight a h
      = if h ≤ 10 then none else weight (run exState (exOps.filter (fun o => o.height < h))) a :=
  member_at_height exInst_ok exOps (by decide +kernel) (by unfold Ordered; decide +kernel) a h

example : queryTotalWeight (run exState exOps) none = AMap.sum (run exState exOps).members.cur :=
  (total_eq_sum_members exInst_ok exOps).1

/-- The generic theorem on a concrete write list (first write of a block wins, removal is recorded). -/
example :
    let m := (SnapMap.ofMap [("k", 1)]).writes [("k", 5, some 2), ("k", 5, some 3), ("k", 7, none), ("j", 7, some 8)]
    m.atHeight "k" 5 = some 1 ∧ m.atHeight "k" 6 = some 3 ∧ m.atHeight "k" 7 = some 3 ∧ m.atHeight "k" 8 = none
    ∧ m.atHeight "j" 7 = none ∧ m.atHeight "j" 8 = some 8 := by decide +kernel


/-! ## 4. What an accepted `UpdateMembers` does to the membership ("the true history", one call)

The message documents: the `add` entries are applied (set weight), then the `remove` entries ("remove is applied
after add, so if an address is in both, it is removed").  The monitor `C09/update-members-effect` evaluates
exactly this on the implementation's observations. -/

/-- The membership an `add` list produces, address by address (later entries win). -/
def addsView (l : List (AddrArg × Nat)) (old : Option Nat) (k : Addr) : Option Nat :=
  l.foldl (fun acc p => if p.1.text = k then some p.2 else acc) old

theorem applyAdds_get {h : Nat} (l : List (AddrArg × Nat)) {m m' : SnapMap Addr Nat} {t t' : Nat} {ds : List Diff}
    (hr : applyAdds h l m t = .ok (m', t', ds)) (k : Addr) : m'.get? k = addsView l (m.get? k) k := by
  induction l generalizing m t ds with
  | nil => rw [(applyAdds_nil_ok hr).1]; rfl
  | cons p rest ih =>
    obtain ⟨_, _, _, _, hr', _⟩ := applyAdds_cons_ok hr
    rw [ih hr', SnapMap.get?_write]
    rfl

theorem applyRemoves_get {h : Nat} (l : List AddrArg) {m m' : SnapMap Addr Nat} {t t' : Nat} {ds : List Diff}
    (hr : applyRemoves h l m t = .ok (m', t', ds)) (k : Addr) :
    m'.get? k = if k ∈ l.map (·.text) then none else m.get? k := by
  induction l generalizing m t ds with
  | nil => rw [(applyRemoves_nil_ok hr).1]; rfl
  | cons a rest ih =>
    -- skipped or removed, afterwards `a` is not a member
    have step : ∀ m1 : SnapMap Addr Nat, m1.get? a.text = none → (∀ x, a.text ≠ x → m1.get? x = m.get? x) →
        (if k ∈ rest.map (·.text) then none else m1.get? k) = if k ∈ (a :: rest).map (·.text) then none else m.get? k := by
      intro m1 h1 h2
      by_cases hk : a.text = k
      · subst hk; simp [h1]
      · simp [h2 k hk, Ne.symm hk]
    rcases (applyRemoves_cons_ok hr).2 with ⟨hn, hr'⟩ | ⟨_, _, _, _, hr', _⟩
    · rw [ih hr']; exact step m hn (fun _ _ => rfl)
    · rw [ih hr']
      exact step _ (by rw [SnapMap.get?_write, if_pos rfl]) (fun x hx => by rw [SnapMap.get?_write, if_neg hx])

/-- **Effect of an accepted `UpdateMembers`**, for every address: removed if named in `remove`; otherwise the weight
of its `add` entry; otherwise unchanged. -/
theorem update_members_effect {s s' : State} {h : Nat} {snd : Addr} {rem : List AddrArg} {add : List (AddrArg × Nat)}
    {ds : List Diff} (hu : updateMembers s h snd rem add = .ok (s', ds)) (k : Addr) :
    s'.members.get? k
      = if k ∈ rem.map (·.text) then none else addsView (sortMembers add) (s.members.get? k) k := by
  obtain ⟨_, _, _, _, _, _, _, _, _, _, h1, h2, rfl, _⟩ := updateMembers_ok hu
  rw [applyRemoves_get rem h2 k, applyAdds_get _ h1 k]

theorem addsView_not_mem {l : List (AddrArg × Nat)} {k : Addr} (hk : k ∉ l.map (·.1.text)) (old : Option Nat) :
    addsView l old k = old := by
  induction l generalizing old with
  | nil => rfl
  | cons p rest ih =>
    simp only [List.map_cons, List.mem_cons, not_or] at hk
    simp only [addsView, List.foldl_cons]
    rw [if_neg (fun e => hk.1 e.symm)]
    exact ih hk.2 old

/-- With the uniqueness check of the handler the `add` view is simply "the entry of that address, if any". -/
theorem addsView_mem {l : List (AddrArg × Nat)} (hn : (l.map (·.1.text)).Nodup) {a : AddrArg} {w : Nat}
    (hm : (a, w) ∈ l) (old : Option Nat) : addsView l old a.text = some w := by
  induction l generalizing old with
  | nil => simp at hm
  | cons p rest ih =>
    rw [List.map_cons, List.nodup_cons] at hn
    rcases List.mem_cons.mp hm with rfl | hm'
    · -- no later entry names the same address
      simp only [addsView, List.foldl_cons, if_true]
      exact addsView_not_mem hn.1 _
    · exact ih hn.2 hm' _

/-- The three cases of the documented semantics, in terms of the submitted lists themselves. -/
theorem update_members_cases {s s' : State} {h : Nat} {snd : Addr} {rem : List AddrArg} {add : List (AddrArg × Nat)}
    {ds : List Diff} (hu : updateMembers s h snd rem add = .ok (s', ds)) :
    (∀ a ∈ rem, s'.members.get? a.text = none)
    ∧ (∀ a w, (a, w) ∈ add → a.text ∉ rem.map (·.text) → s'.members.get? a.text = some w)
    ∧ (∀ k, k ∉ rem.map (·.text) → k ∉ add.map (·.1.text) → s'.members.get? k = s.members.get? k) := by
  have hun := (updateMembers_ok hu).1
  refine ⟨?_, ?_, ?_⟩
  · intro a ha
    rw [update_members_effect hu, if_pos (List.mem_map.mpr ⟨a, ha, rfl⟩)]
  · intro a w hm hr
    rw [update_members_effect hu, if_neg hr]
    exact addsView_mem (nodup_sortMembers hun) ((sortMembers_perm add).mem_iff.mpr hm) _
  · intro k hr ha
    rw [update_members_effect hu, if_neg hr]
    apply addsView_not_mem
    intro hk
    exact ha (((sortMembers_perm add).map (·.1.text)).mem_iff.mp hk)

/-- Non-vacuity: an address that is not a member, named in both lists, is not a member afterwards. -/
example :
    (match updateMembers exState 11 "adm" [⟨true, "zoe"⟩] [(⟨true, "zoe"⟩, 4)] with
      | .ok r => (r.1.members.get? "zoe", r.1.members.get? "alice")
      | .error _ => (some 0, none)) = (none, some 5) := by decide +kernel

/-! # The pieces composed

* `total_at_height_eq_sum` / `snapshot_consistent`: the total *at a height* is the sum of the member weights
  *at that height* (what cw3-flex relies on when it freezes a proposal's total and later reads voters'
  weights at the proposal's start height);
* `total_eq_sum_listed`: the total is the sum over what a client actually gets by paging through
  `ListMembers`; `listing_vs_point`: every listed entry is what `Member {}` answers, and conversely. -/

/-- **C09, cross-snapshot consistency**: for every accepted instantiation at `h0`, every ordered history and
every height `h > h0`, `TotalWeight { at_height: h }` is the sum of the member table `T` that held at the
start of block `h` (the current table of the state reached by exactly the calls of the blocks before `h`),
and `Member { addr, at_height: h }` is the entry of `T` for every address: total and weights read at one
height always belong to one and the same table. -/
theorem total_at_height_eq_sum {msg : InstMsg} {h0 : Nat} {s0 : State} (hi : instantiate msg h0 = .ok s0)
    (ops : List Op) (hge : ∀ op ∈ ops, h0 ≤ op.height) (hord : Ordered ops) (h : Nat) (hh : h0 < h) :
    queryTotalWeight (run s0 ops) (some h) = AMap.sum (run s0 (ops.filter (fun o => o.height < h))).members.cur ∧
    ∀ a, (run s0 ops).members.atHeight a h = (run s0 (ops.filter (fun o => o.height < h))).members.cur.get? a := by
  constructor
  · rw [total_at_height hi ops hge hord h, if_neg (by omega)]
    exact (total_eq_sum_members hi _).1
  · intro a
    rw [member_at_height hi ops hge hord a h, if_neg (by omega)]
    rfl

/-- **C09, cross-snapshot consistency at every height** (also at or before instantiation, where the table is
empty): there is one member table with one entry per address whose sum is the total reported at height `h`
and whose entries are the weights reported at height `h`; its sum fits `u64`. -/
theorem snapshot_consistent {msg : InstMsg} {h0 : Nat} {s0 : State} (hi : instantiate msg h0 = .ok s0)
    (ops : List Op) (hge : ∀ op ∈ ops, h0 ≤ op.height) (hord : Ordered ops) (h : Nat) :
    ∃ T : AMap Addr Nat, AMap.NodupKeys T ∧ AMap.sum T ≤ U64_MAX ∧
      queryTotalWeight (run s0 ops) (some h) = AMap.sum T ∧
      ∀ a, (run s0 ops).members.atHeight a h = T.get? a := by
  by_cases hh : h ≤ h0
  · refine ⟨[], by simp [AMap.NodupKeys, AMap.keys], by simp [U64_MAX], ?_, ?_⟩
    · rw [total_at_height hi ops hge hord h, if_pos hh]; rfl
    · intro a; rw [member_at_height hi ops hge hord a h, if_pos hh]; rfl
  · obtain ⟨h1, h2⟩ := total_at_height_eq_sum hi ops hge hord h (by omega)
    have hinv := run_inv (ops.filter (fun o => o.height < h)) (instantiate_inv hi)
    exact ⟨_, hinv.2.1, hinv.2.2, h1, h2⟩

/-- What a client gets from one `ListMembers { start_after: c, limit }` call with a well-formed cursor
(nothing if the query is rejected). -/
def listPage (s : State) (limit : Option Nat) (c : Option Addr) : List (Addr × Nat) :=
  match queryListMembers s (c.map (⟨true, ·⟩)) limit with
  | .ok l => l
  | .error _ => []

open Paginate in
theorem listPage_eq (s : State) (limit : Option Nat) (c : Option Addr) :
    listPage s limit c = page strLt (sortedEntries strLt s.members.cur) c limit := by
  cases c <;> simp [listPage, queryListMembers, check, bind, Except.bind, pure, Except.pure]

open Paginate in
/-- Paging through `ListMembers` (cursor = last address of the previous page) returns the whole sorted
member table on every reachable state (the C20 statement, re-derived here from `Lemmas/Paginate`). -/
theorem fetch_complete {msg : InstMsg} {h0 : Nat} {s0 : State} (hi : instantiate msg h0 = .ok s0)
    (ops : List Op) (limit : Option Nat) (hl : limit ≠ some 0) {fuel : Nat}
    (hf : (run s0 ops).members.cur.length + 1 ≤ fuel) :
    fetchLoop (listPage (run s0 ops) limit) (·.1) none fuel = sortedEntries strLt (run s0 ops).members.cur :=
  fetchLoop_listing_id strictTotal_strLt (run_nodup ops (instantiate_nodup hi)) hl (listPage_eq _ limit) none hf

open Paginate in
/-- **C09 `total_eq_sum_members`, over the listing a client actually fetches**: after any accepted
instantiation and any history, paging through `ListMembers` (any page size `limit ≠ 0`, cursor = last
address of the previous page, enough rounds) yields a list whose weights sum to `TotalWeight {}`. -/
theorem total_eq_sum_listed {msg : InstMsg} {h0 : Nat} {s0 : State} (hi : instantiate msg h0 = .ok s0)
    (ops : List Op) (limit : Option Nat) (hl : limit ≠ some 0) {fuel : Nat}
    (hf : (run s0 ops).members.cur.length + 1 ≤ fuel) :
    queryTotalWeight (run s0 ops) none =
      AMap.sum (fetchLoop (listPage (run s0 ops) limit) (·.1) none fuel) := by
  rw [fetch_complete hi ops limit hl hf, listed_sum]
  exact (total_eq_sum_members hi ops).1

open Paginate in
/-- **C09, the listing agrees with the point query**: after any accepted instantiation and any history,
`(a, w)` is listed by `ListMembers` (all pages together) exactly when `Member { addr: a }` answers `w`; no
address is listed twice. -/
theorem listing_vs_point {msg : InstMsg} {h0 : Nat} {s0 : State} (hi : instantiate msg h0 = .ok s0)
    (ops : List Op) (a : Addr) (w : Nat) :
    ((a, w) ∈ sortedEntries strLt (run s0 ops).members.cur ↔ weight (run s0 ops) a = some w) ∧
    AMap.NodupKeys (sortedEntries strLt (run s0 ops).members.cur) := by
  have hn := run_nodup ops (instantiate_nodup hi)
  exact ⟨mem_sortedEntries_iff_get? strLt hn a w, sortedEntries_nodupKeys hn⟩

open Paginate in
/-- … in terms of the pages a client fetches. -/
theorem fetched_vs_point {msg : InstMsg} {h0 : Nat} {s0 : State} (hi : instantiate msg h0 = .ok s0)
    (ops : List Op) (limit : Option Nat) (hl : limit ≠ some 0) {fuel : Nat}
    (hf : (run s0 ops).members.cur.length + 1 ≤ fuel) (a : Addr) (w : Nat) :
    (a, w) ∈ fetchLoop (listPage (run s0 ops) limit) (·.1) none fuel ↔ weight (run s0 ops) a = some w := by
  rw [fetch_complete hi ops limit hl hf]
  exact (listing_vs_point hi ops a w).1

/-- non-vacuity on `exOps`: at height 13 the table is `{alice: 9, carol: 1}`, total 10 -/
example : queryTotalWeight (run exState exOps) (some 13)
    = AMap.sum (run exState (exOps.filter (fun o => o.height < 13))).members.cur :=
  (total_at_height_eq_sum exInst_ok exOps (by decide +kernel) (by unfold Ordered; decide +kernel) 13 (by decide +kernel)).1
example : (run exState (exOps.filter (fun o => o.height < 13))).members.cur = [("alice", 9), ("carol", 1)] := by
  decide +kernel
example := total_eq_sum_listed exInst_ok exOps (some 1) (by decide +kernel) (fuel := 4) (by decide +kernel)
example := fetched_vs_point exInst_ok exOps (some 2) (by decide +kernel) (fuel := 4) (by decide +kernel) "bob" 4

end CwPlus.Props.C09
