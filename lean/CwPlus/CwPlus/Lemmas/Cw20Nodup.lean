import CwPlus.Lemmas.Cw20Allow
import CwPlus.Lemmas.Cw20
/-!
# cw20: the three maps never hold a key twice

`NodupInv` (no duplicate keys in `balances`, `allow`, `allowSp`) is established by
`instantiate` and preserved by `execute`, `step`, `migrate`.  It is what makes the
sorted listing of a map strictly sorted (C20) and lookups order-independent.
-/
namespace CwPlus.Cw20
open CwPlus

structure NodupInv (s : State) : Prop where
  balances : AMap.NodupKeys s.balances
  allow : AMap.NodupKeys s.allow
  allowSp : AMap.NodupKeys s.allowSp

theorem createAccounts_nodup (l : List (AddrArg × Nat)) (b : AMap Addr Nat) (t : Nat)
    {b' : AMap Addr Nat} {t' : Nat} (h : createAccounts l b t = .ok (b', t')) (hb : AMap.NodupKeys b) :
    AMap.NodupKeys b' := by
  induction l generalizing b t with
  | nil => cases createAccounts_nil_ok_iff.mp h; exact hb
  | cons p rest ih => exact ih _ _ (createAccounts_cons_ok_iff.mp h).2.2 (AMap.nodup_set hb)

theorem instantiate_nodup {m : InstMsg} {s : State} (h : instantiate m = .ok s) : NodupInv s := by
  obtain ⟨_, b, t, mk, lg, hc, _, _, rfl⟩ := instantiate_ok h
  exact ⟨createAccounts_nodup _ _ _ hc List.nodup_nil, List.nodup_nil, List.nodup_nil⟩

theorem debit_nodup {b b' : AMap Addr Nat} {a : Addr} {amt : Nat} (h : debit b a amt = .ok b')
    (hb : AMap.NodupKeys b) : AMap.NodupKeys b' := by
  obtain ⟨_, rfl⟩ := debit_ok_iff.mp h
  exact AMap.nodup_set hb

theorem credit_nodup {b b' : AMap Addr Nat} {a : Addr} {amt : Nat} (h : credit b a amt = .ok b')
    (hb : AMap.NodupKeys b) : AMap.NodupKeys b' := by
  obtain ⟨_, rfl⟩ := credit_ok_iff.mp h
  exact AMap.nodup_set hb

theorem execute_nodup {s s' : State} {blk : Block} {snd : Addr} {msg : Msg} {out : List Out}
    (hi : NodupInv s) (h : execute s blk snd msg = .ok (s', out)) : NodupInv s' := by
  have htok := (execute_frame h).2.2.2.1
  have hb : AMap.NodupKeys s'.balances := by
    cases msg
    case transfer | send | transferFrom | sendFrom =>
      obtain ⟨_, b1, h1, h2, _⟩ := htok
      exact credit_nodup h2 (debit_nodup h1 hi.balances)
    case burn | burnFrom => exact debit_nodup htok.1 hi.balances
    case mint => exact credit_nodup htok.1 hi.balances
    all_goals rw [htok.1]; exact hi.balances
  rcases execute_allow h with ⟨e1, e2⟩ | ⟨o, sp, a, a2, e1, e2, _⟩ | ⟨o, sp, e1, e2⟩
  · exact ⟨hb, e1 ▸ hi.allow, e2 ▸ hi.allowSp⟩
  · exact ⟨hb, e1 ▸ AMap.nodup_set hi.allow, e2 ▸ AMap.nodup_set hi.allowSp⟩
  · exact ⟨hb, e1 ▸ AMap.nodup_erase hi.allow, e2 ▸ AMap.nodup_erase hi.allowSp⟩

theorem step_nodup {s : State} (blk : Block) (snd : Addr) (msg : Msg) (hi : NodupInv s) :
    NodupInv (step s blk snd msg) :=
  step_preserves execute_nodup blk snd msg hi

theorem run_nodup (ops : List (Block × Addr × Msg)) {s : State} (hi : NodupInv s) :
    NodupInv (ops.foldl (fun s op => step s op.1 op.2.1 op.2.2) s) :=
  run_preserves execute_nodup ops hi

theorem migrate_nodup {s s' : State} (hi : NodupInv s) (h : migrate s = .ok s') : NodupInv s' := by
  obtain ⟨_, _, rfl⟩ := migrate_ok.mp h
  refine ⟨hi.balances, hi.allow, ?_⟩
  show AMap.NodupKeys (if _ then _ else _)
  split
  · exact foldl_invariant AMap.NodupKeys (fun _ h _ _ => AMap.nodup_set h) hi.allowSp
  · exact hi.allowSp

/-! ## The prefix views used by the allowance listings -/

theorem ownerPrefix_nodup {s : State} (hi : AMap.NodupKeys s.allow) (owner : Addr) :
    AMap.NodupKeys (ownerPrefix s owner) :=
  Lemmas.Cw20Allow.prefix_nodup s.allow owner hi

theorem spenderPrefix_nodup {s : State} (hi : AMap.NodupKeys s.allowSp) (spender : Addr) :
    AMap.NodupKeys (spenderPrefix s spender) :=
  Lemmas.Cw20Allow.prefix_nodup s.allowSp spender hi

theorem ownerPrefix_get? (s : State) (o sp : Addr) : (ownerPrefix s o).get? sp = s.allow.get? (o, sp) :=
  Lemmas.Cw20Allow.get?_prefix s.allow o sp

theorem spenderPrefix_get? (s : State) (o sp : Addr) : (spenderPrefix s sp).get? o = s.allowSp.get? (sp, o) :=
  Lemmas.Cw20Allow.get?_prefix s.allowSp sp o

end CwPlus.Cw20
