import CwPlus.Props.C07
import CwPlus.Props.Cw1SubkeysMigrate
/-!
# C17 — cw1: the admin set changes only by admins while mutable; freezing is permanent

`Wl.*` cw1-whitelist, `Sk.*` cw1-subkeys (which embeds the whitelist's `ADMIN_LIST`).
Histories are `run s ops := ops.foldl step s` over arbitrary (block, sender, message)
triples, failed calls rolled back.
-/
namespace CwPlus.Props.C17
open CwPlus
open CwPlus.Cw1Whitelist (AddrArg CosmosMsg AdminList mapValidate)
open CwPlus.Cw1Subkeys (Allowance Permissions incFn decFn)

/-- Histories of the whitelist contract. -/
def Wl.run (s : Cw1Whitelist.State) (ops : List (Block × Addr × Cw1Whitelist.Msg)) : Cw1Whitelist.State :=
  ops.foldl (fun s op => Cw1Whitelist.step s op.1 op.2.1 op.2.2) s

/-- What each successful whitelist call does. -/
theorem Wl.execute_cases {s s' : Cw1Whitelist.State} {blk : Block} {snd : Addr} {m : Cw1Whitelist.Msg}
    {out : List CosmosMsg} (h : Cw1Whitelist.execute s blk snd m = .ok (s', out)) :
    match m with
    | .execute _ => s' = s
    | .freeze => s.mutable = true ∧ snd ∈ s.admins ∧ s' = { s with mutable := false }
    | .updateAdmins l => s.mutable = true ∧ snd ∈ s.admins ∧ ∃ a, mapValidate l = .ok a ∧ s' = { s with admins := a } := by
  cases m with
  | execute msgs => exact (C07.Wl.relay_exact h).2
  | freeze =>
    obtain ⟨hm, ha, hs, _⟩ := Cw1Whitelist.execute_freeze_ok_iff.mp h
    exact ⟨hm, ha, hs⟩
  | updateAdmins l =>
    obtain ⟨hm, ha, hv, hs, _⟩ := Cw1Whitelist.execute_updateAdmins_ok_iff.mp h
    exact ⟨hm, ha, _, (Cw1Whitelist.mapValidate_ok_iff l _).mpr ⟨hv, rfl⟩, hs⟩

/-- C17 (whitelist): the admin list changes only through `UpdateAdmins` sent by a current admin while the
contract is mutable. -/
theorem Wl.admins_change_auth {s : Cw1Whitelist.State} {blk : Block} {snd : Addr} {m : Cw1Whitelist.Msg}
    (h : (Cw1Whitelist.step s blk snd m).admins ≠ s.admins) :
    s.mutable = true ∧ snd ∈ s.admins ∧ ∃ l, m = .updateAdmins l := by
  rcases Cw1Whitelist.step_cases s blk snd m with e | ⟨hm, ha, ⟨_, e⟩ | ⟨l, rfl, _, _⟩⟩
  · rw [e] at h; exact absurd rfl h
  · rw [e] at h; exact absurd rfl h
  · exact ⟨hm, ha, l, rfl⟩

/-- C17 (whitelist): the mutable flag changes only through `Freeze` sent by a current admin while mutable,
and only from `true` to `false`. -/
theorem Wl.mutable_change_auth {s : Cw1Whitelist.State} {blk : Block} {snd : Addr} {m : Cw1Whitelist.Msg}
    (h : (Cw1Whitelist.step s blk snd m).mutable ≠ s.mutable) :
    s.mutable = true ∧ snd ∈ s.admins ∧ m = .freeze ∧ (Cw1Whitelist.step s blk snd m).mutable = false := by
  rcases Cw1Whitelist.step_cases s blk snd m with e | ⟨hm, ha, ⟨rfl, e⟩ | ⟨l, _, _, e⟩⟩
  · rw [e] at h; exact absurd rfl h
  · exact ⟨hm, ha, rfl, by rw [e]⟩
  · rw [e] at h; exact absurd rfl h

theorem Wl.step_frozen {s : Cw1Whitelist.State} (hf : s.mutable = false) (blk : Block) (snd : Addr)
    (m : Cw1Whitelist.Msg) : Cw1Whitelist.step s blk snd m = s :=
  Cw1Whitelist.step_of_not_canModify (by rw [AdminList.canModify, hf]; rfl) blk m

/-- C17 (whitelist), freezing is permanent: after `Freeze` or an immutable instantiation no history of
calls by anybody changes the admin list or the flag. -/
theorem Wl.frozen_forever {s : Cw1Whitelist.State} (hf : s.mutable = false)
    (ops : List (Block × Addr × Cw1Whitelist.Msg)) : Wl.run s ops = s :=
  foldl_invariant (· = s) (fun _ hs op _ => by rw [hs]; exact Wl.step_frozen hf op.1 op.2.1 op.2.2) rfl

/-- C17 (whitelist): a successful `Freeze` leads to a state that no history changes. -/
theorem Wl.freeze_permanent {s s' : Cw1Whitelist.State} {blk : Block} {snd : Addr} {out : List CosmosMsg}
    (h : Cw1Whitelist.execute s blk snd .freeze = .ok (s', out))
    (ops : List (Block × Addr × Cw1Whitelist.Msg)) : Wl.run s' ops = s' := by
  obtain ⟨_, _, rfl, _⟩ := Cw1Whitelist.execute_freeze_ok_iff.mp h
  exact Wl.frozen_forever rfl ops

/-- Histories of the subkeys contract. -/
def Sk.run (s : Cw1Subkeys.State) (ops : List (Block × Addr × Cw1Subkeys.Msg)) : Cw1Subkeys.State :=
  ops.foldl (fun s op => Cw1Subkeys.step s op.1 op.2.1 op.2.2) s

/-- What each successful subkeys call does to the three parts of the state. -/
theorem Sk.execute_cases {s s' : Cw1Subkeys.State} {blk : Block} {snd : Addr} {m : Cw1Subkeys.Msg}
    {out : List CosmosMsg} (h : Cw1Subkeys.execute s blk snd m = .ok (s', out)) :
    match m with
    | .execute _ => s'.cfg = s.cfg ∧ s'.permissions = s.permissions ∧
        (∀ x, x ≠ snd → s'.allowances.get? x = s.allowances.get? x) ∧ (s.cfg.isAdmin snd = true → s' = s)
    | .freeze => s.cfg.mutable = true ∧ s.cfg.isAdmin snd = true ∧ s' = { s with cfg := { s.cfg with mutable := false } }
    | .updateAdmins l => s.cfg.mutable = true ∧ s.cfg.isAdmin snd = true ∧
        ∃ a, mapValidate l = .ok a ∧ s' = { s with cfg := { s.cfg with admins := a } }
    | .increaseAllowance sp c e => s.cfg.isAdmin snd = true ∧ sp.valid = true ∧ sp.text ≠ snd ∧
        ∃ a, incFn blk c e (s.allowances.get? sp.text) = .ok a ∧ s' = { s with allowances := s.allowances.set sp.text a }
    | .decreaseAllowance sp c e => s.cfg.isAdmin snd = true ∧ sp.valid = true ∧ sp.text ≠ snd ∧
        ∃ a, decFn blk c e (s.allowances.get? sp.text) = .ok a ∧
          s' = { s with allowances := if a.balance.isEmpty then s.allowances.erase sp.text else s.allowances.set sp.text a }
    | .setPermissions sp p => s.cfg.isAdmin snd = true ∧ sp.valid = true ∧ sp.text ≠ snd ∧
        s' = { s with permissions := s.permissions.set sp.text p } := by
  cases m with
  | execute msgs =>
    rcases (Cw1Subkeys.execute_execute_ok_iff.mp h).1 with ⟨_, rfl⟩ | ⟨hna, h1⟩
    · exact ⟨rfl, rfl, fun _ _ => rfl, fun _ => rfl⟩
    · obtain ⟨a, b, _, c⟩ := Cw1Subkeys.checkMsgs_frame h1
      exact ⟨a, b, c, fun ha => by rw [hna] at ha; cases ha⟩
  | freeze =>
    obtain ⟨c, hc, rfl⟩ := Cw1Subkeys.execute_freeze_ok_iff.mp h
    obtain ⟨hm, ha, rfl, _⟩ := Cw1Whitelist.execute_freeze_ok_iff.mp hc
    exact ⟨hm, Cw1Whitelist.isAdmin_iff.mpr ha, rfl⟩
  | updateAdmins l =>
    obtain ⟨c, hc, rfl⟩ := Cw1Subkeys.execute_updateAdmins_ok_iff.mp h
    obtain ⟨hm, ha, hv, rfl, _⟩ := Cw1Whitelist.execute_updateAdmins_ok_iff.mp hc
    exact ⟨hm, Cw1Whitelist.isAdmin_iff.mpr ha, _, (Cw1Whitelist.mapValidate_ok_iff l _).mpr ⟨hv, rfl⟩, rfl⟩
  | increaseAllowance sp c e =>
    obtain ⟨ha, hv, hne, a, hi, hs, _⟩ := Cw1Subkeys.execute_increase_ok_iff.mp h
    exact ⟨ha, hv, hne, a, hi, hs⟩
  | decreaseAllowance sp c e =>
    obtain ⟨ha, hv, hne, a, hd, hs, _⟩ := Cw1Subkeys.execute_decrease_ok_iff.mp h
    exact ⟨ha, hv, hne, a, hd, hs⟩
  | setPermissions sp p =>
    obtain ⟨ha, hv, hne, hs, _⟩ := Cw1Subkeys.execute_setPermissions_ok_iff.mp h
    exact ⟨ha, hv, hne, hs⟩

/-- C17 (subkeys): the admin list changes only through `UpdateAdmins` sent by a current admin while mutable. -/
theorem Sk.admins_change_auth {s : Cw1Subkeys.State} {blk : Block} {snd : Addr} {m : Cw1Subkeys.Msg}
    (h : (Cw1Subkeys.step s blk snd m).cfg.admins ≠ s.cfg.admins) :
    s.cfg.mutable = true ∧ s.cfg.isAdmin snd = true ∧ ∃ l, m = .updateAdmins l := by
  rw [Cw1Subkeys.step_cfg] at h
  obtain ⟨hm, ha, l, hl⟩ := Wl.admins_change_auth h
  exact ⟨hm, Cw1Whitelist.isAdmin_iff.mpr ha, l, Cw1Subkeys.adminMsg_eq_updateAdmins hl⟩

/-- C17 (subkeys): the mutable flag changes only through `Freeze` sent by a current admin while mutable,
and only from `true` to `false`. -/
theorem Sk.mutable_change_auth {s : Cw1Subkeys.State} {blk : Block} {snd : Addr} {m : Cw1Subkeys.Msg}
    (h : (Cw1Subkeys.step s blk snd m).cfg.mutable ≠ s.cfg.mutable) :
    s.cfg.mutable = true ∧ s.cfg.isAdmin snd = true ∧ m = .freeze ∧ (Cw1Subkeys.step s blk snd m).cfg.mutable = false := by
  rw [Cw1Subkeys.step_cfg] at h ⊢
  obtain ⟨hm, ha, hf, hs⟩ := Wl.mutable_change_auth h
  exact ⟨hm, Cw1Whitelist.isAdmin_iff.mpr ha, Cw1Subkeys.adminMsg_eq_freeze hf, hs⟩

/-- Once immutable, no call changes the admin configuration (allowances and permissions may still change). -/
theorem Sk.step_frozen {s : Cw1Subkeys.State} (hf : s.cfg.mutable = false) (blk : Block) (snd : Addr)
    (m : Cw1Subkeys.Msg) : (Cw1Subkeys.step s blk snd m).cfg = s.cfg := by
  rw [Cw1Subkeys.step_cfg]; exact Wl.step_frozen hf blk snd _

/-- The admin-list part of a cw1-subkeys history is a cw1-whitelist history. -/
theorem Sk.run_cfg (s : Cw1Subkeys.State) (ops : List (Block × Addr × Cw1Subkeys.Msg)) :
    (Sk.run s ops).cfg = Wl.run s.cfg (ops.map fun op => (op.1, op.2.1, Cw1Subkeys.adminMsg op.2.2)) := by
  induction ops generalizing s with
  | nil => rfl
  | cons op rest ih => exact (ih _).trans (congrArg (Wl.run · _) (Cw1Subkeys.step_cfg ..))

/-- C17 (subkeys), freezing is permanent: after `Freeze` or an immutable instantiation no history of calls
by current admins, removed admins, subkeys or strangers changes the admin list or the flag. -/
theorem Sk.frozen_forever {s : Cw1Subkeys.State} (hf : s.cfg.mutable = false)
    (ops : List (Block × Addr × Cw1Subkeys.Msg)) : (Sk.run s ops).cfg = s.cfg := by
  rw [Sk.run_cfg]; exact Wl.frozen_forever hf _

/-- C17 (subkeys): a successful `Freeze` leads to an admin configuration that no history changes. -/
theorem Sk.freeze_permanent {s s' : Cw1Subkeys.State} {blk : Block} {snd : Addr} {out : List CosmosMsg}
    (h : Cw1Subkeys.execute s blk snd .freeze = .ok (s', out))
    (ops : List (Block × Addr × Cw1Subkeys.Msg)) : (Sk.run s' ops).cfg = s'.cfg ∧ s'.cfg.mutable = false := by
  obtain ⟨c, hc, rfl⟩ := Cw1Subkeys.execute_freeze_ok_iff.mp h
  obtain ⟨_, _, rfl, _⟩ := Cw1Whitelist.execute_freeze_ok_iff.mp hc
  exact ⟨Sk.frozen_forever rfl ops, rfl⟩

/-- C17 (subkeys): an immutable instantiation is frozen from the start. -/
theorem Sk.immutable_instantiation {m0 : Cw1Subkeys.InstMsg} {s0 : Cw1Subkeys.State}
    (h : Cw1Subkeys.instantiate m0 = .ok s0) (hm : m0.mutable = false)
    (ops : List (Block × Addr × Cw1Subkeys.Msg)) : (Sk.run s0 ops).cfg = s0.cfg := by
  obtain ⟨_, rfl⟩ := (Cw1Subkeys.instantiate_ok_iff m0 s0).mp h
  exact Sk.frozen_forever hm ops

/-- Which call can change the stored allowance of `x`: an admin's Increase/Decrease naming `x` (a validated
address different from the admin), or `x`'s own non-admin `Execute`. -/
theorem Sk.allowance_change_cases {s : Cw1Subkeys.State} {blk : Block} {snd : Addr} {m : Cw1Subkeys.Msg} {x : Addr}
    (h : (Cw1Subkeys.step s blk snd m).allowances.get? x ≠ s.allowances.get? x) :
    (s.cfg.isAdmin snd = true ∧ x ≠ snd ∧ ∃ sp c e, sp.valid = true ∧ sp.text = x ∧
        (m = .increaseAllowance sp c e ∨ m = .decreaseAllowance sp c e)) ∨
    (s.cfg.isAdmin snd = false ∧ x = snd ∧ ∃ msgs, m = .execute msgs) := by
  unfold Cw1Subkeys.step at h
  split at h
  · rename_i s' out he
    rcases Cw1Subkeys.execute_ok_cases he with ⟨msgs, rfl, _, rfl | ⟨hna, h1⟩⟩ |
      ⟨_, ha, ⟨c, rfl, _⟩ | ⟨sp, c, e, al, hm, hv, hne, rfl, hfr⟩ | ⟨_, _, _, _, _, rfl⟩⟩
    · exact absurd rfl h
    · exact .inr ⟨hna, Classical.byContradiction fun hx => h ((Cw1Subkeys.checkMsgs_frame h1).2.2.2 x hx), msgs, rfl⟩
    · exact absurd rfl h
    · have hx : sp.text = x := Classical.byContradiction fun hx => h (hfr x hx)
      exact .inl ⟨ha, hx ▸ hne, sp, c, e, hv, hx, hm⟩
    · exact absurd rfl h
  · exact absurd rfl h

/-- Which call can change the stored permissions of `x`: only an admin's `SetPermissions` naming `x`. -/
theorem Sk.permissions_change_cases {s : Cw1Subkeys.State} {blk : Block} {snd : Addr} {m : Cw1Subkeys.Msg} {x : Addr}
    (h : (Cw1Subkeys.step s blk snd m).permissions.get? x ≠ s.permissions.get? x) :
    s.cfg.isAdmin snd = true ∧ x ≠ snd ∧ ∃ sp p, sp.valid = true ∧ sp.text = x ∧ m = .setPermissions sp p := by
  unfold Cw1Subkeys.step at h
  split at h
  · rename_i s' out he
    rcases Cw1Subkeys.execute_ok_cases he with ⟨_, _, _, rfl | ⟨_, h1⟩⟩ |
      ⟨_, ha, ⟨c, rfl, _⟩ | ⟨_, _, _, al, _, _, _, rfl, _⟩ | ⟨sp, p, rfl, hv, hne, rfl⟩⟩
    · exact absurd rfl h
    · rw [(Cw1Subkeys.checkMsgs_frame h1).2.1] at h; exact absurd rfl h
    · exact absurd rfl h
    · exact absurd rfl h
    · have hx : sp.text = x := Classical.byContradiction fun hx => h (AMap.get?_set_ne _ _ _ _ hx)
      exact ⟨ha, hx ▸ hne, sp, p, hv, hx, rfl⟩
  · exact absurd rfl h

/-- C17 (subkeys), grants: an allowance is created or altered only by a call from a current admin — apart
from the subkey's own spending (C08) — and permissions are created or altered only by a current admin. -/
theorem Sk.grants_admin_only {s : Cw1Subkeys.State} {blk : Block} {snd : Addr} {m : Cw1Subkeys.Msg} {x : Addr} :
    ((Cw1Subkeys.step s blk snd m).allowances.get? x ≠ s.allowances.get? x →
        s.cfg.isAdmin snd = true ∨ (x = snd ∧ ∃ msgs, m = .execute msgs)) ∧
    ((Cw1Subkeys.step s blk snd m).permissions.get? x ≠ s.permissions.get? x → s.cfg.isAdmin snd = true) := by
  constructor
  · intro h
    rcases Sk.allowance_change_cases h with ⟨ha, _⟩ | ⟨_, hx, hm⟩
    · exact Or.inl ha
    · exact Or.inr ⟨hx, hm⟩
  · intro h; exact (Sk.permissions_change_cases h).1

theorem covers_none {perm : Option Permissions} {blk : Block} {m : CosmosMsg} {al' : Option Allowance}
    (h : C07.covers perm blk none m = some al') : al' = none := by
  cases m with
  | bankSend to cs => cases h
  | staking k p => cases perm <;> first | cases h | (simp only [C07.covers] at h; split at h <;> cases h; rfl)
  | distribution k p => cases perm <;> first | cases h | (simp only [C07.covers] at h; split at h <;> cases h; rfl)
  | _ => cases h

/-- C17 (subkeys): own spending never *creates* an allowance: a subkey's `Execute` can change its allowance
only if it already had one. -/
theorem Sk.spending_needs_grant {s : Cw1Subkeys.State} {blk : Block} {snd : Addr} {msgs : List CosmosMsg}
    (h : (Cw1Subkeys.step s blk snd (.execute msgs)).allowances.get? snd ≠ s.allowances.get? snd) :
    s.allowances.get? snd ≠ none := by
  intro hn
  apply h
  unfold Cw1Subkeys.step
  split
  · rename_i s' out he
    rcases (Cw1Subkeys.execute_execute_ok_iff.mp he).1 with ⟨_, rfl⟩ | ⟨_, h1⟩
    · rfl
    · have := C07.checkMsgs_induction (R := fun al _ al' => al = none → al' = none) h1 (fun _ h => h)
        (fun hc ih hal => ih (covers_none (hal ▸ hc)))
      rw [this hn, hn]
  · rfl

/-- Every address argument of the message that `addr_validate` accepted satisfies `V` (think of `V` as "is a
well-formed address": the oracle behind the `valid` flags). -/
def argsOk (V : String → Prop) : Cw1Subkeys.Msg → Prop
  | .increaseAllowance sp _ _ => sp.valid = true → V sp.text
  | .decreaseAllowance sp _ _ => sp.valid = true → V sp.text
  | .setPermissions sp _ => sp.valid = true → V sp.text
  | _ => True

/-- All keys of `ALLOWANCES` and `PERMISSIONS` satisfy `V`. -/
def KeysOk (V : String → Prop) (s : Cw1Subkeys.State) : Prop :=
  (∀ x, s.allowances.get? x ≠ none → V x) ∧ (∀ x, s.permissions.get? x ≠ none → V x)

theorem Sk.step_keys {V : String → Prop} {s : Cw1Subkeys.State} (hk : KeysOk V s) (blk : Block) (snd : Addr)
    {m : Cw1Subkeys.Msg} (hm : argsOk V m) : KeysOk V (Cw1Subkeys.step s blk snd m) := by
  constructor
  · intro x hx
    by_cases hc : (Cw1Subkeys.step s blk snd m).allowances.get? x = s.allowances.get? x
    · exact hk.1 x (by rw [← hc]; exact hx)
    · rcases Sk.allowance_change_cases hc with ⟨_, _, sp, c, e, hv, rfl, hm' | hm'⟩ | ⟨_, rfl, msgs, rfl⟩
      · subst hm'; exact hm hv
      · subst hm'; exact hm hv
      · exact hk.1 x (Sk.spending_needs_grant hc)
  · intro x hx
    by_cases hc : (Cw1Subkeys.step s blk snd m).permissions.get? x = s.permissions.get? x
    · exact hk.2 x (by rw [← hc]; exact hx)
    · obtain ⟨_, _, sp, p, hv, rfl, rfl⟩ := Sk.permissions_change_cases hc
      exact hm hv

/-- C17 (subkeys): on every history from instantiation, allowances and permissions exist only for addresses that
`addr_validate` accepted in some admin call. -/
theorem Sk.grant_keys_valid (V : String → Prop) {m0 : Cw1Subkeys.InstMsg} {s0 : Cw1Subkeys.State}
    (h0 : Cw1Subkeys.instantiate m0 = .ok s0) (ops : List (Block × Addr × Cw1Subkeys.Msg))
    (hops : ∀ op ∈ ops, argsOk V op.2.2) : KeysOk V (Sk.run s0 ops) := by
  obtain ⟨_, rfl⟩ := (Cw1Subkeys.instantiate_ok_iff m0 s0).mp h0
  exact foldl_invariant (KeysOk V) (fun _ hs op hop => Sk.step_keys hs op.1 op.2.1 (hops op hop))
    ⟨fun x hx => absurd rfl hx, fun x hx => absurd rfl hx⟩

/-- `map_validate` succeeds exactly when every entry validates, and then returns the submitted strings as they
are: same order, duplicates kept. -/
theorem mapValidate_ok_iff (l : List AddrArg) (a : List Addr) :
    mapValidate l = .ok a ↔ (∀ x ∈ l, x.valid = true) ∧ a = l.map (·.text) :=
  Cw1Whitelist.mapValidate_ok_iff l a

theorem mapValidate_isOk_iff (l : List AddrArg) : (mapValidate l).isOk = true ↔ ∀ x ∈ l, x.valid = true := by
  simp [Res.isOk_iff_exists, mapValidate_ok_iff]

/-- C17 (whitelist), instantiation: it succeeds exactly when every submitted admin validates, and stores exactly
the submitted list and flag. -/
theorem Wl.instantiate_ok_iff (m0 : Cw1Whitelist.InstMsg) (s0 : Cw1Whitelist.State) :
    Cw1Whitelist.instantiate m0 = .ok s0 ↔
      (∀ x ∈ m0.admins, x.valid = true) ∧ s0 = ⟨m0.admins.map (·.text), m0.mutable⟩ :=
  Cw1Whitelist.instantiate_ok_iff m0 s0

/-- C17 (whitelist): an immutable instantiation is frozen from the start — no history changes anything. -/
theorem Wl.immutable_instantiation {m0 : Cw1Whitelist.InstMsg} {s0 : Cw1Whitelist.State}
    (h : Cw1Whitelist.instantiate m0 = .ok s0) (hm : m0.mutable = false)
    (ops : List (Block × Addr × Cw1Whitelist.Msg)) : Wl.run s0 ops = s0 := by
  obtain ⟨_, rfl⟩ := (Wl.instantiate_ok_iff m0 s0).mp h
  exact Wl.frozen_forever hm ops

/-- C17 (whitelist), `UpdateAdmins` succeeds exactly when the contract is mutable, the caller is a current admin
and every submitted entry validates. -/
theorem Wl.updateAdmins_ok_iff (s : Cw1Whitelist.State) (blk : Block) (snd : Addr) (l : List AddrArg) :
    (Cw1Whitelist.execute s blk snd (.updateAdmins l)).isOk = true ↔
      s.mutable = true ∧ snd ∈ s.admins ∧ ∀ x ∈ l, x.valid = true := by
  simp [Res.isOk_iff_exists, Cw1Whitelist.execute_updateAdmins_ok_iff]

/-- C17 (whitelist), "the admin list is set to exactly the submitted list": a successful `UpdateAdmins` stores the
submitted strings in order, duplicates kept, leaves the flag alone and relays nothing. -/
theorem Wl.updateAdmins_exact {s s' : Cw1Whitelist.State} {blk : Block} {snd : Addr} {l : List AddrArg}
    {out : List CosmosMsg} (h : Cw1Whitelist.execute s blk snd (.updateAdmins l) = .ok (s', out)) :
    s' = ⟨l.map (·.text), s.mutable⟩ ∧ out = [] := by
  obtain ⟨_, _, _, rfl, rfl⟩ := Cw1Whitelist.execute_updateAdmins_ok_iff.mp h
  exact ⟨rfl, rfl⟩

/-- C17 (whitelist), `Freeze` succeeds exactly when the contract is mutable and the caller is a current admin. -/
theorem Wl.freeze_ok_iff (s : Cw1Whitelist.State) (blk : Block) (snd : Addr) :
    (Cw1Whitelist.execute s blk snd .freeze).isOk = true ↔ s.mutable = true ∧ snd ∈ s.admins := by
  simp [Res.isOk_iff_exists, Cw1Whitelist.execute_freeze_ok_iff]

/-- C17 (whitelist): a successful `Freeze` clears the flag and keeps the admin list. -/
theorem Wl.freeze_exact {s s' : Cw1Whitelist.State} {blk : Block} {snd : Addr} {out : List CosmosMsg}
    (h : Cw1Whitelist.execute s blk snd .freeze = .ok (s', out)) : s' = ⟨s.admins, false⟩ :=
  (Cw1Whitelist.execute_freeze_ok_iff.mp h).2.2.1

/-- The two history functions of cw1-subkeys (`C07.Sk.run`, `C17.Sk.run`) are the same function. -/
theorem Sk.run_eq_C07 : @Sk.run = @C07.Sk.run := rfl

theorem Sk.run_cons (s : Cw1Subkeys.State) (op : Block × Addr × Cw1Subkeys.Msg) (rest : List (Block × Addr × Cw1Subkeys.Msg)) :
    Sk.run s (op :: rest) = Sk.run (Cw1Subkeys.step s op.1 op.2.1 op.2.2) rest := rfl

theorem Sk.run_append (s : Cw1Subkeys.State) (a b : List (Block × Addr × Cw1Subkeys.Msg)) :
    Sk.run s (a ++ b) = Sk.run (Sk.run s a) b :=
  List.foldl_append ..

/-- C17 (subkeys), instantiation: succeeds exactly when every submitted admin validates; stores exactly the
submitted list and flag, and no grants. -/
theorem Sk.instantiate_ok_iff (m0 : Cw1Subkeys.InstMsg) (s0 : Cw1Subkeys.State) :
    Cw1Subkeys.instantiate m0 = .ok s0 ↔
      (∀ x ∈ m0.admins, x.valid = true) ∧
      s0 = { cfg := ⟨m0.admins.map (·.text), m0.mutable⟩, allowances := [], permissions := [],
             cw2 := some ⟨Cw1Subkeys.CONTRACT_NAME, some Cw1Subkeys.CONTRACT_VERSION⟩ } :=
  Cw1Subkeys.instantiate_ok_iff m0 s0

/-- C17 (subkeys), `UpdateAdmins` succeeds exactly when the contract is mutable, the caller is a current admin
and every submitted entry validates. -/
theorem Sk.updateAdmins_ok_iff (s : Cw1Subkeys.State) (blk : Block) (snd : Addr) (l : List AddrArg) :
    (Cw1Subkeys.execute s blk snd (.updateAdmins l)).isOk = true ↔
      s.cfg.mutable = true ∧ s.cfg.isAdmin snd = true ∧ ∀ x ∈ l, x.valid = true := by
  rw [Cw1Subkeys.execute_updateAdmins_isOk, Wl.updateAdmins_ok_iff, Cw1Whitelist.isAdmin_iff]

/-- C17 (subkeys), "the admin list is set to exactly the submitted list": a successful `UpdateAdmins` stores the
submitted strings in order, duplicates kept; flag, allowances, permissions and the cw2 item stay; nothing is relayed. -/
theorem Sk.updateAdmins_exact {s s' : Cw1Subkeys.State} {blk : Block} {snd : Addr} {l : List AddrArg}
    {out : List CosmosMsg} (h : Cw1Subkeys.execute s blk snd (.updateAdmins l) = .ok (s', out)) :
    s' = { s with cfg := ⟨l.map (·.text), s.cfg.mutable⟩ } ∧ out = [] := by
  obtain ⟨c, hc, rfl⟩ := Cw1Subkeys.execute_updateAdmins_ok_iff.mp h
  obtain ⟨_, _, _, rfl, rfl⟩ := Cw1Whitelist.execute_updateAdmins_ok_iff.mp hc
  exact ⟨rfl, rfl⟩

/-- C17 (subkeys), `Freeze` succeeds exactly when the contract is mutable and the caller is a current admin. -/
theorem Sk.freeze_ok_iff (s : Cw1Subkeys.State) (blk : Block) (snd : Addr) :
    (Cw1Subkeys.execute s blk snd .freeze).isOk = true ↔ s.cfg.mutable = true ∧ s.cfg.isAdmin snd = true := by
  rw [Cw1Subkeys.execute_freeze_isOk, Wl.freeze_ok_iff, Cw1Whitelist.isAdmin_iff]

/-- C17 (subkeys), `SetPermissions` succeeds exactly when the caller is a current admin and the spender is a
validated address different from the caller (mutability is irrelevant: grants can be changed on a frozen contract). -/
theorem Sk.setPermissions_ok_iff (s : Cw1Subkeys.State) (blk : Block) (snd : Addr) (sp : AddrArg) (p : Permissions) :
    (Cw1Subkeys.execute s blk snd (.setPermissions sp p)).isOk = true ↔
      s.cfg.isAdmin snd = true ∧ sp.valid = true ∧ sp.text ≠ snd := by
  simp [Res.isOk_iff_exists, Cw1Subkeys.execute_setPermissions_ok_iff]

/-- C17 (subkeys): a successful `SetPermissions` stores exactly the submitted record for the spender, touches
nobody else's permissions, no allowance and not the admin configuration, and relays nothing. -/
theorem Sk.setPermissions_exact {s s' : Cw1Subkeys.State} {blk : Block} {snd : Addr} {sp : AddrArg} {p : Permissions}
    {out : List CosmosMsg} (h : Cw1Subkeys.execute s blk snd (.setPermissions sp p) = .ok (s', out)) :
    s'.permissions.get? sp.text = some p ∧ (∀ y, y ≠ sp.text → s'.permissions.get? y = s.permissions.get? y) ∧
      s'.allowances = s.allowances ∧ s'.cfg = s.cfg ∧ out = [] := by
  obtain ⟨_, _, _, rfl, rfl⟩ := Cw1Subkeys.execute_setPermissions_ok_iff.mp h
  exact ⟨AMap.get?_set_eq _ _ _, fun y hy => AMap.get?_set_ne _ _ _ _ (Ne.symm hy), rfl, rfl, rfl⟩

/-- C17 (subkeys): the flag never comes back — if a history ends mutable it started mutable (and, by the same
argument applied to every suffix, was mutable all the way). -/
theorem Sk.mutable_never_returns {s : Cw1Subkeys.State} {ops : List (Block × Addr × Cw1Subkeys.Msg)}
    (h : (Sk.run s ops).cfg.mutable = true) : s.cfg.mutable = true := by
  cases hm : s.cfg.mutable with
  | true => rfl
  | false => rw [Sk.frozen_forever hm ops, hm] at h; cases h

theorem Wl.mutable_never_returns {s : Cw1Whitelist.State} {ops : List (Block × Addr × Cw1Whitelist.Msg)}
    (h : (Wl.run s ops).mutable = true) : s.mutable = true := by
  cases hm : s.mutable with
  | true => rfl
  | false => rw [Wl.frozen_forever hm ops, hm] at h; cases h

/-- C17 (subkeys), history form of "the admin list changes only via `UpdateAdmins` sent by a current admin while
mutable": if a history changed the admin list, it contains a *successful* `UpdateAdmins` whose sender was, at that
point of the history, a current admin of a still mutable contract.  In particular an admin removed earlier in the
history is not that sender unless it was re-added. -/
theorem Sk.run_admins_changed {s : Cw1Subkeys.State} {ops : List (Block × Addr × Cw1Subkeys.Msg)}
    (h : (Sk.run s ops).cfg.admins ≠ s.cfg.admins) :
    ∃ pre blk snd l post, ops = pre ++ (blk, snd, .updateAdmins l) :: post ∧
      (Sk.run s pre).cfg.mutable = true ∧ (Sk.run s pre).cfg.isAdmin snd = true ∧
      (Cw1Subkeys.execute (Sk.run s pre) blk snd (.updateAdmins l)).isOk = true := by
  obtain ⟨pre, ⟨blk, snd, m⟩, post, rfl, hstep⟩ := foldl_change (fun s : Cw1Subkeys.State => s.cfg.admins) h
  have hstep : (Cw1Subkeys.step (Sk.run s pre) blk snd m).cfg.admins ≠ (Sk.run s pre).cfg.admins := hstep
  obtain ⟨hm, ha, l, rfl⟩ := Sk.admins_change_auth hstep
  refine ⟨pre, blk, snd, l, post, rfl, hm, ha, ?_⟩
  cases hr : Cw1Subkeys.execute (Sk.run s pre) blk snd (.updateAdmins l) with
  | ok r => rfl
  | error e => rw [Cw1Subkeys.step, hr] at hstep; exact absurd rfl hstep

/-- C17 (whitelist), the same history form. -/
theorem Wl.run_admins_changed {s : Cw1Whitelist.State} {ops : List (Block × Addr × Cw1Whitelist.Msg)}
    (h : (Wl.run s ops).admins ≠ s.admins) :
    ∃ pre blk snd l post, ops = pre ++ (blk, snd, .updateAdmins l) :: post ∧
      (Wl.run s pre).mutable = true ∧ snd ∈ (Wl.run s pre).admins ∧ ∀ x ∈ l, x.valid = true := by
  obtain ⟨pre, ⟨blk, snd, m⟩, post, rfl, hstep⟩ := foldl_change (fun s : Cw1Whitelist.State => s.admins) h
  rcases Cw1Whitelist.step_cases (Wl.run s pre) blk snd m with e | ⟨hm, ha, ⟨_, e⟩ | ⟨l, rfl, hv, _⟩⟩
  · exact absurd (congrArg (·.admins) e) hstep
  · exact absurd (congrArg (·.admins) e) hstep
  · exact ⟨pre, blk, snd, l, post, rfl, hm, ha, hv⟩

/-- A contract without admins cannot change its admin configuration. -/
theorem Sk.step_no_admins {s : Cw1Subkeys.State} (hn : s.cfg.admins = []) (blk : Block) (snd : Addr)
    (m : Cw1Subkeys.Msg) : (Cw1Subkeys.step s blk snd m).cfg = s.cfg ∧
      (Cw1Subkeys.step s blk snd m).permissions = s.permissions ∧
      ∀ x, (Cw1Subkeys.step s blk snd m).allowances.get? x ≠ s.allowances.get? x → x = snd ∧ ∃ msgs, m = .execute msgs := by
  have hna : s.cfg.isAdmin snd = false := by simp [AdminList.isAdmin, hn]
  refine ⟨?_, ?_, fun x hx => ?_⟩
  · rw [Cw1Subkeys.step_cfg]
    exact Cw1Whitelist.step_of_not_canModify (by rw [AdminList.canModify, hna, Bool.and_false]) blk _
  · unfold Cw1Subkeys.step
    split
    · rename_i s' out he
      rcases Cw1Subkeys.execute_ok_cases he with ⟨_, _, _, rfl | ⟨_, h1⟩⟩ | ⟨_, ha, _⟩
      · rfl
      · exact (Cw1Subkeys.checkMsgs_frame h1).2.1
      · rw [hna] at ha; cases ha
    · rfl
  · rcases Sk.allowance_change_cases hx with ⟨ha, _⟩ | ⟨_, hxs, hm⟩
    · rw [hna] at ha; cases ha
    · exact ⟨hxs, hm⟩

/-- C17 (observation, lock-out): `UpdateAdmins []` is a second way to freeze.  Once the admin list is empty no
history changes the admin configuration or any permission, and allowances change only by their holders' own
spending (which only lowers them, C08). -/
theorem Sk.no_admins_forever {s : Cw1Subkeys.State} (hn : s.cfg.admins = [])
    (ops : List (Block × Addr × Cw1Subkeys.Msg)) :
    (Sk.run s ops).cfg = s.cfg ∧ (Sk.run s ops).permissions = s.permissions :=
  foldl_invariant (fun s' : Cw1Subkeys.State => s'.cfg = s.cfg ∧ s'.permissions = s.permissions)
    (fun _ hs op _ =>
      let ⟨h1, h2, _⟩ := Sk.step_no_admins (hs.1 ▸ hn) op.1 op.2.1 op.2.2
      ⟨h1.trans hs.1, h2.trans hs.2⟩) ⟨rfl, rfl⟩

theorem Sk.opStep_frozen {s : Cw1Subkeys.State} (hf : s.cfg.mutable = false) (op : Cw1SubkeysMigrate.Op) :
    (Cw1SubkeysMigrate.opStep s op).cfg = s.cfg := by
  cases op with
  | exec blk snd m => exact Sk.step_frozen hf blk snd m
  | migrate =>
    simp only [Cw1SubkeysMigrate.opStep]
    split
    · rename_i s' hm; exact (Cw1SubkeysMigrate.migrate_frame hm).1
    · rfl

/-- C17 (subkeys), freezing is permanent over **mixed** histories too: no interleaving of execute messages by anybody
and contract migrations changes the admin list or the flag of a frozen contract. -/
theorem Sk.frozen_forever_with_migrations {s : Cw1Subkeys.State} (hf : s.cfg.mutable = false)
    (ops : List Cw1SubkeysMigrate.Op) : (Cw1SubkeysMigrate.run s ops).cfg = s.cfg :=
  foldl_invariant (fun s' : Cw1Subkeys.State => s'.cfg = s.cfg)
    (fun _ hs op _ => (Sk.opStep_frozen (hs ▸ hf) op).trans hs) rfl

/-- A mixed history without migrations is an ordinary history. -/
theorem Sk.migrate_run_exec (s : Cw1Subkeys.State) (ops : List (Block × Addr × Cw1Subkeys.Msg)) :
    Cw1SubkeysMigrate.run s (ops.map fun op => .exec op.1 op.2.1 op.2.2) = Sk.run s ops :=
  List.foldl_map

def wl0 : Cw1Whitelist.State := ⟨["a", "b"], true⟩
def blk : Block := ⟨1, 1⟩

example : Cw1Whitelist.step wl0 blk "a" (.updateAdmins [⟨true, "c"⟩]) = ⟨["c"], true⟩ := by decide +kernel
/-- the removed admin can no longer change anything -/
example : Wl.run wl0 [(blk, "a", .updateAdmins [⟨true, "c"⟩]), (blk, "a", .updateAdmins [⟨true, "a"⟩]), (blk, "a", .freeze)]
    = ⟨["c"], true⟩ := by decide +kernel
example : Wl.run wl0 [(blk, "b", .freeze), (blk, "a", .updateAdmins [⟨true, "c"⟩]), (blk, "b", .updateAdmins [])]
    = ⟨["a", "b"], false⟩ := by decide +kernel
example : Cw1Whitelist.step wl0 blk "x" .freeze = wl0 := by decide +kernel

open CwPlus.Props.C07 (exState blk50)
example : (Sk.run exState [(blk50, "admin", .freeze), (blk50, "admin", .updateAdmins [⟨true, "sub"⟩]),
    (blk50, "sub", .execute [.bankSend "x" [("ua", 1)]])]).cfg = ⟨["admin"], false⟩ := by decide +kernel
example : (Cw1Subkeys.step exState blk50 "sub" (.setPermissions ⟨true, "sub2"⟩ ⟨true, true, true, true⟩)) = exState := by decide +kernel
example : (Cw1Subkeys.step exState blk50 "admin" (.setPermissions ⟨true, "sub2"⟩ ⟨true, true, true, true⟩)).permissions.get? "sub2"
    = some ⟨true, true, true, true⟩ := by decide +kernel

/-- the guarded calls do succeed: `updateAdmins_ok_iff`, `freeze_ok_iff`, `setPermissions_ok_iff` right to left -/
example : (Cw1Whitelist.execute wl0 blk "a" (.updateAdmins [⟨true, "c"⟩, ⟨true, "c"⟩])).isOk = true :=
  (Wl.updateAdmins_ok_iff wl0 blk "a" _).mpr (by decide)
example : Cw1Whitelist.step wl0 blk "a" (.updateAdmins [⟨true, "c"⟩, ⟨true, "b"⟩, ⟨true, "c"⟩]) = ⟨["c", "b", "c"], true⟩ := by decide +kernel
example : (Cw1Whitelist.execute wl0 blk "a" (.updateAdmins [⟨true, "c"⟩, ⟨false, "C"⟩])).isOk = false := by decide +kernel
example : (Cw1Subkeys.execute exState blk50 "admin" .freeze).isOk = true :=
  (Sk.freeze_ok_iff exState blk50 "admin").mpr (by decide)
example : (Cw1Subkeys.execute exState blk50 "admin" (.setPermissions ⟨true, "sub"⟩ ⟨false, false, false, false⟩)).isOk = true :=
  (Sk.setPermissions_ok_iff exState blk50 "admin" _ _).mpr (by decide)
example : (Cw1Subkeys.execute exState blk50 "admin" (.setPermissions ⟨true, "admin"⟩ ⟨false, false, false, false⟩)).isOk = false := by decide +kernel
/-- `run_admins_changed`: a history that changes the list -/
example : (Sk.run exState [(blk50, "sub", .freeze), (blk50, "admin", .updateAdmins [⟨true, "sub"⟩])]).cfg.admins ≠ exState.cfg.admins := by decide +kernel
/-- lock-out: after `UpdateAdmins []` the former admin is powerless although the contract is still "mutable" -/
example : (Sk.run exState [(blk50, "admin", .updateAdmins []), (blk50, "admin", .updateAdmins [⟨true, "admin"⟩]),
    (blk50, "admin", .setPermissions ⟨true, "x"⟩ ⟨true, true, true, true⟩)]) = { exState with cfg := ⟨[], true⟩ } := by decide +kernel
example : Wl.run ⟨["a"], false⟩ [(blk, "a", .updateAdmins [⟨true, "c"⟩]), (blk, "a", .freeze)] = ⟨["a"], false⟩ :=
  Wl.immutable_instantiation (m0 := ⟨[⟨true, "a"⟩], false⟩) rfl rfl _

/-- frozen, then a migration from an older version and an update attempt: the configuration stays -/
example : (Cw1SubkeysMigrate.run { exState with cfg := ⟨["admin"], false⟩, cw2 := some ⟨"x", some ⟨1, 0, 0, none⟩⟩ }
    [.migrate, .exec blk50 "admin" (.updateAdmins [⟨true, "sub"⟩])]).cfg = ⟨["admin"], false⟩ :=
  Sk.frozen_forever_with_migrations rfl _

/-! ## No contract call is ever relayed for a non-admin (monitor `C17/self-call-relayed-for-non-admin`)

A relayed `WasmMsg::Execute` addressed to the proxy itself arrives with the proxy as sender; when the proxy is one of
its own admins it passes every admin check.  Only admins can have the proxy relay a contract call at all. -/

/-- cw1-subkeys: a successful `Execute` of a non-admin relays no wasm message (in particular no self-call). -/
theorem Sk.nonadmin_relays_no_wasm {s s' : Cw1Subkeys.State} {blk : Block} {snd : Addr} {msgs out : List CosmosMsg}
    (hna : s.cfg.isAdmin snd = false) (h : Cw1Subkeys.execute s blk snd (.execute msgs) = .ok (s', out)) :
    ∀ p, CosmosMsg.wasm p ∉ out := by
  intro p hp
  rw [C07.Sk.relay_exact h] at hp
  obtain ⟨e, he⟩ := C07.Sk.other_kinds_rejected (m := .wasm p) hna hp rfl
  rw [h] at he; cases he

/-- cw1-whitelist: a non-admin relays nothing at all. -/
theorem Wl.nonadmin_relays_nothing {s : Cw1Whitelist.State} {blk : Block} {snd : Addr} {msgs : List CosmosMsg}
    (hna : snd ∉ s.admins) : (Cw1Whitelist.execute s blk snd (.execute msgs)).isOk = false := by
  have h := C07.Wl.execute_ok_iff s blk snd msgs
  cases hr : (Cw1Whitelist.execute s blk snd (.execute msgs)).isOk with
  | false => rfl
  | true => exact absurd (h.mp hr) hna


end CwPlus.Props.C17
