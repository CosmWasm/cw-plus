import CwPlus.Model.Cw3Flex
import CwPlus.Lemmas.Cw3Status
import CwPlus.Lemmas.Snapshot
/-!
# Lemmas about the cw3-flex-multisig model and its runtime world

* one inversion lemma per handler (`execute_*_ok_iff`; `execute_execute_ok_iff_proposal` / `execute_close_ok_iff_proposal` down to the proposal),
  every handler call as one `CoreStep` of the shared core,
* induction over a successful dispatch with a relational motive (`dispatch_induction`), and its instances for world
  predicates kept by every flex handler call, every group call and every bank and token change (`dispatch_inv` … `run_inv`),
* the invariant `Inv` of the multisig state, one handler call seen from one proposal slot (`SlotStep`), reachable worlds
  and the induction over them (`reachable_state_inv`).
-/
namespace CwPlus.Cw3Flex
open CwPlus CwPlus.Cw3 CwPlus.Cw3Core

theorem execute_propose_ok_iff {s s' : State} {g : Cw4Group.State} {self : Addr} {blk : Block} {snd : Addr} {funds : List Coin}
    {t d : String} {msgs : List Msg} {latest : Option Expiration} {out : List Out} :
    execute s g self blk snd funds (.propose t d msgs latest) = .ok (s', out) ↔
      (∀ dep, s.cfg.deposit = some dep → checkNativeDepositPaid dep funds = .ok ()) ∧
      ∃ w total c id, memberNow g snd = some w ∧ g.total.cur = some total ∧
        Cw3Core.propose s.core blk snd w s.cfg.threshold total s.cfg.maxVotingPeriod t d msgs latest s.cfg.deposit = .ok (c, id) ∧
        { s with core := c } = s' ∧ (match s.cfg.deposit with | some d => takeDeposit d snd self | none => []) = out := by
  simp only [execute, execPropose, Res.bind_ok, groupTotal_ok, Res.pure_ok, Prod.mk.injEq, Prod.exists]
  constructor
  · rintro ⟨u, hu, w, hw, total, ht, c, id, hp, hs, ho⟩
    refine ⟨fun dep hd => ?_, w, total, c, id, ?_, ht, hp, hs, ho⟩
    · rw [hd] at hu; exact hu
    · cases hm : memberNow g snd <;> rw [hm] at hw <;> cases hw; rfl
  · rintro ⟨hpaid, w, total, c, id, hw, ht, hp, hs, ho⟩
    refine ⟨(), ?_, w, by rw [hw], total, ht, c, id, hp, hs, ho⟩
    cases hd : s.cfg.deposit with
    | none => rfl
    | some dep => exact hpaid dep hd

theorem execute_vote_ok_iff {s s' : State} {g : Cw4Group.State} {self : Addr} {blk : Block} {snd : Addr} {funds : List Coin}
    {id : Nat} {v : Vote} {out : List Out} :
    execute s g self blk snd funds (.vote id v) = .ok (s', out) ↔
      ∃ c, Cw3Core.vote s.core blk snd id v (fun p => memberAt g snd p.startHeight) = .ok c ∧
        { s with core := c } = s' ∧ out = [] := by
  simp [execute, execVote]

theorem execute_execute_ok_iff {s s' : State} {g : Cw4Group.State} {self : Addr} {blk : Block} {snd : Addr} {funds : List Coin}
    {id : Nat} {out : List Out} :
    execute s g self blk snd funds (.execute id) = .ok (s', out) ↔
      ∃ p, s.core.proposals.get? id = some p ∧ ∃ c msgs,
        Cw3Core.execute s.core blk id (authorize s.cfg g snd) = .ok (c, msgs) ∧ { s with core := c } = s' ∧
        (match p.deposit with | some d => [refundMsg d p.proposer] | none => []) ++ msgs.map Out.msg = out := by
  simp only [execute, execExecute, Res.bind_ok, load_ok, Res.pure_ok, Prod.mk.injEq, Prod.exists]
  exact Iff.rfl

theorem execute_close_ok_iff {s s' : State} {g : Cw4Group.State} {self : Addr} {blk : Block} {snd : Addr} {funds : List Coin}
    {id : Nat} {out : List Out} :
    execute s g self blk snd funds (.close id) = .ok (s', out) ↔
      ∃ p, s.core.proposals.get? id = some p ∧ ∃ c, Cw3Core.close s.core blk id = .ok c ∧ { s with core := c } = s' ∧
        (match p.deposit with | some d => if d.refundFailed then [refundMsg d p.proposer] else [] | none => []) = out := by
  simp only [execute, execClose, Res.bind_ok, load_ok, Res.pure_ok, Prod.mk.injEq]
  exact Iff.rfl

theorem execute_hook_ok_iff {s s' : State} {g : Cw4Group.State} {self : Addr} {blk : Block} {snd : Addr} {funds : List Coin}
    {out : List Out} :
    execute s g self blk snd funds .memberChangedHook = .ok (s', out) ↔ snd = s.cfg.group ∧ s = s' ∧ out = [] := by
  simp [execute, execHook]

theorem execute_execute_ok_iff_proposal {s s' : State} {g : Cw4Group.State} {self : Addr} {blk : Block} {snd : Addr}
    {funds : List Coin} {id : Nat} {out : List Out} :
    execute s g self blk snd funds (.execute id) = .ok (s', out) ↔
    ∃ p, s.core.proposals.get? id = some p ∧ p.currentStatus blk = .ok .passed ∧ authorize s.cfg g snd = true ∧
      s' = { s with core := { s.core with proposals := s.core.proposals.set id { p with status := .executed } } } ∧
      out = (match p.deposit with | some d => [refundMsg d p.proposer] | none => []) ++ p.msgs.map Out.msg := by
  rw [execute_execute_ok_iff]
  constructor
  · rintro ⟨p, hp, c, msgs, he, rfl, rfl⟩
    obtain ⟨p0, hp0, hst, ha, rfl, rfl⟩ := execute_ok_iff.mp he
    cases hp.symm.trans hp0
    exact ⟨p, hp, hst, ha, rfl, rfl⟩
  · rintro ⟨p, hp, hst, ha, rfl, rfl⟩
    exact ⟨p, hp, _, _, execute_ok_iff.mpr ⟨p, hp, hst, ha, rfl, rfl⟩, rfl, rfl⟩

theorem execute_close_ok_iff_proposal {s s' : State} {g : Cw4Group.State} {self : Addr} {blk : Block} {snd : Addr}
    {funds : List Coin} {id : Nat} {out : List Out} :
    execute s g self blk snd funds (.close id) = .ok (s', out) ↔
    ∃ p st, s.core.proposals.get? id = some p ∧ p.status ≠ .executed ∧ p.status ≠ .rejected ∧ p.status ≠ .passed ∧
      p.currentStatus blk = .ok st ∧ st ≠ .passed ∧ p.expires.isExpired blk = true ∧
      s' = { s with core := { s.core with proposals := s.core.proposals.set id { p with status := .rejected } } } ∧
      out = (match p.deposit with | some d => if d.refundFailed then [refundMsg d p.proposer] else [] | none => []) := by
  rw [execute_close_ok_iff]
  constructor
  · rintro ⟨p, hp, c, hc, rfl, rfl⟩
    obtain ⟨p0, st, hp0, h1, h2, h3, hst, hne, hexp, rfl⟩ := close_ok_iff.mp hc
    cases hp.symm.trans hp0
    exact ⟨p, st, hp, h1, h2, h3, hst, hne, hexp, rfl, rfl⟩
  · rintro ⟨p, st, hp, h1, h2, h3, hst, hne, hexp, rfl, rfl⟩
    exact ⟨p, hp, _, close_ok_iff.mpr ⟨p, st, hp, h1, h2, h3, hst, hne, hexp, rfl⟩, rfl, rfl⟩

theorem eventOf_executed (s : State) (snd : Addr) (m : ExecMsg) (id : Nat) :
    eventOf s snd m = .executed id ↔ m = .execute id := by
  cases m <;> simp [eventOf]

theorem eventOf_closed (s : State) (snd : Addr) (m : ExecMsg) (id : Nat) :
    eventOf s snd m = .closed id ↔ m = .close id := by
  cases m <;> simp [eventOf]

/-- A successful handler call is one of the four core operations (or the hook no-op), with the flex-specific
parameters: proposer weight and total read from the group *now*, voter weight read at the start height. -/
theorem execute_cases {s s' : State} {g : Cw4Group.State} {self : Addr} {blk : Block} {snd : Addr} {funds : List Coin}
    {m : ExecMsg} {out : List Out} (h : execute s g self blk snd funds m = .ok (s', out)) :
    s'.cfg = s.cfg ∧
    ((∃ t d msgs latest w total id, m = .propose t d msgs latest ∧ memberNow g snd = some w ∧ g.total.cur = some total ∧
        (∀ dep, s.cfg.deposit = some dep → checkNativeDepositPaid dep funds = .ok ()) ∧
        out = (match s.cfg.deposit with | some d => takeDeposit d snd self | none => []) ∧
        Cw3Core.propose s.core blk snd w s.cfg.threshold total s.cfg.maxVotingPeriod t d msgs latest s.cfg.deposit
          = .ok (s'.core, id)) ∨
     (∃ id v, m = .vote id v ∧ out = [] ∧
        Cw3Core.vote s.core blk snd id v (fun p => memberAt g snd p.startHeight) = .ok s'.core) ∨
     (∃ id p msgs, m = .execute id ∧ s.core.proposals.get? id = some p ∧
        Cw3Core.execute s.core blk id (authorize s.cfg g snd) = .ok (s'.core, msgs) ∧
        out = (match p.deposit with | some d => [refundMsg d p.proposer] | none => []) ++ msgs.map Out.msg) ∨
     (∃ id p, m = .close id ∧ s.core.proposals.get? id = some p ∧ Cw3Core.close s.core blk id = .ok s'.core ∧
        out = (match p.deposit with | some d => if d.refundFailed then [refundMsg d p.proposer] else [] | none => [])) ∨
     (m = .memberChangedHook ∧ snd = s.cfg.group ∧ s' = s ∧ out = [])) := by
  cases m with
  | propose t d msgs latest =>
    obtain ⟨hpaid, w, total, c, id, hw, ht, hp, rfl, rfl⟩ := execute_propose_ok_iff.mp h
    exact ⟨rfl, .inl ⟨t, d, msgs, latest, w, total, id, rfl, hw, ht, hpaid, rfl, hp⟩⟩
  | vote id v =>
    obtain ⟨c, hv, rfl, rfl⟩ := execute_vote_ok_iff.mp h
    exact ⟨rfl, .inr (.inl ⟨id, v, rfl, rfl, hv⟩)⟩
  | execute id =>
    obtain ⟨p, hp, c, msgs, he, rfl, rfl⟩ := execute_execute_ok_iff.mp h
    exact ⟨rfl, .inr (.inr (.inl ⟨id, p, msgs, rfl, hp, he, rfl⟩))⟩
  | close id =>
    obtain ⟨p, hp, c, hc, rfl, rfl⟩ := execute_close_ok_iff.mp h
    exact ⟨rfl, .inr (.inr (.inr (.inl ⟨id, p, rfl, hp, hc, rfl⟩)))⟩
  | memberChangedHook =>
    obtain ⟨hs, rfl, rfl⟩ := execute_hook_ok_iff.mp h
    exact ⟨rfl, .inr (.inr (.inr (.inr ⟨rfl, hs, rfl, rfl⟩)))⟩

theorem dispatch_nil (ext : Ext) (fuel : Nat) (w : World) (blk : Block) : dispatch ext fuel w blk [] = .ok w := by
  cases fuel <;> rfl

/-- A call into the deposit token succeeds only on the world's token contract, with a message that emits nothing. -/
theorem tokenCall_ok_iff {w w' : World} {blk : Block} {token : Addr} {m : Cw20.Msg} :
    tokenCall w blk token m = .ok w' ↔
      token = w.tokenAddr ∧ ∃ t, Cw20.execute w.token blk w.self m = .ok (t, []) ∧ w' = { w with token := t } := by
  simp only [tokenCall, Res.bind_ok, check_ok, decide_eq_true_eq, Res.pure_ok, List.isEmpty_iff]
  constructor
  · rintro ⟨_, htok, ⟨t, out⟩, hex, _, rfl, rfl⟩; exact ⟨htok, t, hex, rfl⟩
  · rintro ⟨htok, t, hex, rfl⟩; exact ⟨(), htok, (t, []), hex, (), rfl, rfl⟩

theorem tokenCall_frame {w w' : World} {blk : Block} {token : Addr} {m : Cw20.Msg} (h : tokenCall w blk token m = .ok w') :
    ∃ t, w' = { w with token := t } :=
  (tokenCall_ok_iff.mp h).2.imp fun _ h => h.2

/-- **Induction over a successful `dispatch`**, with a motive relating the world before, the list dispatched and the
world after.  The cases are what the runtime can do with the first message before it goes on with the rest: a call
back into the multisig (a self-call of a proposal message, or the group's hook) followed by the dispatch of what the
handler returned; a bank send (returned as such, or as a proposal message); a `Transfer` / `TransferFrom` on the
deposit token; a group update (proposal message `other tag` that `ext` resolves) followed by the dispatch of the
group's hook messages. -/
theorem dispatch_induction (ext : Ext) (blk : Block) {M : World → List Out → World → Prop}
    (nil : ∀ w, M w [] w)
    (call : ∀ {w o rest snd em s' out w1 w'},
      (∃ m, o = .msg m ∧ selfCall m = some em ∧ snd = w.self) ∨ (o = .groupHook w.self ∧ em = .memberChangedHook ∧ snd = w.groupAddr) →
      execute w.flex w.group w.self blk snd [] em = .ok (s', out) →
      M { w with flex := s', log := w.log ++ [eventOf w.flex snd em] } out w1 → M w1 rest w' → M w (o :: rest) w')
    (bank : ∀ {w o rest to amt denom b w'}, o = .bank to amt denom ∨ o = .msg (.bank to amt denom) →
      Cw3Fixed.bankSend w.bank w.self to amt denom = .ok b → M { w with bank := b } rest w' → M w (o :: rest) w')
    (token : ∀ {w o rest tok m w1 w'},
      (∃ to amt, o = .cw20Transfer tok to amt ∧ m = .transfer ⟨true, to⟩ amt) ∨
        (∃ owner to amt, o = .cw20TransferFrom tok owner to amt ∧ m = .transferFrom ⟨true, owner⟩ ⟨true, to⟩ amt) →
      tokenCall w blk tok m = .ok w1 → M w1 rest w' → M w (o :: rest) w')
    (group : ∀ {w rest tag add remove g' outs w1 w'}, ext tag = some (add, remove) →
      Cw4Group.execute w.group blk.height w.self
        (.updateMembers (remove.map fun a => ⟨true, a⟩) (add.map fun p => (⟨true, p.1⟩, p.2))) = .ok (g', outs) →
      M { w with group := g', log := w.log ++ [.groupWrite blk.height] } (outs.map fun o => Out.groupHook o.hook) w1 →
      M w1 rest w' → M w (.msg (.other tag) :: rest) w') :
    ∀ fuel w outs w', dispatch ext fuel w blk outs = .ok w' → M w outs w' := by
  intro fuel
  induction fuel with
  | zero =>
    intro w outs w' h
    cases outs with
    | nil => cases h; exact nil w
    | cons o rest => cases h
  | succ fuel ih =>
    intro w outs w' h
    cases outs with
    | nil => cases h; exact nil w
    | cons o rest =>
      simp only [dispatch, Res.bind_ok] at h
      obtain ⟨w1, h1, h2⟩ := h
      have hrest := ih w1 rest w' h2
      cases o with
      | msg m =>
        simp only at h1
        cases hs : selfCall m with
        | some em =>
          rw [hs] at h1
          simp only [Res.bind_ok] at h1
          obtain ⟨⟨s', out⟩, he, hd⟩ := h1
          exact call (.inl ⟨m, rfl, hs, rfl⟩) he (ih _ out w1 hd) hrest
        | none =>
          rw [hs] at h1
          cases m with
          | bank to amt denom =>
            simp only [Res.bind_ok, Res.pure_ok] at h1
            obtain ⟨b, hb, rfl⟩ := h1
            exact bank (.inr rfl) hb hrest
          | other tag =>
            simp only at h1
            cases hx : ext tag with
            | none => simp [hx] at h1
            | some ar =>
              obtain ⟨add, remove⟩ := ar
              simp only [hx, Res.bind_ok] at h1
              obtain ⟨⟨g', outs⟩, hg, hd⟩ := h1
              exact group hx hg (ih _ _ w1 hd) hrest
          | selfExecute id => cases hs
          | selfClose id => cases hs
          | selfVote id v => cases hs
          | selfPropose l => cases hs
          | noContract tag => cases h1
      | bank to amt denom =>
        simp only [Res.bind_ok, Res.pure_ok] at h1
        obtain ⟨b, hb, rfl⟩ := h1
        exact bank (.inl rfl) hb hrest
      | cw20Transfer tok to amt => exact token (.inl ⟨to, amt, rfl, rfl⟩) h1 hrest
      | cw20TransferFrom tok owner to amt => exact token (.inr ⟨owner, to, amt, rfl, rfl⟩) h1 hrest
      | groupHook hook =>
        simp only at h1
        split at h1
        · rename_i e
          subst e
          simp only [Res.bind_ok] at h1
          obtain ⟨⟨s', out⟩, he, hd⟩ := h1
          exact call (.inr ⟨rfl, rfl, rfl⟩) he (ih _ out w1 hd) hrest
        · cases h1

theorem dispatch_inv (ext : Ext) (Q : World → Prop) (blk : Block)
    (hflex : ∀ w snd funds em s' out, Q w → execute w.flex w.group w.self blk snd funds em = .ok (s', out) →
        Q { w with flex := s', log := w.log ++ [eventOf w.flex snd em] })
    (hgroup : ∀ w snd m g' outs, Q w → Cw4Group.execute w.group blk.height snd m = .ok (g', outs) →
        Q { w with group := g', log := w.log ++ [.groupWrite blk.height] })
    (hbank : ∀ w b, Q w → Q { w with bank := b })
    (htoken : ∀ w t, Q w → Q { w with token := t }) :
    ∀ fuel w outs w', Q w → dispatch ext fuel w blk outs = .ok w' → Q w' := by
  intro fuel w outs w' hq h
  refine dispatch_induction ext blk (M := fun w _ w' => Q w → Q w') (fun _ hq => hq) ?_ ?_ ?_ ?_ fuel w outs w' h hq
  · intro w _ _ snd em s' out _ _ _ he h1 h2 hq
    exact h2 (h1 (hflex w snd [] em s' out hq he))
  · intro w _ _ _ _ _ b _ _ _ h2 hq
    exact h2 (hbank w b hq)
  · intro w _ _ _ _ w1 _ _ hc h2 hq
    obtain ⟨t, rfl⟩ := tokenCall_frame hc
    exact h2 (htoken w t hq)
  · intro w _ _ _ _ g' outs _ _ _ hg h1 h2 hq
    exact h2 (h1 (hgroup w w.self _ g' outs hq hg))

theorem tx_inv (ext : Ext) (Q : World → Prop) (blk : Block)
    (hflex : ∀ w snd funds em s' out, Q w → execute w.flex w.group w.self blk snd funds em = .ok (s', out) →
        Q { w with flex := s', log := w.log ++ [eventOf w.flex snd em] })
    (hgroup : ∀ w snd m g' outs, Q w → Cw4Group.execute w.group blk.height snd m = .ok (g', outs) →
        Q { w with group := g', log := w.log ++ [.groupWrite blk.height] })
    (hbank : ∀ w b, Q w → Q { w with bank := b })
    (htoken : ∀ w t, Q w → Q { w with token := t })
    {fuel : Nat} {w w' : World} {act : Action} (hq : Q w) (h : tx ext fuel w blk act = .ok w') : Q w' := by
  cases act with
  | flex snd funds m =>
    simp only [tx, Res.bind_ok] at h
    obtain ⟨b, _, ⟨s', out⟩, he, hd⟩ := h
    exact dispatch_inv ext Q blk hflex hgroup hbank htoken fuel _ out w'
      (hflex { w with bank := b } snd funds m s' out (hbank w b hq) he) hd
  | group snd m =>
    simp only [tx, Res.bind_ok] at h
    obtain ⟨⟨g', outs⟩, hg, hd⟩ := h
    exact dispatch_inv ext Q blk hflex hgroup hbank htoken fuel _ _ w' (hgroup w snd m g' outs hq hg) hd
  | token snd m =>
    simp [tx] at h
    obtain ⟨t, out, _, _, rfl⟩ := h
    exact htoken w t hq

theorem step_inv (ext : Ext) (Q : World → Prop) (fuel : Nat) (w : World) (op : Op)
    (hflex : ∀ w snd funds em s' out, Q w → execute w.flex w.group w.self op.blk snd funds em = .ok (s', out) →
        Q { w with flex := s', log := w.log ++ [eventOf w.flex snd em] })
    (hgroup : ∀ w snd m g' outs, Q w → Cw4Group.execute w.group op.blk.height snd m = .ok (g', outs) →
        Q { w with group := g', log := w.log ++ [.groupWrite op.blk.height] })
    (hbank : ∀ w b, Q w → Q { w with bank := b })
    (htoken : ∀ w t, Q w → Q { w with token := t })
    (hq : Q w) : Q (step ext fuel w op) := by
  unfold step
  split
  · rename_i w' htx; exact tx_inv ext Q op.blk hflex hgroup hbank htoken hq htx
  · exact hq

theorem run_inv (ext : Ext) (Q : World → Prop) (fuel : Nat)
    (hstep : ∀ w op, Q w → Q (step ext fuel w op)) (ops : List Op) (w : World) (h : Q w) : Q (run ext fuel w ops) :=
  foldl_invariant Q (fun w hw op _ => hstep w op hw) h

theorem run_state_inv (ext : Ext) (P : State → Prop)
    (hP : ∀ g self blk s snd funds m s' out, P s → execute s g self blk snd funds m = .ok (s', out) → P s')
    (fuel : Nat) (ops : List Op) (w : World) (h : P w.flex) : P (run ext fuel w ops).flex :=
  run_inv ext (fun w => P w.flex) fuel
    (fun w op hq => step_inv ext (fun w => P w.flex) fuel w op
      (fun w snd funds em s' out hq he => hP w.group w.self op.blk w.flex snd funds em s' out hq he)
      (fun _ _ _ _ _ hq _ => hq) (fun _ _ hq => hq) (fun _ _ hq => hq) hq) ops w h

@[simp] theorem run_nil (ext : Ext) (fuel : Nat) (w : World) : run ext fuel w [] = w := rfl
@[simp] theorem run_cons (ext : Ext) (fuel : Nat) (w : World) (op : Op) (ops : List Op) :
    run ext fuel w (op :: ops) = run ext fuel (step ext fuel w op) ops := rfl
theorem run_append (ext : Ext) (fuel : Nat) (w : World) (ops ops' : List Op) :
    run ext fuel w (ops ++ ops') = run ext fuel (run ext fuel w ops) ops' := by
  simp [run, List.foldl_append]

/-- * the core is well-formed (`Cw3Core.WF`: ids `1..count`, one ballot per key, tally = Σ ballots),
* every proposal carries the configured deposit, and a configured deposit is non-zero. -/
structure Inv (s : State) : Prop where
  wf : Cw3Core.WF s.core
  propDeposit : ∀ id p, s.core.proposals.get? id = some p → p.deposit = s.cfg.deposit
  depositPos : ∀ d, s.cfg.deposit = some d → d.amount ≠ 0

theorem instantiate_ok {m : InstMsg} {g : Option Cw4Group.State} {s : State} (h : instantiate m g = .ok s) :
    s.core = Core.empty ∧ (∃ t0, s.cfg.threshold.validate t0 = .ok ()) ∧ ∀ d, s.cfg.deposit = some d → d.amount ≠ 0 := by
  simp only [instantiate, Res.bind_ok, Res.pure_ok] at h
  obtain ⟨_, _, total, _, _, hv, dep, hdep, rfl⟩ := h
  refine ⟨rfl, ⟨total, hv⟩, fun d hd => ?_⟩
  cases hm : m.deposit with
  | none => rw [hm] at hdep; cases hdep; cases hd
  | some da =>
    simp only [hm, checkDeposit, Res.bind_ok, check_ok, Res.pure_ok, decide_eq_true_eq] at hdep
    obtain ⟨_, ⟨_, hne, _, _, rfl⟩, rfl⟩ := hdep
    cases hd; exact hne

theorem instantiate_core {m : InstMsg} {g : Option Cw4Group.State} {s : State} (h : instantiate m g = .ok s) :
    s.core = Core.empty :=
  (instantiate_ok h).1

theorem instantiate_inv {m : InstMsg} {g : Option Cw4Group.State} {s : State} (h : instantiate m g = .ok s) : Inv s := by
  obtain ⟨hc, _, hd⟩ := instantiate_ok h
  exact ⟨hc ▸ wf_empty, fun id p hp => (by rw [hc] at hp; cases hp), hd⟩

/-- One successful handler call seen from the slot of proposal `id` of the new state (its record `p'` and its
ballots): the slot existed and only status / tally may differ, with the ballots kept or — `Vote` on this proposal —
extended by the sender's ballot, whose weight is the group's answer at the start height; or the slot is the one
`Propose` just created, with the configured threshold and deposit, the group's current total, the proposer's
current weight as its only ballot, and the status `current_status` gave for it at this block. -/
inductive SlotStep (s : State) (g : Cw4Group.State) (blk : Block) (snd : Addr) (m : ExecMsg) (s' : State) (id : Nat)
    (p' : Proposal) : Prop
  | kept (p : Proposal) : s.core.proposals.get? id = some p → p'.fixedPart = p.fixedPart →
      ballotsOf s'.core id = ballotsOf s.core id → SlotStep s g blk snd m s' id p'
  | voted (p : Proposal) (v : Vote) (w : Nat) : s.core.proposals.get? id = some p → p'.fixedPart = p.fixedPart →
      (ballotsOf s.core id).get? snd = none → memberAt g snd p.startHeight = some w → 1 ≤ w →
      ballotsOf s'.core id = (ballotsOf s.core id).set snd ⟨w, v⟩ → SlotStep s g blk snd m s' id p'
  | created (w : Nat) : id = s.core.count + 1 → eventOf s snd m = .proposed id snd →
      p'.threshold = s.cfg.threshold → p'.deposit = s.cfg.deposit → p'.startHeight = blk.height → p'.proposer = snd →
      g.total.cur = some p'.totalWeight → memberNow g snd = some w → ballotsOf s'.core id = [(snd, ⟨w, .yes⟩)] →
      p'.votes = Votes.ofYes w → Proposal.currentStatus { p' with status := .open } blk = .ok p'.status →
      SlotStep s g blk snd m s' id p'

theorem execute_slot {s s' : State} {g : Cw4Group.State} {self : Addr} {blk : Block} {snd : Addr} {funds : List Coin}
    {m : ExecMsg} {out : List Out} (hw : WF s.core) (h : execute s g self blk snd funds m = .ok (s', out)) {id : Nat}
    {p' : Proposal} (hp' : s'.core.proposals.get? id = some p') : SlotStep s g blk snd m s' id p' := by
  -- the three operations that rewrite the record of one existing proposal `id0`
  have upd : ∀ {id0 : Nat} {q : Proposal} {bs : AMap Nat (AMap Addr Ballot)},
      s' = { s with core := { s.core with proposals := s.core.proposals.set id0 q, ballots := bs } } →
      (id0 = id → p' = q → SlotStep s g blk snd m s' id p') →
      (ballotsOf s'.core id = ballotsOf s.core id ∨ id0 = id) → SlotStep s g blk snd m s' id p' := by
    intro id0 q bs hs hsame hb
    subst hs
    rw [AMap.get?_set] at hp'
    by_cases e : id0 = id
    · rw [if_pos e] at hp'; exact hsame e (Option.some.inj hp').symm
    · rw [if_neg e] at hp'
      exact .kept p' hp' rfl (hb.resolve_right e)
  cases m with
  | propose t d msgs latest =>
    obtain ⟨_, w, total, c, id0, hw0, ht, hp, rfl, _⟩ := execute_propose_ok_iff.mp h
    obtain ⟨expires, st, _, hst, hid, _, rfl⟩ := propose_ok hp
    rw [AMap.get?_set] at hp'
    by_cases e : id0 = id
    · rw [if_pos e] at hp'; cases hp'; subst e
      refine .created w hid (by rw [hid]; rfl) rfl rfl rfl rfl ht hw0 ?_ rfl hst
      rw [ballotsOf_set, if_pos rfl, hw.noBallots _ (hw.fresh (by omega))]; rfl
    · rw [if_neg e] at hp'
      exact .kept p' hp' rfl (by rw [ballotsOf_set, if_neg e])
  | vote id0 v =>
    obtain ⟨c, hv, rfl, _⟩ := execute_vote_ok_iff.mp h
    obtain ⟨p, w, votes, st, hp, _, _, hw0, hw1, hnb, _, _, rfl⟩ := vote_ok hv
    refine upd rfl (fun e hq => ?_) ?_
    · subst e hq; exact .voted p v w hp rfl hnb hw0 hw1 (by rw [ballotsOf_set, if_pos rfl])
    · by_cases e : id0 = id
      · exact .inr e
      · exact .inl (by rw [ballotsOf_set, if_neg e])
  | execute id0 =>
    obtain ⟨_, _, c, msgs, he, rfl, _⟩ := execute_execute_ok_iff.mp h
    obtain ⟨p, hp, _, _, _, rfl⟩ := execute_ok he
    exact upd rfl (fun e hq => by subst e hq; exact .kept p hp rfl rfl) (.inl rfl)
  | close id0 =>
    obtain ⟨_, _, c, hc, rfl, _⟩ := execute_close_ok_iff.mp h
    obtain ⟨p, _, hp, _, _, _, _, _, _, rfl⟩ := close_ok hc
    exact upd rfl (fun e hq => by subst e hq; exact .kept p hp rfl rfl) (.inl rfl)
  | memberChangedHook =>
    obtain ⟨_, rfl, _⟩ := execute_hook_ok_iff.mp h
    exact .kept p' hp' rfl rfl

theorem execute_coreStep {s s' : State} {g : Cw4Group.State} {self : Addr} {blk : Block} {snd : Addr} {funds : List Coin}
    {m : ExecMsg} {out : List Out} (h : execute s g self blk snd funds m = .ok (s', out)) : CoreStep blk s.core s'.core := by
  obtain ⟨_, hc⟩ := execute_cases h
  rcases hc with ⟨t, d, msgs, latest, w, total, id, _, _, _, _, _, hp⟩ | ⟨id, v, _, _, hv⟩ | ⟨id, p, msgs, _, _, he, _⟩ |
    ⟨id, p, _, _, hcl, _⟩ | ⟨_, _, rfl, _⟩
  · exact .propose _ _ _ _ _ _ _ _ _ _ _ hp
  · exact .vote _ _ _ _ hv
  · exact .execute _ _ _ he
  · exact .close _ hcl
  · exact .same rfl

theorem execute_inv {s s' : State} {g : Cw4Group.State} {self : Addr} {blk : Block} {snd : Addr} {funds : List Coin}
    {m : ExecMsg} {out : List Out} (hi : Inv s) (h : execute s g self blk snd funds m = .ok (s', out)) : Inv s' := by
  have hcfg := (execute_cases h).1
  refine ⟨coreStep_wf hi.wf (execute_coreStep h), fun id p' hp' => ?_, hcfg ▸ hi.depositPos⟩
  rw [hcfg]
  cases execute_slot hi.wf h hp' with
  | kept p hp hf _ => exact (fixedPart_fields hf).2.2.2.2.2.2.2.2.trans (hi.propDeposit id p hp)
  | voted p _ _ hp hf => exact (fixedPart_fields hf).2.2.2.2.2.2.2.2.trans (hi.propDeposit id p hp)
  | created _ _ _ _ hd => exact hd

theorem execute_later {s s' : State} {g : Cw4Group.State} {self : Addr} {blk : Block} {snd : Addr} {funds : List Coin}
    {m : ExecMsg} {out : List Out} (hi : Inv s) (h : execute s g self blk snd funds m = .ok (s', out)) :
    Later s.core s'.core :=
  coreStep_later hi.wf (execute_coreStep h)

/-- The worlds reachable from an accepted instantiation of the multisig on top of any group state, any token
state, any bank, by any finite history of transactions on the multisig, the group and the token. -/
def Reachable (ext : Ext) (fuel : Nat) (w : World) : Prop :=
  ∃ (m : InstMsg) (s : State) (g : Cw4Group.State) (t : Cw20.State) (bank : AMap (Addr × String) Nat)
    (self groupAddr tokenAddr : Addr) (h0 : Nat) (ops : List Op),
    instantiate m (some g) = .ok s ∧ w = run ext fuel (World.init s g t bank self groupAddr tokenAddr h0) ops

theorem reachable_state_inv {P : State → Prop}
    (hinit : ∀ {m g s}, instantiate m (some g) = .ok s → P s)
    (hstep : ∀ {g self blk s snd funds m s' out}, Inv s → P s → execute s g self blk snd funds m = .ok (s', out) → P s')
    {ext : Ext} {fuel : Nat} {w : World} (h : Reachable ext fuel w) : Inv w.flex ∧ P w.flex := by
  obtain ⟨m, s, g, t, bank, self, ga, ta, h0, ops, hi, rfl⟩ := h
  exact run_state_inv ext (fun s => Inv s ∧ P s) (fun _ _ _ _ _ _ _ _ _ hq h => ⟨execute_inv hq.1 h, hstep hq.1 hq.2 h⟩)
    fuel ops _ ⟨instantiate_inv hi, hinit hi⟩

theorem reachable_inv {ext : Ext} {fuel : Nat} {w : World} (h : Reachable ext fuel w) : Inv w.flex :=
  (reachable_state_inv (P := fun _ => True) (fun _ => trivial) (fun _ _ _ => trivial) h).1

theorem reachable_run {ext : Ext} {fuel : Nat} {w : World} (h : Reachable ext fuel w) (ops : List Op) :
    Reachable ext fuel (run ext fuel w ops) := by
  obtain ⟨m, s, g, t, bank, self, ga, ta, h0, ops0, hi, rfl⟩ := h
  exact ⟨m, s, g, t, bank, self, ga, ta, h0, ops0 ++ ops, hi, (run_append ext fuel _ ops0 ops).symm⟩

/-- Over a history the multisig's core only ever moves to a `Later` core. -/
theorem run_later (ext : Ext) (fuel : Nat) (ops : List Op) {w : World} (hi : Inv w.flex) :
    Later w.flex.core (run ext fuel w ops).flex.core :=
  (run_state_inv ext (fun s => Inv s ∧ Later w.flex.core s.core)
    (fun _ _ _ _ _ _ _ _ _ hq h => ⟨execute_inv hq.1 h, later_trans hq.2 (execute_later hq.1 h)⟩)
    fuel ops w ⟨hi, later_refl _⟩).2

end CwPlus.Cw3Flex
