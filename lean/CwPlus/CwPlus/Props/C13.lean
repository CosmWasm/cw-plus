import CwPlus.Props.Cw20Mixed
/-!
# C13 — cw20: only the current minter mints, and never beyond the cap

Tokens are created only by a `mint` from the address currently stored as minter; the supply never
exceeds the cap fixed at instantiation (ghost `cap0`), which survives every hand-over; only the current
minter can hand over or renounce the role; once renounced nobody mints or becomes minter again.
Histories are `C01.run` (any senders, any messages, failed calls rolled back).
-/
namespace CwPlus.Props.C13
open CwPlus CwPlus.Cw20
open CwPlus.Props.C01 (run)

/-- Case analysis used by every clause: what one successful call can do to `supply` and `mint`.
Either (1) `mint` is untouched and the supply does not rise, or (2) it is a `mint` by the stored
minter within the stored cap, or (3) it is an `updateMinter` by the stored minter, which keeps the
supply and either removes the role or hands it over together with the old cap. -/
theorem execute_cases {s s' : State} {blk : Block} {snd : Addr} {msg : Msg} {out : List Out}
    (h : execute s blk snd msg = .ok (s', out)) :
    (s'.mint = s.mint ∧ s'.supply ≤ s.supply ∧ (∀ new, msg ≠ .updateMinter new))
    ∨ (∃ to amt m, msg = .mint to amt ∧ s.mint = some m ∧ m.minter = snd ∧ s'.mint = s.mint
        ∧ s'.supply = s.supply + amt ∧ ∀ c, m.cap = some c → s.supply + amt ≤ c)
    ∨ (∃ new m, msg = .updateMinter new ∧ s.mint = some m ∧ m.minter = snd ∧ s'.supply = s.supply
        ∧ s'.mint = new.map (fun a => ⟨a.text, m.cap⟩) ∧ ∀ a, new = some a → a.valid = true) := by
  cases msg
  case mint to amt =>
    obtain ⟨m, hm, hs, _, hcap, _, b, _, hr⟩ := execMint_ok_iff.mp h
    cases hr
    exact .inr (.inl ⟨to, amt, m, rfl, hm, hs, rfl, rfl, hcap⟩)
  case updateMinter new =>
    obtain ⟨m, hm, hs, hv, hr⟩ := execUpdateMinter_ok_iff.mp h
    cases hr
    exact .inr (.inr ⟨new, m, rfl, hm, hs, rfl, rfl, hv⟩)
  -- every other kind leaves the minter record alone (`execute_frame`) and does not raise the supply (`supply_delta`)
  all_goals
    have hs := C01.supply_delta h
    dsimp only at hs
    -- `Msg.noConfusion` and not `nofun`: with twelve constructors the latter costs ten times as much to elaborate
    exact .inl ⟨(execute_frame h).2.2.1, by omega, fun _ h => Msg.noConfusion h⟩

/-! ## Only the current minter mints -/

/-- **C13, clause 1**: if a successful call raised the supply, it was a `mint` sent by the address
stored as minter at that moment. -/
theorem mint_only_minter {s s' : State} {blk : Block} {snd : Addr} {msg : Msg} {out : List Out}
    (h : execute s blk snd msg = .ok (s', out)) (hlt : s.supply < s'.supply) :
    ∃ to amt m, msg = .mint to amt ∧ s.mint = some m ∧ m.minter = snd := by
  rcases execute_cases h with ⟨_, hle, _⟩ | ⟨to, amt, m, rfl, hm, hs, _⟩ | ⟨new, m, _, _, _, he, _⟩
  · omega
  · exact ⟨to, amt, m, rfl, hm, hs⟩
  · omega

/-- A `mint` (of any amount, also 0) succeeds only for the stored minter and only within the stored
cap; it adds exactly `amt`. -/
theorem mint_requires_minter {s s' : State} {blk : Block} {snd : Addr} {to : AddrArg} {amt : Nat} {out : List Out}
    (h : execute s blk snd (.mint to amt) = .ok (s', out)) :
    ∃ m, s.mint = some m ∧ m.minter = snd ∧ s'.supply = s.supply + amt ∧ ∀ c, m.cap = some c → s'.supply ≤ c := by
  obtain ⟨m, hm, hs, _, hcap, _, b, _, hr⟩ := execMint_ok_iff.mp h
  cases hr
  exact ⟨m, hm, hs, rfl, hcap⟩

/-- A `mint` by anybody but the stored minter fails, whatever the amount (also when no minter is stored). -/
theorem mint_by_other_fails {s : State} {blk : Block} {snd : Addr} {to : AddrArg} {amt : Nat}
    (hne : ∀ m, s.mint = some m → m.minter ≠ snd) : ∃ e, execute s blk snd (.mint to amt) = .error e := by
  cases hx : execute s blk snd (.mint to amt) with
  | error e => exact ⟨e, rfl⟩
  | ok r =>
    obtain ⟨m, hm, hs, _⟩ := mint_requires_minter (s' := r.1) (out := r.2) hx
    exact absurd hs (hne m hm)

/-! ## Never beyond the cap fixed at instantiation -/

/-- The cap given in the instantiate message (`InstantiateMsg::get_cap`); `none` when no minter or
no cap is given. -/
def instCap (m : InstMsg) : Option Nat :=
  match m.mint with
  | some (_, c) => c
  | none => none

/-- The invariant with the ghost `cap0`: whoever holds the minter role holds it with the original
cap, and the supply respects that cap. -/
def Inv13 (cap0 : Option Nat) (s : State) : Prop :=
  (∀ m, s.mint = some m → m.cap = cap0) ∧ (∀ c, cap0 = some c → s.supply ≤ c)

/-- Every accepted instantiation establishes `Inv13` for the cap of its message.  Without a minter
`instCap m = none` and the invariant holds trivially; that case is covered by
`instantiate_no_minter` (the supply can then never rise at all). -/
theorem instantiate_inv13 {m : InstMsg} {s : State} (h : instantiate m = .ok s) : Inv13 (instCap m) s := by
  obtain ⟨_, b, t, mk, lg, _, hcap, _, rfl⟩ := instantiate_ok h
  unfold Inv13 instCap
  rcases hm : m.mint with _ | ⟨a, cap⟩
  · exact ⟨nofun, nofun⟩
  · exact ⟨fun m' hm' => by cases hm'; rfl, fun c hc => hcap a c (by rw [hm, ← hc])⟩

theorem instantiate_mint {m : InstMsg} {s : State} (h : instantiate m = .ok s) :
    s.mint = m.mint.map (fun p => ⟨p.1.text, p.2⟩) := by
  obtain ⟨_, b, t, mk, lg, _, _, _, rfl⟩ := instantiate_ok h
  rfl

/-- Every successful call of every message kind preserves `Inv13` (mint is checked against the stored
cap, which is `cap0`; `updateMinter` copies the cap; burns only lower the supply). -/
theorem execute_inv13 {cap0 : Option Nat} {s s' : State} {blk : Block} {snd : Addr} {msg : Msg} {out : List Out}
    (hi : Inv13 cap0 s) (h : execute s blk snd msg = .ok (s', out)) : Inv13 cap0 s' := by
  obtain ⟨h1, h2⟩ := hi
  rcases execute_cases h with ⟨em, hle, _⟩ | ⟨to, amt, m, _, hm, _, em, hsup, hcap⟩ | ⟨new, m, _, hm, _, hsup, em, _⟩
  · refine ⟨by rw [em]; exact h1, ?_⟩
    intro c hc; have := h2 c hc; omega
  · refine ⟨by rw [em]; exact h1, ?_⟩
    intro c hc
    have := hcap c (by rw [h1 m hm]; exact hc)
    omega
  · refine ⟨?_, by rw [hsup]; exact h2⟩
    intro m' hm'
    rw [em] at hm'
    cases new with
    | none => simp at hm'
    | some a => simp at hm'; subst hm'; exact h1 m hm

theorem run_inv13 {cap0 : Option Nat} {s : State} (hi : Inv13 cap0 s) (ops : List (Block × Addr × Msg)) :
    Inv13 cap0 (run s ops) :=
  run_preserves execute_inv13 ops hi

/-- **C13, clause 2 (main theorem)**: after any accepted instantiation and any history (mints, burns
that make room, chains of hand-overs, former minters retrying, strangers), every holder of the minter
role carries the cap of the instantiate message and the supply does not exceed it. -/
theorem reach_cap {m : InstMsg} {s : State} (h : instantiate m = .ok s) (ops : List (Block × Addr × Msg)) :
    Inv13 (instCap m) (run s ops) :=
  run_inv13 (instantiate_inv13 h) ops

/-- Readable corollary: instantiated with minter `a` and cap `c`, the supply never exceeds `c`. -/
theorem supply_le_cap {m : InstMsg} {s : State} {a : AddrArg} {c : Nat} (h : instantiate m = .ok s)
    (hm : m.mint = some (a, some c)) (ops : List (Block × Addr × Msg)) : (run s ops).supply ≤ c :=
  (reach_cap h ops).2 c (by simp [instCap, hm])

/-! ## The tokens in circulation (Σ balances), not only the recorded supply

The monitors `C13/tokens-created-without-mint` and `C13/circulation-above-cap` evaluate these two statements on
the implementation's listed balances. -/

/-- **C13, clause 1 for the tokens that exist**: on a state satisfying the C01 invariant, if a successful call
raised the sum of all balances, it was a `mint` sent by the address stored as minter at that moment. -/
theorem circulation_rises_only_by_mint {s s' : State} {blk : Block} {snd : Addr} {msg : Msg} {out : List Out}
    (hi : C01.Inv s) (h : execute s blk snd msg = .ok (s', out)) (hlt : AMap.sum s.balances < AMap.sum s'.balances) :
    ∃ to amt m, msg = .mint to amt ∧ s.mint = some m ∧ m.minter = snd := by
  have hi' := C01.execute_inv hi h
  exact mint_only_minter h (by rw [hi.1, hi'.1]; exact hlt)

/-- **C13, clause 2 for the tokens that exist**: instantiated with a cap `c`, the sum of all balances never
exceeds `c`, after any history. -/
theorem circulation_le_cap {m : InstMsg} {s : State} {a : AddrArg} {c : Nat} (h : instantiate m = .ok s)
    (hm : m.mint = some (a, some c)) (ops : List (Block × Addr × Msg)) : AMap.sum (run s ops).balances ≤ c := by
  have := (C01.reach_inv h ops).1
  have := supply_le_cap h hm ops
  omega

/-! ## The role moves only by its holder; renouncing is final -/

/-- **C13, clause 3**: the stored minter record changes only by an `updateMinter` sent by the current
minter; the new record is the requested (validated) address with the *old* cap, or nothing. -/
theorem update_minter_auth {s s' : State} {blk : Block} {snd : Addr} {msg : Msg} {out : List Out}
    (h : execute s blk snd msg = .ok (s', out)) (hne : s'.mint ≠ s.mint) :
    ∃ new m, msg = .updateMinter new ∧ s.mint = some m ∧ m.minter = snd
      ∧ s'.mint = new.map (fun a => ⟨a.text, m.cap⟩) := by
  rcases execute_cases h with ⟨em, _, _⟩ | ⟨_, _, _, _, _, _, em, _⟩ | ⟨new, m, he, hm, hs, _, em, _⟩
  · exact absurd em hne
  · exact absurd em hne
  · exact ⟨new, m, he, hm, hs, em⟩

/-- An `updateMinter` (also one that re-appoints the same address) succeeds only for the stored minter. -/
theorem update_minter_requires_minter {s s' : State} {blk : Block} {snd : Addr} {new : Option AddrArg} {out : List Out}
    (h : execute s blk snd (.updateMinter new) = .ok (s', out)) : ∃ m, s.mint = some m ∧ m.minter = snd := by
  rcases execute_cases h with ⟨_, _, hn⟩ | ⟨_, _, _, he, _⟩ | ⟨_, m, _, hm, hs, _⟩
  · exact absurd rfl (hn new)
  · cases he
  · exact ⟨m, hm, hs⟩

/-- Without a stored minter a successful call neither stores one nor raises the supply (`n` is any bound on
the supply, in the histories below the supply at their start). -/
theorem execute_no_minter {n : Nat} {s s' : State} {blk : Block} {snd : Addr} {msg : Msg} {out : List Out}
    (hi : s.mint = none ∧ s.supply ≤ n) (h : execute s blk snd msg = .ok (s', out)) :
    s'.mint = none ∧ s'.supply ≤ n := by
  rcases execute_cases h with ⟨em, hle, _⟩ | ⟨_, _, m, _, hm', _⟩ | ⟨_, m, _, hm', _⟩
  · exact ⟨em.trans hi.1, Nat.le_trans hle hi.2⟩
  · rw [hi.1] at hm'; cases hm'
  · rw [hi.1] at hm'; cases hm'

/-- **C13, clause 4**: once no minter is stored (renounced, or never given), no history whatsoever
brings one back, and the supply never rises again. -/
theorem renounce_permanent {s : State} (hm : s.mint = none) (ops : List (Block × Addr × Msg)) :
    (run s ops).mint = none ∧ (run s ops).supply ≤ s.supply :=
  run_preserves execute_no_minter ops ⟨hm, Nat.le_refl _⟩

/-- Instantiated without a minter: nobody can ever mint, the supply never exceeds the initial one. -/
theorem instantiate_no_minter {m : InstMsg} {s : State} (h : instantiate m = .ok s) (hm : m.mint = none)
    (ops : List (Block × Addr × Msg)) : (run s ops).mint = none ∧ (run s ops).supply ≤ s.supply :=
  renounce_permanent (by rw [instantiate_mint h, hm]; rfl) ops

/-- `migrate` writes only the cw2 version and the spender allowance map: minter record, supply and
hence `Inv13` are untouched, so the clauses above also hold for histories interleaved with migrations. -/
theorem migrate_inv13 {cap0 : Option Nat} {s s' : State} (h : migrate s = .ok s') :
    s'.mint = s.mint ∧ s'.supply = s.supply ∧ (Inv13 cap0 s → Inv13 cap0 s') := by
  obtain ⟨_, _, rfl⟩ := migrate_ok.mp h
  exact ⟨rfl, rfl, fun hi => hi⟩

/-! ## Exactly when a mint succeeds; nobody but the minter; renouncing as one statement -/

/-- **C13, clauses 1 + 2 as an equivalence** (under the C01 invariant `supply = Σ balances ≤ u128`): a `mint`
succeeds **iff** the sender is the stored minter, the new supply fits `Uint128`, it respects the stored cap
(if any) and the recipient validates.  Nothing else can make it fail: the recipient's balance cannot overflow
(it is part of the supply), so the room under the cap — also room made by burns — is always usable by the
minter, and by nobody else. -/
theorem mint_ok_iff {s : State} {blk : Block} {snd : Addr} {to : AddrArg} {amt : Nat} (hi : C01.Inv s) :
    (∃ r, execute s blk snd (.mint to amt) = .ok r) ↔
      ∃ m, s.mint = some m ∧ m.minter = snd ∧ s.supply + amt ≤ U128_MAX
        ∧ (∀ c, m.cap = some c → s.supply + amt ≤ c) ∧ to.valid = true := by
  constructor
  · rintro ⟨r, h⟩
    obtain ⟨m, hm, hs, hle, hcap, hv, _⟩ := execMint_ok_iff.mp h
    exact ⟨m, hm, hs, hle, hcap, hv⟩
  · rintro ⟨m, hm, hs, hle, hcap, hv⟩
    have hcr : (s.balances.get? to.text).getD 0 + amt ≤ U128_MAX :=
      Nat.le_trans (Nat.add_le_add_right (C01.bal_le_supply hi to.text) amt) hle
    exact ⟨_, execMint_ok_iff.mpr ⟨m, hm, hs, hle, hcap, hv, _, credit_ok_iff.mpr ⟨hcr, rfl⟩, rfl⟩⟩

/-- An `updateMinter` by anybody but the stored minter fails (also when no minter is stored). -/
theorem update_minter_by_other_fails {s : State} {blk : Block} {snd : Addr} {new : Option AddrArg}
    (hne : ∀ m, s.mint = some m → m.minter ≠ snd) : ∃ e, execute s blk snd (.updateMinter new) = .error e := by
  cases hx : execute s blk snd (.updateMinter new) with
  | error e => exact ⟨e, rfl⟩
  | ok r =>
    obtain ⟨m, hm, hs⟩ := update_minter_requires_minter (s' := r.1) (out := r.2) hx
    exact absurd hs (hne m hm)

/-- **C13, clause 3, converse**: the stored minter can always hand the role to any validating address, or
renounce it — `updateMinter` succeeds iff the sender is the stored minter and the new address (if any)
validates. -/
theorem update_minter_ok_iff {s : State} {blk : Block} {snd : Addr} {new : Option AddrArg} :
    (∃ r, execute s blk snd (.updateMinter new) = .ok r) ↔
      (∃ m, s.mint = some m ∧ m.minter = snd) ∧ (∀ a, new = some a → a.valid = true) := by
  constructor
  · rintro ⟨r, h⟩
    obtain ⟨m, hm, hs, hv, _⟩ := execUpdateMinter_ok_iff.mp h
    exact ⟨⟨m, hm, hs⟩, hv⟩
  · rintro ⟨⟨m, hm, hs⟩, hv⟩
    exact ⟨_, execUpdateMinter_ok_iff.mpr ⟨m, hm, hs, hv, rfl⟩⟩

/-- **C13, clause 4 as one statement**: once no minter is stored (renounced, or never given), after **every**
later history, **every** `mint` and **every** `updateMinter` — any sender, recipient, amount (also 0), new
address, block — fails. -/
theorem renounced_all_fail {s : State} (hm : s.mint = none) (ops : List (Block × Addr × Msg))
    (blk : Block) (snd : Addr) (to : AddrArg) (amt : Nat) (new : Option AddrArg) :
    (∃ e, execute (run s ops) blk snd (.mint to amt) = .error e)
    ∧ (∃ e, execute (run s ops) blk snd (.updateMinter new) = .error e) := by
  have h0 := (renounce_permanent hm ops).1
  exact ⟨mint_by_other_fails (fun m hm' => by rw [h0] at hm'; cases hm'),
    update_minter_by_other_fails (fun m hm' => by rw [h0] at hm'; cases hm')⟩

/-- A successful `updateMinter none` (only the minter can send it) leaves no minter, hence starts the regime of
`renounced_all_fail`: nobody mints or appoints a minter ever again, the supply never rises again. -/
theorem renounce_then_all_fail {s s' : State} {blk0 : Block} {snd0 : Addr} {out : List Out}
    (h : execute s blk0 snd0 (.updateMinter none) = .ok (s', out)) (ops : List (Block × Addr × Msg))
    (blk : Block) (snd : Addr) (to : AddrArg) (amt : Nat) (new : Option AddrArg) :
    (∃ e, execute (run s' ops) blk snd (.mint to amt) = .error e)
    ∧ (∃ e, execute (run s' ops) blk snd (.updateMinter new) = .error e)
    ∧ (run s' ops).supply ≤ s.supply := by
  obtain ⟨_, _, _, _, hr⟩ := execUpdateMinter_ok_iff.mp (show execUpdateMinter s snd0 none = _ from h)
  cases hr
  obtain ⟨a, b⟩ := renounced_all_fail (s := { s with mint := none }) rfl ops blk snd to amt new
  exact ⟨a, b, (renounce_permanent rfl ops).2⟩

/-- **Former minter loses the role**: after a successful hand-over to another address, the former minter can
neither mint (any recipient, any amount, also 0) nor move the role, at any later block. -/
theorem former_minter_fails {s s' : State} {blk : Block} {snd : Addr} {a : AddrArg} {out : List Out}
    (h : execute s blk snd (.updateMinter (some a)) = .ok (s', out)) (hne : a.text ≠ snd)
    (blk' : Block) (to : AddrArg) (amt : Nat) (new : Option AddrArg) :
    (∃ e, execute s' blk' snd (.mint to amt) = .error e)
    ∧ (∃ e, execute s' blk' snd (.updateMinter new) = .error e) := by
  obtain ⟨m, _, _, _, hr⟩ := execUpdateMinter_ok_iff.mp (show execUpdateMinter s snd (some a) = _ from h)
  cases hr
  have hno : ∀ m', (some (⟨a.text, m.cap⟩ : Minter)) = some m' → m'.minter ≠ snd := by
    intro m' hm'; cases hm'; exact hne
  exact ⟨mint_by_other_fails hno, update_minter_by_other_fails hno⟩

/-- … and keeps failing over every later history in which the role does not come back to it: if after the
history the stored minter (if any) is somebody else, the former minter's `mint` and `updateMinter` fail.
(The role can come back only by an `updateMinter` of the then-current minter: `update_minter_auth`.) -/
theorem non_minter_fails_after (s : State) (ops : List (Block × Addr × Msg)) (snd : Addr)
    (hne : ∀ m, (run s ops).mint = some m → m.minter ≠ snd) (blk : Block) (to : AddrArg) (amt : Nat)
    (new : Option AddrArg) :
    (∃ e, execute (run s ops) blk snd (.mint to amt) = .error e)
    ∧ (∃ e, execute (run s ops) blk snd (.updateMinter new) = .error e) :=
  ⟨mint_by_other_fails hne, update_minter_by_other_fails hne⟩

/-- **Minted ledger vs. cap**: instantiated with cap `c`, over any history the initial supply plus everything
ever minted stays within the cap plus everything ever burned (`C01.supply_ledger` + `supply_le_cap`): burns,
and only burns, make room for further mints. -/
theorem minted_within_cap {m : InstMsg} {s : State} {a : AddrArg} {c : Nat} (h : instantiate m = .ok s)
    (hm : m.mint = some (a, some c)) (ops : List (Block × Addr × Msg)) :
    s.supply + C01.minted s ops ≤ c + C01.burned s ops := by
  have h1 := C01.supply_ledger s ops
  have h2 := supply_le_cap h hm ops
  omega

/-! ## Histories that contain migrations -/

open CwPlus.Props.C19 (Op stepOp runOps) in
theorem runOps_inv13 {cap0 : Option Nat} {s : State} (hi : Inv13 cap0 s) (ops : List Op) :
    Inv13 cap0 (runOps s ops) :=
  C19.runOps_preserves execute_inv13 (fun hi h => (migrate_inv13 h).2.2 hi) ops hi

open CwPlus.Props.C19 (Op stepOp runOps) in
/-- **C13, clause 2 over histories with migrations**: after any accepted instantiation and any history of
execute calls and `migrate` calls in any order, every holder of the minter role carries the cap of the
instantiate message and the supply does not exceed it. -/
theorem reach_cap_mixed {m : InstMsg} {s : State} (h : instantiate m = .ok s) (ops : List Op) :
    Inv13 (instCap m) (runOps s ops) :=
  runOps_inv13 (instantiate_inv13 h) ops

open CwPlus.Props.C19 (Op stepOp runOps) in
/-- Readable corollary, also for the tokens that exist: with cap `c`, supply and Σ balances stay ≤ `c` over
every mixed history. -/
theorem supply_le_cap_mixed {m : InstMsg} {s : State} {a : AddrArg} {c : Nat} (h : instantiate m = .ok s)
    (hm : m.mint = some (a, some c)) (ops : List Op) :
    (runOps s ops).supply ≤ c ∧ AMap.sum (runOps s ops).balances ≤ c := by
  have h1 := (reach_cap_mixed h ops).2 c (by simp [instCap, hm])
  have h2 := (Cw20Mixed.reach_inv_mixed h ops).1
  exact ⟨h1, by omega⟩

open CwPlus.Props.C19 (Op stepOp runOps) in
/-- **C13, clause 4 over histories with migrations**: once no minter is stored, no history of execute and
`migrate` calls brings one back, the supply never rises, and every `mint` / `updateMinter` afterwards fails. -/
theorem renounce_permanent_mixed {s : State} (hm : s.mint = none) (ops : List Op) :
    (runOps s ops).mint = none ∧ (runOps s ops).supply ≤ s.supply
    ∧ ∀ blk snd to amt new,
      (∃ e, execute (runOps s ops) blk snd (.mint to amt) = .error e)
      ∧ (∃ e, execute (runOps s ops) blk snd (.updateMinter new) = .error e) := by
  have key : (runOps s ops).mint = none ∧ (runOps s ops).supply ≤ s.supply :=
    C19.runOps_preserves execute_no_minter
      (fun hi h => by obtain ⟨e1, e2, _⟩ := migrate_inv13 (cap0 := none) h; rw [e1, e2]; exact hi)
      ops ⟨hm, Nat.le_refl _⟩
  refine ⟨key.1, key.2, fun blk snd to amt new => ?_⟩
  exact ⟨mint_by_other_fails (fun m hm' => by rw [key.1] at hm'; cases hm'),
    update_minter_by_other_fails (fun m hm' => by rw [key.1] at hm'; cases hm')⟩

open CwPlus.Props.C19 (Op stepOp runOps) in
/-- Clause 1 over mixed histories: a `migrate` never raises the supply (so tokens are created only by the
`mint` calls of `mint_only_minter`), and never changes who the minter is. -/
theorem migrate_never_mints (s : State) :
    (stepOp s .migrate).supply = s.supply ∧ (stepOp s .migrate).mint = s.mint
    ∧ AMap.sum (stepOp s .migrate).balances = AMap.sum s.balances := by
  obtain ⟨h1, h2, h3, _⟩ := Cw20Mixed.stepOp_migrate_frame s
  exact ⟨h2, h3, by rw [h1]⟩

/-! ## Non-vacuity: concrete histories exercising every clause -/

/-- 125 tokens initially, minter `minter` with cap 200. -/
def exInst : InstMsg :=
  { name := "Token", symbol := "TKN", decimals := 6,
    initial := [(⟨true, "alice"⟩, 100), (⟨true, "bob"⟩, 25)],
    mint := some (⟨true, "minter"⟩, some 200) }

def exState : State :=
  { supply := 125, mint := some ⟨"minter", some 200⟩, balances := [("alice", 100), ("bob", 25)],
    allow := [], allowSp := [], version := ⟨CONTRACT_NAME, 2, 0, 0, none⟩ }

def exBlk : Block := ⟨100, 5000⟩

/-- mint to exactly the cap; burn makes room; hand-over to `m2`; re-mint into the room by `m2`;
second hand-over to `m3`. -/
def exOps : List (Block × Addr × Msg) :=
  [ (exBlk, "minter", .mint ⟨true, "carol"⟩ 75),
    (exBlk, "alice", .burn 50),
    (exBlk, "minter", .updateMinter (some ⟨true, "m2"⟩)),
    (exBlk, "m2", .mint ⟨true, "bob"⟩ 50),
    (exBlk, "m2", .updateMinter (some ⟨true, "m3"⟩)) ]

example : instantiate exInst = .ok exState := by rfl
example : instCap exInst = some 200 := by rfl

/-- The supply reaches the cap twice (200 → 150 → 200) and the cap survives two hand-overs. -/
example : (run exState (exOps.take 1)).supply = 200 ∧ (run exState (exOps.take 2)).supply = 150
    ∧ (run exState exOps).supply = 200 ∧ (run exState exOps).mint = some ⟨"m3", some 200⟩ := by decide +kernel

/-- At the cap: one more token is refused, also for the rightful minter; a former minter, a stranger
and a former minter trying `updateMinter` are refused; the current minter may mint 0. -/
example : let s := run exState exOps
    (execute s exBlk "m3" (.mint ⟨true, "bob"⟩ 1)).isOk = false
    ∧ (execute s exBlk "m3" (.mint ⟨true, "bob"⟩ 0)).isOk = true
    ∧ (execute s exBlk "minter" (.mint ⟨true, "bob"⟩ 0)).isOk = false
    ∧ (execute s exBlk "m2" (.mint ⟨true, "bob"⟩ 0)).isOk = false
    ∧ (execute s exBlk "alice" (.mint ⟨true, "alice"⟩ 0)).isOk = false
    ∧ (execute s exBlk "m2" (.updateMinter (some ⟨true, "m2"⟩))).isOk = false
    ∧ (execute s exBlk "alice" (.updateMinter none)).isOk = false := by decide +kernel

/-- `mint_only_minter`'s hypotheses are satisfiable: a successful call that raises the supply. -/
example : ∃ s' out, execute exState exBlk "minter" (.mint ⟨true, "carol"⟩ 75) = .ok (s', out)
    ∧ exState.supply < s'.supply := ⟨_, _, rfl, by decide +kernel⟩

/-- `update_minter_auth`'s hypotheses are satisfiable: a successful call that changes the record. -/
example : ∃ s' out, execute exState exBlk "minter" (.updateMinter (some ⟨true, "m2"⟩)) = .ok (s', out)
    ∧ s'.mint ≠ exState.mint := ⟨_, _, rfl, by decide +kernel⟩

/-- Renouncing: afterwards `mint = none` (the hypothesis of `renounce_permanent`), and the last
minter, the first minter and strangers can neither mint nor appoint a minter. -/
example : let s := run exState (exOps ++ [(exBlk, "m3", .updateMinter none)])
    s.mint = none
    ∧ (execute s exBlk "m3" (.mint ⟨true, "bob"⟩ 0)).isOk = false
    ∧ (execute s exBlk "m3" (.updateMinter (some ⟨true, "m3"⟩))).isOk = false
    ∧ (execute s exBlk "minter" (.updateMinter (some ⟨true, "minter"⟩))).isOk = false
    ∧ (execute s exBlk "alice" (.burn 10)).isOk = true := by decide +kernel

/-- A token without minter is accepted (hypotheses of `instantiate_no_minter`), and one with a cap
below the initial supply is rejected, one with cap = initial supply accepted. -/
example : (instantiate { exInst with mint := none }).isOk = true
    ∧ (instantiate { exInst with mint := some (⟨true, "minter"⟩, some 124) }).isOk = false
    ∧ (instantiate { exInst with mint := some (⟨true, "minter"⟩, some 125) }).isOk = true
    ∧ (instantiate { exInst with mint := some (⟨true, "minter"⟩, none) }).isOk = true := by decide +kernel

example : Inv13 (some 200) (run exState exOps) := reach_cap (m := exInst) rfl exOps


/-! ### Non-vacuity of `mint_ok_iff`, the former-minter and renouncing theorems, `minted_within_cap`, the mixed histories -/

/-- `mint_ok_iff` on the example: at supply 125 / cap 200 the minter can mint exactly up to 75 and not 76; a
stranger cannot mint 0. -/
example : (∃ r, execute exState exBlk "minter" (.mint ⟨true, "carol"⟩ 75) = .ok r)
    ∧ ¬ (∃ r, execute exState exBlk "minter" (.mint ⟨true, "carol"⟩ 76) = .ok r)
    ∧ ¬ (∃ r, execute exState exBlk "alice" (.mint ⟨true, "carol"⟩ 0) = .ok r) := by
  have hi : C01.Inv exState := C01.reach_inv (m := exInst) rfl []
  refine ⟨(mint_ok_iff hi).mpr ⟨_, rfl, rfl, by decide +kernel, by intro c hc; cases hc; decide, rfl⟩, ?_, ?_⟩
  · intro h
    obtain ⟨m, hm, _, _, hcap, _⟩ := (mint_ok_iff hi).mp h
    cases hm
    exact absurd (hcap 200 rfl) (by decide +kernel)
  · intro h
    obtain ⟨m, hm, hs, _⟩ := (mint_ok_iff hi).mp h
    cases hm
    exact absurd hs (by decide +kernel)

/-- `former_minter_fails`: the first hand-over of the example history (minter → m2). -/
example : ∃ s' out, execute (run exState (exOps.take 2)) exBlk "minter" (.updateMinter (some ⟨true, "m2"⟩)) = .ok (s', out)
    ∧ (⟨true, "m2"⟩ : AddrArg).text ≠ "minter" := ⟨_, _, rfl, by decide +kernel⟩

/-- `renounced_all_fail` / `renounce_then_all_fail`: the renouncing call of the example succeeds, so the
theorem applies to every history after it. -/
example : ∃ s' out, execute (run exState exOps) exBlk "m3" (.updateMinter none) = .ok (s', out) ∧ s'.mint = none :=
  ⟨_, _, rfl, rfl⟩

/-- `minted_within_cap` on the example history: 125 + (75 + 50) ≤ 200 + 50. -/
example : C01.minted exState exOps = 125 ∧ C01.burned exState exOps = 50 := by decide +kernel
example : exState.supply + C01.minted exState exOps ≤ 200 + C01.burned exState exOps :=
  minted_within_cap (m := exInst) (a := ⟨true, "minter"⟩) rfl rfl exOps

/-- A mixed history: mint, migrate, hand-over, migrate, mint by the new minter up to the cap, renounce, and a
final migrate; cap and clauses hold throughout (`reach_cap_mixed`, `renounce_permanent_mixed`). -/
def exMixed : List C19.Op :=
  [ .exec exBlk "minter" (.mint ⟨true, "carol"⟩ 25), .migrate,
    .exec exBlk "minter" (.updateMinter (some ⟨true, "m2"⟩)), .migrate,
    .exec exBlk "m2" (.mint ⟨true, "bob"⟩ 50), .exec exBlk "m2" (.updateMinter none), .migrate ]

example : (C19.runOps exState exMixed).supply = 200 ∧ (C19.runOps exState exMixed).mint = none := by decide +kernel
example : Inv13 (some 200) (C19.runOps exState exMixed) := reach_cap_mixed (m := exInst) rfl exMixed
example : (C19.runOps exState (exMixed.take 5)).mint = some ⟨"m2", some 200⟩ := by decide +kernel

end CwPlus.Props.C13
