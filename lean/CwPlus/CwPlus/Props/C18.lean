import CwPlus.Model.Ics20
import CwPlus.Lemmas.Ics20Env
/-!
# C18 — cw20-ics20: the token allow-list is governance-only and only ever loosens

Theorems over the model `CwPlus.Ics20` (state machine + world dispatch); histories are arbitrary
lists of ops (`run`), failed transactions roll back.

## Environment assumptions (`structure EnvAssumptions`, Lemmas/Ics20Env.lean)

* **E1 `hook_only_from_send`** — a real cw20 token calls `ExecuteMsg::Receive` only from its own `Send`.
* **E2 `never_calls_itself`** — the ics20 contract is never the sender of a transfer.
* **E3 `native_not_cw20`** — no native denomination has the form `cw20:…`.

The model's `World.exec` refuses transactions violating E1 / E2.  **None of C18's statements depends on
E1–E3**: `allow_monotone_unguarded`, `allow_admin_only_unguarded` and `admin_never_cleared_unguarded`
prove the history-level clauses over the *unguarded* semantics (`World.execRaw` / `runRaw`: no
`impossible.*` checks, any account — the contract itself, real tokens — may send any transfer) without
any environment hypothesis; the per-handler clauses (`cw20_transfer_gate`, `payout_gas_limit_*`) are
about the handlers, which are the same in both semantics.

"Tokens already in a channel remain redeemable" is the invariant `InChannelPayable` (`in_channel_payable`
from `instantiate`, `in_channel_payable_inv` from any state satisfying it); it fails on the upgrade path from
the pre-allow-list layout when the migrate message sets no default gas limit
(`legacy_upgrade_strands_cw20`, `redeemable_after_upgrade_partial`).
-/
namespace CwPlus.Props.C18
open CwPlus CwPlus.Ics20

/-- Histories: any list of (block, op); failed transactions roll back. -/
def run (w : World) (ops : List (Block × Op)) : World :=
  ops.foldl (fun w o => w.step o.1 o.2) w

/-- The governance part of the state is untouched. -/
def SameGov (s s' : State) : Prop :=
  s'.allow = s.allow ∧ s'.admin = s.admin ∧ s'.config = s.config ∧ s'.v1gov = s.v1gov

/-- What `migrate` does to the governance fields. -/
theorem migrate_gov {s s' : State} {gas hold} (h : migrate s gas hold = .ok s') :
    s'.allow = s.allow ∧
    (s'.admin = s.admin ∨ ∃ g, s.v1gov = some g ∧ s'.admin = some g) ∧
    (s'.v1gov = s.v1gov ∨ s'.v1gov = none) ∧
    (∀ cfg, loadConfig s = .ok cfg → ∃ cfg', loadConfig s' = .ok cfg' ∧
        (cfg'.defaultGasLimit = cfg.defaultGasLimit ∨ (cfg'.defaultGasLimit = gas ∧ gas.isSome))) := by
  obtain ⟨adm, v1, c0, cfg, m, rfl, hA, hC, _⟩ := migrate_ok h
  refine ⟨rfl, ?_, ?_, ?_⟩
  · rcases hA with ⟨_, rfl, _⟩ | ⟨_, g, hg, rfl, _⟩
    · exact Or.inl rfl
    · exact Or.inr ⟨g, hg, rfl⟩
  · rcases hA with ⟨_, _, rfl, _⟩ | ⟨_, g, _, _, rfl, _⟩
    · exact Or.inl rfl
    · exact Or.inr rfl
  · intro cfg0 hc
    obtain ⟨hv, rfl⟩ := Ics20.loadConfig_ok hc
    rcases hA with ⟨_, _, rfl, rfl⟩ | ⟨_, g, hg, _⟩
    · refine ⟨cfg, by simp [loadConfig, hv], ?_⟩
      rcases hC with ⟨_, rfl⟩ | ⟨g, rfl, _, rfl⟩
      · exact Or.inl rfl
      · exact Or.inr ⟨rfl, rfl⟩
    · rw [hv] at hg; cases hg


/-- Order on gas limits: `some a ⊑ some b` iff `a ≤ b`; everything `⊑ none` (unlimited). -/
def gasLe : Option Nat → Option Nat → Prop
  | _, none => True
  | none, some _ => False
  | some a, some b => a ≤ b

theorem gasLe_refl (g : Option Nat) : gasLe g g := by cases g <;> simp [gasLe]

theorem gasLe_trans {a b c : Option Nat} (h1 : gasLe a b) (h2 : gasLe b c) : gasLe a c := by
  cases a <;> cases b <;> cases c <;> simp_all [gasLe] <;> omega

theorem execAllow_spec {s s' : State} {snd c g} (h : execAllow s snd c g = .ok s') :
    s.admin = some snd ∧ c.valid = true ∧ s'.allow = s.allow.set c.text g ∧
    (∀ old, s.allow.get? c.text = some old → gasLe old g) ∧
    s'.admin = s.admin ∧ s'.config = s.config ∧ s'.v1gov = s.v1gov := by
  simp [execAllow] at h
  obtain ⟨ha, hv, hok, rfl⟩ := h
  refine ⟨ha, hv, rfl, ?_, rfl, rfl, rfl⟩
  intro old ho
  rw [ho] at hok
  cases old <;> cases g <;> simp_all [gasLe]

theorem execUpdateAdmin_spec {s s' : State} {snd a} (h : execUpdateAdmin s snd a = .ok s') :
    s.admin = some snd ∧ a.valid = true ∧ s'.admin = some a.text ∧
    s'.allow = s.allow ∧ s'.config = s.config ∧ s'.v1gov = s.v1gov := by
  obtain ⟨ha, hv, rfl⟩ := execUpdateAdmin_ok h
  exact ⟨ha, hv, rfl, rfl, rfl, rfl⟩

/-- Only `Allow`, `UpdateAdmin` and `migrate` touch the governance fields — under the model's semantics and
under the unguarded one alike (`exec_st`, `execRaw_st`). -/
theorem st_gov {s s' : State} {hold op} (h : StStep s hold op s') :
    (∃ snd c g, op = .allow snd c g ∧ execAllow s snd c g = .ok s') ∨
    (∃ snd a, op = .updateAdmin snd a ∧ execUpdateAdmin s snd a = .ok s') ∨
    (∃ g, op = .migrate g ∧ migrate s g hold = .ok s') ∨ SameGov s s' := by
  rcases h with ⟨_, _, _, _, _, _, hs⟩ | h1 | h1 | h1 | ⟨_, _, rfl⟩
  · rw [(ibcChannelConnect_ok hs).2]; exact Or.inr (Or.inr (Or.inr ⟨rfl, rfl, rfl, rfl⟩))
  · exact Or.inl h1
  · exact Or.inr (Or.inl h1)
  · exact Or.inr (Or.inr (Or.inl h1))
  · exact Or.inr (Or.inr (Or.inr ⟨rfl, rfl, rfl, rfl⟩))

/-- Allow-list order: every entry of `m` is still in `m'`, with a limit that is at least as loose. -/
def AllowLe (m m' : AMap Addr (Option Nat)) : Prop :=
  ∀ t g, m.get? t = some g → ∃ g', m'.get? t = some g' ∧ gasLe g g'

theorem AllowLe.refl (m : AMap Addr (Option Nat)) : AllowLe m m :=
  fun _ g h => ⟨g, h, gasLe_refl g⟩

theorem AllowLe.trans {a b c : AMap Addr (Option Nat)} (h1 : AllowLe a b) (h2 : AllowLe b c) : AllowLe a c := by
  intro t g h
  obtain ⟨g1, hg1, l1⟩ := h1 t g h
  obtain ⟨g2, hg2, l2⟩ := h2 t g1 hg1
  exact ⟨g2, hg2, gasLe_trans l1 l2⟩

theorem exec_allow_st {w w' : World} {blk snd c g o} (h : w.exec blk (.allow snd c g) = .ok (w', o)) :
    execAllow w.st snd c g = .ok w'.st := by
  obtain ⟨s, hs, rfl, _⟩ := exec_allow h
  exact hs

theorem exec_updateAdmin_st {w w' : World} {blk snd a o} (h : w.exec blk (.updateAdmin snd a) = .ok (w', o)) :
    execUpdateAdmin w.st snd a = .ok w'.st := by
  obtain ⟨s, hs, rfl, _⟩ := exec_updateAdmin h
  exact hs

/-! ## What a transaction can do to the allow list and the admin

Stated for `StStep`, so that each fact serves the model's semantics and the unguarded one. -/

theorem st_allow_le {s s' : State} {hold op} (h : StStep s hold op s') : AllowLe s.allow s'.allow := by
  rcases st_gov h with ⟨_, c, g, _, hs⟩ | ⟨_, _, _, hs⟩ | ⟨_, _, hs⟩ | hg
  · obtain ⟨_, _, e, hold, _⟩ := execAllow_spec hs
    intro t g0 ht
    rw [e, AMap.get?_set]
    by_cases hc : c.text = t
    · subst hc; simp; exact hold g0 ht
    · simp [hc]; exact ⟨g0, ht, gasLe_refl g0⟩
  · rw [(execUpdateAdmin_spec hs).2.2.2.1]; exact AllowLe.refl _
  · rw [(migrate_gov hs).1]; exact AllowLe.refl _
  · rw [hg.1]; exact AllowLe.refl _

theorem st_allow_changed {s s' : State} {hold op} (h : StStep s hold op s') (hne : s'.allow ≠ s.allow) :
    ∃ snd c g, op = .allow snd c g ∧ s.admin = some snd ∧ c.valid = true := by
  rcases st_gov h with ⟨snd, c, g, rfl, hs⟩ | ⟨_, _, _, hs⟩ | ⟨_, _, hs⟩ | hg
  · obtain ⟨ha, hv, _⟩ := execAllow_spec hs
    exact ⟨snd, c, g, rfl, ha, hv⟩
  · exact absurd (execUpdateAdmin_spec hs).2.2.2.1 hne
  · exact absurd (migrate_gov hs).1 hne
  · exact absurd hg.1 hne

theorem st_admin_changed {s s' : State} {hold op} (h : StStep s hold op s') (hne : s'.admin ≠ s.admin) :
    (∃ snd a, op = .updateAdmin snd a ∧ s.admin = some snd ∧ a.valid = true ∧ s'.admin = some a.text) ∨
    (∃ g gov, op = .migrate g ∧ s.v1gov = some gov ∧ s'.admin = some gov) := by
  rcases st_gov h with ⟨_, _, _, _, hs⟩ | ⟨snd, a, rfl, hs⟩ | ⟨g, rfl, hs⟩ | hg
  · exact absurd (execAllow_spec hs).2.2.2.2.1 hne
  · obtain ⟨ha, hv, e, _⟩ := execUpdateAdmin_spec hs
    exact Or.inl ⟨snd, a, rfl, ha, hv, e⟩
  · rcases (migrate_gov hs).2.1 with e | ⟨gov, hg, e⟩
    · exact absurd e hne
    · exact Or.inr ⟨g, gov, rfl, hg, e⟩
  · exact absurd hg.2.1 hne

theorem st_admin_isSome {s s' : State} {hold op} (h : StStep s hold op s') (hs : s.admin.isSome) :
    s'.admin.isSome := by
  by_cases e : s'.admin = s.admin
  · rw [e]; exact hs
  · rcases st_admin_changed h e with ⟨_, _, _, _, _, e'⟩ | ⟨_, _, _, _, e'⟩ <;> rw [e'] <;> rfl

/-- **C18, allow_monotone**: over every history (transfers, packets, acks, timeouts, Allow,
UpdateAdmin, migrate; any senders and arguments) an allowed token is never removed and its gas limit
never lowered: `some a ⊑ some b (a ≤ b) ⊑ none`. -/
theorem allow_monotone (w : World) (ops : List (Block × Op)) : AllowLe w.st.allow (run w ops).st.allow :=
  run_induction (P := fun w' => AllowLe w.st.allow w'.st.allow) (fun _ _ _ _ _ hI h => hI.trans (st_allow_le (exec_st h))) ops
    (AllowLe.refl _)

/-- **C18, allow_admin_only**: a transaction that changes the allow list is an `Allow` message sent
by the current admin (with a valid contract address). -/
theorem allow_admin_only {w : World} {blk : Block} {op : Op} (h : (w.step blk op).st.allow ≠ w.st.allow) :
    ∃ snd c g, op = .allow snd c g ∧ w.st.admin = some snd ∧ c.valid = true := by
  revert h
  exact step_cases (P := fun w' => w'.st.allow ≠ w.st.allow → _) blk op (fun h => absurd rfl h)
    (fun _ _ hx => st_allow_changed (exec_st hx))

/-- **C18, update_admin_auth**: the admin changes only by `UpdateAdmin` from the current admin (to a
validated address), or by a migration from the pre-0.12 layout, which installs the old
`gov_contract` as admin. -/
theorem update_admin_auth {w : World} {blk : Block} {op : Op} (h : (w.step blk op).st.admin ≠ w.st.admin) :
    (∃ snd a, op = .updateAdmin snd a ∧ w.st.admin = some snd ∧ a.valid = true ∧ (w.step blk op).st.admin = some a.text) ∨
    (∃ g gov, op = .migrate g ∧ w.st.v1gov = some gov ∧ (w.step blk op).st.admin = some gov) := by
  revert h
  exact step_cases (P := fun w' => w'.st.admin ≠ w.st.admin →
    (∃ snd a, op = .updateAdmin snd a ∧ w.st.admin = some snd ∧ a.valid = true ∧ w'.st.admin = some a.text) ∨
    (∃ g gov, op = .migrate g ∧ w.st.v1gov = some gov ∧ w'.st.admin = some gov))
    blk op (fun h => absurd rfl h) (fun _ _ hx => st_admin_changed (exec_st hx))

/-- Governance is never left vacant: once an admin is set it stays set on every history. -/
theorem admin_never_cleared (w : World) (ops : List (Block × Op)) (h : w.st.admin.isSome) :
    (run w ops).st.admin.isSome :=
  run_induction (P := fun w => w.st.admin.isSome) (fun _ _ _ _ _ hI hx => st_admin_isSome (exec_st hx) hI) ops h

/-- The gas limit a payout of `d` must carry: the token's allow-list entry, else the default. -/
def expectedGas (s : State) (d : Denom) : Option Nat :=
  match d with
  | .native _ => none
  | .cw20 a => match s.allow.get? a with | some g => g | none => s.config.defaultGasLimit

theorem checkGasLimit_spec {s : State} {d : Denom} {tv : Bool} {g : Option Nat} (h : checkGasLimit s d tv = .ok g) :
    g = expectedGas s d ∧
    ∀ a, d = .cw20 a → tv = true ∧ ((s.allow.get? a).isSome ∨
      ((s.allow.get? a) = none ∧ s.v1gov = none ∧ ∃ b, s.config.defaultGasLimit = some b ∧ g = some b)) := by
  unfold checkGasLimit at h
  split at h
  · simp at h; subst h; exact ⟨rfl, fun a e => by cases e⟩
  · rename_i a
    simp at h
    obtain ⟨htv, h⟩ := h
    split at h
    · rename_i g0 hg
      simp at h; subst h
      refine ⟨by simp [expectedGas, hg], ?_⟩
      intro a' e; cases e; exact ⟨htv, Or.inl (by simp [hg])⟩
    · rename_i hn
      simp at h
      obtain ⟨cfg, hc, h⟩ := h
      obtain ⟨hv, rfl⟩ := loadConfig_ok hc
      split at h
      · rename_i b hb
        simp at h; subst h
        refine ⟨by simp [expectedGas, hn, hb], ?_⟩
        intro a' e; cases e; exact ⟨htv, Or.inr ⟨hn, hv, b, hb, rfl⟩⟩
      · simp at h

/-- **C18, cw20_transfer_gate** (handler level): a cw20 transfer is accepted only if a default gas
limit is configured or the token is on the allow list. -/
theorem cw20_transfer_gate {s : State} {blk : Block} {msg : TransferMsg} {t : Addr} {amt : Nat} {snd : Addr}
    {r : State × SendOut} (h : execTransfer s blk msg (.cw20 t) amt snd = .ok r) :
    s.v1gov = none ∧ (s.config.defaultGasLimit.isSome ∨ (s.allow.get? t).isSome) :=
  execTransfer_gate h

/-- **C18, cw20_transfer_gate** (transaction level): `Send` on a real token and a direct `Receive`
hook call are accepted only under the same condition. -/
theorem cw20_transfer_gate_tx {w w' : World} {blk : Block} {o : Outcome} :
    (∀ snd t amt msg, w.exec blk (.sendCw20 snd t amt msg) = .ok (w', o) →
      w.st.config.defaultGasLimit.isSome ∨ (w.st.allow.get? t).isSome) ∧
    (∀ snd funds sender amt msg, w.exec blk (.hook snd funds sender amt msg) = .ok (w', o) →
      w.st.config.defaultGasLimit.isSome ∨ (w.st.allow.get? snd).isSome) := by
  constructor
  · intro snd t amt msg h
    obtain ⟨_, _, _, _, _, _, _, _, hs, _⟩ := exec_sendCw20_ok h
    exact (execTransfer_gate hs).2
  · intro snd funds sender amt msg h
    obtain ⟨_, _, _, _, _, hs, _⟩ := exec_hook_ok h
    exact (execTransfer_gate hs).2

/-- **C18, payout_gas_limit** (receive): the payout sub-message of an incoming packet carries the
token's current allow-list limit, else the default; it is `reply_on_error(RECEIVE_ID)`. -/
theorem payout_gas_limit_receive {s s' : State} {p : PacketIn} {tv : Bool} {ack : Ack} {sub : SubMsg}
    (h : ibcPacketReceive s p tv = (s', ack, some sub)) :
    sub.gas = expectedGas s sub.denom ∧ sub.replyId = RECEIVE_ID ∧ ack = .success := by
  unfold ibcPacketReceive at h
  split at h
  · next s1 sub1 hd =>
    cases h
    obtain ⟨_, d, _, _, _, _, _, _, _, hsd, hid, g, hg, hgas⟩ := doReceive_ok hd
    exact ⟨by rw [hgas, hsd]; exact (checkGasLimit_spec hg).1, hid, rfl⟩
  · cases h

theorem onPacketFailure_gas {s s' : State} {chan : String} {data : Option Packet} {tv : Bool} {sub : SubMsg}
    (h : onPacketFailure s chan data tv = .ok (s', sub)) :
    sub.gas = expectedGas s sub.denom ∧ sub.replyId = ACK_FAILURE_ID := by
  unfold onPacketFailure at h
  split at h
  · simp at h
  · simp at h
    obtain ⟨ch, _, g, hg, _, rfl⟩ := h
    exact ⟨(checkGasLimit_spec hg).1, rfl⟩

/-- **C18, payout_gas_limit** (error acknowledgement): the refund sub-message carries the token's
current limit, else the default. -/
theorem payout_gas_limit_ack {s s' : State} {chan : String} {data : Option Packet} {ackOk : Option Bool} {tv : Bool}
    {sub : SubMsg} (h : ibcPacketAck s chan data ackOk tv = .ok (s', some sub)) :
    sub.gas = expectedGas s sub.denom ∧ sub.replyId = ACK_FAILURE_ID := by
  rcases ibcPacketAck_ok h with ⟨_, _, _, hn⟩ | ⟨_, sm, hf, hs⟩
  · cases hn
  · cases hs; exact onPacketFailure_gas hf

/-- **C18, payout_gas_limit** (timeout): same for the timeout refund. -/
theorem payout_gas_limit_timeout {s s' : State} {chan : String} {data : Option Packet} {tv : Bool}
    {sub : SubMsg} (h : ibcPacketTimeout s chan data tv = .ok (s', some sub)) :
    sub.gas = expectedGas s sub.denom ∧ sub.replyId = ACK_FAILURE_ID := by
  obtain ⟨sm, hf, hs⟩ := ibcPacketTimeout_ok h
  cases hs; exact onPacketFailure_gas hf

theorem st_default_stays {s s' : State} {hold op} {cfg : Config} (hst : StStep s hold op s')
    (h : loadConfig s = .ok cfg) (hs : cfg.defaultGasLimit.isSome) :
    ∃ cfg', loadConfig s' = .ok cfg' ∧ cfg'.defaultGasLimit.isSome := by
  have same : s'.config = s.config → s'.v1gov = s.v1gov →
      ∃ cfg', loadConfig s' = .ok cfg' ∧ cfg'.defaultGasLimit.isSome := fun e1 e2 =>
    ⟨cfg, by unfold loadConfig at h ⊢; rw [e1, e2]; exact h, hs⟩
  rcases st_gov hst with ⟨_, _, _, _, hx⟩ | ⟨_, _, _, hx⟩ | ⟨g, _, hx⟩ | hg
  · have := execAllow_spec hx; exact same this.2.2.2.2.2.1 this.2.2.2.2.2.2
  · have := execUpdateAdmin_spec hx; exact same this.2.2.2.2.1 this.2.2.2.2.2
  · obtain ⟨cfg', hc', hd⟩ := (migrate_gov hx).2.2.2 cfg h
    refine ⟨cfg', hc', ?_⟩
    rcases hd with e | ⟨e, hg⟩
    · rw [e]; exact hs
    · rw [e]; exact hg
  · exact same hg.2.2.1 hg.2.2.2

/-- A configured default gas limit is never unset (its value may be changed by `migrate`). -/
theorem step_default_stays {w : World} {blk : Block} {op : Op} {cfg : Config}
    (h : loadConfig w.st = .ok cfg) (hs : cfg.defaultGasLimit.isSome) :
    ∃ cfg', loadConfig (w.step blk op).st = .ok cfg' ∧ cfg'.defaultGasLimit.isSome :=
  step_cases (P := fun w' => ∃ cfg', loadConfig w'.st = .ok cfg' ∧ cfg'.defaultGasLimit.isSome) blk op ⟨cfg, h, hs⟩
    (fun _ _ hx => st_default_stays (exec_st hx) h hs)



/-! ## The initial allow list ("for every initial allow list and default gas limit")

An accepted `instantiate` records every entry of its allow list — for an address named more than once the last
entry — with exactly the submitted gas limit, whatever the default gas limit is; nothing else is listed.  The
monitors `C18/initial-allow-missing` / `C18/initial-allow-gas` evaluate this on the implementation. -/

/-- The allow list an `allowlist` argument denotes: later entries of the same address win. -/
def allowView (l : List (AddrArg × Option Nat)) (old : Option (Option Nat)) (k : Addr) : Option (Option Nat) :=
  l.foldl (fun acc p => if p.1.text = k then some p.2 else acc) old

theorem addAllows_get (l : List (AddrArg × Option Nat)) {m m' : AMap Addr (Option Nat)}
    (h : addAllows l m = .ok m') (k : Addr) : m'.get? k = allowView l (m.get? k) k := by
  induction l generalizing m with
  | nil => simp [addAllows] at h; subst h; rfl
  | cons p rest ih =>
    obtain ⟨a, g⟩ := p
    simp only [addAllows, check_bind_ok] at h
    obtain ⟨_, h⟩ := h
    rw [ih h]
    simp only [allowView, List.foldl_cons]
    by_cases hk : a.text = k
    · subst hk; simp [AMap.get?_set_eq]
    · simp [hk, AMap.get?_set_ne _ _ _ _ hk]

/-- **C18, initial allow list**: after an accepted `instantiate`, for every address `k` the stored entry is the one
the submitted list denotes. -/
theorem instantiate_allow {m : InstMsg} {s : State} (h : instantiate m = .ok s) (k : Addr) :
    s.allow.get? k = allowView m.allowlist none k := by
  simp [instantiate] at h
  obtain ⟨_, al, ha, rfl⟩ := h
  simpa using addAllows_get m.allowlist ha k

/-- In particular an entry that nobody else overrides is stored with its own limit — also when that limit
equals the default gas limit. -/
theorem instantiate_allow_last {m : InstMsg} {s : State} (h : instantiate m = .ok s)
    (pre : List (AddrArg × Option Nat)) (a : AddrArg) (g : Option Nat) (post : List (AddrArg × Option Nat))
    (hl : m.allowlist = pre ++ (a, g) :: post) (hp : ∀ q ∈ post, q.1.text ≠ a.text) :
    s.allow.get? a.text = some g := by
  rw [instantiate_allow h, hl]
  simp only [allowView, List.foldl_append, List.foldl_cons, if_true]
  have : ∀ (r : List (AddrArg × Option Nat)) (acc : Option (Option Nat)), (∀ q ∈ r, q.1.text ≠ a.text) →
      r.foldl (fun acc p => if p.1.text = a.text then some p.2 else acc) acc = acc := by
    intro r
    induction r with
    | nil => intros; rfl
    | cons q r ihr =>
      intro acc hq
      simp only [List.foldl_cons]
      rw [if_neg (hq q (List.mem_cons_self ..))]
      exact ihr acc (fun q' hq' => hq q' (List.mem_cons_of_mem _ hq'))
  exact this post _ hp

example : (match instantiate { defaultTimeout := 10, gov := ⟨true, "gov"⟩, allowlist := [(⟨true, "T1"⟩, some 500)],
                               defaultGasLimit := some 500 } with
           | .ok s => s.allow | .error _ => []) = [("T1", some 500)] := by decide +kernel

/-! ## Independence from the environment assumptions: the unguarded semantics -/

/-- **C18, allow_monotone without environment assumptions**: over every history of the unguarded semantics
an allowed token is never removed and its gas limit never lowered. -/
theorem allow_monotone_unguarded (w : World) (ops : List (Block × Op)) : AllowLe w.st.allow (runRaw w ops).st.allow :=
  runRaw_induction (P := fun w' => AllowLe w.st.allow w'.st.allow) (fun _ _ _ _ _ hI h => hI.trans (st_allow_le (execRaw_st h)))
    ops (AllowLe.refl _)

/-- **C18, allow_admin_only without environment assumptions**: also under the unguarded semantics a
transaction that changes the allow list is an `Allow` message sent by the current admin. -/
theorem allow_admin_only_unguarded {w : World} {blk : Block} {op : Op} (h : (w.stepRaw blk op).st.allow ≠ w.st.allow) :
    ∃ snd c g, op = .allow snd c g ∧ w.st.admin = some snd ∧ c.valid = true := by
  revert h
  exact stepRaw_cases (P := fun w' => w'.st.allow ≠ w.st.allow → _) blk op (fun h => absurd rfl h)
    (fun _ _ hx => st_allow_changed (execRaw_st hx))

/-- **C18, governance is never left vacant, without environment assumptions**. -/
theorem admin_never_cleared_unguarded (w : World) (ops : List (Block × Op)) (h : w.st.admin.isSome) :
    (runRaw w ops).st.admin.isSome :=
  runRaw_induction (P := fun w => w.st.admin.isSome) (fun _ _ _ _ _ hI hx => st_admin_isSome (execRaw_st hx) hI) ops h

/-! ## Non-vacuity: a concrete world on which the hypotheses are satisfiable -/

/-- gov = "gov", token "T1" allowed with limit 500, no default, channel-0 connected, "alice" owns 100 T1. -/
def w0 : World :=
  { st := { config := ⟨3600, none⟩, admin := some "gov", allow := [("T1", some 500)], channels := ["channel-0"],
            chan := [], versionName := CONTRACT_NAME, version := CONTRACT_VERSION },
    self := "ics20", tokens := ["T1", "T2"], faulty := ["T2"], bank := [], tok := [(("T1", "alice"), 100), (("T2", "alice"), 100)] }

def b0 : Block := ⟨1, 1000⟩

/-- the admin raises T1's limit; a stranger and a lowering attempt are refused; the admin hands over -/
example : (run w0 [(b0, .allow "gov" ⟨true, "T1"⟩ (some 700))]).st.allow = [("T1", some 700)] := by decide +kernel
example : (run w0 [(b0, .allow "mallory" ⟨true, "T1"⟩ none)]).st.allow = [("T1", some 500)] := by decide +kernel
example : (run w0 [(b0, .allow "gov" ⟨true, "T1"⟩ (some 499))]).st.allow = [("T1", some 500)] := by decide +kernel
example : (run w0 [(b0, .allow "gov" ⟨true, "T1"⟩ none), (b0, .allow "gov" ⟨true, "T1"⟩ (some 9))]).st.allow = [("T1", none)] := by decide +kernel
example : (run w0 [(b0, .updateAdmin "gov" ⟨true, "gov2"⟩), (b0, .allow "gov" ⟨true, "T2"⟩ none)]).st.allow = [("T1", some 500)] := by decide +kernel
example : (run w0 [(b0, .updateAdmin "gov" ⟨true, "gov2"⟩)]).st.admin = some "gov2" := by decide +kernel
/-- the gate: T1 (allowed) is accepted, T2 (not allowed, no default) is refused -/
example : ((w0.exec b0 (.sendCw20 "alice" "T1" 40 (some ⟨"channel-0", "bob", none, none⟩))).isOk) = true := by decide +kernel
example : ((w0.exec b0 (.sendCw20 "alice" "T2" 40 (some ⟨"channel-0", "bob", none, none⟩))).isOk) = false := by decide +kernel
/-- acknowledgement and gas limit of the sub-message of a transaction -/
def ackAndGas (r : Res (World × Outcome)) : Option (Option Ack × Option (Option Nat)) :=
  match r with
  | .ok r => some (r.2.ack, r.2.sub.map (·.gas))
  | .error _ => none

/-- a redemption of T1 vouchers pays out with T1's limit -/
example : ackAndGas ((run w0 [(b0, .sendCw20 "alice" "T1" 40 (some ⟨"channel-0", "bob", none, none⟩))]).exec b0
      (.recv ⟨"transfer", "channel-10", "channel-0", some 15, some ("transfer", "channel-10", .cw20 "T1"), "alice", "bob"⟩ true true false))
    = some (some .success, some (some 500)) := by decide +kernel


/-- the unguarded semantics really is laxer: a direct hook call by the real token `T1` is accepted by
`execRaw`, refused by the model's `exec`; the allow list is untouched either way -/
example : (w0.execRaw b0 (.hook "T1" [] ⟨true, "mallory"⟩ 5 (some ⟨"channel-0", "bob", none, none⟩))).isOk = true ∧
    (w0.exec b0 (.hook "T1" [] ⟨true, "mallory"⟩ 5 (some ⟨"channel-0", "bob", none, none⟩))).isOk = false ∧
    (runRaw w0 [(b0, .hook "T1" [] ⟨true, "mallory"⟩ 5 (some ⟨"channel-0", "bob", none, none⟩))]).st.allow = w0.st.allow := by
  decide +kernel

/-! ## "Tokens already in a channel remain redeemable" as an invariant of histories

`redeemable_stays` says: a gas check that passes keeps passing.  What the clause needs in addition is the
link from *being in a channel* to the gas check passing.  `Payable s t`: token `t` is on the allow list,
or the (current-layout) config has a default gas limit — exactly when `check_gas_limit` accepts the token
(`payable_iff_gas`).  `InChannelPayable s`: every cw20 token with an entry in the channel books is payable.
Every transaction preserves it (a new cw20 key is created only by a transfer, which passed the gate;
`Payable` is monotone), it holds after `instantiate`, hence on every history of a contract deployed with
the current code (`in_channel_payable`).  It does **not** hold on the upgrade path from the
pre-allow-list layout: `legacy_upgrade_strands_cw20`. -/

/-- `check_gas_limit` accepts the cw20 token `t`: it is on the allow list, or a default gas limit is
configured (and the config has the current layout). -/
def Payable (s : State) (t : Addr) : Prop :=
  (s.allow.get? t).isSome ∨ (s.v1gov = none ∧ s.config.defaultGasLimit.isSome)

/-- `Payable` is exactly "the gas check of the token passes" (for an address that validates), and the
limit attached is then `expectedGas`. -/
theorem payable_iff_gas (s : State) (t : Addr) :
    Payable s t ↔ checkGasLimit s (.cw20 t) true = .ok (expectedGas s (.cw20 t)) := by
  constructor
  · intro h
    cases hg : s.allow.get? t with
    | some g => simp [checkGasLimit, expectedGas, hg, check, bind, Except.bind, pure, Except.pure]
    | none =>
      rcases h with h | ⟨hv, hd⟩
      · simp [hg] at h
      · obtain ⟨b, hb⟩ := Option.isSome_iff_exists.mp hd
        simp [checkGasLimit, expectedGas, hg, loadConfig, hv, hb, check, bind, Except.bind, pure, Except.pure]
  · intro h
    obtain ⟨_, hc⟩ := checkGasLimit_spec h
    rcases (hc t rfl).2 with h1 | ⟨_, hv, b, hb, _⟩
    · exact Or.inl h1
    · exact Or.inr ⟨hv, by simp [hb]⟩

/-- `Payable` is monotone along every transaction: the allow list only loosens, a default is never unset. -/
theorem st_payable {s s' : State} {hold op} {t : Addr} (hst : StStep s hold op s') (h : Payable s t) : Payable s' t := by
  rcases h with h1 | ⟨hv, hd⟩
  · obtain ⟨g0, hg0⟩ := Option.isSome_iff_exists.mp h1
    obtain ⟨g1, hg1, _⟩ := st_allow_le hst t g0 hg0
    exact Or.inl (by rw [hg1]; rfl)
  · obtain ⟨cfg', hc', hd'⟩ := st_default_stays hst (cfg := s.config) (by unfold loadConfig; simp [hv]) hd
    obtain ⟨hv', rfl⟩ := Ics20.loadConfig_ok hc'
    exact Or.inr ⟨hv', hd'⟩

theorem run_payable (w : World) (ops : List (Block × Op)) {t : Addr} (h : Payable w.st t) : Payable (run w ops).st t :=
  run_induction (P := fun w => Payable w.st t) (fun _ _ _ _ _ hI hx => st_payable (exec_st hx) hI) ops h

/-- **C18, "tokens already in a channel remain redeemable"**: if the gas check of a denomination
passes now (token allowed, or covered by the default), it passes after every history. -/
theorem redeemable_stays (w : World) (ops : List (Block × Op)) {d : Denom} {tv : Bool} {g : Option Nat}
    (h : checkGasLimit w.st d tv = .ok g) : ∃ g', checkGasLimit (run w ops).st d tv = .ok g' := by
  cases d with
  | native x => exact ⟨none, rfl⟩
  | cw20 a =>
    obtain ⟨rfl, hc⟩ := (checkGasLimit_spec h).2 a rfl
    have hp : Payable w.st a := hc.imp id (fun ⟨_, hv, b, hb, _⟩ => ⟨hv, by rw [hb]; rfl⟩)
    exact ⟨_, (payable_iff_gas _ _).mp (run_payable w ops hp)⟩

theorem reduce_keys {m m' : ChanMap} {c : String} {d : Denom} {amt : Nat} (h : reduceBalance m c d amt = .ok m') :
    ∀ k ∈ AMap.keys m', k ∈ AMap.keys m := by
  obtain ⟨cs, hg, _, rfl, _, _⟩ := reduceBalance_ok h
  intro k hk
  rcases AMap.mem_keys_set.mp hk with hk | rfl
  · exact hk
  · exact mem_keys_of_get? hg

theorem increase_keys {m m' : ChanMap} {c : String} {d : Denom} {amt : Nat} (h : increaseBalance m c d amt = .ok m') :
    ∀ k ∈ AMap.keys m', k ∈ AMap.keys m ∨ k = (c, d) := by
  simp [increaseBalance] at h
  obtain ⟨_, _, rfl⟩ := h
  intro k hk
  exact AMap.mem_keys_set.mp hk

/-- A cw20 key of the books after a transaction was there before, or was created by a transfer of that
token — which passed the gate, so the token is payable. -/
theorem exec_new_cw20_key {w w' : World} {blk : Block} {op : Op} {o : Outcome} (h : w.exec blk op = .ok (w', o))
    {c : String} {t : Addr} (hk : (c, Denom.cw20 t) ∈ AMap.keys w'.st.chan) :
    (c, Denom.cw20 t) ∈ AMap.keys w.st.chan ∨ Payable w.st t := by
  cases exec_tx h with
  | quiet s' hw hchan _ _ _ _ _ _ => subst hw; exact Or.inl (hchan ▸ hk)
  | migrate gas s' _ hm hw _ => subst hw; exact Or.inl (migrate_keys hm ▸ hk)
  | escrow w1 out ch _ hinc _ _ hgate hw _ _ _ _ _ =>
    subst hw
    rcases increase_keys hinc _ hk with h1 | h1
    · exact Or.inl h1
    · obtain ⟨hv, hd⟩ := hgate t (Prod.mk.inj h1).2.symm
      exact Or.inr (hd.elim (fun hd => Or.inr ⟨hv, hd⟩) Or.inl)
  | redeem p rv tv f d amt ch sub _ _ hred _ _ hst _ => rw [hst] at hk; exact Or.inl (reduce_keys hred _ hk)
  | refund chan p sv tv f ch sub _ hred _ _ _ hst => rw [hst] at hk; exact Or.inl (reduce_keys hred _ hk)
  | acked chan p sv tv f _ hw _ => subst hw; exact Or.inl hk

/-- Every cw20 token with an entry in the channel books is payable. -/
def InChannelPayable (s : State) : Prop := ∀ c t, (c, Denom.cw20 t) ∈ AMap.keys s.chan → Payable s t

/-- **C18, in_channel_payable (inductive form)**: "tokens already in a channel remain redeemable" from any
state in which every cw20 token of the books is payable, on every history — whatever the stored version,
with `migrate`, `Allow`, `UpdateAdmin` by anybody anywhere. -/
theorem in_channel_payable_inv (w : World) (ops : List (Block × Op)) (hi : InChannelPayable w.st) :
    InChannelPayable (run w ops).st := by
  refine run_induction (P := fun w => InChannelPayable w.st) (fun w _ _ w' _ hI hx c t hk => ?_) ops hi
  exact st_payable (exec_st hx) ((exec_new_cw20_key hx hk).elim (hI c t) id)

/-- **C18, in_channel_payable** (clause "so tokens already in a channel remain redeemable", at full
strength for contracts deployed with the current code): after an accepted `instantiate` — any initial
allow list, any default gas limit or none — on every history, every cw20 token that has an entry in the
channel books (in particular every token with a positive outstanding balance on some channel) is on the
allow list or covered by a default gas limit, i.e. the gas check of its payout / refund passes, with the
limit `expectedGas` (its own allow-list limit, else the default). -/
theorem in_channel_payable {m : InstMsg} {s : State} (hi : instantiate m = .ok s) (w : World) (ops : List (Block × Op))
    (c : String) (t : Addr) :
    ((c, Denom.cw20 t) ∈ AMap.keys (run { w with st := s } ops).st.chan ∨
      0 < outstanding (run { w with st := s } ops).st c (.cw20 t)) →
    Payable (run { w with st := s } ops).st t ∧
    checkGasLimit (run { w with st := s } ops).st (.cw20 t) true =
      .ok (expectedGas (run { w with st := s } ops).st (.cw20 t)) := by
  intro hk
  have h0 : InChannelPayable ({ w with st := s } : World).st := by
    intro c t hk
    simp [instantiate_chan hi, AMap.keys] at hk
  have hinv := in_channel_payable_inv { w with st := s } ops h0
  have hmem : (c, Denom.cw20 t) ∈ AMap.keys (run { w with st := s } ops).st.chan := by
    rcases hk with hk | hk
    · exact hk
    · unfold outstanding at hk
      cases hg : (run { w with st := s } ops).st.chan.get? (c, .cw20 t) with
      | none => simp [hg] at hk
      | some cs => exact mem_keys_of_get? hg
  have hp := hinv c t hmem
  exact ⟨hp, (payable_iff_gas _ _).mp hp⟩

/-- What a migration with a default gas limit establishes: afterwards the config has the current layout
and that default, so *every* cw20 token is payable. -/
theorem migrate_default_payable {s s' : State} {g : Nat} {hold : Denom → Option Nat}
    (h : migrate s (some g) hold = .ok s') : ∀ t, Payable s' t := by
  obtain ⟨adm, v1, c0, cfg, m, rfl, _, hC, _⟩ := migrate_ok h
  rcases hC with ⟨hn, _⟩ | ⟨g', _, rfl, rfl⟩
  · cases hn
  · exact fun t => Or.inr ⟨rfl, rfl⟩

/-- **C18, redeemable_after_upgrade_partial** — the part of "tokens already in a channel remain
redeemable" that holds on the upgrade path from a release ≤ 0.13.0.  *Missing part* (false, see
`legacy_upgrade_strands_cw20`): a pre-0.12 store has no allow list (any cw20 token could be sent) and the
v1 → v2 conversion of `migrate` writes `default_gas_limit: None`; when the migrate message sets no default
either, the cw20 tokens already escrowed are neither allowed nor default-covered afterwards.  What holds:
(1) a successful `migrate` that carries a default gas limit makes every token payable, and it stays
payable on every later history; (2) from any state (any stored version) in which the tokens of the books
are payable they remain so (`in_channel_payable_inv`). -/
theorem redeemable_after_upgrade_partial {w w' : World} {blk : Block} {g : Nat} {o : Outcome}
    (h : w.exec blk (.migrate (some g)) = .ok (w', o)) (ops : List (Block × Op)) (t : Addr) :
    Payable (run w' ops).st t ∧
    checkGasLimit (run w' ops).st (.cw20 t) true = .ok (expectedGas (run w' ops).st (.cw20 t)) := by
  have hp := run_payable w' ops (migrate_default_payable (exec_migrate_frame h).1 t)
  exact ⟨hp, (payable_iff_gas _ _).mp hp⟩

/-! ### The upgrade path from the pre-allow-list layout strands cw20 tokens (counterexample) -/

/-- A contract stored by release 0.11.1 (`gov_contract` inside the config, no `ADMIN` item, no allow list):
one channel; 10 T1 booked (acknowledged transfers), 25 T1 held — 15 T1 sent by alice are still in flight. -/
def wLeg : World :=
  { st := { config := ⟨3600, none⟩, v1gov := some "gov", admin := none, allow := [], channels := ["channel-0"],
            chan := [(("channel-0", .cw20 "T1"), ⟨10, 10⟩)], versionName := CONTRACT_NAME, version := ⟨0, 11, 1, none⟩ },
    self := "ics20", tokens := ["T1"], faulty := [], bank := [], tok := [(("T1", "ics20"), 25)] }

/-- the in-flight packet of the old code -/
def pLeg : Packet := ⟨15, .cw20 "T1", "remote-bob", "alice", none⟩
/-- an honest redemption of 10 T1 vouchers -/
def rLeg : PacketIn := ⟨"transfer", "channel-10", "channel-0", some 10, some ("transfer", "channel-10", .cw20 "T1"), "alice", "remote-bob"⟩

/-- **C18, legacy_upgrade_strands_cw20** (machine-checked counterexample to "tokens already in a channel
remain redeemable" on the upgrade path).  Start: the 0.11.1 state `wLeg`.  `migrate` with
`default_gas_limit: None` succeeds: admin := "gov", books reconciled to 25 T1 outstanding, version 2.0.0,
allow list empty, no default.  Then
1. `InChannelPayable` fails: `check_gas_limit` refuses T1 (`notallowed`) although 25 T1 are outstanding;
2. an honest redemption of T1 vouchers is answered with an error acknowledgement, nothing is paid;
3. the timeout and the error acknowledgement of the in-flight packet *abort* (`on_packet_failure` runs
   the gas check after reducing the balance; the error rolls the transaction back), so the relayer can
   never get them processed and alice's 15 T1 stay in escrow;
4. only governance can repair it: after `Allow{T1}` by the installed admin (or a second `migrate` carrying
   a default gas limit) the same timeout is processed and alice is refunded. -/
theorem legacy_upgrade_strands_cw20 :
    (wLeg.exec b0 (.migrate none)).isOk = true ∧
    (run wLeg [(b0, .migrate none)]).st.chan = [(("channel-0", .cw20 "T1"), ⟨25, 25⟩)] ∧
    (run wLeg [(b0, .migrate none)]).st.admin = some "gov" ∧
    (run wLeg [(b0, .migrate none)]).st.version = CONTRACT_VERSION ∧
    (checkGasLimit (run wLeg [(b0, .migrate none)]).st (.cw20 "T1") true).tag = "notallowed" ∧
    ackAndGas ((run wLeg [(b0, .migrate none)]).exec b0 (.recv rLeg true true false)) = some (some .error, none) ∧
    ((run wLeg [(b0, .migrate none)]).exec b0 (.timeout "channel-0" (some pLeg) true true false)).isOk = false ∧
    ((run wLeg [(b0, .migrate none)]).exec b0 (.ack "channel-0" (some pLeg) (some false) true true false)).isOk = false ∧
    (run wLeg [(b0, .migrate none), (b0, .timeout "channel-0" (some pLeg) true true false)]).tokBal "T1" "alice" = 0 ∧
    (run wLeg [(b0, .migrate none), (b0, .allow "gov" ⟨true, "T1"⟩ none),
               (b0, .timeout "channel-0" (some pLeg) true true false)]).tokBal "T1" "alice" = 15 ∧
    (run wLeg [(b0, .migrate none), (b0, .migrate (some 5000)),
               (b0, .timeout "channel-0" (some pLeg) true true false)]).tokBal "T1" "alice" = 15 := by
  decide +kernel

/-- … and therefore the invariant fails after that migration. -/
theorem legacy_upgrade_not_payable : ¬ InChannelPayable (run wLeg [(b0, .migrate none)]).st := by
  intro h
  have hp := h "channel-0" "T1" (by decide +kernel)
  have := congrArg Res.isOk ((payable_iff_gas _ _).mp hp)
  revert this; decide +kernel

/-- with a default gas limit in the migrate message the same upgrade is fine
(`redeemable_after_upgrade_partial` applies) -/
example : (wLeg.exec b0 (.migrate (some 5000))).isOk = true ∧
    (run wLeg [(b0, .migrate (some 5000)), (b0, .timeout "channel-0" (some pLeg) true true false)]).tokBal "T1" "alice" = 15 := by
  decide +kernel

/-- `in_channel_payable` is not vacuous: a fresh contract without default, T1 allow-listed, 40 T1 escrowed -/
example : ∃ s, instantiate ⟨3600, ⟨true, "gov"⟩, [(⟨true, "T1"⟩, some 500)], none⟩ = .ok s ∧
    0 < outstanding (run { w0 with st := s } [(b0, .connect "channel-0" ICS20_VERSION none false {}),
      (b0, .sendCw20 "alice" "T1" 40 (some ⟨"channel-0", "bob", none, none⟩))]).st "channel-0" (.cw20 "T1") :=
  ⟨_, rfl, by decide +kernel⟩

/-! ## Transaction-level payout gas, monotone limits, strangers, the exact effect of `Allow` -/

/-- **C18, payout_gas_limit at transaction level** (clause "each payout is issued with the token's
current limit, else the default", composed through `World.exec`): whatever the transaction — an incoming
packet, an error acknowledgement, a timeout — if its outcome carries a payout / refund sub-message, that
sub-message has the gas limit `expectedGas` of its denomination in the state *before* the transaction
(the token's allow-list entry, else the default; none for native coins) and is `reply_on_error` with one
of the two reply ids; no other kind of transaction emits a sub-message. -/
theorem payout_gas_limit_tx {w w' : World} {blk : Block} {op : Op} {o : Outcome} {sub : SubMsg}
    (h : w.exec blk op = .ok (w', o)) (hs : o.sub = some sub) :
    sub.gas = expectedGas w.st sub.denom ∧ (sub.replyId = RECEIVE_ID ∨ sub.replyId = ACK_FAILURE_ID) ∧
    ((∃ p rv tv f, op = .recv p rv tv f) ∨ (∃ chan data sv tv f, op = .ack chan data (some false) sv tv f) ∨
     (∃ chan data sv tv f, op = .timeout chan data sv tv f)) := by
  cases op with
  | connect id v cv ord peer => obtain ⟨_, _, _, rfl⟩ := Ics20.exec_connect h; cases hs
  | chanOpen v cv ord => obtain ⟨_, rfl⟩ := exec_chanOpen h; cases hs
  | chanClose id => exact (exec_chanClose h).elim
  | allow snd c gg => obtain ⟨_, _, _, rfl⟩ := exec_allow h; cases hs
  | updateAdmin snd a => obtain ⟨_, _, _, rfl⟩ := exec_updateAdmin h; cases hs
  | migrate gg => obtain ⟨_, _, _, rfl⟩ := Ics20.exec_migrate h; cases hs
  | transferNative snd funds msg =>
    obtain ⟨d, amt, w1, s, out, _, _, _, _, _, rfl⟩ := exec_transferNative_ok h; cases hs
  | sendCw20 snd token amt msg =>
    obtain ⟨w1, m, s, out, _, _, _, _, _, _, rfl⟩ := exec_sendCw20_ok h; cases hs
  | hook snd funds sender amt msg =>
    obtain ⟨m, s, out, _, _, _, _, rfl⟩ := exec_hook_ok h; cases hs
  | recv p rv tv f =>
    rcases exec_recv_ok h with ⟨_, _, _, hn⟩ | ⟨s1, sub', hd, hsub, _⟩
    · rw [hn] at hs; cases hs
    · rw [hsub] at hs; cases hs
      obtain ⟨amt, d, ch, _, _, _, _, _, _, hsd, hid, g, hg, hgas⟩ := doReceive_ok hd
      refine ⟨?_, Or.inl hid, Or.inl ⟨p, rv, tv, f, rfl⟩⟩
      rw [hgas, hsd]; exact (checkGasLimit_spec hg).1
  | ack chan data ackOk sv tv f =>
    rcases exec_ack_ok h with ⟨_, _, _, _, hn⟩ | ⟨rfl, s1, sub', hf, hsub, _⟩
    · rw [hn] at hs; cases hs
    · rw [hsub] at hs; cases hs
      obtain ⟨h1, h2⟩ := onPacketFailure_gas hf
      exact ⟨h1, Or.inr h2, Or.inr (Or.inl ⟨chan, data, sv, tv, f, rfl⟩)⟩
  | timeout chan data sv tv f =>
    obtain ⟨s1, sub', hf, hsub, _⟩ := exec_timeout_cases h
    rw [hsub] at hs; cases hs
    obtain ⟨h1, h2⟩ := onPacketFailure_gas hf
    exact ⟨h1, Or.inr h2, Or.inr (Or.inr ⟨chan, data, sv, tv, f, rfl⟩)⟩

/-- **C18, payout_gas_monotone** (clause "its limit is never lowered", read off the payouts): for a token
on the allow list, the gas limit attached to its payouts never shrinks along any history (`some a ⊑
some b` for `a ≤ b`, everything `⊑` unlimited).  (For a token covered only by the default this is
legitimately not so: `migrate` may set a smaller default.) -/
theorem payout_gas_monotone (w : World) (ops : List (Block × Op)) {t : Addr} {g : Option Nat}
    (h : w.st.allow.get? t = some g) :
    gasLe (expectedGas w.st (.cw20 t)) (expectedGas (run w ops).st (.cw20 t)) := by
  obtain ⟨g', hg', hle⟩ := allow_monotone w ops t g h
  simp only [expectedGas, h, hg']
  exact hle

/-- **C18, strangers and former governance are complete no-ops** (clauses 1 and 2, "histories by admin,
former admin, strangers"): an `Allow` or `UpdateAdmin` sent by anybody who is not the current admin
leaves the whole world unchanged — not only the allow list. -/
theorem stranger_noop (w : World) (blk : Block) (snd : Addr) (h : w.st.admin ≠ some snd) :
    (∀ c g, w.step blk (.allow snd c g) = w) ∧ (∀ a, w.step blk (.updateAdmin snd a) = w) := by
  constructor
  · intro c g
    unfold World.step
    cases hx : w.exec blk (.allow snd c g) with
    | error e => rfl
    | ok r => exact absurd (execAllow_spec (exec_allow_st hx)).1 h
  · intro a
    unfold World.step
    cases hx : w.exec blk (.updateAdmin snd a) with
    | error e => rfl
    | ok r => exact absurd (execUpdateAdmin_spec (exec_updateAdmin_st hx)).1 h

/-- After governance was handed over, the former admin is a stranger. -/
theorem former_admin_noop {w : World} {blk : Block} {old : Addr} {a : AddrArg} {w' : World} {o : Outcome}
    (h : w.exec blk (.updateAdmin old a) = .ok (w', o)) (hne : a.text ≠ old) (blk' : Block) :
    (∀ c g, w'.step blk' (.allow old c g) = w') ∧ (∀ a', w'.step blk' (.updateAdmin old a') = w') := by
  have := (execUpdateAdmin_spec (exec_updateAdmin_st h)).2.2.1
  apply stranger_noop
  rw [this]; intro e; cases e; exact hne rfl

/-- **C18, allow_effect** (what an accepted `Allow` changes): it was sent by the admin with a valid
address; exactly the entry of that address changes, to the submitted limit, which is at least as loose
as the old one (if there was one); every other entry and the rest of the governance state are untouched. -/
theorem allow_effect {w w' : World} {blk : Block} {snd : Addr} {c : AddrArg} {g : Option Nat} {o : Outcome}
    (h : w.exec blk (.allow snd c g) = .ok (w', o)) :
    w.st.admin = some snd ∧ c.valid = true ∧ w'.st.allow.get? c.text = some g ∧
    (∀ old, w.st.allow.get? c.text = some old → gasLe old g) ∧
    (∀ t, t ≠ c.text → w'.st.allow.get? t = w.st.allow.get? t) ∧
    w'.st.admin = w.st.admin ∧ w'.st.config = w.st.config := by
  obtain ⟨h1, h2, h3, h4, h5, h6, _⟩ := execAllow_spec (exec_allow_st h)
  refine ⟨h1, h2, by rw [h3]; simp, h4, ?_, h5, h6⟩
  intro t ht
  rw [h3, AMap.get?_set_ne _ _ _ _ (Ne.symm ht)]

/-- on `w0`: "mallory" is a stranger; T1's payouts carry 500 now and at least 500 after any history -/
example : w0.st.admin ≠ some "mallory" := by decide +kernel
example : w0.st.allow.get? "T1" = some (some 500) := by decide +kernel
example : expectedGas (run w0 [(b0, .allow "gov" ⟨true, "T1"⟩ (some 700))]).st (.cw20 "T1") = some 700 := by decide +kernel

end CwPlus.Props.C18
