/-
Bounded integers of the Rust code are modelled as `Nat` plus the range checks
the code performs (`checked_*`, panicking `+`/`-`, `as u64`).
No imports: this file is linked into the `driver` executable.
-/
namespace CwPlus

abbrev Addr := String

def U128_MAX : Nat := 340282366920938463463374607431768211455
def U64_MAX : Nat := 18446744073709551615
def U32_MAX : Nat := 4294967295

theorem U128_MAX_eq : U128_MAX = 2^128 - 1 := by decide
theorem U64_MAX_eq : U64_MAX = 2^64 - 1 := by decide

/-- Result of a contract call.  The string is an error tag used only for
coverage statistics; the correspondence check compares `ok` vs `error`. -/
abbrev Res (α : Type) := Except String α

/-- `Uint128 + Uint128` (panics on overflow) and `checked_add` (errors): both
abort the transaction. -/
def addU128 (a b : Nat) : Res Nat :=
  if a + b ≤ U128_MAX then .ok (a + b) else .error "overflow.u128"

/-- `Uint128::checked_sub`. -/
def subU128 (a b : Nat) : Res Nat :=
  if b ≤ a then .ok (a - b) else .error "underflow.u128"

/-- `u64 + u64` with `overflow-checks = true`. -/
def addU64 (a b : Nat) : Res Nat :=
  if a + b ≤ U64_MAX then .ok (a + b) else .error "overflow.u64"

def subU64 (a b : Nat) : Res Nat :=
  if b ≤ a then .ok (a - b) else .error "underflow.u64"

/-- `x as u64` on a `u128`. -/
def castU64 (n : Nat) : Nat := n % 18446744073709551616

def Res.isOk {α} : Res α → Bool
  | .ok _ => true
  | .error _ => false

def Res.tag {α} : Res α → String
  | .ok _ => "ok"
  | .error e => e

theorem Res.isOk_iff_exists {α : Type} (r : Res α) : r.isOk = true ↔ ∃ a, r = .ok a := by
  cases r <;> simp [Res.isOk]

theorem Res.isOk_false_iff_exists {α : Type} (r : Res α) : r.isOk = false ↔ ∃ e, r = .error e := by
  cases r <;> simp [Res.isOk]

theorem Res.ite_ok {α : Type} {p : Prop} [Decidable p] {x c : α} {e : String} :
    (if p then (.ok x : Res α) else .error e) = .ok c ↔ (p ∧ c = x) := by
  split <;> simp [*, eq_comm]

@[simp] theorem addU128_ok {a b c : Nat} : addU128 a b = .ok c ↔ (a + b ≤ U128_MAX ∧ c = a + b) := Res.ite_ok

@[simp] theorem subU128_ok {a b c : Nat} : subU128 a b = .ok c ↔ (b ≤ a ∧ c = a - b) := Res.ite_ok

@[simp] theorem addU64_ok {a b c : Nat} : addU64 a b = .ok c ↔ (a + b ≤ U64_MAX ∧ c = a + b) := Res.ite_ok

@[simp] theorem subU64_ok {a b c : Nat} : subU64 a b = .ok c ↔ (b ≤ a ∧ c = a - b) := Res.ite_ok

theorem subU64_error {a b : Nat} {e : String} : subU64 a b = .error e ↔ a < b ∧ "underflow.u64" = e := by
  unfold subU64; split <;> simp_all <;> omega

theorem addU64_error {a b : Nat} {e : String} : addU64 a b = .error e ↔ U64_MAX < a + b ∧ "overflow.u64" = e := by
  unfold addU64; split <;> simp_all <;> omega

/-- A guard: `check c tag` fails with `tag` unless `c` holds. -/
def check (c : Bool) (tag : String) : Res Unit := if c then .ok () else .error tag

@[simp] theorem check_ok {c : Bool} {tag : String} {u : Unit} : check c tag = .ok u ↔ c = true := by
  unfold check; split <;> simp_all

theorem check_error {c : Bool} {tag e : String} : check c tag = .error e ↔ c = false ∧ tag = e := by
  unfold check; split <;> simp_all

@[simp] theorem Res.bind_ok {α β : Type} (x : Res α) (f : α → Res β) (b : β) :
    (x >>= f) = Except.ok b ↔ ∃ a, x = Except.ok a ∧ f a = Except.ok b := by
  cases x <;> simp [bind, Except.bind]

theorem Res.bind_error {α β : Type} (x : Res α) (f : α → Res β) (e : String) :
    (x >>= f) = Except.error e ↔ x = Except.error e ∨ ∃ a, x = Except.ok a ∧ f a = Except.error e := by
  cases x <;> simp [bind, Except.bind]

@[simp high] theorem check_bind_ok {α : Type} {c : Bool} {tag : String} (f : Unit → Res α) (b : α) :
    (check c tag >>= f) = Except.ok b ↔ (c = true ∧ f () = Except.ok b) := by
  unfold check; split <;> simp_all [bind, Except.bind]

theorem Res.bind_ok_of {α β : Type} {x : Res α} {P : Prop} {v : α} (hx : ∀ c, x = .ok c ↔ P ∧ c = v)
    (f : α → Res β) (r : β) : (x >>= f) = .ok r ↔ (P ∧ f v = .ok r) := by
  rw [Res.bind_ok]
  simp only [hx, and_assoc, exists_and_left, exists_eq_left]

theorem Res.map_ok_of {α β : Type} {x : Res α} {P : Prop} {v : α} (hx : ∀ c, x = .ok c ↔ P ∧ c = v)
    (f : α → β) (r : β) : (f <$> x) = .ok r ↔ (P ∧ f v = r) := by
  have : f <$> x = x >>= fun a => .ok (f a) := by cases x <;> rfl
  rw [this, Res.bind_ok_of hx, Except.ok.injEq]

@[simp high] theorem addU128_bind_ok {α : Type} {a b : Nat} (f : Nat → Res α) (r : α) :
    (addU128 a b >>= f) = Except.ok r ↔ (a + b ≤ U128_MAX ∧ f (a + b) = Except.ok r) :=
  Res.bind_ok_of (fun _ => addU128_ok) f r

@[simp high] theorem subU128_bind_ok {α : Type} {a b : Nat} (f : Nat → Res α) (r : α) :
    (subU128 a b >>= f) = Except.ok r ↔ (b ≤ a ∧ f (a - b) = Except.ok r) :=
  Res.bind_ok_of (fun _ => subU128_ok) f r

@[simp high] theorem addU64_bind_ok {α : Type} {a b : Nat} (f : Nat → Res α) (r : α) :
    (addU64 a b >>= f) = Except.ok r ↔ (a + b ≤ U64_MAX ∧ f (a + b) = Except.ok r) :=
  Res.bind_ok_of (fun _ => addU64_ok) f r

@[simp high] theorem subU64_bind_ok {α : Type} {a b : Nat} (f : Nat → Res α) (r : α) :
    (subU64 a b >>= f) = Except.ok r ↔ (b ≤ a ∧ f (a - b) = Except.ok r) :=
  Res.bind_ok_of (fun _ => subU64_ok) f r

@[simp high] theorem addU128_map_ok {α : Type} {a b : Nat} (f : Nat → α) (r : α) :
    (f <$> addU128 a b) = Except.ok r ↔ (a + b ≤ U128_MAX ∧ f (a + b) = r) :=
  Res.map_ok_of (fun _ => addU128_ok) f r

@[simp high] theorem subU128_map_ok {α : Type} {a b : Nat} (f : Nat → α) (r : α) :
    (f <$> subU128 a b) = Except.ok r ↔ (b ≤ a ∧ f (a - b) = r) :=
  Res.map_ok_of (fun _ => subU128_ok) f r

@[simp high] theorem check_map_ok {α : Type} {c : Bool} {tag : String} (f : Unit → α) (b : α) :
    (f <$> check c tag) = Except.ok b ↔ (c = true ∧ f () = b) := by
  unfold check; split <;> simp_all [Functor.map, Except.map]

@[simp] theorem Res.map_ok {α β : Type} (x : Res α) (f : α → β) (b : β) :
    (f <$> x) = Except.ok b ↔ ∃ a, x = Except.ok a ∧ f a = b := by
  cases x <;> simp [Functor.map, Except.map]

/-- `rfl` equations for plain `rw` (`simp` with `bind` unfolded is slow on nested `if`s). -/
theorem Res.ok_bind {α β : Type} (a : α) (f : α → Res β) : ((Except.ok a : Res α) >>= f) = f a := rfl
theorem Res.error_bind {α β : Type} (e : String) (f : α → Res β) : ((Except.error e : Res α) >>= f) = .error e := rfl
theorem Res.pure_eq_ok {α : Type} (a : α) : (pure a : Res α) = .ok a := rfl

@[simp] theorem Res.pure_ok {α : Type} (a b : α) : (pure a : Res α) = Except.ok b ↔ a = b := by
  simp [pure, Except.pure]

@[simp] theorem Res.error_ne_ok {α : Type} (e : String) (b : α) : (Except.error e : Res α) ≠ Except.ok b := by
  intro h; cases h

end CwPlus
