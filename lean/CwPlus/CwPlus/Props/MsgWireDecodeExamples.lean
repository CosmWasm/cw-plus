import CwPlus.Model.MsgWire
import CwPlus.Lemmas.StrBytes
/-!
Directed inputs for the receiver-side decoders of `Model/MsgWire.lean`, evaluated by the kernel (generated by
`tools/gen_msgdecode_corpus.py`; the same bytes are in `corpus/C09/msgdecode_directed.ops`, where the real
`from_json` gets them: scenario `pkg`, op `decode`).  The expectation of every example is the verdict of the real
`from_json` at generation time; `.toOption = none` = the input is refused.
-/
namespace CwPlus.Props.MsgWireDecodeExamples
open CwPlus.Json CwPlus.MsgWire

/-- `receive/canonical`: what `into_json_binary` writes -/
example : decodeReceive (strBytes "{\"receive\":{\"sender\":\"s\",\"amount\":\"7\",\"msg\":\"YQ==\"}}") =
    .ok (⟨"s", 7, (strBytes "a")⟩ : Receive) := by rw [strBytes_ofList]; decide +kernel
/-- `receive/perm_021`: field order is free -/
example : decodeReceive (strBytes "{\"receive\":{\"sender\":\"s\",\"msg\":\"YQ==\",\"amount\":\"7\"}}") =
    .ok (⟨"s", 7, (strBytes "a")⟩ : Receive) := by rw [strBytes_ofList]; decide +kernel
/-- `receive/perm_102`: field order is free -/
example : decodeReceive (strBytes "{\"receive\":{\"amount\":\"7\",\"sender\":\"s\",\"msg\":\"YQ==\"}}") =
    .ok (⟨"s", 7, (strBytes "a")⟩ : Receive) := by rw [strBytes_ofList]; decide +kernel
/-- `receive/perm_120`: field order is free -/
example : decodeReceive (strBytes "{\"receive\":{\"amount\":\"7\",\"msg\":\"YQ==\",\"sender\":\"s\"}}") =
    .ok (⟨"s", 7, (strBytes "a")⟩ : Receive) := by rw [strBytes_ofList]; decide +kernel
/-- `receive/perm_201`: field order is free -/
example : decodeReceive (strBytes "{\"receive\":{\"msg\":\"YQ==\",\"sender\":\"s\",\"amount\":\"7\"}}") =
    .ok (⟨"s", 7, (strBytes "a")⟩ : Receive) := by rw [strBytes_ofList]; decide +kernel
/-- `receive/perm_210`: field order is free -/
example : decodeReceive (strBytes "{\"receive\":{\"msg\":\"YQ==\",\"amount\":\"7\",\"sender\":\"s\"}}") =
    .ok (⟨"s", 7, (strBytes "a")⟩ : Receive) := by rw [strBytes_ofList]; decide +kernel
/-- `receive/dup_sender`: a repeated field is an error -/
example : (decodeReceive (strBytes "{\"receive\":{\"sender\":\"s\",\"amount\":\"7\",\"msg\":\"YQ==\",\"sender\":\"s\"}}")).toOption = none := by rw [strBytes_ofList]; decide +kernel
/-- `receive/missing_sender`: no default: a missing field is an error -/
example : (decodeReceive (strBytes "{\"receive\":{\"amount\":\"7\",\"msg\":\"YQ==\"}}")).toOption = none := by rw [strBytes_ofList]; decide +kernel
/-- `receive/null_sender`: `null` is not a string -/
example : (decodeReceive (strBytes "{\"receive\":{\"sender\":null,\"amount\":\"7\",\"msg\":\"YQ==\"}}")).toOption = none := by rw [strBytes_ofList]; decide +kernel
/-- `receive/dup_amount`: a repeated field is an error -/
example : (decodeReceive (strBytes "{\"receive\":{\"sender\":\"s\",\"amount\":\"7\",\"msg\":\"YQ==\",\"amount\":\"7\"}}")).toOption = none := by rw [strBytes_ofList]; decide +kernel
/-- `receive/missing_amount`: no default: a missing field is an error -/
example : (decodeReceive (strBytes "{\"receive\":{\"sender\":\"s\",\"msg\":\"YQ==\"}}")).toOption = none := by rw [strBytes_ofList]; decide +kernel
/-- `receive/null_amount`: `null` is not a string -/
example : (decodeReceive (strBytes "{\"receive\":{\"sender\":\"s\",\"amount\":null,\"msg\":\"YQ==\"}}")).toOption = none := by rw [strBytes_ofList]; decide +kernel
/-- `receive/dup_msg`: a repeated field is an error -/
example : (decodeReceive (strBytes "{\"receive\":{\"sender\":\"s\",\"amount\":\"7\",\"msg\":\"YQ==\",\"msg\":\"YQ==\"}}")).toOption = none := by rw [strBytes_ofList]; decide +kernel
/-- `receive/missing_msg`: no default: a missing field is an error -/
example : (decodeReceive (strBytes "{\"receive\":{\"sender\":\"s\",\"amount\":\"7\"}}")).toOption = none := by rw [strBytes_ofList]; decide +kernel
/-- `receive/null_msg`: `null` is not a string -/
example : (decodeReceive (strBytes "{\"receive\":{\"sender\":\"s\",\"amount\":\"7\",\"msg\":null}}")).toOption = none := by rw [strBytes_ofList]; decide +kernel
/-- `receive/unknown_scalar_last`: deny_unknown_fields -/
example : (decodeReceive (strBytes "{\"receive\":{\"sender\":\"s\",\"amount\":\"7\",\"msg\":\"YQ==\",\"x\":1}}")).toOption = none := by rw [strBytes_ofList]; decide +kernel
/-- `receive/unknown_scalar_first`: deny_unknown_fields -/
example : (decodeReceive (strBytes "{\"receive\":{\"x\":1,\"sender\":\"s\",\"amount\":\"7\",\"msg\":\"YQ==\"}}")).toOption = none := by rw [strBytes_ofList]; decide +kernel
/-- `receive/unknown_nested`: deny_unknown_fields, nested garbage -/
example : (decodeReceive (strBytes "{\"receive\":{\"sender\":\"s\",\"x\":{\"a\":[1,{\"b\":null}],\"sender\":\"t\"},\"amount\":\"7\",\"msg\":\"YQ==\"}}")).toOption = none := by rw [strBytes_ofList]; decide +kernel
/-- `receive/unknown_array`: deny_unknown_fields -/
example : (decodeReceive (strBytes "{\"receive\":{\"sender\":\"s\",\"amount\":\"7\",\"y\":[1,\"two\",[3],{}],\"msg\":\"YQ==\"}}")).toOption = none := by rw [strBytes_ofList]; decide +kernel
/-- `receive/unknown_empty_key`: the empty key is unknown too -/
example : (decodeReceive (strBytes "{\"receive\":{\"sender\":\"s\",\"amount\":\"7\",\"msg\":\"YQ==\",\"\":\"\"}}")).toOption = none := by rw [strBytes_ofList]; decide +kernel
/-- `receive/amount_zero`: Uint128 is a decimal string (`str::parse::<u128>`) -/
example : decodeReceive (strBytes "{\"receive\":{\"sender\":\"s\",\"amount\":\"0\",\"msg\":\"YQ==\"}}") =
    .ok (⟨"s", 0, (strBytes "a")⟩ : Receive) := by rw [strBytes_ofList]; decide +kernel
/-- `receive/amount_double_zero`: Uint128 is a decimal string (`str::parse::<u128>`) -/
example : decodeReceive (strBytes "{\"receive\":{\"sender\":\"s\",\"amount\":\"00\",\"msg\":\"YQ==\"}}") =
    .ok (⟨"s", 0, (strBytes "a")⟩ : Receive) := by rw [strBytes_ofList]; decide +kernel
/-- `receive/amount_leading_zeros`: Uint128 is a decimal string (`str::parse::<u128>`) -/
example : decodeReceive (strBytes "{\"receive\":{\"sender\":\"s\",\"amount\":\"007\",\"msg\":\"YQ==\"}}") =
    .ok (⟨"s", 7, (strBytes "a")⟩ : Receive) := by rw [strBytes_ofList]; decide +kernel
/-- `receive/amount_plus`: Uint128 is a decimal string (`str::parse::<u128>`) -/
example : decodeReceive (strBytes "{\"receive\":{\"sender\":\"s\",\"amount\":\"+7\",\"msg\":\"YQ==\"}}") =
    .ok (⟨"s", 7, (strBytes "a")⟩ : Receive) := by rw [strBytes_ofList]; decide +kernel
/-- `receive/amount_minus`: Uint128 is a decimal string (`str::parse::<u128>`) -/
example : (decodeReceive (strBytes "{\"receive\":{\"sender\":\"s\",\"amount\":\"-7\",\"msg\":\"YQ==\"}}")).toOption = none := by rw [strBytes_ofList]; decide +kernel
/-- `receive/amount_minus_zero`: Uint128 is a decimal string (`str::parse::<u128>`) -/
example : (decodeReceive (strBytes "{\"receive\":{\"sender\":\"s\",\"amount\":\"-0\",\"msg\":\"YQ==\"}}")).toOption = none := by rw [strBytes_ofList]; decide +kernel
/-- `receive/amount_fraction`: Uint128 is a decimal string (`str::parse::<u128>`) -/
example : (decodeReceive (strBytes "{\"receive\":{\"sender\":\"s\",\"amount\":\"7.0\",\"msg\":\"YQ==\"}}")).toOption = none := by rw [strBytes_ofList]; decide +kernel
/-- `receive/amount_exponent`: Uint128 is a decimal string (`str::parse::<u128>`) -/
example : (decodeReceive (strBytes "{\"receive\":{\"sender\":\"s\",\"amount\":\"7e0\",\"msg\":\"YQ==\"}}")).toOption = none := by rw [strBytes_ofList]; decide +kernel
/-- `receive/amount_space_before`: Uint128 is a decimal string (`str::parse::<u128>`) -/
example : (decodeReceive (strBytes "{\"receive\":{\"sender\":\"s\",\"amount\":\" 7\",\"msg\":\"YQ==\"}}")).toOption = none := by rw [strBytes_ofList]; decide +kernel
/-- `receive/amount_space_after`: Uint128 is a decimal string (`str::parse::<u128>`) -/
example : (decodeReceive (strBytes "{\"receive\":{\"sender\":\"s\",\"amount\":\"7 \",\"msg\":\"YQ==\"}}")).toOption = none := by rw [strBytes_ofList]; decide +kernel
/-- `receive/amount_empty`: Uint128 is a decimal string (`str::parse::<u128>`) -/
example : (decodeReceive (strBytes "{\"receive\":{\"sender\":\"s\",\"amount\":\"\",\"msg\":\"YQ==\"}}")).toOption = none := by rw [strBytes_ofList]; decide +kernel
/-- `receive/amount_u64_plus_1`: Uint128 is a decimal string (`str::parse::<u128>`) -/
example : decodeReceive (strBytes "{\"receive\":{\"sender\":\"s\",\"amount\":\"18446744073709551616\",\"msg\":\"YQ==\"}}") =
    .ok (⟨"s", 18446744073709551616, (strBytes "a")⟩ : Receive) := by rw [strBytes_ofList]; decide +kernel
/-- `receive/amount_u128_max`: Uint128 is a decimal string (`str::parse::<u128>`) -/
example : decodeReceive (strBytes "{\"receive\":{\"sender\":\"s\",\"amount\":\"340282366920938463463374607431768211455\",\"msg\":\"YQ==\"}}") =
    .ok (⟨"s", 340282366920938463463374607431768211455, (strBytes "a")⟩ : Receive) := by rw [strBytes_ofList]; decide +kernel
/-- `receive/amount_u128_max_plus_1`: Uint128 is a decimal string (`str::parse::<u128>`) -/
example : (decodeReceive (strBytes "{\"receive\":{\"sender\":\"s\",\"amount\":\"340282366920938463463374607431768211456\",\"msg\":\"YQ==\"}}")).toOption = none := by rw [strBytes_ofList]; decide +kernel
/-- `receive/amount_huge`: Uint128 is a decimal string (`str::parse::<u128>`) -/
example : (decodeReceive (strBytes "{\"receive\":{\"sender\":\"s\",\"amount\":\"999999999999999999999999999999999999999999999999999999999999\",\"msg\":\"YQ==\"}}")).toOption = none := by rw [strBytes_ofList]; decide +kernel
/-- `receive/amount_number`: Uint128 is a decimal string (`str::parse::<u128>`) -/
example : (decodeReceive (strBytes "{\"receive\":{\"sender\":\"s\",\"amount\":7,\"msg\":\"YQ==\"}}")).toOption = none := by rw [strBytes_ofList]; decide +kernel
/-- `receive/amount_number_zero`: Uint128 is a decimal string (`str::parse::<u128>`) -/
example : (decodeReceive (strBytes "{\"receive\":{\"sender\":\"s\",\"amount\":0,\"msg\":\"YQ==\"}}")).toOption = none := by rw [strBytes_ofList]; decide +kernel
/-- `receive/amount_hex`: Uint128 is a decimal string (`str::parse::<u128>`) -/
example : (decodeReceive (strBytes "{\"receive\":{\"sender\":\"s\",\"amount\":\"0x7\",\"msg\":\"YQ==\"}}")).toOption = none := by rw [strBytes_ofList]; decide +kernel
/-- `receive/amount_arabic_digit`: Uint128 is a decimal string (`str::parse::<u128>`) -/
example : (decodeReceive [0x7b, 0x22, 0x72, 0x65, 0x63, 0x65, 0x69, 0x76, 0x65, 0x22, 0x3a, 0x7b, 0x22, 0x73, 0x65, 0x6e, 0x64, 0x65, 0x72, 0x22, 0x3a, 0x22, 0x73, 0x22, 0x2c, 0x22, 0x61, 0x6d, 0x6f, 0x75, 0x6e, 0x74, 0x22, 0x3a, 0x22, 0xd9, 0xa7, 0x22, 0x2c, 0x22, 0x6d, 0x73, 0x67, 0x22, 0x3a, 0x22, 0x59, 0x51, 0x3d, 0x3d, 0x22, 0x7d, 0x7d]).toOption = none := by decide +kernel
/-- `receive/amount_underscore`: Uint128 is a decimal string (`str::parse::<u128>`) -/
example : (decodeReceive (strBytes "{\"receive\":{\"sender\":\"s\",\"amount\":\"1_000\",\"msg\":\"YQ==\"}}")).toOption = none := by rw [strBytes_ofList]; decide +kernel
/-- `receive/amount_escaped_digit`: Uint128 is a decimal string (`str::parse::<u128>`) -/
example : decodeReceive (strBytes "{\"receive\":{\"sender\":\"s\",\"amount\":\"\\u0037\",\"msg\":\"YQ==\"}}") =
    .ok (⟨"s", 7, (strBytes "a")⟩ : Receive) := by rw [strBytes_ofList]; decide +kernel
/-- `receive/amount_bool`: Uint128 is a decimal string (`str::parse::<u128>`) -/
example : (decodeReceive (strBytes "{\"receive\":{\"sender\":\"s\",\"amount\":true,\"msg\":\"YQ==\"}}")).toOption = none := by rw [strBytes_ofList]; decide +kernel
/-- `receive/amount_array`: Uint128 is a decimal string (`str::parse::<u128>`) -/
example : (decodeReceive (strBytes "{\"receive\":{\"sender\":\"s\",\"amount\":[\"7\"],\"msg\":\"YQ==\"}}")).toOption = none := by rw [strBytes_ofList]; decide +kernel
/-- `receive/amount_plus_only`: Uint128 is a decimal string (`str::parse::<u128>`) -/
example : (decodeReceive (strBytes "{\"receive\":{\"sender\":\"s\",\"amount\":\"+\",\"msg\":\"YQ==\"}}")).toOption = none := by rw [strBytes_ofList]; decide +kernel
/-- `receive/amount_plus_leading_zero`: Uint128 is a decimal string (`str::parse::<u128>`) -/
example : decodeReceive (strBytes "{\"receive\":{\"sender\":\"s\",\"amount\":\"+07\",\"msg\":\"YQ==\"}}") =
    .ok (⟨"s", 7, (strBytes "a")⟩ : Receive) := by rw [strBytes_ofList]; decide +kernel
/-- `receive/sender_quote`: string escapes -/
example : decodeReceive (strBytes "{\"receive\":{\"sender\":\"a\\\"b\",\"amount\":\"7\",\"msg\":\"YQ==\"}}") =
    .ok (⟨"a\"b", 7, (strBytes "a")⟩ : Receive) := by rw [strBytes_ofList]; decide +kernel
/-- `receive/sender_backslash`: string escapes -/
example : decodeReceive (strBytes "{\"receive\":{\"sender\":\"a\\\\b\",\"amount\":\"7\",\"msg\":\"YQ==\"}}") =
    .ok (⟨"a\\b", 7, (strBytes "a")⟩ : Receive) := by rw [strBytes_ofList]; decide +kernel
/-- `receive/sender_solidus`: string escapes -/
example : decodeReceive (strBytes "{\"receive\":{\"sender\":\"a\\/b\",\"amount\":\"7\",\"msg\":\"YQ==\"}}") =
    .ok (⟨"a/b", 7, (strBytes "a")⟩ : Receive) := by rw [strBytes_ofList]; decide +kernel
/-- `receive/sender_bfnrt`: string escapes -/
example : decodeReceive (strBytes "{\"receive\":{\"sender\":\"\\b\\f\\n\\r\\t\",\"amount\":\"7\",\"msg\":\"YQ==\"}}") =
    .ok (⟨"\x08\x0c\x0a\x0d\x09", 7, (strBytes "a")⟩ : Receive) := by rw [strBytes_ofList]; decide +kernel
/-- `receive/sender_u0041`: string escapes -/
example : decodeReceive (strBytes "{\"receive\":{\"sender\":\"\\u0041\",\"amount\":\"7\",\"msg\":\"YQ==\"}}") =
    .ok (⟨"A", 7, (strBytes "a")⟩ : Receive) := by rw [strBytes_ofList]; decide +kernel
/-- `receive/sender_u00e9`: string escapes -/
example : decodeReceive (strBytes "{\"receive\":{\"sender\":\"\\u00e9\",\"amount\":\"7\",\"msg\":\"YQ==\"}}") =
    .ok (⟨"é", 7, (strBytes "a")⟩ : Receive) := by rw [strBytes_ofList]; decide +kernel
/-- `receive/sender_u00E9_upper`: string escapes -/
example : decodeReceive (strBytes "{\"receive\":{\"sender\":\"\\u00E9\",\"amount\":\"7\",\"msg\":\"YQ==\"}}") =
    .ok (⟨"é", 7, (strBytes "a")⟩ : Receive) := by rw [strBytes_ofList]; decide +kernel
/-- `receive/sender_pair`: string escapes -/
example : decodeReceive (strBytes "{\"receive\":{\"sender\":\"\\ud83d\\ude00\",\"amount\":\"7\",\"msg\":\"YQ==\"}}") =
    .ok (⟨"😀", 7, (strBytes "a")⟩ : Receive) := by rw [strBytes_ofList]; decide +kernel
/-- `receive/sender_lone_high`: string escapes -/
example : (decodeReceive (strBytes "{\"receive\":{\"sender\":\"\\ud800\",\"amount\":\"7\",\"msg\":\"YQ==\"}}")).toOption = none := by rw [strBytes_ofList]; decide +kernel
/-- `receive/sender_lone_low`: string escapes -/
example : (decodeReceive (strBytes "{\"receive\":{\"sender\":\"\\udc00\",\"amount\":\"7\",\"msg\":\"YQ==\"}}")).toOption = none := by rw [strBytes_ofList]; decide +kernel
/-- `receive/sender_high_then_text`: string escapes -/
example : (decodeReceive (strBytes "{\"receive\":{\"sender\":\"\\ud800x\",\"amount\":\"7\",\"msg\":\"YQ==\"}}")).toOption = none := by rw [strBytes_ofList]; decide +kernel
/-- `receive/sender_high_then_high`: string escapes -/
example : (decodeReceive (strBytes "{\"receive\":{\"sender\":\"\\ud800\\ud800\",\"amount\":\"7\",\"msg\":\"YQ==\"}}")).toOption = none := by rw [strBytes_ofList]; decide +kernel
/-- `receive/sender_short_u`: string escapes -/
example : (decodeReceive (strBytes "{\"receive\":{\"sender\":\"\\u12\",\"amount\":\"7\",\"msg\":\"YQ==\"}}")).toOption = none := by rw [strBytes_ofList]; decide +kernel
/-- `receive/sender_bad_hex`: string escapes -/
example : (decodeReceive (strBytes "{\"receive\":{\"sender\":\"\\u00zz\",\"amount\":\"7\",\"msg\":\"YQ==\"}}")).toOption = none := by rw [strBytes_ofList]; decide +kernel
/-- `receive/sender_bad_escape`: string escapes -/
example : (decodeReceive (strBytes "{\"receive\":{\"sender\":\"\\q\",\"amount\":\"7\",\"msg\":\"YQ==\"}}")).toOption = none := by rw [strBytes_ofList]; decide +kernel
/-- `receive/sender_escape_at_end`: string escapes -/
example : (decodeReceive (strBytes "{\"receive\":{\"sender\":\"\\,\"amount\":\"7\",\"msg\":\"YQ==\"}}")).toOption = none := by rw [strBytes_ofList]; decide +kernel
/-- `receive/sender_u0000`: string escapes -/
example : decodeReceive (strBytes "{\"receive\":{\"sender\":\"\\u0000\",\"amount\":\"7\",\"msg\":\"YQ==\"}}") =
    .ok (⟨"\x00", 7, (strBytes "a")⟩ : Receive) := by rw [strBytes_ofList]; decide +kernel
/-- `receive/sender_empty`: string escapes -/
example : decodeReceive (strBytes "{\"receive\":{\"sender\":\"\",\"amount\":\"7\",\"msg\":\"YQ==\"}}") =
    .ok (⟨"", 7, (strBytes "a")⟩ : Receive) := by rw [strBytes_ofList]; decide +kernel
/-- `receive/sender_number`: string escapes -/
example : (decodeReceive (strBytes "{\"receive\":{\"sender\":5,\"amount\":\"7\",\"msg\":\"YQ==\"}}")).toOption = none := by rw [strBytes_ofList]; decide +kernel
/-- `receive/sender_long`: string escapes -/
example : decodeReceive (strBytes "{\"receive\":{\"sender\":\"xxxxxxxxxxxxxxxxxxxxxxxxxxxxxxxxxxxxxxxxxxxxxxxxxxxxxxxxxxxxxxxxxxxxxxxxxxxxxxxx\",\"amount\":\"7\",\"msg\":\"YQ==\"}}") =
    .ok (⟨"xxxxxxxxxxxxxxxxxxxxxxxxxxxxxxxxxxxxxxxxxxxxxxxxxxxxxxxxxxxxxxxxxxxxxxxxxxxxxxxx", 7, (strBytes "a")⟩ : Receive) := by rw [strBytes_ofList]; decide +kernel
/-- `receive/sender_single_quotes`: string escapes -/
example : (decodeReceive (strBytes "{\"receive\":{\"sender\":'s',\"amount\":\"7\",\"msg\":\"YQ==\"}}")).toOption = none := by rw [strBytes_ofList]; decide +kernel
/-- `receive/sender_raw_ctrl_01`: raw bytes inside a string -/
example : decodeReceive [0x7b, 0x22, 0x72, 0x65, 0x63, 0x65, 0x69, 0x76, 0x65, 0x22, 0x3a, 0x7b, 0x22, 0x73, 0x65, 0x6e, 0x64, 0x65, 0x72, 0x22, 0x3a, 0x22, 0x61, 0x01, 0x62, 0x22, 0x2c, 0x22, 0x61, 0x6d, 0x6f, 0x75, 0x6e, 0x74, 0x22, 0x3a, 0x22, 0x37, 0x22, 0x2c, 0x22, 0x6d, 0x73, 0x67, 0x22, 0x3a, 0x22, 0x59, 0x51, 0x3d, 0x3d, 0x22, 0x7d, 0x7d] =
    .ok (⟨"a\x01b", 7, (strBytes "a")⟩ : Receive) := by rw [strBytes_ofList]; decide +kernel
/-- `receive/sender_raw_raw_newline`: raw bytes inside a string -/
example : decodeReceive [0x7b, 0x22, 0x72, 0x65, 0x63, 0x65, 0x69, 0x76, 0x65, 0x22, 0x3a, 0x7b, 0x22, 0x73, 0x65, 0x6e, 0x64, 0x65, 0x72, 0x22, 0x3a, 0x22, 0x61, 0x0a, 0x62, 0x22, 0x2c, 0x22, 0x61, 0x6d, 0x6f, 0x75, 0x6e, 0x74, 0x22, 0x3a, 0x22, 0x37, 0x22, 0x2c, 0x22, 0x6d, 0x73, 0x67, 0x22, 0x3a, 0x22, 0x59, 0x51, 0x3d, 0x3d, 0x22, 0x7d, 0x7d] =
    .ok (⟨"a\x0ab", 7, (strBytes "a")⟩ : Receive) := by rw [strBytes_ofList]; decide +kernel
/-- `receive/sender_raw_raw_tab`: raw bytes inside a string -/
example : decodeReceive [0x7b, 0x22, 0x72, 0x65, 0x63, 0x65, 0x69, 0x76, 0x65, 0x22, 0x3a, 0x7b, 0x22, 0x73, 0x65, 0x6e, 0x64, 0x65, 0x72, 0x22, 0x3a, 0x22, 0x61, 0x09, 0x62, 0x22, 0x2c, 0x22, 0x61, 0x6d, 0x6f, 0x75, 0x6e, 0x74, 0x22, 0x3a, 0x22, 0x37, 0x22, 0x2c, 0x22, 0x6d, 0x73, 0x67, 0x22, 0x3a, 0x22, 0x59, 0x51, 0x3d, 0x3d, 0x22, 0x7d, 0x7d] =
    .ok (⟨"a\x09b", 7, (strBytes "a")⟩ : Receive) := by rw [strBytes_ofList]; decide +kernel
/-- `receive/sender_raw_del`: raw bytes inside a string -/
example : decodeReceive [0x7b, 0x22, 0x72, 0x65, 0x63, 0x65, 0x69, 0x76, 0x65, 0x22, 0x3a, 0x7b, 0x22, 0x73, 0x65, 0x6e, 0x64, 0x65, 0x72, 0x22, 0x3a, 0x22, 0x61, 0x7f, 0x62, 0x22, 0x2c, 0x22, 0x61, 0x6d, 0x6f, 0x75, 0x6e, 0x74, 0x22, 0x3a, 0x22, 0x37, 0x22, 0x2c, 0x22, 0x6d, 0x73, 0x67, 0x22, 0x3a, 0x22, 0x59, 0x51, 0x3d, 0x3d, 0x22, 0x7d, 0x7d] =
    .ok (⟨"a\x7fb", 7, (strBytes "a")⟩ : Receive) := by rw [strBytes_ofList]; decide +kernel
/-- `receive/sender_raw_utf8_2`: raw bytes inside a string -/
example : decodeReceive [0x7b, 0x22, 0x72, 0x65, 0x63, 0x65, 0x69, 0x76, 0x65, 0x22, 0x3a, 0x7b, 0x22, 0x73, 0x65, 0x6e, 0x64, 0x65, 0x72, 0x22, 0x3a, 0x22, 0xc3, 0xa9, 0x22, 0x2c, 0x22, 0x61, 0x6d, 0x6f, 0x75, 0x6e, 0x74, 0x22, 0x3a, 0x22, 0x37, 0x22, 0x2c, 0x22, 0x6d, 0x73, 0x67, 0x22, 0x3a, 0x22, 0x59, 0x51, 0x3d, 0x3d, 0x22, 0x7d, 0x7d] =
    .ok (⟨"é", 7, (strBytes "a")⟩ : Receive) := by rw [strBytes_ofList]; decide +kernel
/-- `receive/sender_raw_utf8_3`: raw bytes inside a string -/
example : decodeReceive [0x7b, 0x22, 0x72, 0x65, 0x63, 0x65, 0x69, 0x76, 0x65, 0x22, 0x3a, 0x7b, 0x22, 0x73, 0x65, 0x6e, 0x64, 0x65, 0x72, 0x22, 0x3a, 0x22, 0xe2, 0x82, 0xac, 0x22, 0x2c, 0x22, 0x61, 0x6d, 0x6f, 0x75, 0x6e, 0x74, 0x22, 0x3a, 0x22, 0x37, 0x22, 0x2c, 0x22, 0x6d, 0x73, 0x67, 0x22, 0x3a, 0x22, 0x59, 0x51, 0x3d, 0x3d, 0x22, 0x7d, 0x7d] =
    .ok (⟨"€", 7, (strBytes "a")⟩ : Receive) := by rw [strBytes_ofList]; decide +kernel
/-- `receive/sender_raw_utf8_4`: raw bytes inside a string -/
example : decodeReceive [0x7b, 0x22, 0x72, 0x65, 0x63, 0x65, 0x69, 0x76, 0x65, 0x22, 0x3a, 0x7b, 0x22, 0x73, 0x65, 0x6e, 0x64, 0x65, 0x72, 0x22, 0x3a, 0x22, 0xf0, 0x9f, 0x98, 0x80, 0x22, 0x2c, 0x22, 0x61, 0x6d, 0x6f, 0x75, 0x6e, 0x74, 0x22, 0x3a, 0x22, 0x37, 0x22, 0x2c, 0x22, 0x6d, 0x73, 0x67, 0x22, 0x3a, 0x22, 0x59, 0x51, 0x3d, 0x3d, 0x22, 0x7d, 0x7d] =
    .ok (⟨"😀", 7, (strBytes "a")⟩ : Receive) := by rw [strBytes_ofList]; decide +kernel
/-- `receive/sender_raw_bom_inside`: raw bytes inside a string -/
example : decodeReceive [0x7b, 0x22, 0x72, 0x65, 0x63, 0x65, 0x69, 0x76, 0x65, 0x22, 0x3a, 0x7b, 0x22, 0x73, 0x65, 0x6e, 0x64, 0x65, 0x72, 0x22, 0x3a, 0x22, 0xef, 0xbb, 0xbf, 0x78, 0x22, 0x2c, 0x22, 0x61, 0x6d, 0x6f, 0x75, 0x6e, 0x74, 0x22, 0x3a, 0x22, 0x37, 0x22, 0x2c, 0x22, 0x6d, 0x73, 0x67, 0x22, 0x3a, 0x22, 0x59, 0x51, 0x3d, 0x3d, 0x22, 0x7d, 0x7d] =
    .ok (⟨"\ufeffx", 7, (strBytes "a")⟩ : Receive) := by rw [strBytes_ofList]; decide +kernel
/-- `receive/sender_raw_invalid_ff`: raw bytes inside a string -/
example : (decodeReceive [0x7b, 0x22, 0x72, 0x65, 0x63, 0x65, 0x69, 0x76, 0x65, 0x22, 0x3a, 0x7b, 0x22, 0x73, 0x65, 0x6e, 0x64, 0x65, 0x72, 0x22, 0x3a, 0x22, 0x61, 0xff, 0x62, 0x22, 0x2c, 0x22, 0x61, 0x6d, 0x6f, 0x75, 0x6e, 0x74, 0x22, 0x3a, 0x22, 0x37, 0x22, 0x2c, 0x22, 0x6d, 0x73, 0x67, 0x22, 0x3a, 0x22, 0x59, 0x51, 0x3d, 0x3d, 0x22, 0x7d, 0x7d]).toOption = none := by decide +kernel
/-- `receive/sender_raw_overlong`: raw bytes inside a string -/
example : (decodeReceive [0x7b, 0x22, 0x72, 0x65, 0x63, 0x65, 0x69, 0x76, 0x65, 0x22, 0x3a, 0x7b, 0x22, 0x73, 0x65, 0x6e, 0x64, 0x65, 0x72, 0x22, 0x3a, 0x22, 0xc0, 0xaf, 0x22, 0x2c, 0x22, 0x61, 0x6d, 0x6f, 0x75, 0x6e, 0x74, 0x22, 0x3a, 0x22, 0x37, 0x22, 0x2c, 0x22, 0x6d, 0x73, 0x67, 0x22, 0x3a, 0x22, 0x59, 0x51, 0x3d, 0x3d, 0x22, 0x7d, 0x7d]).toOption = none := by decide +kernel
/-- `receive/sender_raw_truncated_utf8`: raw bytes inside a string -/
example : (decodeReceive [0x7b, 0x22, 0x72, 0x65, 0x63, 0x65, 0x69, 0x76, 0x65, 0x22, 0x3a, 0x7b, 0x22, 0x73, 0x65, 0x6e, 0x64, 0x65, 0x72, 0x22, 0x3a, 0x22, 0xe2, 0x82, 0x22, 0x2c, 0x22, 0x61, 0x6d, 0x6f, 0x75, 0x6e, 0x74, 0x22, 0x3a, 0x22, 0x37, 0x22, 0x2c, 0x22, 0x6d, 0x73, 0x67, 0x22, 0x3a, 0x22, 0x59, 0x51, 0x3d, 0x3d, 0x22, 0x7d, 0x7d]).toOption = none := by decide +kernel
/-- `receive/sender_raw_surrogate_bytes`: raw bytes inside a string -/
example : (decodeReceive [0x7b, 0x22, 0x72, 0x65, 0x63, 0x65, 0x69, 0x76, 0x65, 0x22, 0x3a, 0x7b, 0x22, 0x73, 0x65, 0x6e, 0x64, 0x65, 0x72, 0x22, 0x3a, 0x22, 0xed, 0xa0, 0x80, 0x22, 0x2c, 0x22, 0x61, 0x6d, 0x6f, 0x75, 0x6e, 0x74, 0x22, 0x3a, 0x22, 0x37, 0x22, 0x2c, 0x22, 0x6d, 0x73, 0x67, 0x22, 0x3a, 0x22, 0x59, 0x51, 0x3d, 0x3d, 0x22, 0x7d, 0x7d]).toOption = none := by decide +kernel
/-- `receive/sender_raw_nul_byte`: raw bytes inside a string -/
example : decodeReceive [0x7b, 0x22, 0x72, 0x65, 0x63, 0x65, 0x69, 0x76, 0x65, 0x22, 0x3a, 0x7b, 0x22, 0x73, 0x65, 0x6e, 0x64, 0x65, 0x72, 0x22, 0x3a, 0x22, 0x61, 0x00, 0x62, 0x22, 0x2c, 0x22, 0x61, 0x6d, 0x6f, 0x75, 0x6e, 0x74, 0x22, 0x3a, 0x22, 0x37, 0x22, 0x2c, 0x22, 0x6d, 0x73, 0x67, 0x22, 0x3a, 0x22, 0x59, 0x51, 0x3d, 0x3d, 0x22, 0x7d, 0x7d] =
    .ok (⟨"a\x00b", 7, (strBytes "a")⟩ : Receive) := by rw [strBytes_ofList]; decide +kernel
/-- `receive/ws_everywhere`: blank, tab, CR, LF are white space -/
example : decodeReceive [0x20, 0x09, 0x0d, 0x0a, 0x7b, 0x20, 0x22, 0x72, 0x65, 0x63, 0x65, 0x69, 0x76, 0x65, 0x22, 0x3a, 0x7b, 0x20, 0x22, 0x73, 0x65, 0x6e, 0x64, 0x65, 0x72, 0x22, 0x20, 0x3a, 0x0a, 0x22, 0x73, 0x22, 0x20, 0x2c, 0x09, 0x22, 0x61, 0x6d, 0x6f, 0x75, 0x6e, 0x74, 0x22, 0x20, 0x3a, 0x0a, 0x22, 0x37, 0x22, 0x20, 0x2c, 0x09, 0x22, 0x6d, 0x73, 0x67, 0x22, 0x20, 0x3a, 0x0a, 0x22, 0x59, 0x51, 0x3d, 0x3d, 0x22, 0x20, 0x7d, 0x20, 0x7d, 0x20, 0x0a] =
    .ok (⟨"s", 7, (strBytes "a")⟩ : Receive) := by rw [strBytes_ofList]; decide +kernel
/-- `receive/ws_formfeed`: form feed is not white space -/
example : (decodeReceive [0x7b, 0x22, 0x72, 0x65, 0x63, 0x65, 0x69, 0x76, 0x65, 0x22, 0x3a, 0x0c, 0x7b, 0x22, 0x73, 0x65, 0x6e, 0x64, 0x65, 0x72, 0x22, 0x3a, 0x22, 0x73, 0x22, 0x2c, 0x22, 0x61, 0x6d, 0x6f, 0x75, 0x6e, 0x74, 0x22, 0x3a, 0x22, 0x37, 0x22, 0x2c, 0x22, 0x6d, 0x73, 0x67, 0x22, 0x3a, 0x22, 0x59, 0x51, 0x3d, 0x3d, 0x22, 0x7d, 0x7d]).toOption = none := by decide +kernel
/-- `receive/ws_vtab`: vertical tab is not white space -/
example : (decodeReceive [0x0b, 0x7b, 0x22, 0x72, 0x65, 0x63, 0x65, 0x69, 0x76, 0x65, 0x22, 0x3a, 0x7b, 0x22, 0x73, 0x65, 0x6e, 0x64, 0x65, 0x72, 0x22, 0x3a, 0x22, 0x73, 0x22, 0x2c, 0x22, 0x61, 0x6d, 0x6f, 0x75, 0x6e, 0x74, 0x22, 0x3a, 0x22, 0x37, 0x22, 0x2c, 0x22, 0x6d, 0x73, 0x67, 0x22, 0x3a, 0x22, 0x59, 0x51, 0x3d, 0x3d, 0x22, 0x7d, 0x7d]).toOption = none := by decide +kernel
/-- `receive/ws_bom_prefix`: a byte-order mark is not skipped -/
example : (decodeReceive [0xef, 0xbb, 0xbf, 0x7b, 0x22, 0x72, 0x65, 0x63, 0x65, 0x69, 0x76, 0x65, 0x22, 0x3a, 0x7b, 0x22, 0x73, 0x65, 0x6e, 0x64, 0x65, 0x72, 0x22, 0x3a, 0x22, 0x73, 0x22, 0x2c, 0x22, 0x61, 0x6d, 0x6f, 0x75, 0x6e, 0x74, 0x22, 0x3a, 0x22, 0x37, 0x22, 0x2c, 0x22, 0x6d, 0x73, 0x67, 0x22, 0x3a, 0x22, 0x59, 0x51, 0x3d, 0x3d, 0x22, 0x7d, 0x7d]).toOption = none := by decide +kernel
/-- `receive/ws_nbsp`: NBSP is not white space -/
example : (decodeReceive [0x7b, 0x22, 0x72, 0x65, 0x63, 0x65, 0x69, 0x76, 0x65, 0x22, 0x3a, 0xc2, 0xa0, 0x7b, 0x22, 0x73, 0x65, 0x6e, 0x64, 0x65, 0x72, 0x22, 0x3a, 0x22, 0x73, 0x22, 0x2c, 0x22, 0x61, 0x6d, 0x6f, 0x75, 0x6e, 0x74, 0x22, 0x3a, 0x22, 0x37, 0x22, 0x2c, 0x22, 0x6d, 0x73, 0x67, 0x22, 0x3a, 0x22, 0x59, 0x51, 0x3d, 0x3d, 0x22, 0x7d, 0x7d]).toOption = none := by decide +kernel
/-- `receive/truncated_0`: truncated input -/
example : (decodeReceive (strBytes "")).toOption = none := by rw [strBytes_ofList]; decide +kernel
/-- `receive/truncated_1`: truncated input -/
example : (decodeReceive (strBytes "{")).toOption = none := by rw [strBytes_ofList]; decide +kernel
/-- `receive/truncated_2`: truncated input -/
example : (decodeReceive (strBytes "{\"")).toOption = none := by rw [strBytes_ofList]; decide +kernel
/-- `receive/truncated_10`: truncated input -/
example : (decodeReceive (strBytes "{\"receive\"")).toOption = none := by rw [strBytes_ofList]; decide +kernel
/-- `receive/truncated_11`: truncated input -/
example : (decodeReceive (strBytes "{\"receive\":")).toOption = none := by rw [strBytes_ofList]; decide +kernel
/-- `receive/truncated_12`: truncated input -/
example : (decodeReceive (strBytes "{\"receive\":{")).toOption = none := by rw [strBytes_ofList]; decide +kernel
/-- `receive/truncated_13`: truncated input -/
example : (decodeReceive (strBytes "{\"receive\":{\"")).toOption = none := by rw [strBytes_ofList]; decide +kernel
/-- `receive/truncated_21`: truncated input -/
example : (decodeReceive (strBytes "{\"receive\":{\"sender\":")).toOption = none := by rw [strBytes_ofList]; decide +kernel
/-- `receive/truncated_22`: truncated input -/
example : (decodeReceive (strBytes "{\"receive\":{\"sender\":\"")).toOption = none := by rw [strBytes_ofList]; decide +kernel
/-- `receive/truncated_23`: truncated input -/
example : (decodeReceive (strBytes "{\"receive\":{\"sender\":\"s")).toOption = none := by rw [strBytes_ofList]; decide +kernel
/-- `receive/truncated_24`: truncated input -/
example : (decodeReceive (strBytes "{\"receive\":{\"sender\":\"s\"")).toOption = none := by rw [strBytes_ofList]; decide +kernel
/-- `receive/truncated_36`: truncated input -/
example : (decodeReceive (strBytes "{\"receive\":{\"sender\":\"s\",\"amount\":\"7")).toOption = none := by rw [strBytes_ofList]; decide +kernel
/-- `receive/truncated_43`: truncated input -/
example : (decodeReceive (strBytes "{\"receive\":{\"sender\":\"s\",\"amount\":\"7\",\"msg\"")).toOption = none := by rw [strBytes_ofList]; decide +kernel
/-- `receive/truncated_49`: truncated input -/
example : (decodeReceive (strBytes "{\"receive\":{\"sender\":\"s\",\"amount\":\"7\",\"msg\":\"YQ==")).toOption = none := by rw [strBytes_ofList]; decide +kernel
/-- `receive/truncated_50`: truncated input -/
example : (decodeReceive (strBytes "{\"receive\":{\"sender\":\"s\",\"amount\":\"7\",\"msg\":\"YQ==\"")).toOption = none := by rw [strBytes_ofList]; decide +kernel
/-- `receive/truncated_51`: truncated input -/
example : (decodeReceive (strBytes "{\"receive\":{\"sender\":\"s\",\"amount\":\"7\",\"msg\":\"YQ==\"}")).toOption = none := by rw [strBytes_ofList]; decide +kernel
/-- `receive/trailing_brace`: only white space may follow -/
example : (decodeReceive (strBytes "{\"receive\":{\"sender\":\"s\",\"amount\":\"7\",\"msg\":\"YQ==\"}}}")).toOption = none := by rw [strBytes_ofList]; decide +kernel
/-- `receive/trailing_text`: only white space may follow -/
example : (decodeReceive (strBytes "{\"receive\":{\"sender\":\"s\",\"amount\":\"7\",\"msg\":\"YQ==\"}} x")).toOption = none := by rw [strBytes_ofList]; decide +kernel
/-- `receive/trailing_newline`: only white space may follow -/
example : decodeReceive [0x7b, 0x22, 0x72, 0x65, 0x63, 0x65, 0x69, 0x76, 0x65, 0x22, 0x3a, 0x7b, 0x22, 0x73, 0x65, 0x6e, 0x64, 0x65, 0x72, 0x22, 0x3a, 0x22, 0x73, 0x22, 0x2c, 0x22, 0x61, 0x6d, 0x6f, 0x75, 0x6e, 0x74, 0x22, 0x3a, 0x22, 0x37, 0x22, 0x2c, 0x22, 0x6d, 0x73, 0x67, 0x22, 0x3a, 0x22, 0x59, 0x51, 0x3d, 0x3d, 0x22, 0x7d, 0x7d, 0x0a] =
    .ok (⟨"s", 7, (strBytes "a")⟩ : Receive) := by rw [strBytes_ofList]; decide +kernel
/-- `receive/trailing_nul`: only white space may follow -/
example : (decodeReceive [0x7b, 0x22, 0x72, 0x65, 0x63, 0x65, 0x69, 0x76, 0x65, 0x22, 0x3a, 0x7b, 0x22, 0x73, 0x65, 0x6e, 0x64, 0x65, 0x72, 0x22, 0x3a, 0x22, 0x73, 0x22, 0x2c, 0x22, 0x61, 0x6d, 0x6f, 0x75, 0x6e, 0x74, 0x22, 0x3a, 0x22, 0x37, 0x22, 0x2c, 0x22, 0x6d, 0x73, 0x67, 0x22, 0x3a, 0x22, 0x59, 0x51, 0x3d, 0x3d, 0x22, 0x7d, 0x7d, 0x00]).toOption = none := by decide +kernel
/-- `receive/trailing_second_object`: only white space may follow -/
example : (decodeReceive (strBytes "{\"receive\":{\"sender\":\"s\",\"amount\":\"7\",\"msg\":\"YQ==\"}}{\"receive\":{\"sender\":\"s\",\"amount\":\"7\",\"msg\":\"YQ==\"}}")).toOption = none := by rw [strBytes_ofList]; decide +kernel
/-- `receive/trailing_comma`: only white space may follow -/
example : (decodeReceive (strBytes "{\"receive\":{\"sender\":\"s\",\"amount\":\"7\",\"msg\":\"YQ==\"}},")).toOption = none := by rw [strBytes_ofList]; decide +kernel
/-- `receive/trailing_blanks`: only white space may follow -/
example : decodeReceive [0x7b, 0x22, 0x72, 0x65, 0x63, 0x65, 0x69, 0x76, 0x65, 0x22, 0x3a, 0x7b, 0x22, 0x73, 0x65, 0x6e, 0x64, 0x65, 0x72, 0x22, 0x3a, 0x22, 0x73, 0x22, 0x2c, 0x22, 0x61, 0x6d, 0x6f, 0x75, 0x6e, 0x74, 0x22, 0x3a, 0x22, 0x37, 0x22, 0x2c, 0x22, 0x6d, 0x73, 0x67, 0x22, 0x3a, 0x22, 0x59, 0x51, 0x3d, 0x3d, 0x22, 0x7d, 0x7d, 0x20, 0x20, 0x20, 0x09, 0x0d, 0x0a] =
    .ok (⟨"s", 7, (strBytes "a")⟩ : Receive) := by rw [strBytes_ofList]; decide +kernel
/-- `receive/outer_capital`: the enum wrapper -/
example : (decodeReceive (strBytes "{\"Receive\":{\"sender\":\"s\",\"amount\":\"7\",\"msg\":\"YQ==\"}}")).toOption = none := by rw [strBytes_ofList]; decide +kernel
/-- `receive/outer_blank_in_name`: the enum wrapper -/
example : (decodeReceive (strBytes "{\"receive \":{\"sender\":\"s\",\"amount\":\"7\",\"msg\":\"YQ==\"}}")).toOption = none := by rw [strBytes_ofList]; decide +kernel
/-- `receive/outer_transfer`: the enum wrapper -/
example : (decodeReceive (strBytes "{\"transfer\":{\"sender\":\"s\",\"amount\":\"7\",\"msg\":\"YQ==\"}}")).toOption = none := by rw [strBytes_ofList]; decide +kernel
/-- `receive/outer_hook`: the enum wrapper -/
example : (decodeReceive (strBytes "{\"member_changed_hook\":{\"sender\":\"s\",\"amount\":\"7\",\"msg\":\"YQ==\"}}")).toOption = none := by rw [strBytes_ofList]; decide +kernel
/-- `receive/outer_empty_name`: the enum wrapper -/
example : (decodeReceive (strBytes "{\"\":{\"sender\":\"s\",\"amount\":\"7\",\"msg\":\"YQ==\"}}")).toOption = none := by rw [strBytes_ofList]; decide +kernel
/-- `receive/outer_unit_string`: the enum wrapper -/
example : (decodeReceive (strBytes "\"receive\"")).toOption = none := by rw [strBytes_ofList]; decide +kernel
/-- `receive/outer_array`: the enum wrapper -/
example : (decodeReceive (strBytes "[{\"receive\":{\"sender\":\"s\",\"amount\":\"7\",\"msg\":\"YQ==\"}}]")).toOption = none := by rw [strBytes_ofList]; decide +kernel
/-- `receive/outer_empty_object`: the enum wrapper -/
example : (decodeReceive (strBytes "{}")).toOption = none := by rw [strBytes_ofList]; decide +kernel
/-- `receive/outer_null`: the enum wrapper -/
example : (decodeReceive (strBytes "null")).toOption = none := by rw [strBytes_ofList]; decide +kernel
/-- `receive/outer_number`: the enum wrapper -/
example : (decodeReceive (strBytes "1")).toOption = none := by rw [strBytes_ofList]; decide +kernel
/-- `receive/outer_two_keys`: the enum wrapper -/
example : (decodeReceive (strBytes "{\"receive\":{\"sender\":\"s\",\"amount\":\"7\",\"msg\":\"YQ==\"},\"x\":1}")).toOption = none := by rw [strBytes_ofList]; decide +kernel
/-- `receive/outer_two_variants`: the enum wrapper -/
example : (decodeReceive (strBytes "{\"receive\":{\"sender\":\"s\",\"amount\":\"7\",\"msg\":\"YQ==\"},\"receive\":{\"sender\":\"s\",\"amount\":\"7\",\"msg\":\"YQ==\"}}")).toOption = none := by rw [strBytes_ofList]; decide +kernel
/-- `receive/outer_trailing_comma`: the enum wrapper -/
example : (decodeReceive (strBytes "{\"receive\":{\"sender\":\"s\",\"amount\":\"7\",\"msg\":\"YQ==\"},}")).toOption = none := by rw [strBytes_ofList]; decide +kernel
/-- `receive/outer_leading_comma`: the enum wrapper -/
example : (decodeReceive (strBytes "{,\"receive\":{\"sender\":\"s\",\"amount\":\"7\",\"msg\":\"YQ==\"}}")).toOption = none := by rw [strBytes_ofList]; decide +kernel
/-- `receive/outer_no_colon`: the enum wrapper -/
example : (decodeReceive (strBytes "{\"receive\"{\"sender\":\"s\",\"amount\":\"7\",\"msg\":\"YQ==\"}}")).toOption = none := by rw [strBytes_ofList]; decide +kernel
/-- `receive/outer_value_string`: the enum wrapper -/
example : (decodeReceive (strBytes "{\"receive\":\"x\"}")).toOption = none := by rw [strBytes_ofList]; decide +kernel
/-- `receive/outer_value_array`: the enum wrapper -/
example : (decodeReceive (strBytes "{\"receive\":[{\"sender\":\"s\",\"amount\":\"7\",\"msg\":\"YQ==\"}]}")).toOption = none := by rw [strBytes_ofList]; decide +kernel
/-- `receive/outer_value_null`: the enum wrapper -/
example : (decodeReceive (strBytes "{\"receive\":null}")).toOption = none := by rw [strBytes_ofList]; decide +kernel
/-- `receive/outer_value_empty_object`: the enum wrapper -/
example : (decodeReceive (strBytes "{\"receive\":{}}")).toOption = none := by rw [strBytes_ofList]; decide +kernel
/-- `receive/outer_key_number`: the enum wrapper -/
example : (decodeReceive (strBytes "{1:{\"sender\":\"s\",\"amount\":\"7\",\"msg\":\"YQ==\"}}")).toOption = none := by rw [strBytes_ofList]; decide +kernel
/-- `receive/outer_escaped_variant`: the enum wrapper -/
example : decodeReceive (strBytes "{\"\\u0072eceive\":{\"sender\":\"s\",\"amount\":\"7\",\"msg\":\"YQ==\"}}") =
    .ok (⟨"s", 7, (strBytes "a")⟩ : Receive) := by rw [strBytes_ofList]; decide +kernel
/-- `receive/outer_nothing`: the enum wrapper -/
example : (decodeReceive (strBytes "")).toOption = none := by rw [strBytes_ofList]; decide +kernel
/-- `receive/outer_blank_only`: the enum wrapper -/
example : (decodeReceive (strBytes "  ")).toOption = none := by rw [strBytes_ofList]; decide +kernel
/-- `receive/escaped_field_key`: keys are unescaped before they are compared -/
example : decodeReceive (strBytes "{\"receive\":{\"s\\u0065nder\":\"s\",\"amount\":\"7\",\"msg\":\"YQ==\"}}") =
    .ok (⟨"s", 7, (strBytes "a")⟩ : Receive) := by rw [strBytes_ofList]; decide +kernel
/-- `receive/field_key_capital`: keys are case sensitive -/
example : (decodeReceive (strBytes "{\"receive\":{\"Sender\":\"s\",\"amount\":\"7\",\"msg\":\"YQ==\"}}")).toOption = none := by rw [strBytes_ofList]; decide +kernel
/-- `receive/punct_leading_comma`: object punctuation -/
example : (decodeReceive (strBytes "{\"receive\":{,\"sender\":\"s\",\"amount\":\"7\",\"msg\":\"YQ==\"}}")).toOption = none := by rw [strBytes_ofList]; decide +kernel
/-- `receive/punct_double_comma`: object punctuation -/
example : (decodeReceive (strBytes "{\"receive\":{\"sender\":\"s\",,\"amount\":\"7\",\"msg\":\"YQ==\"}}")).toOption = none := by rw [strBytes_ofList]; decide +kernel
/-- `receive/punct_trailing_comma`: object punctuation -/
example : (decodeReceive (strBytes "{\"receive\":{\"sender\":\"s\",\"amount\":\"7\",\"msg\":\"YQ==\",}}")).toOption = none := by rw [strBytes_ofList]; decide +kernel
/-- `receive/punct_missing_comma`: object punctuation -/
example : (decodeReceive (strBytes "{\"receive\":{\"sender\":\"s\" \"amount\":\"7\",\"msg\":\"YQ==\"}}")).toOption = none := by rw [strBytes_ofList]; decide +kernel
/-- `receive/punct_missing_colon`: object punctuation -/
example : (decodeReceive (strBytes "{\"receive\":{\"sender\" \"s\",\"amount\":\"7\",\"msg\":\"YQ==\"}}")).toOption = none := by rw [strBytes_ofList]; decide +kernel
/-- `receive/punct_colon_for_comma`: object punctuation -/
example : (decodeReceive (strBytes "{\"receive\":{\"sender\":\"s\":\"amount\":\"7\",\"msg\":\"YQ==\"}}")).toOption = none := by rw [strBytes_ofList]; decide +kernel
/-- `receive/punct_semicolon`: object punctuation -/
example : (decodeReceive (strBytes "{\"receive\":{\"sender\":\"s\";\"amount\":\"7\";\"msg\":\"YQ==\"}}")).toOption = none := by rw [strBytes_ofList]; decide +kernel
/-- `receive/punct_bracket_close`: object punctuation -/
example : (decodeReceive (strBytes "{\"receive\":{\"sender\":\"s\",\"amount\":\"7\",\"msg\":\"YQ==\"]}")).toOption = none := by rw [strBytes_ofList]; decide +kernel
/-- `receive/punct_unquoted_key`: object punctuation -/
example : (decodeReceive (strBytes "{\"receive\":{sender:\"s\",\"amount\":\"7\",\"msg\":\"YQ==\"}}")).toOption = none := by rw [strBytes_ofList]; decide +kernel
/-- `receive/punct_missing_value`: object punctuation -/
example : (decodeReceive (strBytes "{\"receive\":{\"sender\":,\"amount\":\"7\",\"msg\":\"YQ==\"}}")).toOption = none := by rw [strBytes_ofList]; decide +kernel
/-- `receive/b64_empty`: Binary = base64, STANDARD alphabet, padding optional, trailing bits refused -/
example : decodeReceive (strBytes "{\"receive\":{\"sender\":\"s\",\"amount\":\"7\",\"msg\":\"\"}}") =
    .ok (⟨"s", 7, []⟩ : Receive) := by rw [strBytes_ofList]; decide +kernel
/-- `receive/b64_pad2`: Binary = base64, STANDARD alphabet, padding optional, trailing bits refused -/
example : decodeReceive (strBytes "{\"receive\":{\"sender\":\"s\",\"amount\":\"7\",\"msg\":\"YQ==\"}}") =
    .ok (⟨"s", 7, (strBytes "a")⟩ : Receive) := by rw [strBytes_ofList]; decide +kernel
/-- `receive/b64_pad1_short`: Binary = base64, STANDARD alphabet, padding optional, trailing bits refused -/
example : decodeReceive (strBytes "{\"receive\":{\"sender\":\"s\",\"amount\":\"7\",\"msg\":\"YQ=\"}}") =
    .ok (⟨"s", 7, (strBytes "a")⟩ : Receive) := by rw [strBytes_ofList]; decide +kernel
/-- `receive/b64_pad0`: Binary = base64, STANDARD alphabet, padding optional, trailing bits refused -/
example : decodeReceive (strBytes "{\"receive\":{\"sender\":\"s\",\"amount\":\"7\",\"msg\":\"YQ\"}}") =
    .ok (⟨"s", 7, (strBytes "a")⟩ : Receive) := by rw [strBytes_ofList]; decide +kernel
/-- `receive/b64_pad3`: Binary = base64, STANDARD alphabet, padding optional, trailing bits refused -/
example : (decodeReceive (strBytes "{\"receive\":{\"sender\":\"s\",\"amount\":\"7\",\"msg\":\"YQ===\"}}")).toOption = none := by rw [strBytes_ofList]; decide +kernel
/-- `receive/b64_one_symbol`: Binary = base64, STANDARD alphabet, padding optional, trailing bits refused -/
example : (decodeReceive (strBytes "{\"receive\":{\"sender\":\"s\",\"amount\":\"7\",\"msg\":\"Y\"}}")).toOption = none := by rw [strBytes_ofList]; decide +kernel
/-- `receive/b64_two_bytes_pad`: Binary = base64, STANDARD alphabet, padding optional, trailing bits refused -/
example : decodeReceive (strBytes "{\"receive\":{\"sender\":\"s\",\"amount\":\"7\",\"msg\":\"YWI=\"}}") =
    .ok (⟨"s", 7, (strBytes "ab")⟩ : Receive) := by rw [strBytes_ofList]; decide +kernel
/-- `receive/b64_two_bytes_nopad`: Binary = base64, STANDARD alphabet, padding optional, trailing bits refused -/
example : decodeReceive (strBytes "{\"receive\":{\"sender\":\"s\",\"amount\":\"7\",\"msg\":\"YWI\"}}") =
    .ok (⟨"s", 7, (strBytes "ab")⟩ : Receive) := by rw [strBytes_ofList]; decide +kernel
/-- `receive/b64_two_bytes_overpad`: Binary = base64, STANDARD alphabet, padding optional, trailing bits refused -/
example : (decodeReceive (strBytes "{\"receive\":{\"sender\":\"s\",\"amount\":\"7\",\"msg\":\"YWI==\"}}")).toOption = none := by rw [strBytes_ofList]; decide +kernel
/-- `receive/b64_three_bytes`: Binary = base64, STANDARD alphabet, padding optional, trailing bits refused -/
example : decodeReceive (strBytes "{\"receive\":{\"sender\":\"s\",\"amount\":\"7\",\"msg\":\"YWJj\"}}") =
    .ok (⟨"s", 7, (strBytes "abc")⟩ : Receive) := by rw [strBytes_ofList]; decide +kernel
/-- `receive/b64_three_bytes_pad`: Binary = base64, STANDARD alphabet, padding optional, trailing bits refused -/
example : (decodeReceive (strBytes "{\"receive\":{\"sender\":\"s\",\"amount\":\"7\",\"msg\":\"YWJj=\"}}")).toOption = none := by rw [strBytes_ofList]; decide +kernel
/-- `receive/b64_trailing_bits_1`: Binary = base64, STANDARD alphabet, padding optional, trailing bits refused -/
example : (decodeReceive (strBytes "{\"receive\":{\"sender\":\"s\",\"amount\":\"7\",\"msg\":\"YR==\"}}")).toOption = none := by rw [strBytes_ofList]; decide +kernel
/-- `receive/b64_trailing_bits_2`: Binary = base64, STANDARD alphabet, padding optional, trailing bits refused -/
example : (decodeReceive (strBytes "{\"receive\":{\"sender\":\"s\",\"amount\":\"7\",\"msg\":\"YWJ=\"}}")).toOption = none := by rw [strBytes_ofList]; decide +kernel
/-- `receive/b64_trailing_bits_nopad`: Binary = base64, STANDARD alphabet, padding optional, trailing bits refused -/
example : (decodeReceive (strBytes "{\"receive\":{\"sender\":\"s\",\"amount\":\"7\",\"msg\":\"YR\"}}")).toOption = none := by rw [strBytes_ofList]; decide +kernel
/-- `receive/b64_pad_inside`: Binary = base64, STANDARD alphabet, padding optional, trailing bits refused -/
example : (decodeReceive (strBytes "{\"receive\":{\"sender\":\"s\",\"amount\":\"7\",\"msg\":\"YW=I\"}}")).toOption = none := by rw [strBytes_ofList]; decide +kernel
/-- `receive/b64_pad_first`: Binary = base64, STANDARD alphabet, padding optional, trailing bits refused -/
example : (decodeReceive (strBytes "{\"receive\":{\"sender\":\"s\",\"amount\":\"7\",\"msg\":\"=YQ=\"}}")).toOption = none := by rw [strBytes_ofList]; decide +kernel
/-- `receive/b64_blank_inside`: Binary = base64, STANDARD alphabet, padding optional, trailing bits refused -/
example : (decodeReceive (strBytes "{\"receive\":{\"sender\":\"s\",\"amount\":\"7\",\"msg\":\"Y Q==\"}}")).toOption = none := by rw [strBytes_ofList]; decide +kernel
/-- `receive/b64_newline_escape`: Binary = base64, STANDARD alphabet, padding optional, trailing bits refused -/
example : (decodeReceive (strBytes "{\"receive\":{\"sender\":\"s\",\"amount\":\"7\",\"msg\":\"YQ==\\n\"}}")).toOption = none := by rw [strBytes_ofList]; decide +kernel
/-- `receive/b64_urlsafe`: Binary = base64, STANDARD alphabet, padding optional, trailing bits refused -/
example : (decodeReceive (strBytes "{\"receive\":{\"sender\":\"s\",\"amount\":\"7\",\"msg\":\"YQ-_\"}}")).toOption = none := by rw [strBytes_ofList]; decide +kernel
/-- `receive/b64_plus_slash`: Binary = base64, STANDARD alphabet, padding optional, trailing bits refused -/
example : decodeReceive (strBytes "{\"receive\":{\"sender\":\"s\",\"amount\":\"7\",\"msg\":\"+/+/\"}}") =
    .ok (⟨"s", 7, [0xfb, 0xff, 0xbf]⟩ : Receive) := by rw [strBytes_ofList]; decide +kernel
/-- `receive/b64_escaped_symbol`: Binary = base64, STANDARD alphabet, padding optional, trailing bits refused -/
example : decodeReceive (strBytes "{\"receive\":{\"sender\":\"s\",\"amount\":\"7\",\"msg\":\"Y\\u0051==\"}}") =
    .ok (⟨"s", 7, (strBytes "a")⟩ : Receive) := by rw [strBytes_ofList]; decide +kernel
/-- `receive/b64_two_groups_padded`: Binary = base64, STANDARD alphabet, padding optional, trailing bits refused -/
example : (decodeReceive (strBytes "{\"receive\":{\"sender\":\"s\",\"amount\":\"7\",\"msg\":\"YQ==YQ==\"}}")).toOption = none := by rw [strBytes_ofList]; decide +kernel
/-- `receive/b64_only_padding`: Binary = base64, STANDARD alphabet, padding optional, trailing bits refused -/
example : (decodeReceive (strBytes "{\"receive\":{\"sender\":\"s\",\"amount\":\"7\",\"msg\":\"==\"}}")).toOption = none := by rw [strBytes_ofList]; decide +kernel
/-- `receive/b64_five_symbols`: Binary = base64, STANDARD alphabet, padding optional, trailing bits refused -/
example : (decodeReceive (strBytes "{\"receive\":{\"sender\":\"s\",\"amount\":\"7\",\"msg\":\"YWJjZ\"}}")).toOption = none := by rw [strBytes_ofList]; decide +kernel
/-- `receive/b64_six_symbols`: Binary = base64, STANDARD alphabet, padding optional, trailing bits refused -/
example : decodeReceive (strBytes "{\"receive\":{\"sender\":\"s\",\"amount\":\"7\",\"msg\":\"YWJjZA\"}}") =
    .ok (⟨"s", 7, (strBytes "abcd")⟩ : Receive) := by rw [strBytes_ofList]; decide +kernel
/-- `receive/b64_seven_symbols`: Binary = base64, STANDARD alphabet, padding optional, trailing bits refused -/
example : decodeReceive (strBytes "{\"receive\":{\"sender\":\"s\",\"amount\":\"7\",\"msg\":\"YWJjZGU\"}}") =
    .ok (⟨"s", 7, (strBytes "abcde")⟩ : Receive) := by rw [strBytes_ofList]; decide +kernel
/-- `receive/b64_eight_symbols`: Binary = base64, STANDARD alphabet, padding optional, trailing bits refused -/
example : decodeReceive (strBytes "{\"receive\":{\"sender\":\"s\",\"amount\":\"7\",\"msg\":\"YWJjZGVm\"}}") =
    .ok (⟨"s", 7, (strBytes "abcdef")⟩ : Receive) := by rw [strBytes_ofList]; decide +kernel
/-- `receive/b64_non_ascii`: Binary = base64, STANDARD alphabet, padding optional, trailing bits refused -/
example : (decodeReceive [0x7b, 0x22, 0x72, 0x65, 0x63, 0x65, 0x69, 0x76, 0x65, 0x22, 0x3a, 0x7b, 0x22, 0x73, 0x65, 0x6e, 0x64, 0x65, 0x72, 0x22, 0x3a, 0x22, 0x73, 0x22, 0x2c, 0x22, 0x61, 0x6d, 0x6f, 0x75, 0x6e, 0x74, 0x22, 0x3a, 0x22, 0x37, 0x22, 0x2c, 0x22, 0x6d, 0x73, 0x67, 0x22, 0x3a, 0x22, 0x59, 0x51, 0xc3, 0xa9, 0x3d, 0x22, 0x7d, 0x7d]).toOption = none := by decide +kernel
/-- `receive/b64_number`: Binary = base64, STANDARD alphabet, padding optional, trailing bits refused -/
example : (decodeReceive (strBytes "{\"receive\":{\"sender\":\"s\",\"amount\":\"7\",\"msg\":1}}")).toOption = none := by rw [strBytes_ofList]; decide +kernel
/-- `receive/b64_array_of_bytes`: Binary = base64, STANDARD alphabet, padding optional, trailing bits refused -/
example : (decodeReceive (strBytes "{\"receive\":{\"sender\":\"s\",\"amount\":\"7\",\"msg\":[97]}}")).toOption = none := by rw [strBytes_ofList]; decide +kernel
/-- `receive/b64_star`: Binary = base64, STANDARD alphabet, padding optional, trailing bits refused -/
example : (decodeReceive (strBytes "{\"receive\":{\"sender\":\"s\",\"amount\":\"7\",\"msg\":\"YQ*=\"}}")).toOption = none := by rw [strBytes_ofList]; decide +kernel
/-- `receive/b64_long`: Binary = base64, STANDARD alphabet, padding optional, trailing bits refused -/
example : decodeReceive (strBytes "{\"receive\":{\"sender\":\"s\",\"amount\":\"7\",\"msg\":\"QUJDQUJDQUJDQUJDQUJDQUJDQUJDQUJDQUJDQUJDQUJDQUJD\"}}") =
    .ok (⟨"s", 7, (strBytes "ABCABCABCABCABCABCABCABCABCABCABCABC")⟩ : Receive) := by rw [strBytes_ofList]; decide +kernel
/-- `hook/no_diffs`: an empty list is a message -/
example : decodeHook (strBytes "{\"member_changed_hook\":{\"diffs\":[]}}") =
    .ok ([] : List MemberDiff) := by rw [strBytes_ofList]; decide +kernel
/-- `hook/one_diff` -/
example : decodeHook (strBytes "{\"member_changed_hook\":{\"diffs\":[{\"key\":\"a\",\"old\":1,\"new\":2}]}}") =
    .ok ([⟨"a", some 1, some 2⟩] : List MemberDiff) := by rw [strBytes_ofList]; decide +kernel
/-- `hook/three_diffs` -/
example : decodeHook (strBytes "{\"member_changed_hook\":{\"diffs\":[{\"key\":\"bob\",\"old\":null,\"new\":5},{\"key\":\"al\",\"old\":18446744073709551615,\"new\":null},{\"key\":\"x\",\"old\":0,\"new\":10}]}}") =
    .ok ([⟨"bob", none, some 5⟩, ⟨"al", some 18446744073709551615, none⟩, ⟨"x", some 0, some 10⟩] : List MemberDiff) := by rw [strBytes_ofList]; decide +kernel
/-- `hook/eight_diffs`: a bulk update -/
example : decodeHook (strBytes "{\"member_changed_hook\":{\"diffs\":[{\"key\":\"m0\",\"old\":0,\"new\":0},{\"key\":\"m1\",\"old\":1,\"new\":1},{\"key\":\"m2\",\"old\":2,\"new\":4},{\"key\":\"m3\",\"old\":3,\"new\":9},{\"key\":\"m4\",\"old\":4,\"new\":16},{\"key\":\"m5\",\"old\":5,\"new\":25},{\"key\":\"m6\",\"old\":6,\"new\":36},{\"key\":\"m7\",\"old\":7,\"new\":49}]}}") =
    .ok ([⟨"m0", some 0, some 0⟩, ⟨"m1", some 1, some 1⟩, ⟨"m2", some 2, some 4⟩, ⟨"m3", some 3, some 9⟩, ⟨"m4", some 4, some 16⟩, ⟨"m5", some 5, some 25⟩, ⟨"m6", some 6, some 36⟩, ⟨"m7", some 7, some 49⟩] : List MemberDiff) := by rw [strBytes_ofList]; decide +kernel
/-- `hook/perm_021`: field order is free -/
example : decodeHook (strBytes "{\"member_changed_hook\":{\"diffs\":[{\"key\":\"a\",\"new\":2,\"old\":1}]}}") =
    .ok ([⟨"a", some 1, some 2⟩] : List MemberDiff) := by rw [strBytes_ofList]; decide +kernel
/-- `hook/perm_102`: field order is free -/
example : decodeHook (strBytes "{\"member_changed_hook\":{\"diffs\":[{\"old\":1,\"key\":\"a\",\"new\":2}]}}") =
    .ok ([⟨"a", some 1, some 2⟩] : List MemberDiff) := by rw [strBytes_ofList]; decide +kernel
/-- `hook/perm_120`: field order is free -/
example : decodeHook (strBytes "{\"member_changed_hook\":{\"diffs\":[{\"old\":1,\"new\":2,\"key\":\"a\"}]}}") =
    .ok ([⟨"a", some 1, some 2⟩] : List MemberDiff) := by rw [strBytes_ofList]; decide +kernel
/-- `hook/perm_201`: field order is free -/
example : decodeHook (strBytes "{\"member_changed_hook\":{\"diffs\":[{\"new\":2,\"key\":\"a\",\"old\":1}]}}") =
    .ok ([⟨"a", some 1, some 2⟩] : List MemberDiff) := by rw [strBytes_ofList]; decide +kernel
/-- `hook/perm_210`: field order is free -/
example : decodeHook (strBytes "{\"member_changed_hook\":{\"diffs\":[{\"new\":2,\"old\":1,\"key\":\"a\"}]}}") =
    .ok ([⟨"a", some 1, some 2⟩] : List MemberDiff) := by rw [strBytes_ofList]; decide +kernel
/-- `hook/old_null`: `Option<u64>`: `null`, absent or a JSON number -/
example : decodeHook (strBytes "{\"member_changed_hook\":{\"diffs\":[{\"key\":\"a\",\"old\":null,\"new\":2}]}}") =
    .ok ([⟨"a", none, some 2⟩] : List MemberDiff) := by rw [strBytes_ofList]; decide +kernel
/-- `hook/new_null`: `Option<u64>` -/
example : decodeHook (strBytes "{\"member_changed_hook\":{\"diffs\":[{\"key\":\"a\",\"old\":1,\"new\":null}]}}") =
    .ok ([⟨"a", some 1, none⟩] : List MemberDiff) := by rw [strBytes_ofList]; decide +kernel
/-- `hook/old_absent`: `Option<u64>`: `null`, absent or a JSON number -/
example : decodeHook (strBytes "{\"member_changed_hook\":{\"diffs\":[{\"key\":\"a\",\"new\":2}]}}") =
    .ok ([⟨"a", none, some 2⟩] : List MemberDiff) := by rw [strBytes_ofList]; decide +kernel
/-- `hook/new_absent`: `Option<u64>` -/
example : decodeHook (strBytes "{\"member_changed_hook\":{\"diffs\":[{\"key\":\"a\",\"old\":1}]}}") =
    .ok ([⟨"a", some 1, none⟩] : List MemberDiff) := by rw [strBytes_ofList]; decide +kernel
/-- `hook/old_zero`: `Option<u64>`: `null`, absent or a JSON number -/
example : decodeHook (strBytes "{\"member_changed_hook\":{\"diffs\":[{\"key\":\"a\",\"old\":0,\"new\":2}]}}") =
    .ok ([⟨"a", some 0, some 2⟩] : List MemberDiff) := by rw [strBytes_ofList]; decide +kernel
/-- `hook/old_one`: `Option<u64>`: `null`, absent or a JSON number -/
example : decodeHook (strBytes "{\"member_changed_hook\":{\"diffs\":[{\"key\":\"a\",\"old\":1,\"new\":2}]}}") =
    .ok ([⟨"a", some 1, some 2⟩] : List MemberDiff) := by rw [strBytes_ofList]; decide +kernel
/-- `hook/old_u64_max`: `Option<u64>`: `null`, absent or a JSON number -/
example : decodeHook (strBytes "{\"member_changed_hook\":{\"diffs\":[{\"key\":\"a\",\"old\":18446744073709551615,\"new\":2}]}}") =
    .ok ([⟨"a", some 18446744073709551615, some 2⟩] : List MemberDiff) := by rw [strBytes_ofList]; decide +kernel
/-- `hook/new_u64_max`: `Option<u64>` -/
example : decodeHook (strBytes "{\"member_changed_hook\":{\"diffs\":[{\"key\":\"a\",\"old\":1,\"new\":18446744073709551615}]}}") =
    .ok ([⟨"a", some 1, some 18446744073709551615⟩] : List MemberDiff) := by rw [strBytes_ofList]; decide +kernel
/-- `hook/old_u64_max_plus_1`: `Option<u64>`: `null`, absent or a JSON number -/
example : (decodeHook (strBytes "{\"member_changed_hook\":{\"diffs\":[{\"key\":\"a\",\"old\":18446744073709551616,\"new\":2}]}}")).toOption = none := by rw [strBytes_ofList]; decide +kernel
/-- `hook/new_u64_max_plus_1`: `Option<u64>` -/
example : (decodeHook (strBytes "{\"member_changed_hook\":{\"diffs\":[{\"key\":\"a\",\"old\":1,\"new\":18446744073709551616}]}}")).toOption = none := by rw [strBytes_ofList]; decide +kernel
/-- `hook/old_u64_overflow_mul`: `Option<u64>`: `null`, absent or a JSON number -/
example : (decodeHook (strBytes "{\"member_changed_hook\":{\"diffs\":[{\"key\":\"a\",\"old\":184467440737095516150,\"new\":2}]}}")).toOption = none := by rw [strBytes_ofList]; decide +kernel
/-- `hook/old_leading_zero`: `Option<u64>`: `null`, absent or a JSON number -/
example : (decodeHook (strBytes "{\"member_changed_hook\":{\"diffs\":[{\"key\":\"a\",\"old\":07,\"new\":2}]}}")).toOption = none := by rw [strBytes_ofList]; decide +kernel
/-- `hook/new_leading_zero`: `Option<u64>` -/
example : (decodeHook (strBytes "{\"member_changed_hook\":{\"diffs\":[{\"key\":\"a\",\"old\":1,\"new\":07}]}}")).toOption = none := by rw [strBytes_ofList]; decide +kernel
/-- `hook/old_double_zero`: `Option<u64>`: `null`, absent or a JSON number -/
example : (decodeHook (strBytes "{\"member_changed_hook\":{\"diffs\":[{\"key\":\"a\",\"old\":00,\"new\":2}]}}")).toOption = none := by rw [strBytes_ofList]; decide +kernel
/-- `hook/old_minus_one`: `Option<u64>`: `null`, absent or a JSON number -/
example : (decodeHook (strBytes "{\"member_changed_hook\":{\"diffs\":[{\"key\":\"a\",\"old\":-1,\"new\":2}]}}")).toOption = none := by rw [strBytes_ofList]; decide +kernel
/-- `hook/new_minus_one`: `Option<u64>` -/
example : (decodeHook (strBytes "{\"member_changed_hook\":{\"diffs\":[{\"key\":\"a\",\"old\":1,\"new\":-1}]}}")).toOption = none := by rw [strBytes_ofList]; decide +kernel
/-- `hook/old_minus_zero`: `Option<u64>`: `null`, absent or a JSON number -/
example : (decodeHook (strBytes "{\"member_changed_hook\":{\"diffs\":[{\"key\":\"a\",\"old\":-0,\"new\":2}]}}")).toOption = none := by rw [strBytes_ofList]; decide +kernel
/-- `hook/old_fraction`: `Option<u64>`: `null`, absent or a JSON number -/
example : (decodeHook (strBytes "{\"member_changed_hook\":{\"diffs\":[{\"key\":\"a\",\"old\":1.0,\"new\":2}]}}")).toOption = none := by rw [strBytes_ofList]; decide +kernel
/-- `hook/old_fraction_zero`: `Option<u64>`: `null`, absent or a JSON number -/
example : (decodeHook (strBytes "{\"member_changed_hook\":{\"diffs\":[{\"key\":\"a\",\"old\":0.5,\"new\":2}]}}")).toOption = none := by rw [strBytes_ofList]; decide +kernel
/-- `hook/old_exponent`: `Option<u64>`: `null`, absent or a JSON number -/
example : (decodeHook (strBytes "{\"member_changed_hook\":{\"diffs\":[{\"key\":\"a\",\"old\":1e2,\"new\":2}]}}")).toOption = none := by rw [strBytes_ofList]; decide +kernel
/-- `hook/old_exponent_upper`: `Option<u64>`: `null`, absent or a JSON number -/
example : (decodeHook (strBytes "{\"member_changed_hook\":{\"diffs\":[{\"key\":\"a\",\"old\":1E2,\"new\":2}]}}")).toOption = none := by rw [strBytes_ofList]; decide +kernel
/-- `hook/old_string`: `Option<u64>`: `null`, absent or a JSON number -/
example : (decodeHook (strBytes "{\"member_changed_hook\":{\"diffs\":[{\"key\":\"a\",\"old\":\"7\",\"new\":2}]}}")).toOption = none := by rw [strBytes_ofList]; decide +kernel
/-- `hook/new_string`: `Option<u64>` -/
example : (decodeHook (strBytes "{\"member_changed_hook\":{\"diffs\":[{\"key\":\"a\",\"old\":1,\"new\":\"7\"}]}}")).toOption = none := by rw [strBytes_ofList]; decide +kernel
/-- `hook/old_plus`: `Option<u64>`: `null`, absent or a JSON number -/
example : (decodeHook (strBytes "{\"member_changed_hook\":{\"diffs\":[{\"key\":\"a\",\"old\":+1,\"new\":2}]}}")).toOption = none := by rw [strBytes_ofList]; decide +kernel
/-- `hook/old_true`: `Option<u64>`: `null`, absent or a JSON number -/
example : (decodeHook (strBytes "{\"member_changed_hook\":{\"diffs\":[{\"key\":\"a\",\"old\":true,\"new\":2}]}}")).toOption = none := by rw [strBytes_ofList]; decide +kernel
/-- `hook/old_hex`: `Option<u64>`: `null`, absent or a JSON number -/
example : (decodeHook (strBytes "{\"member_changed_hook\":{\"diffs\":[{\"key\":\"a\",\"old\":0x1,\"new\":2}]}}")).toOption = none := by rw [strBytes_ofList]; decide +kernel
/-- `hook/old_underscore`: `Option<u64>`: `null`, absent or a JSON number -/
example : (decodeHook (strBytes "{\"member_changed_hook\":{\"diffs\":[{\"key\":\"a\",\"old\":1_000,\"new\":2}]}}")).toOption = none := by rw [strBytes_ofList]; decide +kernel
/-- `hook/old_nul`: `Option<u64>`: `null`, absent or a JSON number -/
example : (decodeHook (strBytes "{\"member_changed_hook\":{\"diffs\":[{\"key\":\"a\",\"old\":nul,\"new\":2}]}}")).toOption = none := by rw [strBytes_ofList]; decide +kernel
/-- `hook/old_null_upper`: `Option<u64>`: `null`, absent or a JSON number -/
example : (decodeHook (strBytes "{\"member_changed_hook\":{\"diffs\":[{\"key\":\"a\",\"old\":NULL,\"new\":2}]}}")).toOption = none := by rw [strBytes_ofList]; decide +kernel
/-- `hook/old_nullx`: `Option<u64>`: `null`, absent or a JSON number -/
example : (decodeHook (strBytes "{\"member_changed_hook\":{\"diffs\":[{\"key\":\"a\",\"old\":nullx,\"new\":2}]}}")).toOption = none := by rw [strBytes_ofList]; decide +kernel
/-- `hook/old_empty_object`: `Option<u64>`: `null`, absent or a JSON number -/
example : (decodeHook (strBytes "{\"member_changed_hook\":{\"diffs\":[{\"key\":\"a\",\"old\":{},\"new\":2}]}}")).toOption = none := by rw [strBytes_ofList]; decide +kernel
/-- `hook/old_array`: `Option<u64>`: `null`, absent or a JSON number -/
example : (decodeHook (strBytes "{\"member_changed_hook\":{\"diffs\":[{\"key\":\"a\",\"old\":[1],\"new\":2}]}}")).toOption = none := by rw [strBytes_ofList]; decide +kernel
/-- `hook/old_blank_number`: `Option<u64>`: `null`, absent or a JSON number -/
example : decodeHook (strBytes "{\"member_changed_hook\":{\"diffs\":[{\"key\":\"a\",\"old\": 7 ,\"new\":2}]}}") =
    .ok ([⟨"a", some 7, some 2⟩] : List MemberDiff) := by rw [strBytes_ofList]; decide +kernel
/-- `hook/old_twenty_digits`: `Option<u64>`: `null`, absent or a JSON number -/
example : (decodeHook (strBytes "{\"member_changed_hook\":{\"diffs\":[{\"key\":\"a\",\"old\":99999999999999999999,\"new\":2}]}}")).toOption = none := by rw [strBytes_ofList]; decide +kernel
/-- `hook/old_new_absent`: both weights absent -/
example : decodeHook (strBytes "{\"member_changed_hook\":{\"diffs\":[{\"key\":\"a\"}]}}") =
    .ok ([⟨"a", none, none⟩] : List MemberDiff) := by rw [strBytes_ofList]; decide +kernel
/-- `hook/number_then_brace`: a number ends at `}` -/
example : decodeHook (strBytes "{\"member_changed_hook\":{\"diffs\":[{\"key\":\"a\",\"new\":2,\"old\":1}]}}") =
    .ok ([⟨"a", some 1, some 2⟩] : List MemberDiff) := by rw [strBytes_ofList]; decide +kernel
/-- `hook/dup_old`: a repeated field is an error -/
example : (decodeHook (strBytes "{\"member_changed_hook\":{\"diffs\":[{\"key\":\"a\",\"old\":1,\"new\":2,\"old\":1}]}}")).toOption = none := by rw [strBytes_ofList]; decide +kernel
/-- `hook/dup_old_null`: also when both are `null` -/
example : (decodeHook (strBytes "{\"member_changed_hook\":{\"diffs\":[{\"key\":\"a\",\"old\":null,\"new\":2,\"old\":null}]}}")).toOption = none := by rw [strBytes_ofList]; decide +kernel
/-- `hook/dup_key` -/
example : (decodeHook (strBytes "{\"member_changed_hook\":{\"diffs\":[{\"key\":\"a\",\"key\":\"a\",\"old\":1,\"new\":2}]}}")).toOption = none := by rw [strBytes_ofList]; decide +kernel
/-- `hook/missing_key`: `key` is required -/
example : (decodeHook (strBytes "{\"member_changed_hook\":{\"diffs\":[{\"old\":1,\"new\":2}]}}")).toOption = none := by rw [strBytes_ofList]; decide +kernel
/-- `hook/empty_element`: `key` is required -/
example : (decodeHook (strBytes "{\"member_changed_hook\":{\"diffs\":[{}]}}")).toOption = none := by rw [strBytes_ofList]; decide +kernel
/-- `hook/key_null` -/
example : (decodeHook (strBytes "{\"member_changed_hook\":{\"diffs\":[{\"key\":null,\"old\":1,\"new\":2}]}}")).toOption = none := by rw [strBytes_ofList]; decide +kernel
/-- `hook/key_number` -/
example : (decodeHook (strBytes "{\"member_changed_hook\":{\"diffs\":[{\"key\":1,\"old\":1,\"new\":2}]}}")).toOption = none := by rw [strBytes_ofList]; decide +kernel
/-- `hook/key_escapes` -/
example : decodeHook [0x7b, 0x22, 0x6d, 0x65, 0x6d, 0x62, 0x65, 0x72, 0x5f, 0x63, 0x68, 0x61, 0x6e, 0x67, 0x65, 0x64, 0x5f, 0x68, 0x6f, 0x6f, 0x6b, 0x22, 0x3a, 0x7b, 0x22, 0x64, 0x69, 0x66, 0x66, 0x73, 0x22, 0x3a, 0x5b, 0x7b, 0x22, 0x6b, 0x65, 0x79, 0x22, 0x3a, 0x22, 0x61, 0x5c, 0x22, 0x62, 0x5c, 0x5c, 0x63, 0xc3, 0xa9, 0xf0, 0x9f, 0x98, 0x80, 0x22, 0x2c, 0x22, 0x6f, 0x6c, 0x64, 0x22, 0x3a, 0x31, 0x2c, 0x22, 0x6e, 0x65, 0x77, 0x22, 0x3a, 0x32, 0x7d, 0x5d, 0x7d, 0x7d] =
    .ok ([⟨"a\"b\\cé😀", some 1, some 2⟩] : List MemberDiff) := by decide +kernel
/-- `hook/key_empty` -/
example : decodeHook (strBytes "{\"member_changed_hook\":{\"diffs\":[{\"key\":\"\",\"old\":1,\"new\":2}]}}") =
    .ok ([⟨"", some 1, some 2⟩] : List MemberDiff) := by rw [strBytes_ofList]; decide +kernel
/-- `hook/unknown_field`: deny_unknown_fields -/
example : (decodeHook (strBytes "{\"member_changed_hook\":{\"diffs\":[{\"key\":\"a\",\"old\":1,\"new\":2,\"weight\":1}]}}")).toOption = none := by rw [strBytes_ofList]; decide +kernel
/-- `hook/unknown_field_nested`: deny_unknown_fields -/
example : (decodeHook (strBytes "{\"member_changed_hook\":{\"diffs\":[{\"x\":{\"key\":\"b\"},\"key\":\"a\",\"old\":1,\"new\":2}]}}")).toOption = none := by rw [strBytes_ofList]; decide +kernel
/-- `hook/seq_leading_comma`: `Vec<MemberDiff>` -/
example : decodeHook (strBytes "{\"member_changed_hook\":{\"diffs\":[,{\"key\":\"a\",\"old\":1,\"new\":2}]}}") =
    .ok ([⟨"a", some 1, some 2⟩] : List MemberDiff) := by rw [strBytes_ofList]; decide +kernel
/-- `hook/seq_leading_comma_ws`: `Vec<MemberDiff>` -/
example : decodeHook (strBytes "{\"member_changed_hook\":{\"diffs\":[ , {\"key\":\"a\",\"old\":1,\"new\":2} ]}}") =
    .ok ([⟨"a", some 1, some 2⟩] : List MemberDiff) := by rw [strBytes_ofList]; decide +kernel
/-- `hook/seq_two_leading_commas`: `Vec<MemberDiff>` -/
example : (decodeHook (strBytes "{\"member_changed_hook\":{\"diffs\":[,,{\"key\":\"a\",\"old\":1,\"new\":2}]}}")).toOption = none := by rw [strBytes_ofList]; decide +kernel
/-- `hook/seq_trailing_comma`: `Vec<MemberDiff>` -/
example : (decodeHook (strBytes "{\"member_changed_hook\":{\"diffs\":[{\"key\":\"a\",\"old\":1,\"new\":2},]}}")).toOption = none := by rw [strBytes_ofList]; decide +kernel
/-- `hook/seq_double_comma`: `Vec<MemberDiff>` -/
example : (decodeHook (strBytes "{\"member_changed_hook\":{\"diffs\":[{\"key\":\"a\",\"old\":1,\"new\":2},,{\"key\":\"a\",\"old\":1,\"new\":2}]}}")).toOption = none := by rw [strBytes_ofList]; decide +kernel
/-- `hook/seq_missing_comma`: `Vec<MemberDiff>` -/
example : (decodeHook (strBytes "{\"member_changed_hook\":{\"diffs\":[{\"key\":\"a\",\"old\":1,\"new\":2} {\"key\":\"a\",\"old\":1,\"new\":2}]}}")).toOption = none := by rw [strBytes_ofList]; decide +kernel
/-- `hook/seq_only_comma`: `Vec<MemberDiff>` -/
example : (decodeHook (strBytes "{\"member_changed_hook\":{\"diffs\":[,]}}")).toOption = none := by rw [strBytes_ofList]; decide +kernel
/-- `hook/seq_unclosed`: `Vec<MemberDiff>` -/
example : (decodeHook (strBytes "{\"member_changed_hook\":{\"diffs\":[{\"key\":\"a\",\"old\":1,\"new\":2}}}")).toOption = none := by rw [strBytes_ofList]; decide +kernel
/-- `hook/seq_unclosed_empty`: `Vec<MemberDiff>` -/
example : (decodeHook (strBytes "{\"member_changed_hook\":{\"diffs\":[}}")).toOption = none := by rw [strBytes_ofList]; decide +kernel
/-- `hook/seq_extra_close`: `Vec<MemberDiff>` -/
example : (decodeHook (strBytes "{\"member_changed_hook\":{\"diffs\":[]]}}")).toOption = none := by rw [strBytes_ofList]; decide +kernel
/-- `hook/seq_brace_close`: `Vec<MemberDiff>` -/
example : (decodeHook (strBytes "{\"member_changed_hook\":{\"diffs\":[{\"key\":\"a\",\"old\":1,\"new\":2}}}}")).toOption = none := by rw [strBytes_ofList]; decide +kernel
/-- `hook/seq_null`: `Vec<MemberDiff>` -/
example : (decodeHook (strBytes "{\"member_changed_hook\":{\"diffs\":null}}")).toOption = none := by rw [strBytes_ofList]; decide +kernel
/-- `hook/seq_object`: `Vec<MemberDiff>` -/
example : (decodeHook (strBytes "{\"member_changed_hook\":{\"diffs\":{}}}")).toOption = none := by rw [strBytes_ofList]; decide +kernel
/-- `hook/seq_string`: `Vec<MemberDiff>` -/
example : (decodeHook (strBytes "{\"member_changed_hook\":{\"diffs\":\"[]\"}}")).toOption = none := by rw [strBytes_ofList]; decide +kernel
/-- `hook/seq_number`: `Vec<MemberDiff>` -/
example : (decodeHook (strBytes "{\"member_changed_hook\":{\"diffs\":0}}")).toOption = none := by rw [strBytes_ofList]; decide +kernel
/-- `hook/seq_nested_array`: `Vec<MemberDiff>` -/
example : (decodeHook (strBytes "{\"member_changed_hook\":{\"diffs\":[[{\"key\":\"a\",\"old\":1,\"new\":2}]]}}")).toOption = none := by rw [strBytes_ofList]; decide +kernel
/-- `hook/seq_element_number`: `Vec<MemberDiff>` -/
example : (decodeHook (strBytes "{\"member_changed_hook\":{\"diffs\":[1]}}")).toOption = none := by rw [strBytes_ofList]; decide +kernel
/-- `hook/seq_element_string`: `Vec<MemberDiff>` -/
example : (decodeHook (strBytes "{\"member_changed_hook\":{\"diffs\":[\"a\"]}}")).toOption = none := by rw [strBytes_ofList]; decide +kernel
/-- `hook/seq_element_null`: `Vec<MemberDiff>` -/
example : (decodeHook (strBytes "{\"member_changed_hook\":{\"diffs\":[null]}}")).toOption = none := by rw [strBytes_ofList]; decide +kernel
/-- `hook/seq_ws`: `Vec<MemberDiff>` -/
example : decodeHook (strBytes "{\"member_changed_hook\":{\"diffs\": [ {\"key\":\"a\",\"old\":1,\"new\":2} , {\"key\":\"a\",\"old\":1,\"new\":2} ] }}") =
    .ok ([⟨"a", some 1, some 2⟩, ⟨"a", some 1, some 2⟩] : List MemberDiff) := by rw [strBytes_ofList]; decide +kernel
/-- `hook/seq_colon_sep`: `Vec<MemberDiff>` -/
example : (decodeHook (strBytes "{\"member_changed_hook\":{\"diffs\":[{\"key\":\"a\",\"old\":1,\"new\":2}:{\"key\":\"a\",\"old\":1,\"new\":2}]}}")).toOption = none := by rw [strBytes_ofList]; decide +kernel
/-- `hook/diffs_absent`: `diffs` is required -/
example : (decodeHook (strBytes "{\"member_changed_hook\":{}}")).toOption = none := by rw [strBytes_ofList]; decide +kernel
/-- `hook/diffs_dup` -/
example : (decodeHook (strBytes "{\"member_changed_hook\":{\"diffs\":[],\"diffs\":[]}}")).toOption = none := by rw [strBytes_ofList]; decide +kernel
/-- `hook/diffs_unknown_sibling`: deny_unknown_fields -/
example : (decodeHook (strBytes "{\"member_changed_hook\":{\"diffs\":[],\"x\":1}}")).toOption = none := by rw [strBytes_ofList]; decide +kernel
/-- `hook/truncated_1`: truncated input -/
example : (decodeHook (strBytes "{")).toOption = none := by rw [strBytes_ofList]; decide +kernel
/-- `hook/truncated_2`: truncated input -/
example : (decodeHook (strBytes "{\"")).toOption = none := by rw [strBytes_ofList]; decide +kernel
/-- `hook/truncated_22`: truncated input -/
example : (decodeHook (strBytes "{\"member_changed_hook\"")).toOption = none := by rw [strBytes_ofList]; decide +kernel
/-- `hook/truncated_23`: truncated input -/
example : (decodeHook (strBytes "{\"member_changed_hook\":")).toOption = none := by rw [strBytes_ofList]; decide +kernel
/-- `hook/truncated_24`: truncated input -/
example : (decodeHook (strBytes "{\"member_changed_hook\":{")).toOption = none := by rw [strBytes_ofList]; decide +kernel
/-- `hook/truncated_25`: truncated input -/
example : (decodeHook (strBytes "{\"member_changed_hook\":{\"")).toOption = none := by rw [strBytes_ofList]; decide +kernel
/-- `hook/truncated_33`: truncated input -/
example : (decodeHook (strBytes "{\"member_changed_hook\":{\"diffs\":[")).toOption = none := by rw [strBytes_ofList]; decide +kernel
/-- `hook/truncated_34`: truncated input -/
example : (decodeHook (strBytes "{\"member_changed_hook\":{\"diffs\":[{")).toOption = none := by rw [strBytes_ofList]; decide +kernel
/-- `hook/truncated_35`: truncated input -/
example : (decodeHook (strBytes "{\"member_changed_hook\":{\"diffs\":[{\"")).toOption = none := by rw [strBytes_ofList]; decide +kernel
/-- `hook/truncated_42`: truncated input -/
example : (decodeHook (strBytes "{\"member_changed_hook\":{\"diffs\":[{\"key\":\"a")).toOption = none := by rw [strBytes_ofList]; decide +kernel
/-- `hook/truncated_48`: truncated input -/
example : (decodeHook (strBytes "{\"member_changed_hook\":{\"diffs\":[{\"key\":\"a\",\"old")).toOption = none := by rw [strBytes_ofList]; decide +kernel
/-- `hook/truncated_55`: truncated input -/
example : (decodeHook (strBytes "{\"member_changed_hook\":{\"diffs\":[{\"key\":\"a\",\"old\":1,\"ne")).toOption = none := by rw [strBytes_ofList]; decide +kernel
/-- `hook/truncated_59`: truncated input -/
example : (decodeHook (strBytes "{\"member_changed_hook\":{\"diffs\":[{\"key\":\"a\",\"old\":1,\"new\":2")).toOption = none := by rw [strBytes_ofList]; decide +kernel
/-- `hook/truncated_60`: truncated input -/
example : (decodeHook (strBytes "{\"member_changed_hook\":{\"diffs\":[{\"key\":\"a\",\"old\":1,\"new\":2}")).toOption = none := by rw [strBytes_ofList]; decide +kernel
/-- `hook/truncated_61`: truncated input -/
example : (decodeHook (strBytes "{\"member_changed_hook\":{\"diffs\":[{\"key\":\"a\",\"old\":1,\"new\":2}]")).toOption = none := by rw [strBytes_ofList]; decide +kernel
/-- `hook/truncated_62`: truncated input -/
example : (decodeHook (strBytes "{\"member_changed_hook\":{\"diffs\":[{\"key\":\"a\",\"old\":1,\"new\":2}]}")).toOption = none := by rw [strBytes_ofList]; decide +kernel
/-- `hook/trailing_brace` -/
example : (decodeHook (strBytes "{\"member_changed_hook\":{\"diffs\":[{\"key\":\"a\",\"old\":1,\"new\":2}]}}}")).toOption = none := by rw [strBytes_ofList]; decide +kernel
/-- `hook/trailing_bracket` -/
example : (decodeHook (strBytes "{\"member_changed_hook\":{\"diffs\":[{\"key\":\"a\",\"old\":1,\"new\":2}]}}]")).toOption = none := by rw [strBytes_ofList]; decide +kernel
/-- `hook/trailing_text` -/
example : (decodeHook (strBytes "{\"member_changed_hook\":{\"diffs\":[{\"key\":\"a\",\"old\":1,\"new\":2}]}}x")).toOption = none := by rw [strBytes_ofList]; decide +kernel
/-- `hook/trailing_blanks` -/
example : decodeHook [0x7b, 0x22, 0x6d, 0x65, 0x6d, 0x62, 0x65, 0x72, 0x5f, 0x63, 0x68, 0x61, 0x6e, 0x67, 0x65, 0x64, 0x5f, 0x68, 0x6f, 0x6f, 0x6b, 0x22, 0x3a, 0x7b, 0x22, 0x64, 0x69, 0x66, 0x66, 0x73, 0x22, 0x3a, 0x5b, 0x7b, 0x22, 0x6b, 0x65, 0x79, 0x22, 0x3a, 0x22, 0x61, 0x22, 0x2c, 0x22, 0x6f, 0x6c, 0x64, 0x22, 0x3a, 0x31, 0x2c, 0x22, 0x6e, 0x65, 0x77, 0x22, 0x3a, 0x32, 0x7d, 0x5d, 0x7d, 0x7d, 0x20, 0x0a] =
    .ok ([⟨"a", some 1, some 2⟩] : List MemberDiff) := by decide +kernel
/-- `hook/outer_receive`: another variant name -/
example : (decodeHook (strBytes "{\"receive\":{\"diffs\":[]}}")).toOption = none := by rw [strBytes_ofList]; decide +kernel
/-- `hook/outer_camel`: snake_case only -/
example : (decodeHook (strBytes "{\"MemberChangedHook\":{\"diffs\":[]}}")).toOption = none := by rw [strBytes_ofList]; decide +kernel
/-- `hook/outer_unit_string` -/
example : (decodeHook (strBytes "\"member_changed_hook\"")).toOption = none := by rw [strBytes_ofList]; decide +kernel
/-- `hook/outer_value_array` -/
example : (decodeHook (strBytes "{\"member_changed_hook\":[]}")).toOption = none := by rw [strBytes_ofList]; decide +kernel
/-- `hook/ws_everywhere` -/
example : decodeHook [0x20, 0x7b, 0x0a, 0x22, 0x6d, 0x65, 0x6d, 0x62, 0x65, 0x72, 0x5f, 0x63, 0x68, 0x61, 0x6e, 0x67, 0x65, 0x64, 0x5f, 0x68, 0x6f, 0x6f, 0x6b, 0x22, 0x09, 0x3a, 0x20, 0x7b, 0x20, 0x22, 0x64, 0x69, 0x66, 0x66, 0x73, 0x22, 0x20, 0x3a, 0x0d, 0x5b, 0x20, 0x7b, 0x20, 0x22, 0x6b, 0x65, 0x79, 0x22, 0x20, 0x3a, 0x20, 0x22, 0x61, 0x22, 0x20, 0x2c, 0x20, 0x22, 0x6f, 0x6c, 0x64, 0x22, 0x20, 0x3a, 0x20, 0x31, 0x20, 0x2c, 0x20, 0x22, 0x6e, 0x65, 0x77, 0x22, 0x20, 0x3a, 0x20, 0x6e, 0x75, 0x6c, 0x6c, 0x20, 0x7d, 0x20, 0x5d, 0x20, 0x7d, 0x20, 0x7d, 0x20] =
    .ok ([⟨"a", some 1, none⟩] : List MemberDiff) := by decide +kernel
/-- `transfer/canonical` -/
example : decodeTransfer (strBytes "{\"transfer\":{\"recipient\":\"r\",\"amount\":\"5\"}}") =
    .ok (⟨"r", 5⟩ : Transfer) := by rw [strBytes_ofList]; decide +kernel
/-- `transfer/swapped`: field order is free -/
example : decodeTransfer (strBytes "{\"transfer\":{\"amount\":\"5\",\"recipient\":\"r\"}}") =
    .ok (⟨"r", 5⟩ : Transfer) := by rw [strBytes_ofList]; decide +kernel
/-- `transfer/dup_recipient` -/
example : (decodeTransfer (strBytes "{\"transfer\":{\"recipient\":\"r\",\"amount\":\"5\",\"recipient\":\"r\"}}")).toOption = none := by rw [strBytes_ofList]; decide +kernel
/-- `transfer/dup_amount` -/
example : (decodeTransfer (strBytes "{\"transfer\":{\"amount\":\"5\",\"recipient\":\"r\",\"amount\":\"5\"}}")).toOption = none := by rw [strBytes_ofList]; decide +kernel
/-- `transfer/missing_recipient` -/
example : (decodeTransfer (strBytes "{\"transfer\":{\"amount\":\"5\"}}")).toOption = none := by rw [strBytes_ofList]; decide +kernel
/-- `transfer/missing_amount` -/
example : (decodeTransfer (strBytes "{\"transfer\":{\"recipient\":\"r\"}}")).toOption = none := by rw [strBytes_ofList]; decide +kernel
/-- `transfer/empty_body` -/
example : (decodeTransfer (strBytes "{\"transfer\":{}}")).toOption = none := by rw [strBytes_ofList]; decide +kernel
/-- `transfer/unknown_owner`: a `TransferFrom` body under the name `transfer`: deny_unknown_fields -/
example : (decodeTransfer (strBytes "{\"transfer\":{\"owner\":\"o\",\"recipient\":\"r\",\"amount\":\"5\"}}")).toOption = none := by rw [strBytes_ofList]; decide +kernel
/-- `transfer/unknown_msg` -/
example : (decodeTransfer (strBytes "{\"transfer\":{\"recipient\":\"r\",\"amount\":\"5\",\"msg\":\"\"}}")).toOption = none := by rw [strBytes_ofList]; decide +kernel
/-- `transfer/recipient_null` -/
example : (decodeTransfer (strBytes "{\"transfer\":{\"recipient\":null,\"amount\":\"5\"}}")).toOption = none := by rw [strBytes_ofList]; decide +kernel
/-- `transfer/recipient_number` -/
example : (decodeTransfer (strBytes "{\"transfer\":{\"recipient\":1,\"amount\":\"5\"}}")).toOption = none := by rw [strBytes_ofList]; decide +kernel
/-- `transfer/recipient_empty`: no address check in `from_json` -/
example : decodeTransfer (strBytes "{\"transfer\":{\"recipient\":\"\",\"amount\":\"5\"}}") =
    .ok (⟨"", 5⟩ : Transfer) := by rw [strBytes_ofList]; decide +kernel
/-- `transfer/recipient_escapes` -/
example : decodeTransfer (strBytes "{\"transfer\":{\"recipient\":\"\\u0041\\n\\\"\\\\\\/\\ud83d\\ude00\",\"amount\":\"5\"}}") =
    .ok (⟨"A\x0a\"\\/😀", 5⟩ : Transfer) := by rw [strBytes_ofList]; decide +kernel
/-- `transfer/amount_zero` -/
example : decodeTransfer (strBytes "{\"transfer\":{\"recipient\":\"r\",\"amount\":\"0\"}}") =
    .ok (⟨"r", 0⟩ : Transfer) := by rw [strBytes_ofList]; decide +kernel
/-- `transfer/amount_plus_leading_zero` -/
example : decodeTransfer (strBytes "{\"transfer\":{\"recipient\":\"r\",\"amount\":\"+05\"}}") =
    .ok (⟨"r", 5⟩ : Transfer) := by rw [strBytes_ofList]; decide +kernel
/-- `transfer/amount_minus` -/
example : (decodeTransfer (strBytes "{\"transfer\":{\"recipient\":\"r\",\"amount\":\"-5\"}}")).toOption = none := by rw [strBytes_ofList]; decide +kernel
/-- `transfer/amount_number` -/
example : (decodeTransfer (strBytes "{\"transfer\":{\"recipient\":\"r\",\"amount\":5}}")).toOption = none := by rw [strBytes_ofList]; decide +kernel
/-- `transfer/amount_null` -/
example : (decodeTransfer (strBytes "{\"transfer\":{\"recipient\":\"r\",\"amount\":null}}")).toOption = none := by rw [strBytes_ofList]; decide +kernel
/-- `transfer/amount_empty` -/
example : (decodeTransfer (strBytes "{\"transfer\":{\"recipient\":\"r\",\"amount\":\"\"}}")).toOption = none := by rw [strBytes_ofList]; decide +kernel
/-- `transfer/amount_u128_max` -/
example : decodeTransfer (strBytes "{\"transfer\":{\"recipient\":\"r\",\"amount\":\"340282366920938463463374607431768211455\"}}") =
    .ok (⟨"r", 340282366920938463463374607431768211455⟩ : Transfer) := by rw [strBytes_ofList]; decide +kernel
/-- `transfer/amount_u128_max_plus_1` -/
example : (decodeTransfer (strBytes "{\"transfer\":{\"recipient\":\"r\",\"amount\":\"340282366920938463463374607431768211456\"}}")).toOption = none := by rw [strBytes_ofList]; decide +kernel
/-- `transfer/amount_fraction` -/
example : (decodeTransfer (strBytes "{\"transfer\":{\"recipient\":\"r\",\"amount\":\"5.0\"}}")).toOption = none := by rw [strBytes_ofList]; decide +kernel
/-- `transfer/amount_blank` -/
example : (decodeTransfer (strBytes "{\"transfer\":{\"recipient\":\"r\",\"amount\":\" 5\"}}")).toOption = none := by rw [strBytes_ofList]; decide +kernel
/-- `transfer/variant_transfer_from`: another variant of the same enum: not this call -/
example : (decodeTransfer (strBytes "{\"transfer_from\":{\"owner\":\"o\",\"recipient\":\"r\",\"amount\":\"5\"}}")).toOption = none := by rw [strBytes_ofList]; decide +kernel
/-- `transfer/variant_burn`: another variant -/
example : (decodeTransfer (strBytes "{\"burn\":{\"amount\":\"5\"}}")).toOption = none := by rw [strBytes_ofList]; decide +kernel
/-- `transfer/variant_send`: another variant -/
example : (decodeTransfer (strBytes "{\"send\":{\"contract\":\"c\",\"amount\":\"5\",\"msg\":\"\"}}")).toOption = none := by rw [strBytes_ofList]; decide +kernel
/-- `transfer/variant_unknown` -/
example : (decodeTransfer (strBytes "{\"transfer_to\":{\"recipient\":\"r\",\"amount\":\"5\"}}")).toOption = none := by rw [strBytes_ofList]; decide +kernel
/-- `transfer/variant_capital` -/
example : (decodeTransfer (strBytes "{\"Transfer\":{\"recipient\":\"r\",\"amount\":\"5\"}}")).toOption = none := by rw [strBytes_ofList]; decide +kernel
/-- `transfer/variant_unit_string`: a struct variant given as a bare string -/
example : (decodeTransfer (strBytes "\"transfer\"")).toOption = none := by rw [strBytes_ofList]; decide +kernel
/-- `transfer/variant_two` -/
example : (decodeTransfer (strBytes "{\"transfer\":{\"recipient\":\"r\",\"amount\":\"5\"},\"burn\":{\"amount\":\"5\"}}")).toOption = none := by rw [strBytes_ofList]; decide +kernel
/-- `transfer/value_array`: a struct variant as a sequence -/
example : (decodeTransfer (strBytes "{\"transfer\":[\"r\",\"5\"]}")).toOption = none := by rw [strBytes_ofList]; decide +kernel
/-- `transfer/value_null` -/
example : (decodeTransfer (strBytes "{\"transfer\":null}")).toOption = none := by rw [strBytes_ofList]; decide +kernel
/-- `transfer/truncated_1` -/
example : (decodeTransfer (strBytes "{")).toOption = none := by rw [strBytes_ofList]; decide +kernel
/-- `transfer/truncated_2` -/
example : (decodeTransfer (strBytes "{\"")).toOption = none := by rw [strBytes_ofList]; decide +kernel
/-- `transfer/truncated_11` -/
example : (decodeTransfer (strBytes "{\"transfer\"")).toOption = none := by rw [strBytes_ofList]; decide +kernel
/-- `transfer/truncated_12` -/
example : (decodeTransfer (strBytes "{\"transfer\":")).toOption = none := by rw [strBytes_ofList]; decide +kernel
/-- `transfer/truncated_13` -/
example : (decodeTransfer (strBytes "{\"transfer\":{")).toOption = none := by rw [strBytes_ofList]; decide +kernel
/-- `transfer/truncated_25` -/
example : (decodeTransfer (strBytes "{\"transfer\":{\"recipient\":")).toOption = none := by rw [strBytes_ofList]; decide +kernel
/-- `transfer/truncated_26` -/
example : (decodeTransfer (strBytes "{\"transfer\":{\"recipient\":\"")).toOption = none := by rw [strBytes_ofList]; decide +kernel
/-- `transfer/truncated_30` -/
example : (decodeTransfer (strBytes "{\"transfer\":{\"recipient\":\"r\",\"")).toOption = none := by rw [strBytes_ofList]; decide +kernel
/-- `transfer/truncated_40` -/
example : (decodeTransfer (strBytes "{\"transfer\":{\"recipient\":\"r\",\"amount\":\"5")).toOption = none := by rw [strBytes_ofList]; decide +kernel
/-- `transfer/truncated_41` -/
example : (decodeTransfer (strBytes "{\"transfer\":{\"recipient\":\"r\",\"amount\":\"5\"")).toOption = none := by rw [strBytes_ofList]; decide +kernel
/-- `transfer/truncated_42` -/
example : (decodeTransfer (strBytes "{\"transfer\":{\"recipient\":\"r\",\"amount\":\"5\"}")).toOption = none := by rw [strBytes_ofList]; decide +kernel
/-- `transfer/trailing_brace` -/
example : (decodeTransfer (strBytes "{\"transfer\":{\"recipient\":\"r\",\"amount\":\"5\"}}}")).toOption = none := by rw [strBytes_ofList]; decide +kernel
/-- `transfer/trailing_text` -/
example : (decodeTransfer (strBytes "{\"transfer\":{\"recipient\":\"r\",\"amount\":\"5\"}} x")).toOption = none := by rw [strBytes_ofList]; decide +kernel
/-- `transfer/trailing_blanks` -/
example : decodeTransfer [0x7b, 0x22, 0x74, 0x72, 0x61, 0x6e, 0x73, 0x66, 0x65, 0x72, 0x22, 0x3a, 0x7b, 0x22, 0x72, 0x65, 0x63, 0x69, 0x70, 0x69, 0x65, 0x6e, 0x74, 0x22, 0x3a, 0x22, 0x72, 0x22, 0x2c, 0x22, 0x61, 0x6d, 0x6f, 0x75, 0x6e, 0x74, 0x22, 0x3a, 0x22, 0x35, 0x22, 0x7d, 0x7d, 0x20, 0x0d, 0x0a, 0x09] =
    .ok (⟨"r", 5⟩ : Transfer) := by decide +kernel
/-- `transfer/ws_everywhere` -/
example : decodeTransfer (strBytes " { \"transfer\" : { \"amount\" : \"5\" , \"recipient\" : \"r\" } } ") =
    .ok (⟨"r", 5⟩ : Transfer) := by rw [strBytes_ofList]; decide +kernel
/-- `transfer/trailing_comma_inner` -/
example : (decodeTransfer (strBytes "{\"transfer\":{\"recipient\":\"r\",\"amount\":\"5\",}}")).toOption = none := by rw [strBytes_ofList]; decide +kernel
/-- `transfer/trailing_comma_outer` -/
example : (decodeTransfer (strBytes "{\"transfer\":{\"recipient\":\"r\",\"amount\":\"5\"},}")).toOption = none := by rw [strBytes_ofList]; decide +kernel
/-- `transfer_from/canonical` -/
example : decodeTransferFrom (strBytes "{\"transfer_from\":{\"owner\":\"o\",\"recipient\":\"r\",\"amount\":\"5\"}}") =
    .ok (⟨"o", "r", 5⟩ : TransferFrom) := by rw [strBytes_ofList]; decide +kernel
/-- `transfer_from/perm_021` -/
example : decodeTransferFrom (strBytes "{\"transfer_from\":{\"owner\":\"o\",\"amount\":\"5\",\"recipient\":\"r\"}}") =
    .ok (⟨"o", "r", 5⟩ : TransferFrom) := by rw [strBytes_ofList]; decide +kernel
/-- `transfer_from/perm_102` -/
example : decodeTransferFrom (strBytes "{\"transfer_from\":{\"recipient\":\"r\",\"owner\":\"o\",\"amount\":\"5\"}}") =
    .ok (⟨"o", "r", 5⟩ : TransferFrom) := by rw [strBytes_ofList]; decide +kernel
/-- `transfer_from/perm_120` -/
example : decodeTransferFrom (strBytes "{\"transfer_from\":{\"recipient\":\"r\",\"amount\":\"5\",\"owner\":\"o\"}}") =
    .ok (⟨"o", "r", 5⟩ : TransferFrom) := by rw [strBytes_ofList]; decide +kernel
/-- `transfer_from/perm_201` -/
example : decodeTransferFrom (strBytes "{\"transfer_from\":{\"amount\":\"5\",\"owner\":\"o\",\"recipient\":\"r\"}}") =
    .ok (⟨"o", "r", 5⟩ : TransferFrom) := by rw [strBytes_ofList]; decide +kernel
/-- `transfer_from/perm_210` -/
example : decodeTransferFrom (strBytes "{\"transfer_from\":{\"amount\":\"5\",\"recipient\":\"r\",\"owner\":\"o\"}}") =
    .ok (⟨"o", "r", 5⟩ : TransferFrom) := by rw [strBytes_ofList]; decide +kernel
/-- `transfer_from/missing_owner` -/
example : (decodeTransferFrom (strBytes "{\"transfer_from\":{\"recipient\":\"r\",\"amount\":\"5\"}}")).toOption = none := by rw [strBytes_ofList]; decide +kernel
/-- `transfer_from/dup_owner` -/
example : (decodeTransferFrom (strBytes "{\"transfer_from\":{\"owner\":\"o\",\"recipient\":\"r\",\"amount\":\"5\",\"owner\":\"5\"}}")).toOption = none := by rw [strBytes_ofList]; decide +kernel
/-- `transfer_from/null_owner` -/
example : (decodeTransferFrom (strBytes "{\"transfer_from\":{\"owner\":null,\"recipient\":\"r\",\"amount\":\"5\"}}")).toOption = none := by rw [strBytes_ofList]; decide +kernel
/-- `transfer_from/missing_recipient` -/
example : (decodeTransferFrom (strBytes "{\"transfer_from\":{\"owner\":\"o\",\"amount\":\"5\"}}")).toOption = none := by rw [strBytes_ofList]; decide +kernel
/-- `transfer_from/dup_recipient` -/
example : (decodeTransferFrom (strBytes "{\"transfer_from\":{\"owner\":\"o\",\"recipient\":\"r\",\"amount\":\"5\",\"recipient\":\"5\"}}")).toOption = none := by rw [strBytes_ofList]; decide +kernel
/-- `transfer_from/null_recipient` -/
example : (decodeTransferFrom (strBytes "{\"transfer_from\":{\"owner\":\"o\",\"recipient\":null,\"amount\":\"5\"}}")).toOption = none := by rw [strBytes_ofList]; decide +kernel
/-- `transfer_from/missing_amount` -/
example : (decodeTransferFrom (strBytes "{\"transfer_from\":{\"owner\":\"o\",\"recipient\":\"r\"}}")).toOption = none := by rw [strBytes_ofList]; decide +kernel
/-- `transfer_from/dup_amount` -/
example : (decodeTransferFrom (strBytes "{\"transfer_from\":{\"owner\":\"o\",\"recipient\":\"r\",\"amount\":\"5\",\"amount\":\"5\"}}")).toOption = none := by rw [strBytes_ofList]; decide +kernel
/-- `transfer_from/null_amount` -/
example : (decodeTransferFrom (strBytes "{\"transfer_from\":{\"owner\":\"o\",\"recipient\":\"r\",\"amount\":null}}")).toOption = none := by rw [strBytes_ofList]; decide +kernel
/-- `transfer_from/unknown_field` -/
example : (decodeTransferFrom (strBytes "{\"transfer_from\":{\"owner\":\"o\",\"spender\":\"x\",\"recipient\":\"r\",\"amount\":\"5\"}}")).toOption = none := by rw [strBytes_ofList]; decide +kernel
/-- `transfer_from/variant_transfer`: another variant: not this call -/
example : (decodeTransferFrom (strBytes "{\"transfer\":{\"recipient\":\"r\",\"amount\":\"5\"}}")).toOption = none := by rw [strBytes_ofList]; decide +kernel
/-- `transfer_from/variant_prefix` -/
example : (decodeTransferFrom (strBytes "{\"transfer_fro\":{\"owner\":\"o\",\"recipient\":\"r\",\"amount\":\"5\"}}")).toOption = none := by rw [strBytes_ofList]; decide +kernel
/-- `transfer_from/variant_send_from` -/
example : (decodeTransferFrom (strBytes "{\"send_from\":{\"owner\":\"o\",\"contract\":\"c\",\"amount\":\"5\",\"msg\":\"\"}}")).toOption = none := by rw [strBytes_ofList]; decide +kernel
/-- `transfer_from/amount_u128_max` -/
example : decodeTransferFrom (strBytes "{\"transfer_from\":{\"owner\":\"o\",\"recipient\":\"r\",\"amount\":\"340282366920938463463374607431768211455\"}}") =
    .ok (⟨"o", "r", 340282366920938463463374607431768211455⟩ : TransferFrom) := by rw [strBytes_ofList]; decide +kernel
/-- `transfer_from/amount_u128_max_plus_1` -/
example : (decodeTransferFrom (strBytes "{\"transfer_from\":{\"owner\":\"o\",\"recipient\":\"r\",\"amount\":\"340282366920938463463374607431768211456\"}}")).toOption = none := by rw [strBytes_ofList]; decide +kernel
/-- `transfer_from/amount_number` -/
example : (decodeTransferFrom (strBytes "{\"transfer_from\":{\"owner\":\"o\",\"recipient\":\"r\",\"amount\":5}}")).toOption = none := by rw [strBytes_ofList]; decide +kernel
/-- `transfer_from/owner_escapes` -/
example : decodeTransferFrom [0x7b, 0x22, 0x74, 0x72, 0x61, 0x6e, 0x73, 0x66, 0x65, 0x72, 0x5f, 0x66, 0x72, 0x6f, 0x6d, 0x22, 0x3a, 0x7b, 0x22, 0x6f, 0x77, 0x6e, 0x65, 0x72, 0x22, 0x3a, 0x22, 0xc3, 0xa9, 0x5c, 0x74, 0x22, 0x2c, 0x22, 0x72, 0x65, 0x63, 0x69, 0x70, 0x69, 0x65, 0x6e, 0x74, 0x22, 0x3a, 0x22, 0xe2, 0x82, 0xac, 0x22, 0x2c, 0x22, 0x61, 0x6d, 0x6f, 0x75, 0x6e, 0x74, 0x22, 0x3a, 0x22, 0x35, 0x22, 0x7d, 0x7d] =
    .ok (⟨"é\x09", "€", 5⟩ : TransferFrom) := by decide +kernel
/-- `transfer_from/truncated_1` -/
example : (decodeTransferFrom (strBytes "{")).toOption = none := by rw [strBytes_ofList]; decide +kernel
/-- `transfer_from/truncated_16` -/
example : (decodeTransferFrom (strBytes "{\"transfer_from\"")).toOption = none := by rw [strBytes_ofList]; decide +kernel
/-- `transfer_from/truncated_17` -/
example : (decodeTransferFrom (strBytes "{\"transfer_from\":")).toOption = none := by rw [strBytes_ofList]; decide +kernel
/-- `transfer_from/truncated_18` -/
example : (decodeTransferFrom (strBytes "{\"transfer_from\":{")).toOption = none := by rw [strBytes_ofList]; decide +kernel
/-- `transfer_from/truncated_28` -/
example : (decodeTransferFrom (strBytes "{\"transfer_from\":{\"owner\":\"o")).toOption = none := by rw [strBytes_ofList]; decide +kernel
/-- `transfer_from/truncated_45` -/
example : (decodeTransferFrom (strBytes "{\"transfer_from\":{\"owner\":\"o\",\"recipient\":\"r\"")).toOption = none := by rw [strBytes_ofList]; decide +kernel
/-- `transfer_from/truncated_58` -/
example : (decodeTransferFrom (strBytes "{\"transfer_from\":{\"owner\":\"o\",\"recipient\":\"r\",\"amount\":\"5\"")).toOption = none := by rw [strBytes_ofList]; decide +kernel
/-- `transfer_from/truncated_59` -/
example : (decodeTransferFrom (strBytes "{\"transfer_from\":{\"owner\":\"o\",\"recipient\":\"r\",\"amount\":\"5\"}")).toOption = none := by rw [strBytes_ofList]; decide +kernel
/-- `transfer_from/trailing_text` -/
example : (decodeTransferFrom (strBytes "{\"transfer_from\":{\"owner\":\"o\",\"recipient\":\"r\",\"amount\":\"5\"}}x")).toOption = none := by rw [strBytes_ofList]; decide +kernel
/-- `transfer_from/trailing_blanks` -/
example : decodeTransferFrom (strBytes "{\"transfer_from\":{\"owner\":\"o\",\"recipient\":\"r\",\"amount\":\"5\"}}  ") =
    .ok (⟨"o", "r", 5⟩ : TransferFrom) := by rw [strBytes_ofList]; decide +kernel
/-- `transfer_from/ws_everywhere` -/
example : decodeTransferFrom [0x0a, 0x7b, 0x0a, 0x20, 0x22, 0x74, 0x72, 0x61, 0x6e, 0x73, 0x66, 0x65, 0x72, 0x5f, 0x66, 0x72, 0x6f, 0x6d, 0x22, 0x3a, 0x20, 0x7b, 0x0a, 0x20, 0x20, 0x22, 0x6f, 0x77, 0x6e, 0x65, 0x72, 0x22, 0x3a, 0x20, 0x22, 0x6f, 0x22, 0x2c, 0x0a, 0x20, 0x20, 0x22, 0x72, 0x65, 0x63, 0x69, 0x70, 0x69, 0x65, 0x6e, 0x74, 0x22, 0x3a, 0x20, 0x22, 0x72, 0x22, 0x2c, 0x0a, 0x20, 0x20, 0x22, 0x61, 0x6d, 0x6f, 0x75, 0x6e, 0x74, 0x22, 0x3a, 0x20, 0x22, 0x35, 0x22, 0x0a, 0x20, 0x7d, 0x0a, 0x7d, 0x0a] =
    .ok (⟨"o", "r", 5⟩ : TransferFrom) := by decide +kernel

end CwPlus.Props.MsgWireDecodeExamples
