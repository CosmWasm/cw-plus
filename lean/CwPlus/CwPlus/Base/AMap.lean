import CwPlus.Base.Num
/-!
Association-list maps modelling `cw_storage_plus::Map`.  First-match lookup,
replace-or-append update.  `NodupKeys` is an invariant proved preserved once.
-/
namespace CwPlus

abbrev AMap (κ ν : Type) := List (κ × ν)

namespace AMap
variable {κ ν : Type} [DecidableEq κ]
set_option linter.unusedSectionVars false

def get? (m : AMap κ ν) (k : κ) : Option ν :=
  match m with
  | [] => none
  | (k', v) :: rest => if k' = k then some v else get? rest k

def set (m : AMap κ ν) (k : κ) (v : ν) : AMap κ ν :=
  match m with
  | [] => [(k, v)]
  | (k', v') :: rest => if k' = k then (k, v) :: rest else (k', v') :: set rest k v

def erase (m : AMap κ ν) (k : κ) : AMap κ ν :=
  match m with
  | [] => []
  | (k', v') :: rest => if k' = k then erase rest k else (k', v') :: erase rest k

def keys (m : AMap κ ν) : List κ := m.map (·.1)

def NodupKeys (m : AMap κ ν) : Prop := (keys m).Nodup

def contains (m : AMap κ ν) (k : κ) : Bool := (get? m k).isSome

@[simp] theorem get?_nil (k : κ) : get? ([] : AMap κ ν) k = none := rfl

@[simp] theorem get?_set_eq (m : AMap κ ν) (k : κ) (v : ν) : get? (set m k v) k = some v := by
  fun_induction set m k v <;> grind [get?]

@[simp] theorem get?_set_ne (m : AMap κ ν) (k k2 : κ) (v : ν) (h : k ≠ k2) :
    get? (set m k v) k2 = get? m k2 := by
  fun_induction set m k v <;> grind [get?]

theorem get?_set (m : AMap κ ν) (k k2 : κ) (v : ν) :
    get? (set m k v) k2 = if k = k2 then some v else get? m k2 := by
  by_cases h : k = k2
  · subst h; simp
  · simp [h]

theorem get?_set_some {m : AMap κ ν} {k k' : κ} {v v' : ν} (h : get? (set m k v) k' = some v') :
    (k = k' ∧ v' = v) ∨ (k ≠ k' ∧ get? m k' = some v') := by
  rw [get?_set] at h
  by_cases e : k = k'
  · rw [if_pos e] at h; exact Or.inl ⟨e, (Option.some.inj h).symm⟩
  · rw [if_neg e] at h; exact Or.inr ⟨e, h⟩

theorem get?_set_none {m : AMap κ ν} {k k' : κ} {v : ν} (h : get? (set m k v) k' = none) : k ≠ k' ∧ get? m k' = none := by
  rw [get?_set] at h
  by_cases e : k = k'
  · rw [if_pos e] at h; cases h
  · rw [if_neg e] at h; exact ⟨e, h⟩

theorem isSome_get?_set {m : AMap κ ν} {k : κ} (h : (get? m k).isSome = true) (v' : ν) (k' : κ) :
    (get? (set m k v') k').isSome = (get? m k').isSome := by
  rw [get?_set]
  by_cases e : k = k'
  · rw [if_pos e, ← e, h]; rfl
  · rw [if_neg e]

theorem get?_singleton (k k' : κ) (v : ν) : AMap.get? [(k, v)] k' = if k = k' then some v else none := rfl

theorem set_of_get?_none {m : AMap κ ν} {k : κ} {v : ν} (h : get? m k = none) : set m k v = m ++ [(k, v)] := by
  fun_induction set m k v <;> grind [get?]

theorem set_set (m : AMap κ ν) (k : κ) (v v' : ν) : (m.set k v).set k v' = m.set k v' := by
  fun_induction set m k v <;> grind [set]

theorem set_get_self (m : AMap κ ν) (k : κ) (v : ν) (h : m.get? k = some v) : m.set k v = m := by
  fun_induction set m k v <;> grind [set, get?]

/-- A write is seen only under its own key. -/
theorem eq_of_get?_set_ne {m : AMap κ ν} {k k' : κ} {v : ν} (h : (m.set k v).get? k' ≠ m.get? k') : k = k' :=
  Decidable.byContradiction fun e => h (get?_set_ne _ _ _ _ e)

theorem getD_set (m : AMap κ ν) (k x : κ) (v d : ν) :
    ((m.set k v).get? x).getD d = if x = k then v else (m.get? x).getD d := by
  rw [get?_set]
  by_cases e : k = x
  · subst e; simp
  · have e' : ¬ x = k := fun h => e h.symm
    simp [e, e']

/-- Adding `amt` to the entry of `k`, read at any key. -/
theorem getD_set_add (m : AMap κ Nat) (k x : κ) (amt : Nat) :
    ((m.set k ((m.get? k).getD 0 + amt)).get? x).getD 0 = (m.get? x).getD 0 + if k = x then amt else 0 := by
  rw [get?_set]
  split
  · rename_i e; subst e; rfl
  · rfl

/-- Taking `amt` from the entry of `k`, read at any key. -/
theorem getD_set_sub (m : AMap κ Nat) (k x : κ) {amt : Nat} (h : amt ≤ (m.get? k).getD 0) :
    ((m.set k ((m.get? k).getD 0 - amt)).get? x).getD 0 + (if k = x then amt else 0) = (m.get? x).getD 0 ∧
      (if k = x then amt else 0) ≤ (m.get? x).getD 0 := by
  rw [get?_set]
  split
  · rename_i e; subst e; exact ⟨Nat.sub_add_cancel h, h⟩
  · exact ⟨rfl, Nat.zero_le _⟩

/-- Taking `amt` out of one entry leaves room for `amt` in any entry that had room for it before. -/
theorem room_after_debit (m : AMap κ Nat) (k k' : κ) {amt cap : Nat}
    (h : (m.get? k').getD 0 + amt ≤ cap) : ((m.set k ((m.get? k).getD 0 - amt)).get? k').getD 0 + amt ≤ cap := by
  by_cases e : k = k'
  · subst e; simp; omega
  · rw [get?_set_ne _ _ _ _ e]; exact h

theorem mem_keys_erase {m : AMap κ ν} {k x : κ} : x ∈ keys (erase m k) ↔ (x ∈ keys m ∧ x ≠ k) := by
  fun_induction erase m k <;> grind [keys]

@[simp] theorem get?_erase_eq (m : AMap κ ν) (k : κ) : get? (erase m k) k = none := by
  fun_induction erase m k <;> grind [get?]

@[simp] theorem get?_erase_ne (m : AMap κ ν) (k k2 : κ) (h : k ≠ k2) :
    get? (erase m k) k2 = get? m k2 := by
  fun_induction erase m k <;> grind [get?]

theorem get?_erase (m : AMap κ ν) (k k2 : κ) :
    get? (erase m k) k2 = if k = k2 then none else get? m k2 := by
  by_cases h : k = k2
  · subst h; simp
  · simp [h]

theorem eq_of_get?_erase_ne {m : AMap κ ν} {k k' : κ} (h : (m.erase k).get? k' ≠ m.get? k') : k = k' :=
  Decidable.byContradiction fun e => h (get?_erase_ne _ _ _ e)

theorem get?_eq_none_iff {m : AMap κ ν} {k : κ} : get? m k = none ↔ k ∉ keys m := by
  fun_induction get? m k <;> grind [keys]

theorem get?_isSome_iff_mem_keys {m : AMap κ ν} {k : κ} : (get? m k).isSome ↔ k ∈ keys m := by
  fun_induction get? m k <;> grind [keys]

theorem get?_some_mem {m : AMap κ ν} {k : κ} {v : ν} (h : get? m k = some v) : (k, v) ∈ m := by
  fun_induction get? m k <;> grind

theorem keys_set_of_mem {m : AMap κ ν} {k : κ} {v : ν} (h : k ∈ keys m) : keys (set m k v) = keys m := by
  fun_induction set m k v <;> grind [keys]

theorem keys_set_of_not_mem {m : AMap κ ν} {k : κ} {v : ν} (h : k ∉ keys m) : keys (set m k v) = keys m ++ [k] := by
  fun_induction set m k v <;> grind [keys]

theorem mem_keys_set {m : AMap κ ν} {k x : κ} {v : ν} : x ∈ keys (set m k v) ↔ (x ∈ keys m ∨ x = k) := by
  fun_induction set m k v <;> grind [keys]

theorem nodup_set {m : AMap κ ν} {k : κ} {v : ν} (h : NodupKeys m) : NodupKeys (set m k v) := by
  unfold NodupKeys at *
  by_cases hk : k ∈ keys m
  · rw [keys_set_of_mem hk]; exact h
  · rw [keys_set_of_not_mem hk]
    rw [List.nodup_append]
    refine ⟨h, by simp, ?_⟩
    intro a ha b hb
    simp at hb; subst hb
    intro e; subst e; exact hk ha

theorem nodup_erase {m : AMap κ ν} {k : κ} (h : NodupKeys m) : NodupKeys (erase m k) := by
  fun_induction erase m k with
  | case1 => exact h
  | case2 v' rest ih => exact ih (List.nodup_cons.mp h).2
  | case3 k' v' rest hne ih =>
    have h' : k' ∉ keys rest ∧ NodupKeys rest := List.nodup_cons.mp h
    exact List.nodup_cons.mpr ⟨fun hm => h'.1 (mem_keys_erase.mp hm).1, ih h'.2⟩

/-- In a map without duplicate keys, lookup is membership. -/
theorem get?_eq_some_iff {m : AMap κ ν} (hm : NodupKeys m) {k : κ} {v : ν} :
    get? m k = some v ↔ (k, v) ∈ m := by
  fun_induction get? m k with
  | case1 => simp
  | case2 v' rest =>
    -- found at the head; no later entry has this key
    have h' : k ∉ keys rest ∧ NodupKeys rest := List.nodup_cons.mp hm
    simp only [Option.some.injEq, List.mem_cons, Prod.mk.injEq, true_and]
    exact ⟨fun h => Or.inl h.symm,
      fun h => h.elim Eq.symm (fun h => absurd (List.mem_map_of_mem (f := (·.1)) h) h'.1)⟩
  | case3 k' v' rest hne ih =>
    rw [ih (List.nodup_cons.mp hm).2]
    simp only [List.mem_cons, Prod.mk.injEq]
    exact ⟨Or.inr, fun h => h.elim (fun h => absurd h.1.symm hne) id⟩

/-- Lookup does not depend on the order of the entries (no duplicate keys). -/
theorem get?_perm {m m' : AMap κ ν} (hp : m'.Perm m) (hm : NodupKeys m) (k : κ) :
    get? m' k = get? m k := by
  have hm' : NodupKeys m' := by
    unfold NodupKeys keys at *
    exact ((hp.map (·.1)).nodup_iff).mpr hm
  apply Option.ext
  intro v
  rw [get?_eq_some_iff hm', get?_eq_some_iff hm, hp.mem_iff]

/-- Sum of the values of a `Nat`-valued map. -/
def sum (m : AMap κ Nat) : Nat := (m.map (·.2)).sum

@[simp] theorem sum_nil : sum ([] : AMap κ Nat) = 0 := rfl
@[simp] theorem sum_cons (p : κ × Nat) (m : AMap κ Nat) : sum (p :: m) = p.2 + sum m := by
  simp [sum]

/-- Setting a key changes the sum by exactly the difference at that key. -/
theorem sum_set (m : AMap κ Nat) (k : κ) (v : Nat) :
    sum (set m k v) + (get? m k).getD 0 = sum m + v := by
  fun_induction set m k v with
  | case1 => simp [get?]
  | case2 v' rest => simp only [get?, if_true, sum_cons, Option.getD_some]; omega
  | case3 k' v' rest hne ih => simp only [get?, if_neg hne, sum_cons]; omega

/-- Distinct keys never hold more together than the sum of the map. -/
theorem sum_get?_le_sum : ∀ (m : AMap κ Nat) (l : List κ), l.Nodup →
    (l.map (fun a => (get? m a).getD 0)).sum ≤ sum m
  | [], l, _ => by
    have : l.map (fun a => (get? ([] : AMap κ Nat) a).getD 0) = List.replicate l.length 0 :=
      (List.map_congr_left fun _ _ => rfl).trans (List.map_const' ..)
    rw [this, List.sum_replicate_nat, Nat.mul_zero]
    exact Nat.zero_le _
  | (k, v) :: rest, l, hl => by
    -- apart from `k` itself the keys of `l` look into `rest`
    have hrest : ∀ l' : List κ, k ∉ l' →
        l'.map (fun a => (get? ((k, v) :: rest) a).getD 0) = l'.map (fun a => (get? rest a).getD 0) :=
      fun l' hk => List.map_congr_left fun a ha => by
        rw [get?, if_neg (fun e => hk (by rw [e]; exact ha))]
    rw [sum_cons]
    by_cases hk : k ∈ l
    · have hp := List.perm_cons_erase hk
      have hn := List.nodup_cons.mp (hp.nodup_iff.mp hl)
      rw [(hp.map _).sum_nat, List.map_cons, List.sum_cons, hrest _ hn.1]
      have := sum_get?_le_sum rest (l.erase k) hn.2
      simp only [get?, if_true, Option.getD_some]
      omega
    · rw [hrest l hk]
      have := sum_get?_le_sum rest l hl
      omega

theorem get?_le_sum (m : AMap κ Nat) (k : κ) : (get? m k).getD 0 ≤ sum m := by
  simpa using sum_get?_le_sum m [k] (List.nodup_cons.mpr ⟨List.not_mem_nil, List.nodup_nil⟩)

/-- Two distinct keys together never hold more than the sum. -/
theorem get?_add_get?_le_sum (m : AMap κ Nat) (k1 k2 : κ) (hne : k1 ≠ k2) :
    (get? m k1).getD 0 + (get? m k2).getD 0 ≤ sum m := by
  simpa using sum_get?_le_sum m [k1, k2] (by simp [hne])

theorem sum_erase (m : AMap κ Nat) (k : κ) (h : NodupKeys m) :
    sum (erase m k) + (get? m k).getD 0 = sum m := by
  fun_induction erase m k with
  | case1 => rfl
  | case2 v' rest ih =>
    -- the key is found: it does not occur in the rest
    have h' : k ∉ keys rest ∧ NodupKeys rest := List.nodup_cons.mp h
    have := ih h'.2
    rw [get?_eq_none_iff.mpr h'.1] at this
    simp only [get?, if_true, sum_cons, Option.getD_some, Option.getD_none] at this ⊢
    omega
  | case3 k' v' rest hne ih =>
    have := ih (List.nodup_cons.mp h).2
    simp only [get?, if_neg hne, sum_cons]
    omega

end AMap
end CwPlus
