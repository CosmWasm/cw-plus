import CwPlus.Model.Pkg
import CwPlus.Lemmas.Json
/-!
# Theorems about the library / helper code of `/repo/packages` (`Model/Pkg.lean`)

All statements are over all inputs; the overflow panic of `NativeBalance::normalize` is part of what is stated.
`example`s show that the hypotheses are satisfiable and the surprising cases on concrete values.
-/
namespace CwPlus.Props.Pkg
open CwPlus.Pkg
open CwPlus CwPlus.Json NativeBalance

/-! ## `Amount` -/

/-- `u64_amount` succeeds exactly when the amount is below `2^64`, and then returns the amount unchanged. -/
theorem u64Amount_ok_iff (x : Amount) (n : Nat) : x.u64Amount = .ok n ↔ (x.amount < 2 ^ 64 ∧ n = x.amount) := by
  unfold Amount.u64Amount
  have := U64_MAX_eq
  split <;> simp <;> omega

/-- `u64_amount` fails exactly from `2^64` on. -/
theorem u64Amount_error_iff (x : Amount) : (∃ e, x.u64Amount = .error e) ↔ 2 ^ 64 ≤ x.amount := by
  unfold Amount.u64Amount
  have := U64_MAX_eq
  split <;> simp <;> omega

/-- the `cw20:` prefix test, as an equation between strings -/
theorem stripCw20_eq_some_iff (s r : String) : stripCw20 s = some r ↔ s = "cw20:" ++ r := by
  have hp : ("cw20:" ++ r).toList = 'c' :: 'w' :: '2' :: '0' :: ':' :: r.toList := by
    rw [String.toList_append]; rfl
  -- the equation on the right, between the lists of characters: the two cases of `stripCw20` decide it
  rw [← String.toList_inj, hp, stripCw20]
  split
  · rename_i rest heq
    simp [heq, ← String.toList_inj]
  · rename_i hne
    simpa using hne r.toList

/-- `denom()` undoes `from_parts` on the denom, for every string (also `"cw20:"` itself, also the empty string). -/
theorem denom_fromParts (d : String) (a : Nat) : (Amount.fromParts d a).denom = d := by
  unfold Amount.fromParts
  split
  · rename_i addr h
    exact ((stripCw20_eq_some_iff d addr).mp h).symm
  · rfl

/-- `amount()` undoes `from_parts` on the amount. -/
theorem amount_fromParts (d : String) (a : Nat) : (Amount.fromParts d a).amount = a := by
  unfold Amount.fromParts; split <;> rfl

/-- `from_parts` is injective: the pair (denom, amount) can be recovered from the `Amount`. -/
theorem fromParts_injective (d d' : String) (a a' : Nat) (h : Amount.fromParts d a = Amount.fromParts d' a') :
    d = d' ∧ a = a' := by
  have h1 := congrArg Amount.denom h
  have h2 := congrArg Amount.amount h
  simp only [denom_fromParts, amount_fromParts] at h1 h2
  exact ⟨h1, h2⟩

/-- A cw20 amount always survives `from_parts(denom(), amount())` … -/
theorem fromParts_roundtrip_cw20 (addr : String) (a : Nat) :
    Amount.fromParts (Amount.cw20 addr a).denom (Amount.cw20 addr a).amount = .cw20 addr a := by
  have : stripCw20 ("cw20:" ++ addr) = some addr := (stripCw20_eq_some_iff _ _).mpr rfl
  simp [Amount.fromParts, Amount.denom, Amount.amount, this]

/-- … a native amount survives it exactly when its denom does not start with `cw20:`.  `Amount::native(5, "cw20:abc")`
comes back as the cw20 coin `abc` (its `denom()` is indistinguishable from that of `Amount::cw20(5, "abc")`). -/
theorem fromParts_roundtrip_native_iff (d : String) (a : Nat) :
    Amount.fromParts (Amount.native d a).denom (Amount.native d a).amount = .native d a ↔ stripCw20 d = none := by
  simp only [Amount.denom, Amount.amount, Amount.fromParts]
  split <;> simp_all

/-- the collision behind it: the two constructors can produce the same `denom()` -/
theorem denom_collision (addr : String) (a : Nat) :
    (Amount.native ("cw20:" ++ addr) a).denom = (Amount.cw20 addr a).denom := rfl

/-- `is_empty` is "amount = 0" for both variants. -/
theorem amount_isEmpty_iff (x : Amount) : x.isEmpty = true ↔ x.amount = 0 := by
  simp [Amount.isEmpty]

theorem isEmpty_fromParts (d : String) (a : Nat) : (Amount.fromParts d a).isEmpty = true ↔ a = 0 := by
  rw [amount_isEmpty_iff, amount_fromParts]

/-- an empty amount always fits `u64` -/
theorem u64Amount_of_isEmpty (x : Amount) (h : x.isEmpty = true) : x.u64Amount = .ok 0 := by
  rw [amount_isEmpty_iff] at h
  exact (u64Amount_ok_iff x 0).mpr ⟨by omega, h.symm⟩

example : (Amount.fromParts "cw20:wasm1abc" 7) = .cw20 "wasm1abc" 7 := by decide +kernel
example : (Amount.fromParts "uatom" 7) = .native "uatom" 7 := by decide +kernel
example : (Amount.fromParts "cw20:" 0) = .cw20 "" 0 := by decide +kernel
example : (Amount.fromParts "CW20:x" 1) = .native "CW20:x" 1 := by decide +kernel
example : Amount.fromParts (Amount.native "cw20:abc" 5).denom 5 = .cw20 "abc" 5 := by decide +kernel
example : (Amount.native "x" 18446744073709551615).u64Amount = .ok 18446744073709551615 := by decide +kernel
example : (Amount.native "x" 18446744073709551616).u64Amount = .error "u64.overflow" := by decide +kernel

/-! ## `Cw20Coin` / `Cw20CoinVerified` -/

theorem coin_isEmpty_iff (c : Cw20Coin) : c.isEmpty = true ↔ c.amount = 0 := by
  simp [Cw20Coin.isEmpty]

example : (Cw20Coin.mk "sender" 0).display = "address: sender, amount: 0" := by decide +kernel
example : (Cw20Coin.mk "" 340282366920938463463374607431768211455).isEmpty = false := by decide +kernel

/-! ## `Balance` -/

/-- A native balance is empty when every coin has amount zero — in particular the empty vector, but also
`[0uatom, 0ucosm]`. -/
theorem native_isEmpty_iff (b : NativeBalance) : (Balance.native b).isEmpty = true ↔ ∀ c ∈ b, c.2 = 0 := by
  simp [Balance.isEmpty, NativeBalance.isEmpty]

/-- … equivalently: no denom has a positive total. -/
theorem native_isEmpty_iff_total (b : NativeBalance) : (Balance.native b).isEmpty = true ↔ ∀ d, total b d = 0 := by
  rw [native_isEmpty_iff]
  induction b with
  | nil => simp
  | cons c rest ih =>
    simp only [List.forall_mem_cons, total_cons, ih]
    constructor
    · rintro ⟨h0, hr⟩ d; simp [h0, hr d]
    · intro h
      exact ⟨(by simpa using h c.1 : _ ∧ _).1, fun d => by have := h d; omega⟩

theorem cw20_isEmpty_iff (c : Cw20Coin) : (Balance.cw20 c).isEmpty = true ↔ c.amount = 0 := coin_isEmpty_iff c

theorem default_isEmpty : Balance.default.isEmpty = true := rfl

/-- `Balance::from(coins)` keeps the vector as given: nothing is sorted, merged or dropped. -/
theorem ofCoins_eq (cs : List Coin) : Balance.ofCoins cs = .native cs := rfl

/-- `normalize` leaves a cw20 balance alone and never fails on it. -/
theorem normalize_cw20 (c : Cw20Coin) : (Balance.cw20 c).normalize = .ok (.cw20 c) := rfl

/-! ### `normalize` -/

theorem mergeRight_total {l r : NativeBalance} (h : mergeRight l = .ok r) (d : String) : total r d = total l d := by
  fun_induction mergeRight l generalizing r with
  | case1 => cases h; rfl
  | case2 | case5 => cases h
  | case3 c rest hr ih => cases h; simp [total_cons, ← ih hr]
  | case4 c rest a2 r2 _ hr ih =>
    cases h
    have := ih hr
    simp only [total_cons] at this ⊢
    split <;> simp_all <;> omega
  | case6 c rest d2 a2 r2 hr _ ih => cases h; simp only [total_cons, ← ih hr]

theorem total_filter_nonzero (b : NativeBalance) (d : String) : total (b.filter (fun c => c.2 ≠ 0)) d = total b d := by
  induction b with
  | nil => rfl
  | cons c rest ih =>
    rw [List.filter_cons]
    split
    · rw [total_cons, total_cons, ih]
    · rename_i h
      rw [total_cons, ih, show c.2 = 0 by simpa using h]; simp

theorem total_perm {l l' : NativeBalance} (h : l.Perm l') (d : String) : total l d = total l' d := by
  induction h with
  | nil => rfl
  | cons x _ ih => rw [total_cons, total_cons, ih]
  | swap x y l => simp only [total_cons]; omega
  | trans _ _ ih1 ih2 => rw [ih1, ih2]

/-- `normalize` preserves what is held of every denom: the total per denom is unchanged (zeros dropped,
duplicates summed, nothing lost). -/
theorem normalize_total {b b' : NativeBalance} (h : normalizeNative b = .ok b') (d : String) : total b' d = total b d := by
  unfold normalizeNative at h
  rw [mergeRight_total h d, total_perm (List.mergeSort_perm _ _) d, total_filter_nonzero]

/-- Emptiness is invariant under `normalize`. -/
theorem normalize_isEmpty {b b' : NativeBalance} (h : normalizeNative b = .ok b') :
    (Balance.native b').isEmpty = (Balance.native b).isEmpty := by
  rw [Bool.eq_iff_iff, native_isEmpty_iff_total, native_isEmpty_iff_total]
  simp only [normalize_total h]

/-- The overflow panic of `normalize`, sufficient condition: when no denom's total exceeds `u128::MAX` the merge
loop does not panic. -/
theorem mergeRight_ok_of_totals (l : NativeBalance) (h : ∀ d, total l d ≤ U128_MAX) : ∃ r, mergeRight l = .ok r := by
  fun_induction mergeRight l with
  | case1 | case3 | case4 | case6 => exact ⟨_, rfl⟩
  | case2 c rest e he ih =>
    obtain ⟨r, hr⟩ := ih fun d => Nat.le_trans (by rw [total_cons]; omega) (h d)
    rw [he] at hr; cases hr
  | case5 c rest a2 r2 hgt hr =>
    have := h c.1
    rw [total_cons, ← mergeRight_total hr, total_cons] at this
    simp at this; omega

/-- `normalize` succeeds whenever every denom's total fits `u128` … -/
theorem normalize_ok_of_totals (b : NativeBalance) (h : ∀ d, total b d ≤ U128_MAX) : ∃ b', normalizeNative b = .ok b' := by
  unfold normalizeNative
  apply mergeRight_ok_of_totals
  intro d
  rw [total_perm (List.mergeSort_perm _ _) d, total_filter_nonzero]
  exact h d

/-- … an empty balance (all amounts zero) normalises to the empty vector. -/
theorem normalize_of_isEmpty (b : NativeBalance) (h : (Balance.native b).isEmpty = true) :
    (Balance.native b).normalize = .ok (.native []) := by
  rw [native_isEmpty_iff] at h
  have : b.filter (fun c => c.2 ≠ 0) = [] := by
    rw [List.filter_eq_nil_iff]; intro c hc; simp [h c hc]
  simp only [Balance.normalize, normalizeNative]
  rw [this]
  simp [mergeRight, Except.map]

/-- a property of coins that survives adding two coins of one denom survives the merge loop -/
theorem mergeRight_forall {P : Coin → Prop} (hadd : ∀ d a b, P (d, a) → P (d, b) → a + b ≤ U128_MAX → P (d, a + b))
    {l r : NativeBalance} (hl : ∀ c ∈ l, P c) (h : mergeRight l = .ok r) : ∀ c ∈ r, P c := by
  fun_induction mergeRight l generalizing r with
  | case1 => cases h; nofun
  | case2 | case5 => cases h
  | case3 c rest hr ih => cases h; simpa using hl c (by simp)
  | case4 c rest a2 r2 hle hr ih =>
    cases h
    have := ih (fun x hx => hl x (by simp [hx])) hr
    simp only [List.forall_mem_cons] at this ⊢
    exact ⟨hadd _ _ _ (hl c (by simp)) this.1 hle, this.2⟩
  | case6 c rest d2 a2 r2 hr _ ih =>
    cases h
    exact List.forall_mem_cons.2 ⟨hl c (by simp), ih (fun x hx => hl x (by simp [hx])) hr⟩

/-- the denoms that come out of the merge loop went in -/
theorem mergeRight_denoms {l r : NativeBalance} (h : mergeRight l = .ok r) : ∀ x ∈ r, ∃ y ∈ l, y.1 = x.1 :=
  mergeRight_forall (P := fun c => ∃ y ∈ l, y.1 = c.1) (fun _ _ _ h _ _ => h) (fun c hc => ⟨c, hc, rfl⟩) h

/-- what goes into the merge loop of `normalize`: the coins of the vector that are not zero -/
theorem mem_sorted_nonzero {b : NativeBalance} {c : Coin}
    (hc : c ∈ (b.filter (fun c => c.2 ≠ 0)).mergeSort (fun x y => decide (x.1 ≤ y.1))) : c ∈ b ∧ c.2 ≠ 0 := by
  simpa using List.mem_filter.1 ((List.mergeSort_perm _ _).mem_iff.1 hc)

/-- After a successful `normalize` no coin has amount zero, hence `is_empty` ⇔ "the vector is empty". -/
theorem normalize_nonzero {b b' : NativeBalance} (h : normalizeNative b = .ok b') : ∀ c ∈ b', c.2 ≠ 0 :=
  mergeRight_forall (P := fun c => c.2 ≠ 0) (fun _ _ _ ha _ _ => by simp only [ne_eq] at ha ⊢; omega)
    (fun _ hc => (mem_sorted_nonzero hc).2) h

/-- `normalize` keeps amounts within `u128` (merged sums are checked, the others are inputs) -/
theorem normalize_le {b b' : NativeBalance} (hb : ∀ c ∈ b, c.2 ≤ U128_MAX) (h : normalizeNative b = .ok b') :
    ∀ c ∈ b', c.2 ≤ U128_MAX :=
  mergeRight_forall (P := fun c => c.2 ≤ U128_MAX) (fun _ _ _ _ _ h => h) (fun c hc => hb c (mem_sorted_nonzero hc).1) h

theorem normalize_isEmpty_iff_nil {b b' : NativeBalance} (h : normalizeNative b = .ok b') :
    (Balance.native b').isEmpty = true ↔ b' = [] := by
  rw [native_isEmpty_iff]
  exact ⟨fun h0 => List.eq_nil_iff_forall_not_mem.2 fun c hc => normalize_nonzero h c hc (h0 c hc), by rintro rfl; nofun⟩

/-- the merge loop on a denom-sorted vector yields strictly increasing denoms (so: no duplicate denom) -/
theorem mergeRight_sorted {l r : NativeBalance} (hs : l.Pairwise (fun x y => x.1 ≤ y.1)) (h : mergeRight l = .ok r) :
    r.Pairwise (fun x y => x.1 < y.1) := by
  fun_induction mergeRight l generalizing r with
  | case1 => cases h; exact .nil
  | case2 | case5 => cases h
  | case3 => cases h; exact List.pairwise_singleton _ _
  | case4 c rest a2 r2 _ hr ih =>
    cases h
    have hp := List.pairwise_cons.1 (ih hs.of_cons hr)
    exact List.pairwise_cons.2 ⟨hp.1, hp.2⟩
  | case6 c rest d2 a2 r2 hr hne ih =>
    cases h
    have hp := ih hs.of_cons hr
    obtain ⟨y, hy, (e : y.1 = d2)⟩ := mergeRight_denoms hr (d2, a2) (by simp)
    have hd : c.1 < d2 := Std.lt_of_le_of_ne (e ▸ (List.pairwise_cons.1 hs).1 y hy) hne
    refine List.pairwise_cons.2 ⟨fun x hx => ?_, hp⟩
    rcases List.mem_cons.1 hx with rfl | hx
    · exact hd
    · exact Std.lt_trans hd ((List.pairwise_cons.1 hp).1 x hx)

/-- After a successful `normalize` the denoms are strictly increasing: sorted, and no denom occurs twice. -/
theorem normalize_sorted {b b' : NativeBalance} (h : normalizeNative b = .ok b') :
    b'.Pairwise (fun x y => x.1 < y.1) := by
  unfold normalizeNative at h
  refine mergeRight_sorted ?_ h
  have := List.pairwise_mergeSort (le := fun (x y : Coin) => decide (x.1 ≤ y.1))
    (fun a b c hab hbc => by simp at hab hbc ⊢; exact String.le_trans hab hbc)
    (fun a b => by simp; exact String.le_total a.1 b.1)
    (b.filter (fun c => c.2 ≠ 0))
  exact this.imp (by simp)


theorem find?_mem {b : NativeBalance} {d : String} {a : Nat} (h : find? b d = some a) : (d, a) ∈ b := by
  fun_induction find? b d <;> grind

/-- **When does `normalize` panic?**  For a vector of `Uint128` amounts: exactly when the total of some denom
exceeds `u128::MAX` (the order of the coins, zero coins and the other denoms do not matter). -/
theorem normalize_ok_iff (b : NativeBalance) (hb : ∀ c ∈ b, c.2 ≤ U128_MAX) :
    (∃ b', normalizeNative b = .ok b') ↔ ∀ d, total b d ≤ U128_MAX := by
  constructor
  · rintro ⟨b', h⟩ d
    rw [← normalize_total h d]
    have hu : UniqueDenoms b' := by
      unfold UniqueDenoms denoms
      rw [List.nodup_iff_pairwise_ne, List.pairwise_map]
      exact (normalize_sorted h).imp Std.ne_of_lt
    rw [total_eq_find?_of_unique hu d]
    cases hf : find? b' d with
    | none => simp
    | some a => simpa using normalize_le hb h (d, a) (find?_mem hf)
  · exact normalize_ok_of_totals b

/-- `Balance::normalize`, summary: on success the result is a native balance with the same total of every denom,
no zero coin and strictly increasing denoms. -/
theorem balance_normalize_spec {b : NativeBalance} {x : Balance} (h : (Balance.native b).normalize = .ok x) :
    ∃ b', x = .native b' ∧ (∀ d, total b' d = total b d) ∧ (∀ c ∈ b', c.2 ≠ 0) ∧ b'.Pairwise (fun x y => x.1 < y.1) := by
  simp only [Balance.normalize] at h
  cases hn : normalizeNative b with
  | error e => simp [hn, Except.map] at h
  | ok b' =>
    simp [hn, Except.map] at h
    exact ⟨b', h.symm, normalize_total hn, normalize_nonzero hn, normalize_sorted hn⟩

/-- the panic is real: two coins of one denom whose sum is `2^128` -/
example : (Balance.ofCoins [("a", 340282366920938463463374607431768211455), ("a", 1)]).normalize = .error "overflow.u128" := by
  simp [Balance.ofCoins, Balance.normalize, normalizeNative, List.mergeSort, mergeRight, Except.map, U128_MAX]
example : (Balance.ofCoins [("a", 340282366920938463463374607431768211454), ("b", 5), ("a", 1)]).normalize
    = .ok (.native [("a", 340282366920938463463374607431768211455), ("b", 5)]) := by
  simp [Balance.ofCoins, Balance.normalize, normalizeNative, List.mergeSort, mergeRight, Except.map, U128_MAX]
example : (Balance.ofCoins [("b", 1), ("a", 0), ("a", 2), ("b", 3)]).normalize = .ok (.native [("a", 2), ("b", 4)]) := by
  simp [Balance.ofCoins, Balance.normalize, normalizeNative, List.mergeSort, mergeRight, Except.map, U128_MAX]
/-- `[0uatom]` is empty but is not the default balance (derived `PartialEq` tells them apart) -/
example : (Balance.ofCoins [("uatom", 0)]).isEmpty = true ∧ Balance.ofCoins [("uatom", 0)] ≠ Balance.default := by decide +kernel
/-- `Display for NativeBalance` has no separator: different balances print the same text -/
example : (Balance.native [("a1", 2)]).display = (Balance.native [("a", 12)]).display := by decide +kernel
example : (Balance.native [("uatom", 1), ("ucosm", 2)]).display = "uatom1ucosm2" := by decide +kernel
example : Balance.default.display = "" := by decide +kernel

/-! ## `Denom`, `UncheckedDenom::into_checked` -/

theorem denom_isEmpty_iff (d : Denom) : d.isEmpty = true ↔ (d = .native "" ∨ d = .cw20 "") := by
  cases d <;> simp [Denom.isEmpty]

theorem denom_default_isEmpty : Denom.default.isEmpty = true := by decide

/-- A native denom is never checked: `into_checked` returns it for every string (the empty one included), whatever
the address validity flag and whatever the chain answers. -/
theorem intoChecked_native (s : String) (valid : Bool) (r : Reply) :
    (UncheckedDenom.native s).intoChecked valid r = .ok (.native s) := rfl

/-- A cw20 denom is accepted exactly when the address validates and the contract answers `TokenInfo {}` with a
`TokenInfoResponse`; the result carries the address text unchanged. -/
theorem intoChecked_cw20_ok_iff (a : String) (valid : Bool) (r : Reply) (d : Denom) :
    (UncheckedDenom.cw20 a).intoChecked valid r = .ok d ↔
      (valid = true ∧ (∃ n s dec t, r = .tokenInfo n s dec t) ∧ d = .cw20 a) := by
  cases valid with
  | false => simp [UncheckedDenom.intoChecked, check, bind, Except.bind]
  | true => cases r <;> simp [UncheckedDenom.intoChecked, check, cw20Meta, bind, Except.bind, pure, Except.pure, eq_comm]

/-- … so a checked `Denom` can still be empty (`is_empty`): only through the unchecked native branch. -/
example : ∃ d, (UncheckedDenom.native "").intoChecked false .fail = .ok d ∧ d.isEmpty = true := ⟨_, rfl, by decide⟩

/-! ## message builders -/

/-- Every helper emits a `WasmMsg::Execute` to the wrapped address, without funds, whose payload is the JSON of the
message. -/
theorem wrap_spec (c : Addr) (p : Bytes) : (wrap c p).contract = c ∧ (wrap c p).funds = [] ∧ (wrap c p).msg = p :=
  ⟨rfl, rfl, rfl⟩

theorem cw20Call_spec (c : Addr) (m : Cw20Msg) :
    (cw20Call c m).contract = c ∧ (cw20Call c m).funds = [] ∧ (cw20Call c m).msg = m.json := ⟨rfl, rfl, rfl⟩

theorem cw3Encode_spec (c : Addr) (m : Cw3Msg) :
    (cw3Encode c m).contract = c ∧ (cw3Encode c m).funds = [] ∧ (cw3Encode c m).msg = m.json := ⟨rfl, rfl, rfl⟩

/-- `proposal` / `vote` / `execute` / `close` are `encode_msg` of the corresponding variant. -/
theorem cw3_helpers_eq (c : Addr) (t d : String) (ms : List CosmosMsg) (e l : Option Expiration) (id : Nat) (v : Vote) :
    cw3Proposal c t d ms e l = cw3Encode c (.propose t d ms e l) ∧ cw3Vote c id v = cw3Encode c (.vote id v) ∧
    cw3Execute c id = cw3Encode c (.execute id) ∧ cw3Close c id = cw3Encode c (.close id) := ⟨rfl, rfl, rfl, rfl⟩

theorem cw4_builders_spec (c : Addr) (a : String) (o : Option String) :
    (cw4AddHook c a).contract = c ∧ (cw4AddHook c a).funds = [] ∧ (cw4AddHook c a).msg = (Cw4Msg.addHook a).json ∧
    (cw4RemoveHook c a).contract = c ∧ (cw4RemoveHook c a).funds = [] ∧ (cw4RemoveHook c a).msg = (Cw4Msg.removeHook a).json ∧
    (cw4UpdateAdmin c o).contract = c ∧ (cw4UpdateAdmin c o).funds = [] ∧ (cw4UpdateAdmin c o).msg = (Cw4Msg.updateAdmin o).json :=
  ⟨rfl, rfl, rfl, rfl, rfl, rfl, rfl, rfl, rfl⟩

theorem cw4gUpdateMembers_spec (c : Addr) (rm : List String) (add : List (String × Nat)) :
    (cw4gUpdateMembers c rm add).contract = c ∧ (cw4gUpdateMembers c rm add).funds = [] ∧
    (cw4gUpdateMembers c rm add).msg = updateMembersJson rm add := ⟨rfl, rfl, rfl⟩

theorem cw1Execute_spec (c : Addr) (ms : List CosmosMsg) :
    (cw1Execute c ms).contract = c ∧ (cw1Execute c ms).funds = [] := ⟨rfl, rfl⟩

/-- The target address is the only thing a builder takes from the wrapper: two wrappers emit the same message for
the same input exactly when they wrap the same address. -/
theorem cw20Call_inj_contract (c c' : Addr) (m : Cw20Msg) : cw20Call c m = cw20Call c' m ↔ c = c' := by
  exact ⟨congrArg WasmExec.contract, by rintro rfl; rfl⟩

/-- base64 output length: four characters per started group of three bytes (padded) -/
theorem b64_length (d : Bytes) : (b64 d).length = 4 * ((d.length + 2) / 3) := by
  fun_induction b64 d <;> simp_all <;> omega

/-- a JSON string token determines the string (`serialize_str` is injective): through the decoder of `Base/Json` -/
theorem jStr_injective (s s' : String) (h : jStr s = jStr s') : s = s' :=
  (Prod.mk.inj (eq_of_decode_eq (parseStrTok_encStr s []) (parseStrTok_encStr s' []) (List.cons.inj h).2)).1

/-- The payload of `add_hook` / `remove_hook` determines the address put in (nothing is lost or normalised on the
way into the JSON). -/
theorem addHook_json_injective (a a' : String) (h : (Cw4Msg.addHook a).json = (Cw4Msg.addHook a').json) : a = a' := by
  simp only [Cw4Msg.json, jTag, jObj, jJoin, List.map, field, List.cons.injEq, true_and, List.append_cancel_left_eq,
    List.append_cancel_right_eq] at h
  exact jStr_injective a a' (by simpa [List.append_cancel_right_eq] using h)

example : (cw20Call "token" (.transfer "bob" 5)).msg = lit "{\"transfer\":{\"recipient\":\"bob\",\"amount\":\"5\"}}" := by rw [lit, strBytes_ofList]; decide +kernel
example : (cw20Call "token" (.send "c" 1 [0x7b, 0x7d])).msg = lit "{\"send\":{\"contract\":\"c\",\"amount\":\"1\",\"msg\":\"e30=\"}}" := by
  rw [lit, strBytes_ofList]; decide +kernel
example : (cw20Call "token" (.increaseAllowance "s" 1 none)).msg
    = lit "{\"increase_allowance\":{\"spender\":\"s\",\"amount\":\"1\",\"expires\":null}}" := by rw [lit, strBytes_ofList]; decide +kernel
example : (cw3Vote "ms" 17 .no).msg = lit "{\"vote\":{\"proposal_id\":17,\"vote\":\"no\"}}" := by rw [lit, strBytes_ofList]; decide +kernel
set_option maxRecDepth 8192 in
example : (cw3Proposal "ms" "t" "d" [.bankSend "x" [("uatom", 1)]] none (some (.atTime 5))).msg
    = lit ("{\"propose\":{\"title\":\"t\",\"description\":\"d\",\"msgs\":[{\"bank\":{\"send\":{\"to_address\":\"x\"," ++
      "\"amount\":[{\"denom\":\"uatom\",\"amount\":\"1\"}]}}}],\"earliest\":null,\"latest\":{\"at_time\":\"5\"}}}") := by rw [lit, strBytes_append, strBytes_ofList, strBytes_ofList]; decide +kernel
example : (cw4UpdateAdmin "g" none).msg = lit "{\"update_admin\":{\"admin\":null}}" := by rw [lit, strBytes_ofList]; decide +kernel
example : (cw4gUpdateMembers "g" ["a"] [("b", 2)]).msg
    = lit "{\"update_members\":{\"remove\":[\"a\"],\"add\":[{\"addr\":\"b\",\"weight\":2}]}}" := by rw [lit, strBytes_ofList]; decide +kernel
example : (cw1Execute "p" []).msg = lit "{\"execute\":{\"msgs\":[]}}" := by rw [lit, strBytes_ofList]; decide +kernel

/-! ## query wrappers -/

/-- The request goes to the wrapped address and carries the JSON of the query message. -/
theorem request_spec (c : Addr) (q : Cw20Query) (q4 : Cw4Query) :
    (cw20Request c q).contract = c ∧ (cw20Request c q).msg = q.json ∧
    (cw4Request c q4).contract = c ∧ (cw4Request c q4).msg = q4.json := ⟨rfl, rfl, rfl, rfl⟩

/-- `balance` returns exactly the `balance` field of a `BalanceResponse`, and fails on every other answer. -/
theorem cw20Balance_ok_iff (r : Reply) (n : Nat) : cw20Balance r = .ok n ↔ r = .balance n := by
  cases r <;> simp [cw20Balance, eq_comm]

/-- `has_allowance` is true exactly when the contract answers the allowance query with an `AllowanceResponse`. -/
theorem hasAllowance_iff (r : Reply) : cw20HasAllowance r = true ↔ ∃ n e, r = .allowance n e := by
  cases r <;> simp [cw20HasAllowance, cw20Allowance, Res.isOk]

/-- `is_mintable` is true exactly when the contract answers the minter query with `null` **or** a `MinterResponse`:
a cw20-base token without a minter (answer `null`) counts as mintable. -/
theorem isMintable_iff (r : Reply) : cw20IsMintable r = true ↔ (r = .null ∨ ∃ m c, r = .minter m c) := by
  cases r <;> simp [cw20IsMintable, cw20Minter, Res.isOk]

/-- `minter` distinguishes the two cases `is_mintable` merges. -/
theorem cw20Minter_null : cw20Minter .null = .ok none := rfl

theorem cw4Hooks_ok_iff (r : Reply) (hs : List String) : cw4Hooks r = .ok hs ↔ r = .hooks hs := by
  cases r <;> simp [cw4Hooks, eq_comm]

theorem cw4Admin_ok_iff (r : Reply) (a : Option String) : cw4Admin r = .ok a ↔ r = .admin a := by
  cases r <;> simp [cw4Admin, eq_comm]

/-- no wrapper succeeds when the query itself fails (no such contract / the contract's query errors) -/
theorem wrappers_fail_on_fail :
    cw20Balance .fail = .error "parse" ∧ cw20Meta .fail = .error "parse" ∧ cw20Allowance .fail = .error "parse" ∧
    cw20Minter .fail = .error "parse" ∧ cw20HasAllowance .fail = false ∧ cw20IsMintable .fail = false ∧
    cw4Hooks .fail = .error "parse" ∧ cw4Admin .fail = .error "parse" := by decide

example : (cw20Request "token" (.balance "bob")).msg = lit "{\"balance\":{\"address\":\"bob\"}}" := by rw [lit, strBytes_ofList]; decide +kernel
example : (cw20Request "token" .tokenInfo).msg = lit "{\"token_info\":{}}" := by rw [lit, strBytes_ofList]; decide +kernel
example : (cw4Request "group" .hooks).msg = lit "{\"hooks\":{}}" := by rw [lit, strBytes_ofList]; decide +kernel
example : cw20IsMintable .null = true ∧ cw20Minter .null = .ok none := by decide +kernel

end CwPlus.Props.Pkg
