import CwPlus.Base.Json
import CwPlus.Lemmas.StrBytes
/-!
Lemmas about the byte-level JSON model (`Base/Json.lean`): the scanner and `unescape` undo `escape` on
*every* byte string, decimal rendering is undone by `parseU128`, one iteration of the field loop, the encoders
write UTF-8.
What one byte is escaped to is a table: `escapeByte_spec` runs through all 256 bytes (`forall_uint8` + `decide`).
-/
namespace CwPlus.Json

theorem forall_uint8 {P : UInt8 → Prop} (h : ∀ n : Fin 256, P (UInt8.ofNat n.val)) : ∀ b, P b := by
  intro b
  have := h ⟨b.toNat, b.toNat_lt⟩
  simpa using this

/-- `scanStr` over a chunk that is not the end of the input: `some e'` when the scanner, entered with escape flag
`e`, crosses the whole chunk without taking a quote as the closing one, and leaves it with flag `e'`; `none` when
the string ends inside the chunk. -/
def scanRun : Bool → Bytes → Option Bool
  | e, [] => some e
  | e, b :: r =>
    if b = 0x22 then (if e then scanRun false r else none)
    else if b = 0x5c then scanRun (!e) r else scanRun false r

theorem scanStr_append (chunk rest : Bytes) : ∀ (e e' : Bool), scanRun e chunk = some e' →
    scanStr e (chunk ++ rest) = (scanStr e' rest).map (fun p => (chunk ++ p.1, p.2)) := by
  intro e e' h
  fun_induction scanRun e chunk <;> simp_all [scanStr, Option.map_map, Function.comp_def]

/-- the loop of `unescapeGo` over a chunk, without the checks at the end of the input: the state in which it leaves
the chunk and the bytes it has produced -/
def urun : USt → Bytes → Except DecodeErr (USt × Bytes)
  | st, [] => .ok (st, [])
  | st, b :: r =>
    match ustep st b with
    | .error e => .error e
    | .ok (st', o) =>
      match urun st' r with
      | .error e => .error e
      | .ok (st'', o') => .ok (st'', o ++ o')

theorem unescapeGo_append (chunk rest : Bytes) : ∀ (st st' : USt) (o : Bytes), urun st chunk = .ok (st', o) →
    unescapeGo st (chunk ++ rest) =
      (match unescapeGo st' rest with | .error e => .error e | .ok tl => .ok (o ++ tl)) := by
  intro st st' o h
  fun_induction urun st chunk generalizing st' o with
  | case1 st => cases h; rw [List.nil_append]; cases unescapeGo st rest <;> rfl
  | case2 | case3 => cases h
  | case4 st b r st1 o1 hs st2 o2 hr ih =>
    cases h
    simp only [List.cons_append, unescapeGo, hs, ih _ _ hr]
    cases unescapeGo st2 rest <;> simp

/-- two inputs of a decoder with different results are different: an encoder with a decoder is injective -/
theorem eq_of_decode_eq {α β ε : Type} {dec : β → Except ε α} {x y : β} {a b : α} (ha : dec x = .ok a)
    (hb : dec y = .ok b) (h : x = y) : a = b := by
  subst h
  rw [ha] at hb
  injection hb

/-- The escape of one byte: the scanner runs through it without meeting the closing quote, `unescape` gives the
byte back, and it consists of bytes below 0x80 when the byte is one, of the byte itself otherwise. -/
theorem escapeByte_spec : ∀ b, scanRun false (escapeByte b) = some false ∧ urun {} (escapeByte b) = .ok ({}, [b]) ∧
    if b < 0x80 then ∀ x ∈ escapeByte b, x < 0x80 else escapeByte b = [b] := by
  apply forall_uint8; decide +kernel

theorem escapeByte_ascii {b : UInt8} (hb : b < 0x80) : ∀ x ∈ escapeByte b, x < 0x80 := by
  have := (escapeByte_spec b).2.2
  rwa [if_pos hb] at this

theorem escapeByte_high {b : UInt8} (hb : 0x80 ≤ b) : escapeByte b = [b] := by
  have := (escapeByte_spec b).2.2
  rwa [if_neg (UInt8.not_lt.2 hb)] at this

theorem escape_cons (b : UInt8) (bs : Bytes) : escape (b :: bs) = escapeByte b ++ escape bs := by
  simp [escape]

theorem escape_append (a b : Bytes) : escape (a ++ b) = escape a ++ escape b := by simp [escape]

theorem escape_id (l : Bytes) (h : ∀ x ∈ l, escapeByte x = [x]) : escape l = l := by
  induction l with
  | nil => rfl
  | cons b r ih => rw [escape_cons, h b (by simp), ih fun x hx => h x (by simp [hx])]; rfl

theorem scanStr_escape (bs rest : Bytes) : scanStr false (escape bs ++ 0x22 :: rest) = some (escape bs, rest) := by
  induction bs with
  | nil => simp [escape, scanStr]
  | cons b r ih =>
    rw [escape_cons, List.append_assoc, scanStr_append _ _ false false (escapeByte_spec b).1, ih]
    simp

theorem unescape_escape (bs : Bytes) : unescapeGo {} (escape bs) = .ok bs := by
  induction bs with
  | nil => simp [escape, unescapeGo]
  | cons b r ih =>
    have := unescapeGo_append (escapeByte b) (escape r) {} {} [b] (escapeByte_spec b).2.1
    rw [escape_cons, this, ih]; simp

/-- a byte is escaped to itself or to something that starts with a backslash -/
theorem escapeByte_plain (b : UInt8) (h : hasBackslash (escapeByte b) = false) : escapeByte b = [b] := by
  fun_cases escapeByte b <;> simp_all [hasBackslash, escapeByte]

theorem escape_plain (bs : Bytes) (h : hasBackslash (escape bs) = false) : escape bs = bs := by
  simp only [hasBackslash, escape, List.any_flatMap, List.any_eq_false] at h
  exact escape_id bs fun b hb => escapeByte_plain b (Bool.eq_false_iff.2 (h b hb))

theorem strContent_escape (bs : Bytes) : strContent (escape bs) = .ok bs := by
  unfold strContent
  cases h : hasBackslash (escape bs) with
  | true => simp [unescape_escape]
  | false => simp [escape_plain bs h]

theorem parseStrBytes_escape (bs rest : Bytes) : parseStrBytes (escape bs ++ 0x22 :: rest) = .ok (bs, rest) := by
  simp [parseStrBytes, scanStr_escape, strContent_escape]

theorem strOfBytes_strBytes (s : String) : strOfBytes (strBytes s) = some s := by
  simp [strOfBytes, strBytes, String.fromUTF8?, String.toUTF8, s.isValidUTF8, String.fromUTF8]

theorem parseStrTok_encStr (s : String) (rest : Bytes) :
    parseStrTok (escape (strBytes s) ++ 0x22 :: rest) = .ok (s, rest) := by
  simp [parseStrTok, parseStrBytes_escape, strOfBytes_strBytes]

/-- the number with these little-endian decimal digits: the inverse of `revDigits` -/
def ofRev : List Nat → Nat
  | [] => 0
  | d :: ds => d + 10 * ofRev ds

theorem ofRev_revDigits : ∀ (f n : Nat), n < f → ofRev (revDigits f n) = n := by
  intro f
  induction f with
  | zero => intro n h; omega
  | succ f ih =>
    intro n h
    simp only [revDigits]
    split
    · simp [ofRev]
    · simp only [ofRev]
      rw [ih (n / 10) (by omega)]
      omega

theorem revDigits_lt : ∀ (f n : Nat), ∀ d ∈ revDigits f n, d < 10 := by
  intro f
  induction f with
  | zero => intro n d h; simp [revDigits] at h
  | succ f ih =>
    intro n d h
    simp only [revDigits] at h
    split at h
    · simp at h; omega
    · simp at h
      rcases h with h | h
      · omega
      · exact ih _ _ h

theorem revDigits_ne_nil (f n : Nat) : revDigits (f + 1) n ≠ [] := by
  simp only [revDigits]; split <;> simp

/-- the ASCII digit that `decDigits` writes for `d` -/
def digitByte (d : Nat) : UInt8 := 0x30 + d.toUInt8

theorem digitByte_facts : ∀ d, d < 10 →
    (digitByte d).toNat - 0x30 = d ∧ isDigit (digitByte d) = true ∧ escapeByte (digitByte d) = [digitByte d] ∧
      digitByte d ≠ 0x2b := by
  decide +kernel

theorem decDigits_eq (n : Nat) : decDigits n = ((revDigits (n + 1) n).reverse).map digitByte := rfl

theorem digitsVal_rev (l : List Nat) (h : ∀ d ∈ l, d < 10) :
    digitsVal ((l.reverse).map digitByte) = ofRev l := by
  induction l with
  | nil => simp [digitsVal, ofRev]
  | cons d ds ih =>
    have hd := (digitByte_facts d (h d (by simp))).1
    have := ih (fun x hx => h x (by simp [hx]))
    simp only [digitsVal] at this ⊢
    simp only [List.reverse_cons, List.map_append, List.foldl_append, List.map_cons, List.map_nil, List.foldl_cons,
      List.foldl_nil, this, hd, ofRev]
    omega

theorem digitsVal_decDigits (n : Nat) : digitsVal (decDigits n) = n := by
  rw [decDigits_eq, digitsVal_rev _ (revDigits_lt _ _), ofRev_revDigits _ _ (by omega)]

theorem decDigits_mem (n : Nat) : ∀ b ∈ decDigits n, isDigit b = true ∧ escapeByte b = [b] ∧ b ≠ 0x2b := by
  intro b hb
  rw [decDigits_eq] at hb
  simp only [List.mem_map, List.mem_reverse] at hb
  obtain ⟨d, hd, rfl⟩ := hb
  exact (digitByte_facts d (revDigits_lt _ _ d hd)).2

theorem decDigits_ne_nil (n : Nat) : decDigits n ≠ [] := by
  rw [decDigits_eq]
  simp [revDigits_ne_nil]

theorem parseU128_decDigits (n : Nat) (h : n < 2 ^ 128) : parseU128 (decDigits n) = some n := by
  have hne := decDigits_ne_nil n
  have hm := decDigits_mem n
  have hall : (decDigits n).all isDigit = true := by
    simp only [List.all_eq_true]; intro b hb; exact (hm b hb).1
  unfold parseU128
  cases hd : decDigits n with
  | nil => exact absurd hd hne
  | cons b r =>
    have hb : b ≠ 0x2b := (hm b (by simp [hd])).2.2
    simp only [if_neg hb]
    rw [← hd, hall, digitsVal_decDigits]
    simp [h, hd]

/-- digits need no escaping: a decimal token is a string token -/
theorem escape_decDigits (n : Nat) : escape (decDigits n) = decDigits n :=
  escape_id _ fun b hb => (decDigits_mem n b hb).2.1

theorem skipWs_cons (b : UInt8) (r : Bytes) (h : isWs b = false) : skipWs (b :: r) = b :: r := by
  simp [skipWs, h]

theorem parseAmountValue_amountTok (n : Nat) (rest : Bytes) (h : n < 2 ^ 128) :
    parseAmountValue (amountTok n ++ rest) = .ok (n, rest) := by
  have h1 := parseStrBytes_escape (decDigits n) rest
  rw [escape_decDigits] at h1
  simp [parseAmountValue, amountTok, skipWs_cons, isWs, h1, parseU128_decDigits n h]

theorem parseStringValue_key (k : String) (rest : Bytes) :
    parseStringValue (0x22 :: (escape (strBytes k) ++ 0x22 :: rest)) = .ok (k, rest) := by
  simp [parseStringValue, skipWs_cons, isWs, parseStrTok_encStr]

theorem parseStringValue_encStr (s : String) (rest : Bytes) :
    parseStringValue (encStr s ++ rest) = .ok (s, rest) := by
  simpa [encStr] using parseStringValue_key s rest

theorem parseOptStringValue_encStr (s : String) (rest : Bytes) :
    parseOptStringValue (encStr s ++ rest) = .ok (some s, rest) := by
  have := parseStringValue_encStr s rest
  simp only [encStr, List.cons_append, List.append_assoc, List.nil_append] at this
  simp only [parseOptStringValue, encStr, List.cons_append, List.append_assoc, List.nil_append]
  rw [skipWs_cons _ _ (by decide)]
  simp [this]

theorem nextKey_first (r : Bytes) : nextKey true (0x22 :: r) = .ok (some r, []) := by
  simp [nextKey, keyAt, skipWs_cons, isWs]

theorem nextKey_comma (r : Bytes) : nextKey false (0x2c :: 0x22 :: r) = .ok (some r, []) := by
  simp [nextKey, keyAt, skipWs_cons, isWs]

theorem nextKey_end (first : Bool) (r : Bytes) : nextKey first (0x7d :: r) = .ok (none, 0x7d :: r) := by
  simp [nextKey, skipWs_cons, isWs]

theorem parseColon_colon (r : Bytes) : parseColon (0x3a :: r) = .ok r := by
  simp [parseColon, skipWs_cons, isWs]

theorem field_append (key val rest : Bytes) : field key val ++ rest = field key (val ++ rest) := by
  simp [field]

/-- a field whose key is the string `k`, at the start of the object: the loop is at the value -/
theorem parseFields_first (f d : Nat) (acc : Acc) (k : String) (val : Bytes) :
    parseFields (f + 1) d true acc (field (escape (strBytes k)) val) =
      match fieldValue f d acc k val with
      | .error e => .error e
      | .ok (acc', rest) => parseFields f d false acc' rest := by
  simp only [field]
  rw [parseFields, nextKey_first]
  simp only [parseStrTok_encStr, parseColon_colon]
  rfl

/-- … after a comma -/
theorem parseFields_next (f d : Nat) (acc : Acc) (k : String) (val : Bytes) :
    parseFields (f + 1) d false acc (0x2c :: field (escape (strBytes k)) val) =
      match fieldValue f d acc k val with
      | .error e => .error e
      | .ok (acc', rest) => parseFields f d false acc' rest := by
  simp only [field]
  rw [parseFields, nextKey_comma]
  simp only [parseStrTok_encStr, parseColon_colon]
  rfl

theorem parseFields_end (f d : Nat) (first : Bool) (acc : Acc) (rest : Bytes) :
    parseFields (f + 1) d first acc (0x7d :: rest) = .ok (acc, 0x7d :: rest) := by
  rw [parseFields, nextKey_end]

theorem keys_escape :
    keyAmount = escape (strBytes "amount") ∧ keyDenom = escape (strBytes "denom") ∧
    keyReceiver = escape (strBytes "receiver") ∧ keySender = escape (strBytes "sender") ∧
    keyMemo = escape (strBytes "memo") ∧ keyResult = escape (strBytes "result") ∧
    keyError = escape (strBytes "error") := by decide +kernel

theorem strBytes_append (s t : String) : strBytes (s ++ t) = strBytes s ++ strBytes t := by
  simp [strBytes, String.toUTF8, String.toByteArray_append]

theorem strBytes_singleton (c : Char) : strBytes (String.singleton c) = String.utf8EncodeChar c := by
  simp [strBytes, String.toUTF8, String.toByteArray_singleton, List.utf8Encode_singleton]

/-- valid UTF-8, said with a witness: then `strBytes (bytesToString bs) = bs` (`strBytes_bytesToString`) -/
def IsText (bs : Bytes) : Prop := ∃ s : String, strBytes s = bs

theorem IsText.append {a b : Bytes} (ha : IsText a) (hb : IsText b) : IsText (a ++ b) := by
  obtain ⟨s, rfl⟩ := ha; obtain ⟨t, rfl⟩ := hb
  exact ⟨s ++ t, strBytes_append s t⟩

theorem IsText.nil : IsText [] := ⟨"", by decide⟩

/-- the witness of `IsText` for bytes below 0x80: one character per byte -/
def asciiStr (bs : Bytes) : String := String.ofList (bs.map fun x => Char.ofNat x.toNat)

theorem utf8EncodeChar_ascii : ∀ b : UInt8, b < 0x80 → String.utf8EncodeChar (Char.ofNat b.toNat) = [b] := by
  apply forall_uint8; decide +kernel

theorem strBytes_asciiStr (l : Bytes) (h : ∀ b ∈ l, b < 0x80) : strBytes (asciiStr l) = l := by
  rw [asciiStr, strBytes_ofList]
  induction l with
  | nil => rfl
  | cons b r ih =>
    rw [List.map_cons, List.flatMap_cons, utf8EncodeChar_ascii b (h b (by simp)), ih fun x hx => h x (by simp [hx])]
    rfl

theorem isText_ascii (l : Bytes) (h : ∀ b ∈ l, b < 0x80) : IsText l := ⟨asciiStr l, strBytes_asciiStr l h⟩

theorem IsText.cons {b : UInt8} {l : Bytes} (hb : b < 0x80) (h : IsText l) : IsText (b :: l) :=
  IsText.append (a := [b]) (isText_ascii [b] (by simpa using hb)) h

theorem le_or_of_le (x c : UInt8) (h : 0x80 ≤ c) : 0x80 ≤ x ||| c := by
  rw [UInt8.le_iff_toNat_le] at *
  rw [UInt8.toNat_or]
  exact Nat.le_trans h Nat.right_le_or

/-- every byte of a character that takes more than one byte has its top bit set -/
theorem utf8EncodeChar_high (c : Char) (h : c.utf8Size ≠ 1) : ∀ x ∈ String.utf8EncodeChar c, 0x80 ≤ x := by
  rcases c.utf8Size_eq with h1 | h2 | h3 | h4
  · exact absurd h1 h
  · simp only [String.utf8EncodeChar_eq_cons_cons h2, List.forall_mem_cons]
    exact ⟨le_or_of_le _ _ (by decide), le_or_of_le _ _ (by decide), nofun⟩
  · simp only [String.utf8EncodeChar_eq_cons_cons_cons h3, List.forall_mem_cons]
    exact ⟨le_or_of_le _ _ (by decide), le_or_of_le _ _ (by decide), le_or_of_le _ _ (by decide), nofun⟩
  · simp only [String.utf8EncodeChar_eq_cons_cons_cons_cons h4, List.forall_mem_cons]
    exact ⟨le_or_of_le _ _ (by decide), le_or_of_le _ _ (by decide), le_or_of_le _ _ (by decide),
      le_or_of_le _ _ (by decide), nofun⟩

/-- a one-byte character is escaped by bytes below 0x80, any other stands for itself -/
theorem isText_escape_char (c : Char) : IsText (escape (String.utf8EncodeChar c)) := by
  by_cases h : c.utf8Size = 1
  · rw [String.utf8EncodeChar_eq_singleton h]
    have hlt : c.val.toUInt8 < 0x80 := by
      have : c.val.toNat ≤ 127 := by simpa [UInt32.le_iff_toNat_le] using (Char.utf8Size_eq_one_iff).1 h
      rw [UInt8.lt_iff_toNat_lt, UInt32.toNat_toUInt8]
      have : (128 : UInt8).toNat = 128 := rfl
      omega
    rw [escape_cons]
    exact IsText.append (isText_ascii _ (escapeByte_ascii hlt)) IsText.nil
  · rw [escape_id _ fun x hx => escapeByte_high (utf8EncodeChar_high c h x hx)]
    exact ⟨String.singleton c, strBytes_singleton c⟩

theorem isText_escape (s : String) : IsText (escape (strBytes s)) := by
  rw [← String.ofList_toList (s := s), strBytes_ofList]
  generalize s.toList = l
  induction l with
  | nil => exact IsText.nil
  | cons c r ih =>
    rw [List.flatMap_cons, escape_append]
    exact IsText.append (isText_escape_char c) ih

theorem isText_encStr (s : String) : IsText (encStr s) :=
  .cons (by decide) (.append (isText_escape s) (isText_ascii _ (by decide)))

theorem isDigit_lt (b : UInt8) (h : isDigit b = true) : b < 0x80 := by
  simp only [isDigit, Bool.and_eq_true, decide_eq_true_eq] at h
  exact UInt8.lt_of_le_of_lt h.2 (by decide)

theorem isText_decDigits (n : Nat) : IsText (decDigits n) :=
  isText_ascii _ fun b hb => isDigit_lt b (decDigits_mem n b hb).1

theorem isText_amountTok (n : Nat) : IsText (amountTok n) :=
  .cons (by decide) (.append (isText_decDigits n) (isText_ascii _ (by decide)))

theorem isText_field (key val : Bytes) (hk : ∀ b ∈ key, b < 0x80) (hv : IsText val) : IsText (field key val) :=
  .cons (by decide) (.append (isText_ascii _ hk) (.cons (by decide) (.cons (by decide) hv)))

theorem isText_close : IsText [0x7d] := isText_ascii _ (by decide)

theorem isText_encodePacketBytes (p : Packet) : IsText (encodePacketBytes p) := by
  refine .cons (by decide) (.append (isText_field _ _ (by decide) (isText_amountTok _)) (.cons (by decide)
    (.append (isText_field _ _ (by decide) (isText_encStr _)) (.cons (by decide)
      (.append (isText_field _ _ (by decide) (isText_encStr _)) (.cons (by decide)
        (.append (isText_field _ _ (by decide) (isText_encStr _)) (.append ?_ isText_close))))))))
  cases p.memo with
  | none => exact IsText.nil
  | some m => exact .cons (by decide) (isText_field _ _ (by decide) (isText_encStr m))

theorem isText_encodeAckBytes (a : Ack) : IsText (encodeAckBytes a) := by
  cases a with
  | success => exact isText_ascii _ (by decide)
  | error t => exact .cons (by decide) (.append (isText_field _ _ (by decide) (isText_encStr t)) isText_close)

theorem strBytes_of_strOfBytes {bs : Bytes} {s : String} (h : strOfBytes bs = some s) : strBytes s = bs := by
  simp only [strOfBytes, String.fromUTF8?] at h
  split at h
  · injection h with h; subst h; simp [strBytes, String.toUTF8, String.fromUTF8]
  · simp at h

theorem bytesToString_strBytes (s : String) : bytesToString (strBytes s) = s := by
  simp [bytesToString, strOfBytes_strBytes]

theorem bytesToString_eq {bs : Bytes} {s : String} (h : bs = strBytes s) : bytesToString bs = s :=
  h ▸ bytesToString_strBytes s

theorem map_bytesToString_eq {l : List Bytes} {ts : List String} (h : l = ts.map strBytes) :
    l.map bytesToString = ts := by
  subst h
  simp [Function.comp_def, bytesToString_strBytes]

theorem map_bytesToString_some {o : Option Bytes} {t : String} (h : o = some (strBytes t)) :
    o.map bytesToString = some t := by
  subst h
  exact congrArg some (bytesToString_strBytes t)

theorem strBytes_bytesToString {bs : Bytes} (h : IsText bs) : strBytes (bytesToString bs) = bs := by
  obtain ⟨s, rfl⟩ := h
  rw [bytesToString_strBytes]

end CwPlus.Json
