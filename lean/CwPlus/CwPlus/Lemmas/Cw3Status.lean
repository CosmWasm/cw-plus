import CwPlus.Props.C04
import CwPlus.Lemmas.Cw3Core
/-!
# Status of a proposal versus the documented rule, generically for both multisigs

Helper lemmas for C03 / C05 (both cw3-fixed and cw3-flex), on top of the arithmetic theorems of
`Props/C04.lean` and the shared core (`Lemmas/Cw3Core.lean`):

* `exact_outcome9`, `exact_outcome18` — what `current_status` of an Open-stored tally means in exact
  arithmetic (for-all-completions reading), inside the premise of C04;
* `CoreStep`, `PropStep`, `coreStep_prop` — one operation of the core seen from one proposal: it is
  untouched, created, voted on, executed or closed;
* per-proposal invariants preserved by every operation: `OpenOk` (a vote stores an early decision at
  once), `DecidedOk` (a stored Passed / Rejected is backed by the recorded tally now and at every later
  block; conditional on the premise of C04 for that tally), `FrozenOk` (after expiry only Execute and
  Close can change anything);
* the operation that first stores a Passed / Rejected does so on `current_status` of the record at its own block.

The predicates of `Props/C04.lean` (`Premise`, `later`, `cast`, `plus`) are the vocabulary here, hence the import.
-/
namespace CwPlus.Cw3Core
open CwPlus CwPlus.Cw3 CwPlus.Props

/-! ## the documented rule, for every completion of the outstanding votes -/

/-- "Certain to satisfy `rule`": once expired the recorded tally satisfies it; before expiry every
completion `c` of the outstanding votes (any further yes/no/abstain/veto weights keeping the tally
within the total weight) does. -/
def CertainBy (rule : Threshold → Nat → Votes → Bool) (thr : Threshold) (total : Nat) (v : Votes) (expired : Bool) : Prop :=
  (expired = true → rule thr total v = true) ∧
  (expired = false → ∀ c : Votes, C04.cast (C04.plus v c) ≤ total → rule thr total (C04.plus v c) = true)

/-- "Expired without satisfying `rule`, or can no longer satisfy it": once expired the recorded tally
fails it; before expiry every completion of the outstanding votes fails it. -/
def HopelessBy (rule : Threshold → Nat → Votes → Bool) (thr : Threshold) (total : Nat) (v : Votes) (expired : Bool) : Prop :=
  (expired = true ∧ rule thr total v = false) ∨
  (expired = false ∧ ∀ c : Votes, C04.cast (C04.plus v c) ≤ total → rule thr total (C04.plus v c) = false)

/-- the library's `is_passed` is true exactly when the library's own final rule is certain -/
theorem isPassed_iff_certain_lib {t : Tally} (h : C04.Premise t) (blk : Block) :
    Cw3.isPassed t blk = .ok true ↔
      CertainBy C04.libPasses t.threshold t.totalWeight t.votes (t.expires.isExpired blk) := by
  cases he : t.expires.isExpired blk with
  | true =>
    rw [C04.expired_decision_eq_formula h he]
    constructor
    · intro hp; exact ⟨fun _ => Except.ok.inj hp, fun hf => by cases hf⟩
    · intro hc; exact congrArg _ (hc.1 rfl)
  | false =>
    constructor
    · intro hp; exact ⟨fun hf => (by cases hf), fun _ c hc => C04.passed_sound h he hp c hc⟩
    · intro hc; exact C04.passed_complete h he (hc.2 rfl)

/-- Certainty carries over along an implication between two rules that holds for every tally within the total. -/
theorem CertainBy.imp {r r' : Threshold → Nat → Votes → Bool} {thr : Threshold} {total : Nat} {v : Votes} {e : Bool}
    (h : ∀ u, C04.cast u ≤ total → r thr total u = true → r' thr total u = true) (hv : C04.cast v ≤ total)
    (hc : CertainBy r thr total v e) : CertainBy r' thr total v e :=
  ⟨fun he => h v hv (hc.1 he), fun he c hcc => h _ hcc (hc.2 he c hcc)⟩

/-- 9-decimal thresholds: `is_passed` is true exactly when the EXACT documented rule is certain -/
theorem isPassed_iff_certain9 {t : Tally} (h : C04.Premise t) (h9 : C04.nineDecimals t.threshold) (blk : Block) :
    Cw3.isPassed t blk = .ok true ↔
      CertainBy C04.exactPasses t.threshold t.totalWeight t.votes (t.expires.isExpired blk) := by
  rw [isPassed_iff_certain_lib h blk]
  have e := fun u hu => C04.libPasses_eq_exact9 (v := u) h.valid hu h.total_u64 h9
  exact ⟨CertainBy.imp (fun u hu hl => (e u hu).symm.trans hl) h.tally_le,
    CertainBy.imp (fun u hu hx => (e u hu).trans hx) h.tally_le⟩

/-- 18-digit thresholds: never stricter than the exact rule, at most one vote more permissive -/
theorem isPassed_certain18 {t : Tally} (h : C04.Premise t) (blk : Block) :
    (CertainBy C04.exactPasses t.threshold t.totalWeight t.votes (t.expires.isExpired blk) → Cw3.isPassed t blk = .ok true) ∧
    (Cw3.isPassed t blk = .ok true → CertainBy C04.laxPasses t.threshold t.totalWeight t.votes (t.expires.isExpired blk)) := by
  rw [isPassed_iff_certain_lib h blk]
  have e := fun u hu => C04.libPasses_within_one (v := u) h.valid hu h.total_u64
  exact ⟨CertainBy.imp (fun u hu => (e u hu).1) h.tally_le, CertainBy.imp (fun u hu => (e u hu).2) h.tally_le⟩

/-- a reported Rejected (stored Open) means: expired without passing, or no completion can pass —
against the library's rule and against the exact rule -/
theorem rejected_hopeless {t : Tally} (ho : t.status = .open) (h : C04.Premise t) {blk : Block}
    (hs : Cw3.currentStatus t blk = .ok .rejected) :
    HopelessBy C04.libPasses t.threshold t.totalWeight t.votes (t.expires.isExpired blk) ∧
    HopelessBy C04.exactPasses t.threshold t.totalWeight t.votes (t.expires.isExpired blk) := by
  obtain ⟨hp, hr⟩ := (C04.cs_open_rejected_iff h ho blk).mp hs
  cases he : t.expires.isExpired blk with
  | true =>
    rw [he] at hp
    exact ⟨Or.inl ⟨rfl, hp⟩, Or.inl ⟨rfl, C04.exact_false_of_lib_false h.valid h.tally_le h.total_u64 hp⟩⟩
  | false =>
    rw [he, Bool.or_false] at hr
    have hl := C04.libRejectsAt_open_completion h.valid h.total_u64 hr
    exact ⟨Or.inr ⟨rfl, hl⟩, Or.inr ⟨rfl, fun c hc => C04.exact_false_of_lib_false h.valid hc h.total_u64 (hl c hc)⟩⟩

theorem open_status_cases {t : Tally} (ho : t.status = .open) (h : C04.Premise t) (blk : Block) :
    ∃ st, Cw3.currentStatus t blk = .ok st ∧ (st = .open ∨ st = .passed ∨ st = .rejected) ∧
      (st = .passed ↔ Cw3.isPassed t blk = .ok true) ∧ (st = .open → t.expires.isExpired blk = false) := by
  obtain ⟨st, hst⟩ := (C04.no_panic h blk).2.2
  refine ⟨st, hst, ?_⟩
  rcases cs_of_open ho hst with ⟨hp, rfl⟩ | ⟨hp, rej, hr, ⟨hre, rfl⟩ | ⟨⟨_, hne⟩, rfl⟩⟩
  · exact ⟨Or.inr (Or.inl rfl), ⟨fun _ => hp, fun _ => rfl⟩, fun hx => by cases hx⟩
  · refine ⟨Or.inr (Or.inr rfl), ⟨fun hx => (by cases hx), fun hx => ?_⟩, fun hx => by cases hx⟩
    rw [hp] at hx; cases hx
  · refine ⟨Or.inl rfl, ⟨fun hx => (by cases hx), fun hx => ?_⟩, fun _ => hne⟩
    rw [hp] at hx; cases hx

/-- **Status = the exact documented rule (thresholds with at most 9 decimals).**  Inside the premise
of C04 the status computed for an Open-stored tally at block `blk` is
* Passed exactly when the Yes weight is positive and the count / percentage / quorum rule holds in
  exact cross-multiplied integer arithmetic for every completion of the outstanding votes (after
  expiry: for the recorded tally itself);
* Rejected only if it expired without passing or no completion can pass;
* Open otherwise, and only before expiry. -/
theorem exact_outcome9 {t : Tally} (ho : t.status = .open) (h : C04.Premise t) (h9 : C04.nineDecimals t.threshold)
    (blk : Block) :
    ∃ st, Cw3.currentStatus t blk = .ok st ∧
      (st = .passed ↔ 0 < t.votes.yes ∧
        CertainBy C04.exactPasses t.threshold t.totalWeight t.votes (t.expires.isExpired blk)) ∧
      (st = .rejected → HopelessBy C04.exactPasses t.threshold t.totalWeight t.votes (t.expires.isExpired blk)) ∧
      (st = .open → t.expires.isExpired blk = false) ∧
      (st = .open ∨ st = .passed ∨ st = .rejected) := by
  obtain ⟨st, hst, htri, hpass, hopen⟩ := open_status_cases ho h blk
  refine ⟨st, hst, ?_, ?_, hopen, htri⟩
  · rw [hpass]
    constructor
    · intro hp; exact ⟨C04.passed_needs_yes hp, (isPassed_iff_certain9 h h9 blk).mp hp⟩
    · intro hc; exact (isPassed_iff_certain9 h h9 blk).mpr hc.2
  · intro hr; subst hr; exact (rejected_hopeless ho h hst).2

/-- **Status versus the exact rule, thresholds with up to 18 digits**: the library floors once before
taking the ceiling, so the reported status is never stricter than the exact rule and at most one vote
more permissive: exact-certain ⇒ Passed ⇒ certain with one vote of slack on every percentage
requirement; a Rejected still excludes every completion in exact arithmetic. -/
theorem exact_outcome18 {t : Tally} (ho : t.status = .open) (h : C04.Premise t) (blk : Block) :
    ∃ st, Cw3.currentStatus t blk = .ok st ∧
      (CertainBy C04.exactPasses t.threshold t.totalWeight t.votes (t.expires.isExpired blk) → st = .passed) ∧
      (st = .passed → 0 < t.votes.yes ∧
        CertainBy C04.laxPasses t.threshold t.totalWeight t.votes (t.expires.isExpired blk)) ∧
      (st = .rejected → HopelessBy C04.exactPasses t.threshold t.totalWeight t.votes (t.expires.isExpired blk)) ∧
      (st = .open → t.expires.isExpired blk = false) ∧
      (st = .open ∨ st = .passed ∨ st = .rejected) := by
  obtain ⟨st, hst, htri, hpass, hopen⟩ := open_status_cases ho h blk
  refine ⟨st, hst, ?_, ?_, ?_, hopen, htri⟩
  · intro hc; exact hpass.mpr ((isPassed_certain18 h blk).1 hc)
  · intro hs
    have hp := hpass.mp hs
    exact ⟨C04.passed_needs_yes hp, (isPassed_certain18 h blk).2 hp⟩
  · intro hr; subst hr; exact (rejected_hopeless ho h hst).2

/-! ## one operation of the core, seen from one proposal -/

/-- One successful operation of the shared core at block `b` (what every successful handler call of
cw3-fixed and of cw3-flex is; `same` = a handler that does not touch the core). -/
inductive CoreStep (b : Block) (c c' : Core) : Prop
  | propose (snd : Addr) (w : Nat) (thr : Threshold) (total : Nat) (maxP : Duration) (t d : String) (msgs : List Msg)
      (latest : Option Expiration) (dep : Option Deposit) (id : Nat) :
      Cw3Core.propose c b snd w thr total maxP t d msgs latest dep = .ok (c', id) → CoreStep b c c'
  | vote (snd : Addr) (id : Nat) (v : Vote) (weight : Proposal → Option Nat) :
      Cw3Core.vote c b snd id v weight = .ok c' → CoreStep b c c'
  | execute (id : Nat) (auth : Bool) (out : List Msg) : Cw3Core.execute c b id auth = .ok (c', out) → CoreStep b c c'
  | close (id : Nat) : Cw3Core.close c b id = .ok c' → CoreStep b c c'
  | same : c' = c → CoreStep b c c'

theorem coreStep_wf {b : Block} {c c' : Core} (hw : WF c) (h : CoreStep b c c') : WF c' := by
  cases h with
  | propose _ _ _ _ _ _ _ _ _ _ _ h => exact propose_wf hw h
  | vote _ _ _ _ h => exact vote_wf hw h
  | execute _ _ _ h => exact execute_wf hw h
  | close _ h => exact close_wf hw h
  | same h => exact h ▸ hw

theorem coreStep_later {b : Block} {c c' : Core} (hw : WF c) (h : CoreStep b c c') : Later c c' := by
  cases h with
  | propose _ _ _ _ _ _ _ _ _ _ _ h => exact propose_later hw h
  | vote _ _ _ _ h => exact vote_later h
  | execute _ _ _ h => exact execute_later h
  | close _ h => exact close_later hw h
  | same h => exact h ▸ later_refl c

/-- What one operation at block `b` does to one proposal slot: nothing; creation (status = the
decision on the proposer's own Yes); a vote before expiry on a votable proposal (tally grows, status
recomputed); Execute of a proposal whose current status is Passed; Close of an Open-stored, expired
proposal whose current status is not Passed. -/
inductive PropStep (b : Block) : Option Proposal → Proposal → Prop
  | same (p : Proposal) : PropStep b (some p) p
  | created (p : Proposal) (st : Status) : p.status = .open → p.currentStatus b = .ok st →
      PropStep b none { p with status := st }
  | voted (p : Proposal) (v : Vote) (w : Nat) (votes : Votes) (st : Status) :
      votable p.status = true → p.expires.isExpired b = false → p.votes.add v w = .ok votes →
      Proposal.currentStatus { p with votes := votes } b = .ok st →
      PropStep b (some p) { p with votes := votes, status := st }
  | executed (p : Proposal) : p.currentStatus b = .ok .passed → PropStep b (some p) { p with status := .executed }
  | closed (p : Proposal) (st : Status) : p.status = .open → p.currentStatus b = .ok st → st ≠ .passed →
      p.expires.isExpired b = true → PropStep b (some p) { p with status := .rejected }

theorem coreStep_prop {b : Block} {c c' : Core} (hw : WF c) (h : CoreStep b c c') {id : Nat} {p' : Proposal}
    (hp' : c'.proposals.get? id = some p') : PropStep b (c.proposals.get? id) p' := by
  cases h with
  | propose snd w thr total maxP t d msgs latest dep id0 h =>
    obtain ⟨expires, st, _, hst, hid, _, rfl⟩ := propose_ok h
    rcases AMap.get?_set_some hp' with ⟨rfl, rfl⟩ | ⟨_, hp'⟩
    · rw [hw.fresh (by omega)]; exact PropStep.created _ st rfl hst
    · rw [hp']; exact PropStep.same p'
  | vote snd id0 v weight h =>
    obtain ⟨p, w, votes, st, hp, hvot, hne, _, _, _, hadd, hst, rfl⟩ := vote_ok h
    rcases AMap.get?_set_some hp' with ⟨rfl, rfl⟩ | ⟨_, hp'⟩
    · rw [hp]; exact PropStep.voted p v w votes st hvot hne hadd hst
    · rw [hp']; exact PropStep.same p'
  | execute id0 auth out h =>
    obtain ⟨p, hp, hst, _, _, rfl⟩ := execute_ok h
    rcases AMap.get?_set_some hp' with ⟨rfl, rfl⟩ | ⟨_, hp'⟩
    · rw [hp]; exact PropStep.executed p hst
    · rw [hp']; exact PropStep.same p'
  | close id0 h =>
    obtain ⟨p, st, hp, h1, h2, h3, hst, hne, hexp, rfl⟩ := close_ok h
    rcases AMap.get?_set_some hp' with ⟨rfl, rfl⟩ | ⟨_, hp'⟩
    · rw [hp]
      exact PropStep.closed p st (status_eq_open (hw.notPending _ p hp) h1 h2 h3) hst hne hexp
    · rw [hp']; exact PropStep.same p'
  | same h => subst h; rw [hp']; exact PropStep.same p'

/-- A predicate on (id, proposal) that holds for every stored proposal. -/
def AllP (Q : Nat → Proposal → Prop) (c : Core) : Prop := ∀ id p, c.proposals.get? id = some p → Q id p

theorem allP_step {Q : Nat → Proposal → Prop} {b : Block} {c c' : Core} (hw : WF c)
    (hstep : ∀ id o p', (∀ p, o = some p → Q id p) → PropStep b o p' → Q id p')
    (ha : AllP Q c) (h : CoreStep b c c') : AllP Q c' :=
  fun id p' hp' => hstep id _ p' (fun p hp => ha id p hp) (coreStep_prop hw h hp')

theorem allP_empty (Q : Nat → Proposal → Prop) : AllP Q Core.empty := by
  intro id p hp; simp [Core.empty] at hp

/-! ## per-proposal invariants -/

/-- A vote that decides a proposal early stores the decision at once: a proposal stored Open and not
yet expired at `b` is reported Open at `b`. -/
def OpenOk (b : Block) (p : Proposal) : Prop :=
  p.status = .open → p.expires.isExpired b = false → p.currentStatus b = .ok .open

/-- The library decision depends on the block only through "has the proposal expired". -/
theorem cs_congr {t : Tally} {b b' : Block} (h : t.expires.isExpired b = t.expires.isExpired b') :
    Cw3.currentStatus t b = Cw3.currentStatus t b' := by
  have h1 : Cw3.isPassed t b = Cw3.isPassed t b' := by simp only [Cw3.isPassed, h]
  have h2 : Cw3.isRejected t b = Cw3.isRejected t b' := by simp only [Cw3.isRejected, h]
  simp only [Cw3.currentStatus, h, h1, h2]

theorem expired_status {t : Tally} {b : Block} {st : Status} (ho : t.status = .open) (he : t.expires.isExpired b = true)
    (hst : Cw3.currentStatus t b = .ok st) : st = .passed ∨ st = .rejected := by
  rcases cs_of_open ho hst with ⟨_, rfl⟩ | ⟨_, rej, _, ⟨_, rfl⟩ | ⟨⟨_, hne⟩, rfl⟩⟩
  · exact Or.inl rfl
  · exact Or.inr rfl
  · rw [he] at hne; cases hne

/-- What Close stores: an Open-stored, expired proposal whose current status is not Passed is reported Rejected. -/
theorem closed_rejected {p : Proposal} {b : Block} {st : Status} (ho : p.status = .open) (hst : p.currentStatus b = .ok st)
    (hne : st ≠ .passed) (hexp : p.expires.isExpired b = true) : st = .rejected :=
  (expired_status (t := p.tally) ho hexp hst).resolve_left hne

theorem cs_open_any_block {t : Tally} {b0 b : Block} (ho : t.status = .open) (h0 : Cw3.currentStatus t b0 = .ok .open)
    (hne : t.expires.isExpired b = false) : Cw3.currentStatus t b = .ok .open := by
  have hne0 : t.expires.isExpired b0 = false := by
    cases he : t.expires.isExpired b0 with
    | false => rfl
    | true => rcases expired_status ho he h0 with e | e <;> cases e
  rw [← h0]; exact cs_congr (by rw [hne, hne0])

/-- One operation at block `b0` keeps `OpenOk` at ANY block `b` (the blocks need not be ordered): the library decision
depends on the block only through expiry, and a proposal is stored Open only by an operation that found it undecided
and not expired. -/
theorem openOk_propStep {b0 b : Block} {o : Option Proposal} {p' : Proposal} (hold : ∀ p, o = some p → OpenOk b p)
    (h : PropStep b0 o p') : OpenOk b p' := by
  cases h with
  | same _ => exact hold _ rfl
  | created p st ho hst =>
    intro ho' hne
    have : st = .open := ho'
    subst this
    have e : ({ p with status := Status.open } : Proposal) = p := by cases p; simp_all
    rw [e] at hne ⊢
    exact cs_open_any_block (t := p.tally) (by simp [Proposal.tally, ho]) hst (by simpa [Proposal.tally] using hne)
  | voted p v w votes st hvot hne0 hadd hst =>
    intro ho' hne
    have : st = .open := ho'
    subst this
    by_cases h0 : p.status = .open
    · have e : ({ p with votes := votes, status := Status.open } : Proposal) = { p with votes := votes } := by
        cases p; simp_all
      rw [e] at hne ⊢
      exact cs_open_any_block (t := Proposal.tally { p with votes := votes }) (by simp [Proposal.tally, h0]) hst
        (by simpa [Proposal.tally] using hne)
    · exact absurd (stored_of_ne_open (p := { p with votes := votes }) h0 hst).symm h0
  | executed p _ => intro ho'; cases ho'
  | closed p st _ _ _ _ => intro ho'; cases ho'

theorem openOk_all_step {b0 : Block} {o : Option Proposal} {p' : Proposal} (hold : ∀ p, o = some p → ∀ b, OpenOk b p)
    (h : PropStep b0 o p') : ∀ b, OpenOk b p' :=
  fun b => openOk_propStep (fun p hp => hold p hp b) h

/-- the decision-relevant part of a proposal with the stored status forgotten; it is `p.tally` while `p` is stored
Open (`tally_eq_openT`) and `C03.ballotTally p bs` when `p.votes` is the sum of the ballots `bs` (`C03.ballotTally_eq_openT`) -/
def openT (p : Proposal) : Tally := ⟨.open, p.threshold, p.totalWeight, p.votes, p.expires⟩

theorem tally_eq_openT {p : Proposal} (ho : p.status = .open) : p.tally = openT p := by
  simp [Proposal.tally, openT, ho]

theorem cs_openT {p : Proposal} {b : Block} {st : Status} (ho : p.status = .open) (hst : p.currentStatus b = .ok st) :
    Cw3.currentStatus (openT p) b = .ok st := by
  rw [← tally_eq_openT ho]; exact hst

/-- The recorded tally passes the library decision at `b` and at every later block. -/
def PassedFrom (b : Block) (p : Proposal) : Prop :=
  ∀ b', C04.later b b' → Cw3.isPassed (openT p) b' = .ok true

/-- The recorded tally is decided Rejected at `b` and at every later block. -/
def RejectedFrom (b : Block) (p : Proposal) : Prop :=
  ∀ b', C04.later b b' → Cw3.currentStatus (openT p) b' = .ok .rejected

/-- A stored Passed / Rejected is backed by the recorded tally now and at every later block —
provided the tally is inside the premise of C04 (always for cw3-fixed; for cw3-flex outside the
known same-block finding). -/
def DecidedOk (b : Block) (p : Proposal) : Prop :=
  C04.Premise (openT p) → (p.status = .passed → PassedFrom b p) ∧ (p.status = .rejected → RejectedFrom b p)

theorem later_refl_blk (b : Block) : C04.later b b := ⟨Nat.le_refl _, Nat.le_refl _⟩
theorem later_trans_blk {a b c : Block} (h1 : C04.later a b) (h2 : C04.later b c) : C04.later a c :=
  ⟨Nat.le_trans h1.1 h2.1, Nat.le_trans h1.2 h2.2⟩

theorem decidedOk_mono {b b2 : Block} {p : Proposal} (hb : C04.later b b2) (h : DecidedOk b p) : DecidedOk b2 p :=
  fun hp => ⟨fun hs b' hb' => (h hp).1 hs b' (later_trans_blk hb hb'), fun hs b' hb' => (h hp).2 hs b' (later_trans_blk hb hb')⟩

theorem isPassed_openT (p : Proposal) (b : Block) : Cw3.isPassed (openT p) b = Cw3.isPassed p.tally b := rfl

/-- A status that `current_status` computes from the recorded tally at `b` is backed by that tally from `b` on
(C04 `passed_stable`, `rejected_stable`, without further votes). -/
theorem decidedOk_of_cs {b : Block} {p : Proposal} (hst : Cw3.currentStatus (openT p) b = .ok p.status) : DecidedOk b p := by
  intro hprem
  refine ⟨fun hs b' hb' => ?_, fun hs b' hb' => ?_⟩
  · rw [hs] at hst
    exact C04.passed_stable_time hprem hb' (C04.isPassed_of_status_passed hprem rfl hst)
  · rw [hs] at hst
    have := C04.rejected_stable hprem hb' hst C04.noVotes (by rw [C04.plus_noVotes]; exact hprem.tally_le) (fun _ => rfl)
    rwa [C04.plus_noVotes] at this

/-- the single ballot `(w, v)` as a tally increment -/
def oneVote (v : Vote) (w : Nat) : Votes := ⟨wOf .yes ⟨w, v⟩, wOf .no ⟨w, v⟩, wOf .abstain ⟨w, v⟩, wOf .veto ⟨w, v⟩⟩

theorem add_eq_plus {votes votes' : Votes} {v : Vote} {w : Nat} (h : votes.add v w = .ok votes') :
    votes' = C04.plus votes (oneVote v w) := by
  rw [add_eq h]; rfl

theorem cast_oneVote (v : Vote) (w : Nat) : C04.cast (oneVote v w) = w := by
  cases v <;> simp [C04.cast, oneVote, wOf]

/-- `Votes::add_vote` cannot overflow while the tally with the new ballot fits `u64`. -/
theorem add_ok {votes : Votes} {v : Vote} {w : Nat} (h : C04.cast votes + w ≤ U64_MAX) :
    votes.add v w = .ok (C04.plus votes (oneVote v w)) := by
  obtain ⟨y, n, a, ve⟩ := votes
  simp only [C04.cast] at h
  cases v <;> simp [Votes.add, C04.plus, oneVote, wOf] <;> omega

theorem premise_before_vote {p : Proposal} {votes : Votes} {v : Vote} {w : Nat} (hadd : p.votes.add v w = .ok votes)
    (h : C04.Premise (openT { p with votes := votes })) : C04.Premise (openT p) := by
  have e := add_eq_plus hadd
  refine ⟨?_, h.total_u64, h.valid⟩
  have := h.tally_le
  simp only [openT, e, C04.cast, C04.plus] at this ⊢
  omega

theorem decidedOk_step {b : Block} {o : Option Proposal} {p' : Proposal} (hold : ∀ p, o = some p → DecidedOk b p)
    (h : PropStep b o p') : DecidedOk b p' := by
  cases h with
  | same _ => exact hold _ rfl
  | created p st ho hst => exact decidedOk_of_cs (p := { p with status := st }) (cs_openT (p := p) ho hst)
  | voted p v w votes st hvot hne hadd hst =>
    by_cases h0 : p.status = .open
    · exact decidedOk_of_cs (p := { p with votes := votes, status := st }) (cs_openT (p := { p with votes := votes }) h0 hst)
    · -- the stored status is kept; what backed it before the vote backs it after (C04 stability under further votes)
      intro hq
      obtain rfl := stored_of_ne_open (p := { p with votes := votes }) h0 hst
      have hp0 := premise_before_vote hadd hq
      obtain rfl := add_eq_plus hadd
      have hvote : (openT p).expires.isExpired b = true → oneVote v w = C04.noVotes := fun he => by
        rw [show (openT p).expires = p.expires from rfl, hne] at he; cases he
      exact ⟨fun hs b' hb' => C04.passed_stable hp0 hb' ((hold p rfl hp0).1 hs b (later_refl_blk b)) _ hq.tally_le hvote,
        fun hs b' hb' => C04.rejected_stable hp0 hb' ((hold p rfl hp0).2 hs b (later_refl_blk b)) _ hq.tally_le hvote⟩
  | executed p _ => exact fun _ => ⟨fun hs => (nomatch hs), fun hs => (nomatch hs)⟩
  | closed p st ho hst hne hexp =>
    cases closed_rejected ho hst hne hexp
    exact decidedOk_of_cs (p := { p with status := .rejected }) (cs_openT (p := p) ho hst)

/-! ## after expiry only Execute and Close can change anything -/

/-- Relative to a proposal `p0` that was stored Open, had expired, and was then reported `st1`:
the proposal still has the same expiry, and either its decision-relevant part is untouched, or its
stored status has left Open along a forward edge from `st1`. -/
def FrozenOk (p0 : Proposal) (st1 : Status) (p : Proposal) : Prop :=
  p.expires = p0.expires ∧ (p.tally = p0.tally ∨ (p.status ≠ .open ∧ edge st1 p.status = true))

theorem frozenOk_step {b : Block} {p0 : Proposal} {st1 : Status} (ho : p0.status = .open)
    (hexp : p0.expires.isExpired b = true) (hcs : p0.currentStatus b = .ok st1)
    {p p' : Proposal} (hf : FrozenOk p0 st1 p) (h : PropStep b (some p) p') : FrozenOk p0 st1 p' := by
  obtain ⟨hexpEq, hcase⟩ := hf
  generalize ho' : some p = o at h
  cases h with
  | same q => cases ho'; exact ⟨hexpEq, hcase⟩
  | created q st _ _ => cases ho'
  | voted q v w votes st hvot hne hadd hst =>
    cases ho'
    rw [hexpEq, hexp] at hne; cases hne
  | executed q hst =>
    cases ho'
    refine ⟨hexpEq, Or.inr ⟨by simp, ?_⟩⟩
    rcases hcase with ht | ⟨hn, he⟩
    · have : Cw3.currentStatus p0.tally b = .ok .passed := by rw [← ht]; exact hst
      have e := Except.ok.inj (hcs.symm.trans this)
      subst e; rfl
    · rw [← stored_of_ne_open hn hst] at he
      exact edge_trans he (by rfl)
  | closed q st hoq hst hne hexpq =>
    cases ho'
    refine ⟨hexpEq, Or.inr ⟨by simp, ?_⟩⟩
    rcases hcase with ht | ⟨hn, _⟩
    · have h1 : Cw3.currentStatus p0.tally b = .ok st := by rw [← ht]; exact hst
      have e : st1 = st := Except.ok.inj (hcs.symm.trans h1)
      subst e
      cases closed_rejected ho h1 hne hexp
      rfl
    · exact absurd hoq hn

/-- `FrozenOk` as an invariant of the core (for one proposal id). -/
def FrozenAt (p0 : Proposal) (st1 : Status) (id : Nat) (c : Core) : Prop :=
  WF c ∧ ∃ p, c.proposals.get? id = some p ∧ FrozenOk p0 st1 p

theorem cs_expired_later {p0 : Proposal} {b1 b : Block} {st1 : Status} (hexp1 : p0.expires.isExpired b1 = true)
    (hcs1 : p0.currentStatus b1 = .ok st1) (hb : C04.later b1 b) : p0.currentStatus b = .ok st1 := by
  have he := C04.expired_mono hb hexp1
  rw [← hcs1]
  exact cs_congr (t := p0.tally) (by simp [Proposal.tally, he, hexp1])

theorem frozenAt_step {p0 : Proposal} {st1 : Status} {id : Nat} {b1 b : Block} {c c' : Core}
    (ho : p0.status = .open) (hexp1 : p0.expires.isExpired b1 = true) (hcs1 : p0.currentStatus b1 = .ok st1)
    (hb : C04.later b1 b) (hf : FrozenAt p0 st1 id c) (h : CoreStep b c c') : FrozenAt p0 st1 id c' := by
  obtain ⟨hw, p, hp, hfo⟩ := hf
  refine ⟨coreStep_wf hw h, ?_⟩
  obtain ⟨p', hp', _, _⟩ := (coreStep_later hw h).props id p hp
  have hps := coreStep_prop hw h hp'
  rw [hp] at hps
  exact ⟨p', hp', frozenOk_step ho (C04.expired_mono hb hexp1) (cs_expired_later hexp1 hcs1 hb) hfo hps⟩

/-- **The observed status only moves forward** (core of C05 `observed_status_monotone`): `p0` is the
proposal in an earlier core `c0`, observed at block `b1`; `p` the same proposal in a later core `c`,
observed at a later block `b2`.  Needed: `p0` obeys `OpenOk` at `b1`, the later core is `Later`, and —
if `p0` was stored Open and had expired at `b1` — the later proposal is `FrozenOk` relative to it. -/
theorem observed_edge_core {c0 c : Core} {b1 b2 : Block} {id : Nat} {p0 p : Proposal} {st1 st2 : Status}
    (hw : WF c) (hopen : OpenOk b1 p0) (hlater : Later c0 c)
    (hp0 : c0.proposals.get? id = some p0) (hp : c.proposals.get? id = some p)
    (hfrozen : p0.status = .open → p0.expires.isExpired b1 = true → FrozenOk p0 st1 p)
    (h12 : C04.later b1 b2) (hq1 : p0.currentStatus b1 = .ok st1) (hq2 : p.currentStatus b2 = .ok st2) :
    edge st1 st2 = true := by
  obtain ⟨p2, hp2, _, hedge⟩ := hlater.props id p0 hp0
  rw [hp] at hp2; cases hp2
  have hnp : st2 ≠ .pending := cs_ne_pending (t := p.tally) hq2 (hw.notPending id p hp)
  by_cases ho : p0.status = .open
  · cases he1 : p0.expires.isExpired b1 with
    | false =>
      have := hopen ho he1
      rw [this] at hq1; cases hq1
      cases st2 with
      | pending => exact absurd rfl hnp
      | _ => rfl
    | true =>
      obtain ⟨hexpEq, hcase⟩ := hfrozen ho he1
      rcases hcase with ht | ⟨hn, he⟩
      · have h2 : p0.currentStatus b2 = .ok st2 := by
          show Cw3.currentStatus p0.tally b2 = .ok st2
          rw [← ht]; exact hq2
        have := cs_expired_later he1 hq1 h12
        cases Except.ok.inj (this.symm.trans h2)
        exact edge_refl _
      · cases stored_of_ne_open hn hq2
        exact he
  · cases stored_of_ne_open ho hq1
    have hn : p.status ≠ .open := by
      intro e; rw [e] at hedge
      rcases (edge_iff_cases _ _).mp hedge with h | ⟨h, _⟩ | ⟨_, h⟩
      · exact ho h
      · exact ho h
      · cases h
    cases stored_of_ne_open hn hq2
    exact hedge

theorem queryProposal_ok {c : Core} {blk : Block} {id : Nat} {v : ProposalView} (h : queryProposal c blk id = .ok v) :
    ∃ p, c.proposals.get? id = some p ∧ p.currentStatus blk = .ok v.status := by
  simp only [queryProposal, load_bind_ok] at h
  obtain ⟨p, hp, hv⟩ := h
  simp only [viewOf, Res.bind_ok] at hv
  obtain ⟨st, hst, hv⟩ := hv
  simp only [Res.pure_ok] at hv
  subst hv
  exact ⟨p, hp, hst⟩

/-! ## the moment a Rejected / Passed is stored -/

/-- Whenever an operation at block `b` stores a proposal with a status `s` other than Executed that it did not have
before, the library decision on its tally at that very block is `s`. -/
theorem propStep_stores {b : Block} {o : Option Proposal} {p' : Proposal} (h : PropStep b o p') {s : Status}
    (hs : p'.status = s) (hx : s ≠ .executed) (hnew : ∀ p, o = some p → p.status ≠ s) :
    Cw3.currentStatus (openT p') b = .ok s := by
  subst hs
  cases h with
  | same _ => exact absurd rfl (hnew _ rfl)
  | created p st ho hst => exact cs_openT (p := p) ho hst
  | voted p v w votes st hvot hne hadd hst =>
    by_cases h0 : p.status = .open
    · exact cs_openT (p := { p with votes := votes }) h0 hst
    · exact absurd (stored_of_ne_open (p := { p with votes := votes }) h0 hst).symm (hnew p rfl)
  | executed p _ => exact absurd rfl hx
  | closed p st ho hst hne hexp =>
    cases closed_rejected ho hst hne hexp
    exact cs_openT (p := p) ho hst

theorem propStep_stores_rejected {b : Block} {o : Option Proposal} {p' : Proposal} (h : PropStep b o p')
    (hs : p'.status = .rejected) (hnew : ∀ p, o = some p → p.status ≠ .rejected) :
    Cw3.currentStatus (openT p') b = .ok .rejected :=
  propStep_stores h hs (by simp) hnew

/-- Whenever an operation at block `b` stores a proposal as Passed (it was not stored Passed before),
the library's `current_status` of its tally at that very block is Passed. -/
theorem propStep_stores_passed {b : Block} {o : Option Proposal} {p' : Proposal} (h : PropStep b o p')
    (hs : p'.status = .passed) (hnew : ∀ p, o = some p → p.status ≠ .passed) :
    Cw3.currentStatus (openT p') b = .ok .passed :=
  propStep_stores h hs (by simp) hnew

theorem cs_passed_of_isPassed {t : Tally} {b : Block} (ho : t.status = .open) (h : Cw3.isPassed t b = .ok true) :
    Cw3.currentStatus t b = .ok .passed := by
  unfold Cw3.currentStatus
  rw [if_neg (by simp [ho]), h, Res.ok_bind]
  rfl

end CwPlus.Cw3Core
