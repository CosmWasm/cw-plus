import CwPlus.Lemmas.Ics20TotalSent
import CwPlus.Lemmas.Ics20Env
/-!
The ghost ledgers of cw20-ics20 without the `admissible` filter of `runG`: `runU` carries them over every op
of a history (its world is the plain history); for a contract at a stored version newer than 0.13.0
(`PostV3S`) a migration leaves the books alone, so the ghost `sent` is the start value plus the accepted
transfers (`sentOf`, read off the outcomes).
-/
namespace CwPlus.Ics20
open CwPlus

/-! ## Ghost histories without the admissibility filter -/

/-- Ghost histories over all ops. -/
def runU (wg : World × Ghost) (ops : List (Block × Op)) : World × Ghost :=
  ops.foldl (fun wg o => stepU wg o.1 o.2) wg

theorem runU_induction {P : World × Ghost → Prop}
    (hstep : ∀ w g blk op w' o, P (w, g) → w.exec blk op = .ok (w', o) → P (w', g.update w' op o))
    (ops : List (Block × Op)) {wg : World × Ghost} (h0 : P wg) : P (runU wg ops) :=
  foldl_invariant P (fun wg h op _ => stepU_cases op.1 op.2 h (fun w' o hx => hstep wg.1 wg.2 op.1 op.2 w' o h hx)) h0

theorem stepU_fst (wg : World × Ghost) (blk : Block) (op : Op) : (stepU wg blk op).1 = wg.1.step blk op := by
  unfold stepU World.step
  split <;> simp_all

/-- The world of the unfiltered ghost history is the plain history. -/
theorem runU_fst (wg : World × Ghost) (ops : List (Block × Op)) :
    (runU wg ops).1 = ops.foldl (fun w o => w.step o.1 o.2) wg.1 :=
  (List.foldl_hom Prod.fst (g₁ := fun (wg : World × Ghost) (o : Block × Op) => stepU wg o.1 o.2)
    (fun wg o => (stepU_fst wg o.1 o.2).symm)).symm

theorem stepG_eq_stepU {wg : World × Ghost} {blk : Block} {op : Op} (h : admissible wg.2 op = true) :
    stepG wg blk op = stepU wg blk op := by
  unfold stepG stepU; simp only [h, if_true]

theorem stepU_ledger {wg : World × Ghost} (blk : Block) (op : Op) (hi : LedgerInv wg) : LedgerInv (stepU wg blk op) :=
  stepU_cases blk op hi (fun _ _ h => exec_ledger hi h)

theorem runU_ledger {wg : World × Ghost} (ops : List (Block × Op)) (hi : LedgerInv wg) : LedgerInv (runU wg ops) :=
  runU_induction (fun _ _ _ _ _ _ hi h => exec_ledger hi h) ops hi

/-- `sent` and the contract's `total_sent` move in lock step along every history. -/
theorem runU_totInv {t0 o0 : Key → Nat} {wg : World × Ghost} (ops : List (Block × Op))
    (hwf : WellFormed wg.1.st) (hi : LedgerInv wg) (ht : TotInv t0 o0 wg) : TotInv t0 o0 (runU wg ops) :=
  (runU_induction (P := fun wg => WellFormed wg.1.st ∧ LedgerInv wg ∧ TotInv t0 o0 wg)
    (fun _ _ _ _ _ _ hI h => exec_totInv hI h) ops ⟨hwf, hi, ht⟩).2.2

/-! ## Current-version contracts: no re-baselining -/

/-- The stored cw2 version is newer than 0.13.0 (`migrate` does not run `v2::update_balances`). -/
def PostV3S (s : State) : Prop := Version.lt MIGRATE_VERSION_3 s.version = true

theorem postV3S_current : Version.lt MIGRATE_VERSION_3 CONTRACT_VERSION = true := by decide

theorem migrate_version {s s' : State} {gas : Option Nat} {hold : Denom → Option Nat}
    (h : migrate s gas hold = .ok s') : s'.version = s.version ∨ s'.version = CONTRACT_VERSION := by
  obtain ⟨_, _, _, _, _, rfl, _⟩ := migrate_ok h
  dsimp only
  split
  · exact Or.inr rfl
  · exact Or.inl rfl

theorem migrate_chan_postV3S {s s' : State} {gas : Option Nat} {hold : Denom → Option Nat}
    (hv : PostV3S s) (h : migrate s gas hold = .ok s') : s'.chan = s.chan := by
  rcases (migrate_books h).2 with e | ⟨hle, _⟩
  · exact e
  · unfold PostV3S at hv
    simp [Version.le, hv] at hle

/-- No transaction other than `migrate` touches the stored version; `migrate` keeps it or sets the
current one. -/
theorem exec_version {w w' : World} {blk : Block} {op : Op} {o : Outcome} (h : w.exec blk op = .ok (w', o)) :
    w'.st.version = w.st.version ∨ w'.st.version = CONTRACT_VERSION := by
  cases exec_tx h with
  | quiet s' hw _ hver _ _ _ _ _ => subst hw; exact Or.inl hver
  | migrate gas s' _ hm hw _ => subst hw; exact migrate_version hm
  | escrow w1 out ch _ _ _ _ _ hw _ _ _ _ _ => subst hw; exact Or.inl rfl
  | redeem p rv tv f d amt ch sub _ _ _ _ _ hst _ => rw [hst]; exact Or.inl rfl
  | refund chan p sv tv f ch sub _ _ _ _ _ hst => rw [hst]; exact Or.inl rfl
  | acked chan p sv tv f _ hw _ => subst hw; exact Or.inl rfl

theorem exec_postV3S {w w' : World} {blk : Block} {op : Op} {o : Outcome}
    (hv : PostV3S w.st) (h : w.exec blk op = .ok (w', o)) : PostV3S w'.st := by
  unfold PostV3S at *
  rcases exec_version h with e | e <;> rw [e]
  · exact hv
  · exact postV3S_current

theorem step_postV3S {w : World} (blk : Block) (op : Op) (hv : PostV3S w.st) : PostV3S (w.step blk op).st :=
  step_cases (P := fun w => PostV3S w.st) blk op hv (fun _ _ h => exec_postV3S hv h)

theorem instantiate_postV3S {m : InstMsg} {s : State} (h : instantiate m = .ok s) : PostV3S s := by
  simp [instantiate] at h
  obtain ⟨_, allow, _, rfl⟩ := h
  exact postV3S_current

/-! ## `sent` as the sum of the accepted transfers -/

/-- What a successful transaction escrows on key `k`, read off its outcome: the amount of the emitted
packet of an accepted transfer on that channel and denomination, nothing otherwise. -/
def escrowedBy (op : Op) (o : Outcome) (k : Key) : Nat :=
  match op with
  | .transferNative .. | .sendCw20 .. | .hook .. =>
    (match o.sent with
     | [out] => if k = (out.channel, out.packet.denom) then out.packet.amount else 0
     | _ => 0)
  | _ => 0

/-- Σ over the history of the amounts of the accepted transfers on key `k` (failed transactions
contribute nothing). -/
def sentOf (w : World) : List (Block × Op) → Key → Nat
  | [], _ => 0
  | (blk, op) :: rest, k =>
    (match w.exec blk op with
     | .ok (_, o) => escrowedBy op o k
     | .error _ => 0) + sentOf (w.step blk op) rest k

/-- For a current-version contract whose ledger is consistent the ghost update of a migration leaves
`sent` as it is: the "re-baselining" is the identity. -/
theorem update_migrate_sent_postV3 {w w' : World} {g : Ghost} {blk : Block} {gas : Option Nat} {o : Outcome}
    (hv : PostV3S w.st) (hi : LedgerInv (w, g)) (h : w.exec blk (.migrate gas) = .ok (w', o)) :
    (g.update w' (.migrate gas) o).sent = g.sent := by
  have e := migrate_chan_postV3S hv (exec_migrate_frame h).1
  funext k
  simp only [Ghost.update, e]
  exact hi.1 k

theorem escrowedBy_of_not_transfer {op : Op} (h : op.isTransfer = false) (o : Outcome) (k : Key) :
    escrowedBy op o k = 0 := by
  cases op <;> first | rfl | cases h

theorem escrowedBy_transfer {op : Op} (h : op.isTransfer = true) (out : SendOut) (k : Key) :
    escrowedBy op { sent := [out] } k = if k = (out.channel, out.packet.denom) then out.packet.amount else 0 := by
  cases op <;> first | rfl | cases h

/-- One transaction of a current-version contract: `sent` grows by exactly what the transaction
escrows. -/
theorem update_sent_postV3 {w w' : World} {g : Ghost} {blk : Block} {op : Op} {o : Outcome}
    (hv : PostV3S w.st) (hi : LedgerInv (w, g)) (h : w.exec blk op = .ok (w', o)) (k : Key) :
    (g.update w' op o).sent k = g.sent k + escrowedBy op o k := by
  cases exec_tx h with
  | quiet s' hw _ _ _ hop hg _ _ => rw [hg, escrowedBy_of_not_transfer (Op.isTransfer_of_not_touches hop)]; rfl
  | migrate gas s' hop _ _ _ => subst hop; rw [update_migrate_sent_postV3 hv hi h]; rfl
  | escrow w1 out ch hop _ _ _ _ _ _ _ _ _ ho =>
    subst ho
    rw [Ghost.update_transfer hop, escrowedBy_transfer hop]
    show bump g.sent _ _ k = _
    rw [bump_apply]; split <;> rfl
  | redeem p rv tv f d amt ch sub hop _ _ _ _ _ ho => subst hop; simp only [Ghost.update, ho.1, ho.2]; rfl
  | refund chan p sv tv f ch sub hop _ _ _ _ _ =>
    rw [Ghost.update_refund hop, (failure_fields g chan p o).1]
    rcases hop with rfl | rfl <;> rfl
  | acked chan p sv tv f hop _ _ => subst hop; rfl

/-- **`sent` is the sum of the accepted transfers** for a current-version contract, on every history
(migrations included): start value plus `sentOf`. -/
theorem runU_sent_postV3 {wg : World × Ghost} (ops : List (Block × Op)) (hv : PostV3S wg.1.st) (hi : LedgerInv wg)
    (k : Key) : (runU wg ops).2.sent k = wg.2.sent k + sentOf wg.1 ops k := by
  induction ops generalizing wg with
  | nil => rfl
  | cons op rest ih =>
    obtain ⟨blk, op⟩ := op
    have hv' : PostV3S (stepU wg blk op).1.st := by rw [stepU_fst]; exact step_postV3S blk op hv
    have := ih (wg := stepU wg blk op) hv' (stepU_ledger blk op hi)
    simp only [runU, List.foldl_cons] at this ⊢
    rw [this, stepU_fst]
    simp only [sentOf]
    cases hx : wg.1.exec blk op with
    | error e => simp [stepU, hx]
    | ok r =>
      obtain ⟨w', o⟩ := r
      have hu := update_sent_postV3 (g := wg.2) hv hi hx k
      simp only [stepU, hx]
      omega

/-! ## On histories that respect IBC core's guarantee nothing is skipped -/

/-- Every op of the history is `admissible` at the point where it happens (IBC core's guarantee as a
predicate on the history instead of a filter). -/
def AdmissibleFrom (wg : World × Ghost) : List (Block × Op) → Prop
  | [] => True
  | o :: rest => admissible wg.2 o.2 = true ∧ AdmissibleFrom (stepG wg o.1 o.2) rest

/-- On such a history `runG` skips nothing: it is the unfiltered ghost history, and its world is the plain
history. -/
theorem runG_eq_runU {wg : World × Ghost} (ops : List (Block × Op)) (h : AdmissibleFrom wg ops) :
    runG wg ops = runU wg ops := by
  induction ops generalizing wg with
  | nil => rfl
  | cons o rest ih =>
    have := ih h.2
    simp only [runG, runU, List.foldl_cons] at this ⊢
    rw [this, stepG_eq_stepU h.1]

end CwPlus.Ics20
