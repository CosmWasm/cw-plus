import CwPlus.Model.Cw4Group
import CwPlus.Lemmas.Snapshot
/-!
# cw4-group: histories of calls, and what a successful call of each handler did

This file holds the history semantics that the statements of `Props/C09.lean` and `Props/C14.lean` speak of (the model file gives one transaction, `step`): `Op`, `stepOp`, `run`, `Ordered`, `outs`.
`run s ops` folds `step` (commit on `ok`, roll back on error) over a list of calls, each with its block height,
sender and message.  The property files reason from the inversion lemmas below (one per handler, one per
iteration of a loop) and from the induction principle for histories.  Core only.
-/
namespace CwPlus.Cw4Group
open CwPlus CwPlus.Snapshot

/-- One call: block height, sender, message. -/
structure Op where
  height : Nat
  sender : Addr
  msg : Msg

/-- One transaction (failed calls are rolled back). -/
def stepOp (s : State) (op : Op) : State := step s op.height op.sender op.msg

/-- A history of calls. -/
def run (s : State) (ops : List Op) : State := ops.foldl stepOp s

/-- Block heights never decrease along a history. -/
def Ordered (ops : List Op) : Prop := ops.Pairwise (fun a b => a.height ≤ b.height)

@[simp] theorem run_nil (s : State) : run s [] = s := rfl
@[simp] theorem run_cons (s : State) (op : Op) (ops : List Op) : run s (op :: ops) = run (stepOp s op) ops := rfl
theorem run_append (s : State) (ops ops' : List Op) : run s (ops ++ ops') = run (run s ops) ops' := by
  simp [run, List.foldl_append]

/-- All hook messages emitted along a history (failed calls emit nothing). -/
def outs : State → List Op → List Out
  | _, [] => []
  | s, op :: ops =>
    (match execute s op.height op.sender op.msg with
      | .ok (_, out) => out
      | .error _ => []) ++ outs (stepOp s op) ops

/-! ## The loops, one iteration at a time -/

theorem createMembers_nil_ok {h : Nat} {m m' : SnapMap Addr Nat} {t t' : Nat}
    (hc : createMembers h [] m t = .ok (m', t')) : m' = m ∧ t' = t := by
  simp [createMembers] at hc
  obtain ⟨rfl, rfl⟩ := hc
  exact ⟨rfl, rfl⟩

theorem createMembers_cons_ok {h : Nat} {a : AddrArg} {w : Nat} {rest : List (AddrArg × Nat)} {m : SnapMap Addr Nat}
    {t : Nat} {r : SnapMap Addr Nat × Nat} (hc : createMembers h ((a, w) :: rest) m t = .ok r) :
    t + w ≤ U64_MAX ∧ a.valid = true ∧ createMembers h rest (m.write a.text h (some w)) (t + w) = .ok r := by
  simpa [createMembers] using hc

theorem applyAdds_nil_ok {h : Nat} {m m' : SnapMap Addr Nat} {t t' : Nat} {ds : List Diff}
    (hc : applyAdds h [] m t = .ok (m', t', ds)) : m' = m ∧ t' = t ∧ ds = [] := by
  simp [applyAdds] at hc
  obtain ⟨rfl, rfl, rfl⟩ := hc
  exact ⟨rfl, rfl, rfl⟩

theorem applyAdds_cons_ok {h : Nat} {a : AddrArg} {w : Nat} {rest : List (AddrArg × Nat)} {m m' : SnapMap Addr Nat}
    {t t' : Nat} {ds : List Diff} (hc : applyAdds h ((a, w) :: rest) m t = .ok (m', t', ds)) :
    a.valid = true ∧ (m.get? a.text).getD 0 ≤ t ∧ t - (m.get? a.text).getD 0 + w ≤ U64_MAX ∧
      ∃ ds', applyAdds h rest (m.write a.text h (some w)) (t - (m.get? a.text).getD 0 + w) = .ok (m', t', ds') ∧
        ds = ⟨a.text, m.get? a.text, some w⟩ :: ds' := by
  simp [applyAdds] at hc
  obtain ⟨hv, hle, hov, _, _, ds', hr, rfl, rfl, rfl⟩ := hc
  exact ⟨hv, hle, hov, ds', hr, rfl⟩

theorem applyRemoves_nil_ok {h : Nat} {m m' : SnapMap Addr Nat} {t t' : Nat} {ds : List Diff}
    (hc : applyRemoves h [] m t = .ok (m', t', ds)) : m' = m ∧ t' = t ∧ ds = [] := by
  simp [applyRemoves] at hc
  obtain ⟨rfl, rfl, rfl⟩ := hc
  exact ⟨rfl, rfl, rfl⟩

theorem applyRemoves_cons_ok {h : Nat} {a : AddrArg} {rest : List AddrArg} {m m' : SnapMap Addr Nat}
    {t t' : Nat} {ds : List Diff} (hc : applyRemoves h (a :: rest) m t = .ok (m', t', ds)) :
    a.valid = true ∧
      ((m.get? a.text = none ∧ applyRemoves h rest m t = .ok (m', t', ds)) ∨
       ∃ w ds', m.get? a.text = some w ∧ w ≤ t ∧
         applyRemoves h rest (m.write a.text h none) (t - w) = .ok (m', t', ds') ∧ ds = ⟨a.text, some w, none⟩ :: ds') := by
  simp only [applyRemoves, check_bind_ok] at hc
  refine ⟨hc.1, ?_⟩
  cases hw : m.get? a.text with
  | none => rw [hw] at hc; exact Or.inl ⟨rfl, hc.2⟩
  | some w =>
    rw [hw] at hc
    simp at hc
    obtain ⟨_, hle, _, _, ds', hr, rfl, rfl, rfl⟩ := hc
    exact Or.inr ⟨w, ds', rfl, hle, hr, rfl⟩

/-! ## One inversion lemma per handler -/

theorem execUpdateAdmin_ok {s s' : State} {snd : Addr} {new : Option AddrArg} {out : List Out}
    (he : execUpdateAdmin s snd new = .ok (s', out)) :
    s.admin = some snd ∧ out = [] ∧ ∃ adm, s' = { s with admin := adm } := by
  simp [execUpdateAdmin, isAdmin] at he
  obtain ⟨adm, _, ha, rfl, rfl⟩ := he
  exact ⟨ha, rfl, adm, rfl⟩

theorem execAddHook_ok {s s' : State} {snd : Addr} {a : AddrArg} {out : List Out}
    (he : execAddHook s snd a = .ok (s', out)) :
    s.admin = some snd ∧ out = [] ∧ a.text ∉ s.hooks ∧ s' = { s with hooks := s.hooks ++ [a.text] } := by
  simp [execAddHook, isAdmin] at he
  obtain ⟨_, ha, hn, rfl, rfl⟩ := he
  exact ⟨ha, rfl, hn, rfl⟩

theorem execRemoveHook_ok {s s' : State} {snd : Addr} {a : AddrArg} {out : List Out}
    (he : execRemoveHook s snd a = .ok (s', out)) :
    s.admin = some snd ∧ out = [] ∧ a.text ∈ s.hooks ∧ s' = { s with hooks := s.hooks.erase a.text } := by
  simp [execRemoveHook, isAdmin] at he
  obtain ⟨_, ha, hn, rfl, rfl⟩ := he
  exact ⟨ha, rfl, hn, rfl⟩

theorem updateMembers_ok {s s' : State} {h : Nat} {snd : Addr} {rem : List AddrArg} {add : List (AddrArg × Nat)}
    {ds : List Diff} (hu : updateMembers s h snd rem add = .ok (s', ds)) :
    uniqueMembers add = true ∧ s.admin = some snd ∧
    ∃ t0 m1 t1 d1 m2 t2 d2, s.total.cur = some t0 ∧ applyAdds h (sortMembers add) s.members t0 = .ok (m1, t1, d1) ∧
      applyRemoves h rem m1 t1 = .ok (m2, t2, d2) ∧
      s' = { s with members := m2, total := s.total.write h (some t2) } ∧ ds = d1 ++ d2 := by
  simp only [updateMembers, check_bind_ok] at hu
  obtain ⟨hun, hadm, hu⟩ := hu
  refine ⟨hun, by simpa [isAdmin] using hadm, ?_⟩
  split at hu
  · cases hu
  · rename_i t0 ht0
    simp only [Res.bind_ok, Res.pure_ok, Prod.mk.injEq, Prod.exists] at hu
    obtain ⟨m1, t1, d1, h1, m2, t2, d2, h2, rfl, rfl⟩ := hu
    exact ⟨t0, m1, t1, d1, m2, t2, d2, ht0, h1, h2, rfl, rfl⟩

theorem execUpdateMembers_ok_iff {s s' : State} {h : Nat} {snd : Addr} {rem : List AddrArg}
    {add : List (AddrArg × Nat)} {out : List Out} :
    execUpdateMembers s h snd rem add = .ok (s', out) ↔
      ∃ diffs, updateMembers s h snd rem add = .ok (s', diffs) ∧ out = s.hooks.map (hookMsg diffs) := by
  simp only [execUpdateMembers, Res.bind_ok, Res.pure_ok]
  constructor
  · rintro ⟨⟨r, ds⟩, hr, e⟩
    cases e
    exact ⟨ds, hr, rfl⟩
  · rintro ⟨ds, hr, rfl⟩
    exact ⟨(s', ds), hr, rfl⟩

theorem execute_ok {s s' : State} {h : Nat} {snd : Addr} {msg : Msg} {out : List Out}
    (he : execute s h snd msg = .ok (s', out)) :
    s.admin = some snd ∧
    ((∃ rem add ds, msg = .updateMembers rem add ∧ updateMembers s h snd rem add = .ok (s', ds) ∧
        out = s.hooks.map (hookMsg ds)) ∨
     ((∀ rem add, msg ≠ .updateMembers rem add) ∧ out = [] ∧ s'.members = s.members ∧ s'.total = s.total)) := by
  cases msg with
  | updateAdmin new =>
    obtain ⟨ha, ho, adm, rfl⟩ := execUpdateAdmin_ok he
    exact ⟨ha, Or.inr ⟨fun _ _ e => Msg.noConfusion e, ho, rfl, rfl⟩⟩
  | updateMembers rem add =>
    obtain ⟨ds, hu, ho⟩ := execUpdateMembers_ok_iff.mp he
    exact ⟨(updateMembers_ok hu).2.1, Or.inl ⟨rem, add, ds, rfl, hu, ho⟩⟩
  | addHook a =>
    obtain ⟨ha, ho, _, rfl⟩ := execAddHook_ok he
    exact ⟨ha, Or.inr ⟨fun _ _ e => Msg.noConfusion e, ho, rfl, rfl⟩⟩
  | removeHook a =>
    obtain ⟨ha, ho, _, rfl⟩ := execRemoveHook_ok he
    exact ⟨ha, Or.inr ⟨fun _ _ e => Msg.noConfusion e, ho, rfl, rfl⟩⟩

theorem execute_hooks {s s' : State} {h : Nat} {snd : Addr} {msg : Msg} {out : List Out}
    (he : execute s h snd msg = .ok (s', out)) :
    s'.hooks = s.hooks ∨ (∃ a, msg = .addHook a ∧ a.text ∉ s.hooks ∧ s'.hooks = s.hooks ++ [a.text]) ∨
      ∃ a, msg = .removeHook a ∧ s'.hooks = s.hooks.erase a.text := by
  cases msg with
  | updateAdmin new => obtain ⟨_, _, _, rfl⟩ := execUpdateAdmin_ok he; exact Or.inl rfl
  | updateMembers rem add =>
    obtain ⟨_, hu, _⟩ := execUpdateMembers_ok_iff.mp he
    obtain ⟨_, _, _, _, _, _, _, _, _, _, _, _, rfl, _⟩ := updateMembers_ok hu
    exact Or.inl rfl
  | addHook a => obtain ⟨_, _, hn, rfl⟩ := execAddHook_ok he; exact Or.inr (Or.inl ⟨a, rfl, hn, rfl⟩)
  | removeHook a => obtain ⟨_, _, _, rfl⟩ := execRemoveHook_ok he; exact Or.inr (Or.inr ⟨a, rfl, rfl⟩)

theorem instantiate_ok {msg : InstMsg} {h : Nat} {s : State} (hi : instantiate msg h = .ok s) :
    uniqueMembers msg.members = true ∧ ∃ adm m t,
      createMembers h (sortMembers msg.members) {} 0 = .ok (m, t) ∧
      s = { admin := adm, hooks := [], members := m, total := Cell.empty.write h (some t) } := by
  simp [instantiate, create] at hi
  obtain ⟨hu, adm, _, m, t, hc, rfl⟩ := hi
  exact ⟨hu, adm, m, t, hc, rfl⟩


/-! ## Every call is a list of writes at its block height -/

theorem createMembers_sameBlock {h : Nat} (l : List (AddrArg × Nat)) {m m' : SnapMap Addr Nat} {t t' : Nat}
    (hc : createMembers h l m t = .ok (m', t')) : SnapMap.SameBlock m m' h := by
  induction l generalizing m t with
  | nil => rw [(createMembers_nil_ok hc).1]; exact .refl _ _
  | cons p rest ih => exact (SnapMap.SameBlock.write m _ h _).trans (ih (createMembers_cons_ok hc).2.2)

theorem applyAdds_sameBlock {h : Nat} (l : List (AddrArg × Nat)) {m m' : SnapMap Addr Nat} {t t' : Nat} {ds : List Diff}
    (hc : applyAdds h l m t = .ok (m', t', ds)) : SnapMap.SameBlock m m' h := by
  induction l generalizing m t ds with
  | nil => rw [(applyAdds_nil_ok hc).1]; exact .refl _ _
  | cons p rest ih =>
    obtain ⟨_, _, _, _, hr, _⟩ := applyAdds_cons_ok hc
    exact (SnapMap.SameBlock.write m _ h _).trans (ih hr)

theorem applyRemoves_sameBlock {h : Nat} (l : List AddrArg) {m m' : SnapMap Addr Nat} {t t' : Nat} {ds : List Diff}
    (hc : applyRemoves h l m t = .ok (m', t', ds)) : SnapMap.SameBlock m m' h := by
  induction l generalizing m t ds with
  | nil => rw [(applyRemoves_nil_ok hc).1]; exact .refl _ _
  | cons a rest ih =>
    rcases (applyRemoves_cons_ok hc).2 with ⟨_, hr⟩ | ⟨_, _, _, _, hr, _⟩
    · exact ih hr
    · exact (SnapMap.SameBlock.write m _ h _).trans (ih hr)

theorem updateMembers_sameBlock {s s' : State} {h : Nat} {snd : Addr} {rem : List AddrArg} {add : List (AddrArg × Nat)}
    {ds : List Diff} (hu : updateMembers s h snd rem add = .ok (s', ds)) :
    SnapMap.SameBlock s.members s'.members h ∧ Cell.SameBlock s.total s'.total h := by
  obtain ⟨_, _, _, _, _, _, _, _, _, _, h1, h2, rfl, _⟩ := updateMembers_ok hu
  exact ⟨(applyAdds_sameBlock _ h1).trans (applyRemoves_sameBlock _ h2), .write _ _ _⟩

theorem execute_sameBlock {s s' : State} {h : Nat} {snd : Addr} {msg : Msg} {out : List Out}
    (he : execute s h snd msg = .ok (s', out)) :
    SnapMap.SameBlock s.members s'.members h ∧ Cell.SameBlock s.total s'.total h := by
  rcases (execute_ok he).2 with ⟨_, _, _, _, hu, _⟩ | ⟨_, _, hm, ht⟩
  · exact updateMembers_sameBlock hu
  · rw [hm, ht]; exact ⟨.refl _ _, .refl _ _⟩

theorem instantiate_sameBlock {msg : InstMsg} {h0 : Nat} {s0 : State} (hi : instantiate msg h0 = .ok s0) :
    SnapMap.SameBlock SnapMap.empty s0.members h0 ∧ Cell.SameBlock Cell.empty s0.total h0 := by
  obtain ⟨_, _, _, _, hc, rfl⟩ := instantiate_ok hi
  exact ⟨createMembers_sameBlock _ hc, .write _ _ _⟩

/-! ## Histories -/

theorem stepOp_ok {s s' : State} {op : Op} {out : List Out} (he : execute s op.height op.sender op.msg = .ok (s', out)) :
    stepOp s op = s' := by
  simp [stepOp, step, he]

theorem stepOp_error {s : State} {op : Op} {e : String} (he : execute s op.height op.sender op.msg = .error e) :
    stepOp s op = s := by
  simp [stepOp, step, he]

theorem stepOp_induct {P : State → Prop} {s : State} (op : Op) (h0 : P s)
    (hstep : ∀ {s' out}, execute s op.height op.sender op.msg = .ok (s', out) → P s') : P (stepOp s op) := by
  cases he : execute s op.height op.sender op.msg with
  | ok r => rw [stepOp_ok he]; exact hstep he
  | error e => rw [stepOp_error he]; exact h0

/-- What every successful call preserves holds along every history (failed calls are rolled back). -/
theorem run_induct {P : State → Prop}
    (hstep : ∀ {s h snd msg s' out}, P s → execute s h snd msg = .ok (s', out) → P s')
    {s : State} (h0 : P s) (ops : List Op) : P (run s ops) :=
  foldl_invariant P (fun _ hs op _ => stepOp_induct op hs (hstep hs)) h0

end CwPlus.Cw4Group
