import CwPlus.Model.Cw4Stake
import CwPlus.Lemmas.Snapshot
/-!
# cw4-stake: what a successful transaction did, and histories

Sums over the claims map, the closed form of `update_membership`, message delivery, one specification lemma per
transaction kind (`tx_*_ok`) and, for what concerns membership only, one for all kinds (`tx_staking`, `tx_hooks`,
`tx_sameBlock`), from which the property theorems (`Props/C10`, `Props/C09Stake`, `Props/C14Stake`) follow.
This file also holds the vocabulary of their statements: `claimTotal`, `um`, `TotalRoom`, `bondState` /
`unbondState`, `Deposited` / `Unbonded` / `Claimed`, the classes of operations `Op.isQuiet` / `isDeposit` /
`isStaking`, and the messages of a history `stepOut` / `outs` (`Op`, `step`, `run` are in the model file).
Core only.
-/
namespace CwPlus.Cw4Stake
open CwPlus CwPlus.Snapshot

/-! ## `instantiate` -/

theorem instantiate_ok {m : InstMsg} {st : State} (h : instantiate m = .ok st) :
    ∃ adm, st = { cfg := ⟨m.denom, m.tokensPerWeight, max m.minBond 1, m.period⟩, admin := adm, hooks := [],
                  stake := [], claims := [], members := {}, total := 0 } := by
  simp [instantiate] at h
  obtain ⟨adm, _, rfl⟩ := h
  exact ⟨adm, rfl⟩

/-! ## Sums over the claims map -/

/-- Σ over all addresses of the amounts of their claims. -/
def claimTotal (m : AMap Addr (List Claim)) : Nat := (m.map (fun p => amountSum p.2)).sum

@[simp] theorem claimTotal_nil : claimTotal [] = 0 := rfl

theorem claimTotal_set (m : AMap Addr (List Claim)) (k : Addr) (v : List Claim) :
    claimTotal (m.set k v) + amountSum ((m.get? k).getD []) = claimTotal m + amountSum v := by
  induction m with
  | nil => simp [AMap.set, AMap.get?, claimTotal, amountSum]
  | cons p rest ih =>
    obtain ⟨k', v'⟩ := p
    by_cases h : k' = k
    · subst h; simp [AMap.set, AMap.get?, claimTotal]; omega
    · simp [AMap.set, AMap.get?, h, claimTotal] at ih ⊢; omega

theorem amountSum_append (a b : List Claim) : amountSum (a ++ b) = amountSum a + amountSum b := by
  simp [amountSum]

theorem amountSum_matured_waiting (blk : Block) (l : List Claim) :
    amountSum (matured blk l) + amountSum (waiting blk l) = amountSum l := by
  induction l with
  | nil => simp [matured, waiting, amountSum]
  | cons c rest ih =>
    simp only [matured, waiting, amountSum] at ih ⊢
    by_cases h : c.releaseAt.isExpired blk <;> simp [List.filter, h] <;> omega

theorem matured_waiting (blk : Block) (l : List Claim) : matured blk (waiting blk l) = [] := by
  simp [matured, waiting, List.filter_filter]

/-! ## `Duration::after` -/

theorem afterChecked_ok {d : Duration} {b : Block} {e : Expiration} (h : afterChecked d b = .ok e) :
    e = d.after b := by
  cases d with
  | height n => simp [afterChecked] at h; obtain ⟨a, ⟨_, rfl⟩, rfl⟩ := h; rfl
  | time s => simp [afterChecked] at h; obtain ⟨_, a, ⟨_, rfl⟩, rfl⟩ := h; rfl

/-! ## `update_membership` in closed form -/

/-- The effect of `update_membership` once the new weight is known. -/
def um (s : State) (h : Nat) (a : Addr) (new : Option Nat) : State × List Out :=
  if new = s.members.get? a then (s, [])
  else ({ s with members := s.members.write a h new,
                 total := s.total + new.getD 0 - (s.members.get? a).getD 0 },
        s.hooks.map (fun hk => Out.hook hk a (s.members.get? a) new))

/-- The `u64` arithmetic of `update_membership` for the new weight goes through: `total + new` fits and `old` can
be subtracted from it (checked only when the weight changes). -/
def TotalRoom (s : State) (a : Addr) (new : Option Nat) : Prop :=
  new ≠ s.members.get? a → s.total + new.getD 0 ≤ U64_MAX ∧ (s.members.get? a).getD 0 ≤ s.total + new.getD 0

theorem updateMembership_ok {s : State} {h : Nat} {a : Addr} {ns : Nat} {r : State × List Out}
    (hr : updateMembership s h a ns = .ok r) :
    ∃ new, calcWeight s.cfg ns = .ok new ∧ r = um s h a new ∧
      TotalRoom s a new := by
  unfold updateMembership at hr
  simp only [Res.bind_ok] at hr
  obtain ⟨new, hc, hr⟩ := hr
  refine ⟨new, hc, ?_⟩
  by_cases hn : new = s.members.get? a
  · simp [hn] at hr
    subst hr
    exact ⟨by simp [um, hn], fun hne => absurd hn hne⟩
  · simp [hn] at hr
    obtain ⟨h1, t2, ⟨h2, rfl⟩, rfl⟩ := hr
    exact ⟨by simp [um, hn], fun _ => ⟨h1, h2⟩⟩

theorem um_pair {st : State} {out : List Out} {s : State} {h : Nat} {a : Addr} {new : Option Nat}
    (e : (st, out) = um s h a new) : st = (um s h a new).1 ∧ out = (um s h a new).2 := by
  rw [← e]; exact ⟨rfl, rfl⟩

theorem um_frame (s : State) (h : Nat) (a : Addr) (new : Option Nat) :
    (um s h a new).1.cfg = s.cfg ∧ (um s h a new).1.admin = s.admin ∧ (um s h a new).1.hooks = s.hooks ∧
    (um s h a new).1.stake = s.stake ∧ (um s h a new).1.claims = s.claims := by
  unfold um; split <;> simp

theorem stakeOf_um (s : State) (h : Nat) (a x : Addr) (new : Option Nat) : stakeOf (um s h a new).1 x = stakeOf s x := by
  unfold stakeOf; rw [(um_frame s h a new).2.2.2.1]

theorem um_get? (s : State) (h : Nat) (a x : Addr) (new : Option Nat) :
    (um s h a new).1.members.get? x = if a = x then new else s.members.get? x := by
  unfold um
  split
  · rename_i hn
    by_cases hx : a = x
    · subst hx; simp [hn]
    · simp [hx]
  · simp [SnapMap.get?_write]

theorem um_out (s : State) (h : Nat) (a : Addr) (new : Option Nat) :
    (um s h a new).2 = if new = s.members.get? a then []
      else s.hooks.map (fun hk => Out.hook hk a (s.members.get? a) new) := by
  unfold um; split <;> simp

theorem um_out_hooks (s : State) (h : Nat) (a : Addr) (new : Option Nat) :
    ∀ o ∈ (um s h a new).2, ∃ hk k old nw, o = Out.hook hk k old nw := by
  intro o ho
  rw [um_out] at ho
  split at ho
  · simp at ho
  · simp at ho
    obtain ⟨hk, _, rfl⟩ := ho
    exact ⟨hk, a, _, _, rfl⟩

theorem calcWeight_ok {cfg : Config} {st : Nat} {w : Option Nat} (h : calcWeight cfg st = .ok w) :
    w = (if st < cfg.minBond then none else some (st / cfg.tokensPerWeight)) ∧
    (cfg.minBond ≤ st → cfg.tokensPerWeight ≠ 0 ∧ st / cfg.tokensPerWeight ≤ U64_MAX) := by
  unfold calcWeight at h
  split at h
  · rename_i hlt; simp at h; subst h; simp [hlt]; omega
  · rename_i hge
    split at h
    · simp at h
    · split at h
      · simp at h; subst h; simp [hge]; omega
      · simp at h

/-! ## Delivery of messages -/

theorem payOut_ok {w w' : World} {a : Addr} {amt : Nat} (h : payOut w a amt = .ok w') :
    amt ≤ w.held ∧ w' = { w with bal := w.bal.set a (balOf w a + amt), held := w.held - amt } := by
  simp [payOut] at h
  exact ⟨h.1, h.2.symm⟩

theorem payIn_ok {w w' : World} {a : Addr} {amt : Nat} (h : payIn w a amt = .ok w') :
    amt ≤ balOf w a ∧ w' = { w with bal := w.bal.set a (balOf w a - amt), held := w.held + amt } := by
  simp [payIn] at h
  exact ⟨h.1, h.2.symm⟩

theorem deliver_hooks {w w' : World} {out : List Out}
    (hh : ∀ o ∈ out, ∃ hk k old nw, o = Out.hook hk k old nw) (h : deliver w out = .ok w') : w' = w := by
  induction out generalizing w with
  | nil => simp [deliver] at h; exact h.symm
  | cons o rest ih =>
    obtain ⟨hk, k, old, nw, rfl⟩ := hh o (by simp)
    simp [deliver] at h
    exact ih (fun o ho => hh o (by simp [ho])) h.2

theorem deliver_hooks_accepting {w w' : World} {out : List Out} (h : deliver w out = .ok w') :
    ∀ hk k old nw, Out.hook hk k old nw ∈ out → hk ∈ w.accepting := by
  induction out generalizing w with
  | nil => simp
  | cons o rest ih =>
    intro hk k old nw hm
    cases o with
    | hook hk' k' old' new' =>
      simp [deliver] at h
      simp at hm
      rcases hm with ⟨rfl, _, _, _⟩ | hm
      · exact h.1
      · exact ih h.2 hk k old nw hm
    | bank to amt d =>
      simp [deliver] at h
      obtain ⟨_, _, w1, h1, h2⟩ := h
      obtain ⟨_, rfl⟩ := payOut_ok h1
      simp at hm
      exact ih h2 hk k old nw hm
    | cw20Transfer t to amt =>
      simp [deliver] at h
      obtain ⟨_, w1, h1, h2⟩ := h
      obtain ⟨_, rfl⟩ := payOut_ok h1
      simp at hm
      exact ih h2 hk k old nw hm

theorem deliver_payout_ok {w w' : World} {to : Addr} {amt : Nat}
    (h : deliver w [payout w.st.cfg.denom to amt] = .ok w') :
    amt ≤ w.held ∧ w' = { w with bal := w.bal.set to (balOf w to + amt), held := w.held - amt } := by
  unfold payout at h
  split at h
  · simp [deliver, payOut] at h
    exact ⟨h.2.2.1, h.2.2.2.symm⟩
  · simp [deliver, payOut] at h
    exact ⟨h.2.1, h.2.2.symm⟩

theorem deliver_payout_isOk (w : World) (to : Addr) (amt : Nat) (h0 : amt ≠ 0) (hle : amt ≤ w.held) :
    ∃ w', deliver w [payout w.st.cfg.denom to amt] = .ok w' := by
  cases hd : w.st.cfg.denom with
  | native d =>
    simp [payout, deliver, check, hd, h0, payOut, subU128, hle, bind, Except.bind, pure, Except.pure]
  | cw20 t =>
    simp [payout, deliver, check, hd, payOut, subU128, hle, bind, Except.bind, pure, Except.pure]

/-! ## Specification of the handlers -/

theorem paidAmount_native_ok {denom : Denom} {coins : List (String × Nat)} {amt : Nat}
    (h : paidAmount denom (.native coins) = .ok amt) : ∃ d, denom = .native d ∧ coins = [(d, amt)] := by
  cases denom with
  | native want =>
    match coins, h with
    | [], h => simp [paidAmount] at h
    | [(d, a)], h =>
      simp [paidAmount] at h
      split at h
      · rename_i hd; simp at h; subst h; subst hd; exact ⟨d, rfl, rfl⟩
      · simp at h
    | _ :: _ :: _, h => simp [paidAmount] at h
  | cw20 t => simp [paidAmount] at h

theorem paidAmount_cw20_ok {denom : Denom} {t : Addr} {a amt : Nat}
    (h : paidAmount denom (.cw20 t a) = .ok amt) : denom = .cw20 t ∧ amt = a := by
  cases denom with
  | native want => simp [paidAmount] at h
  | cw20 t' =>
    simp [paidAmount] at h
    split at h
    · rename_i hw; simp at h; subst hw; exact ⟨rfl, h.symm⟩
    · simp at h

theorem stakeCoins_single (d : String) (amt : Nat) : stakeCoins (.native d) [(d, amt)] = amt := by
  simp [stakeCoins]

theorem execBond_ok {s : State} {blk : Block} {staker : Addr} {p : Paid} {r : State × List Out}
    (h : execBond s blk staker p = .ok r) :
    ∃ amt new, paidAmount s.cfg.denom p = .ok amt ∧ stakeOf s staker + amt ≤ U128_MAX ∧
      calcWeight s.cfg (stakeOf s staker + amt) = .ok new ∧
      r = um { s with stake := s.stake.set staker (stakeOf s staker + amt) } blk.height staker new ∧
      TotalRoom s staker new := by
  simp [execBond] at h
  obtain ⟨amt, hp, hle, hu⟩ := h
  obtain ⟨new, hc, hr, ht⟩ := updateMembership_ok hu
  exact ⟨amt, new, hp, hle, hc, hr, ht⟩

theorem execUnbond_ok {s : State} {blk : Block} {snd : Addr} {amt : Nat} {r : State × List Out}
    (h : execUnbond s blk snd amt = .ok r) :
    ∃ new, amt ≤ stakeOf s snd ∧ calcWeight s.cfg (stakeOf s snd - amt) = .ok new ∧
      r = um { s with stake := s.stake.set snd (stakeOf s snd - amt),
                      claims := s.claims.set snd (claimsOf s snd ++ [⟨amt, s.cfg.period.after blk⟩]) }
            blk.height snd new ∧
      TotalRoom s snd new := by
  simp [execUnbond] at h
  obtain ⟨hle, rel, hrel, hu⟩ := h
  have := afterChecked_ok hrel
  subst this
  obtain ⟨new, hc, hr, ht⟩ := updateMembership_ok hu
  exact ⟨new, hle, hc, hr, ht⟩

theorem execClaim_ok {s : State} {blk : Block} {snd : Addr} {r : State × List Out}
    (h : execClaim s blk snd = .ok r) :
    amountSum (matured blk (claimsOf s snd)) ≠ 0 ∧
    r = ({ s with claims := s.claims.set snd (waiting blk (claimsOf s snd)) },
         [payout s.cfg.denom snd (amountSum (matured blk (claimsOf s snd)))]) := by
  simp [execClaim] at h
  exact ⟨h.2.1, h.2.2.symm⟩

/-! ## Specification of the transactions -/

theorem finish_ok {w w' : World} {r : State × List Out} {out : List Out}
    (h : finish w r = .ok (w', out)) : deliver { w with st := r.1 } r.2 = .ok w' ∧ out = r.2 := by
  simp [finish] at h
  obtain ⟨w1, h1, rfl, rfl⟩ := h
  exact ⟨h1, rfl⟩

/-- Storage after the `STAKE.update` of `execute_bond`. -/
def bondState (s : State) (snd : Addr) (amt : Nat) : State :=
  { s with stake := s.stake.set snd (stakeOf s snd + amt) }

/-- Storage after `STAKE.update` and `CLAIMS.create_claim` of `execute_unbond`. -/
def unbondState (s : State) (blk : Block) (snd : Addr) (amt : Nat) : State :=
  { s with stake := s.stake.set snd (stakeOf s snd - amt),
           claims := s.claims.set snd (claimsOf s snd ++ [⟨amt, s.cfg.period.after blk⟩]) }

/-- `amt` stake tokens of `snd` were bonded at height `h`: the funds moved, the stake rose by exactly
`amt`, the membership was updated, only hook messages were sent, all to accepting hooks (a refused message
rolls the whole transaction back). -/
def Deposited (w w' : World) (h : Nat) (snd : Addr) (amt : Nat) (out : List Out) : Prop :=
  ∃ new, amt ≤ balOf w snd ∧ stakeOf w.st snd + amt ≤ U128_MAX ∧
    calcWeight w.st.cfg (stakeOf w.st snd + amt) = .ok new ∧
    (w'.st, out) = um (bondState w.st snd amt) h snd new ∧
    TotalRoom w.st snd new ∧
    w'.held = w.held + amt ∧ w'.bal = w.bal.set snd (balOf w snd - amt) ∧
    w'.extra = w.extra ∧ w'.accepting = w.accepting ∧
    ∀ hk k old nw, Out.hook hk k old nw ∈ out → hk ∈ w.accepting

/-- `snd` unbonded `amt` at block `blk`. -/
def Unbonded (w w' : World) (blk : Block) (snd : Addr) (amt : Nat) (out : List Out) : Prop :=
  ∃ new, amt ≤ stakeOf w.st snd ∧ calcWeight w.st.cfg (stakeOf w.st snd - amt) = .ok new ∧
    (w'.st, out) = um (unbondState w.st blk snd amt) blk.height snd new ∧
    TotalRoom w.st snd new ∧
    w'.held = w.held ∧ w'.bal = w.bal ∧ w'.extra = w.extra ∧ w'.accepting = w.accepting ∧
    ∀ hk k old nw, Out.hook hk k old nw ∈ out → hk ∈ w.accepting

/-- `snd` claimed at block `blk`: all matured claims are paid in one message and removed. -/
def Claimed (w w' : World) (blk : Block) (snd : Addr) (out : List Out) : Prop :=
  let due := amountSum (matured blk (claimsOf w.st snd))
  due ≠ 0 ∧ due ≤ w.held ∧ out = [payout w.st.cfg.denom snd due] ∧
  w'.st = { w.st with claims := w.st.claims.set snd (waiting blk (claimsOf w.st snd)) } ∧
  w'.held = w.held - due ∧ w'.bal = w.bal.set snd (balOf w snd + due) ∧
  w'.extra = w.extra ∧ w'.accepting = w.accepting

theorem tx_deposit {w w1 w' : World} {blk : Block} {snd : Addr} {amt : Nat} {p : Paid} {r : State × List Out}
    {out : List Out} (hp : paidAmount w.st.cfg.denom p = .ok amt)
    (h1 : payIn w snd amt = .ok w1) (hb : execBond w1.st blk snd p = .ok r) (hf : finish w1 r = .ok (w', out)) :
    Deposited w w' blk.height snd amt out := by
  obtain ⟨hle, rfl⟩ := payIn_ok h1
  obtain ⟨amt', new, hp', hfit, hc, hr, ht⟩ := execBond_ok hb
  simp only at hp' hfit hc hr ht
  rw [hp] at hp'
  cases hp'
  obtain ⟨hd, rfl⟩ := finish_ok hf
  subst hr
  have hacc := deliver_hooks_accepting hd
  have := deliver_hooks (um_out_hooks _ _ _ _) hd
  subst this
  exact ⟨new, hle, hfit, hc, rfl, ht, rfl, rfl, rfl, rfl, hacc⟩

theorem tx_bond_ok {w w' : World} {blk : Block} {snd : Addr} {coins : List (String × Nat)} {out : List Out}
    (h : tx w blk (.bond snd coins) = .ok (w', out)) :
    ∃ d amt, w.st.cfg.denom = .native d ∧ coins = [(d, amt)] ∧ amt ≠ 0 ∧ Deposited w w' blk.height snd amt out := by
  simp only [tx, execute] at h
  simp only [Res.bind_ok, check_ok] at h
  obtain ⟨_, hz, w1, h1, r, hb, hf⟩ := h
  have hcfg : w1.st = w.st := by obtain ⟨_, rfl⟩ := payIn_ok h1; rfl
  obtain ⟨amt, new, hp, _⟩ := execBond_ok hb
  rw [hcfg] at hp
  obtain ⟨d, hd, rfl⟩ := paidAmount_native_ok hp
  rw [hd, stakeCoins_single] at h1
  refine ⟨d, amt, hd, rfl, ?_, tx_deposit hp h1 hb hf⟩
  simpa using hz

theorem tx_send_ok {w w' : World} {blk : Block} {snd token : Addr} {amt : Nat} {ok : Bool} {out : List Out}
    (h : tx w blk (.send snd token amt ok) = .ok (w', out)) :
    w.st.cfg.denom = .cw20 token ∧ ok = true ∧ Deposited w w' blk.height snd amt out := by
  simp only [tx, execute] at h
  split at h
  · rename_i hd
    simp only [Res.bind_ok] at h
    obtain ⟨w1, h1, r, hb, hf⟩ := h
    simp only [execReceive, Res.bind_ok, check_ok] at hb
    obtain ⟨_, hok, _, _, hb⟩ := hb
    have hcfg : w1.st = w.st := by obtain ⟨_, rfl⟩ := payIn_ok h1; rfl
    obtain ⟨amt', new, hp, _⟩ := execBond_ok hb
    rw [hcfg] at hp
    obtain ⟨_, rfl⟩ := paidAmount_cw20_ok hp
    exact ⟨hd, hok, tx_deposit hp h1 hb hf⟩
  · rename_i hd
    simp only [Res.bind_ok, Res.pure_ok] at h
    obtain ⟨w1, rfl, r, hb, hf⟩ := h
    simp only [execReceive, Res.bind_ok, check_ok] at hb
    obtain ⟨_, hok, _, _, hb⟩ := hb
    obtain ⟨amt', new, hp, _⟩ := execBond_ok hb
    exact absurd (paidAmount_cw20_ok hp).1 hd

theorem tx_receive_not_ok {w w' : World} {blk : Block} {snd : Addr} {sender : AddrArg} {amt : Nat} {ok : Bool}
    {out : List Out} (h : tx w blk (.receive snd sender amt ok) = .ok (w', out)) : False := by
  simp only [tx, execute] at h
  simp only [Res.bind_ok, check_ok] at h
  obtain ⟨_, hne, r, hb, _⟩ := h
  simp only [execReceive, Res.bind_ok, check_ok] at hb
  obtain ⟨_, _, _, _, hb⟩ := hb
  obtain ⟨amt', new, hp, _⟩ := execBond_ok hb
  obtain ⟨hd, _⟩ := paidAmount_cw20_ok hp
  simp [hd] at hne

theorem tx_unbond_ok {w w' : World} {blk : Block} {snd : Addr} {amt : Nat} {out : List Out}
    (h : tx w blk (.unbond snd amt) = .ok (w', out)) : Unbonded w w' blk snd amt out := by
  simp only [tx, execute] at h
  simp only [Res.bind_ok] at h
  obtain ⟨r, hu, hf⟩ := h
  obtain ⟨new, hle, hc, hr, ht⟩ := execUnbond_ok hu
  obtain ⟨hd, rfl⟩ := finish_ok hf
  subst hr
  have hacc := deliver_hooks_accepting hd
  have := deliver_hooks (um_out_hooks _ _ _ _) hd
  subst this
  exact ⟨new, hle, hc, rfl, ht, rfl, rfl, rfl, rfl, hacc⟩

theorem tx_claim_ok {w w' : World} {blk : Block} {snd : Addr} {out : List Out}
    (h : tx w blk (.claim snd) = .ok (w', out)) : Claimed w w' blk snd out := by
  simp only [tx, execute] at h
  simp only [Res.bind_ok] at h
  obtain ⟨r, hc, hf⟩ := h
  obtain ⟨hne, rfl⟩ := execClaim_ok hc
  obtain ⟨hd, rfl⟩ := finish_ok hf
  simp only at hd
  have hd' := deliver_payout_ok (w := { w with st := { w.st with claims := w.st.claims.set snd (waiting blk (claimsOf w.st snd)) } })
    (to := snd) (amt := amountSum (matured blk (claimsOf w.st snd))) (w' := w') hd
  obtain ⟨hle, rfl⟩ := hd'
  exact ⟨hne, hle, rfl, rfl, rfl, rfl, rfl, rfl⟩

theorem tx_updateAdmin_ok {w w' : World} {blk : Block} {snd : Addr} {a : Option AddrArg} {out : List Out}
    (h : tx w blk (.updateAdmin snd a) = .ok (w', out)) :
    w.st.admin = some snd ∧ out = [] ∧ ∃ adm, w' = { w with st := { w.st with admin := adm } } := by
  simp only [tx, execute] at h
  simp only [Res.bind_ok] at h
  obtain ⟨r, hu, hf⟩ := h
  obtain ⟨hd, rfl⟩ := finish_ok hf
  simp [execUpdateAdmin, isAdmin] at hu
  obtain ⟨adm, _, hadm, rfl⟩ := hu
  simp [deliver] at hd
  exact ⟨hadm, rfl, adm, hd.symm⟩

theorem tx_addHook_ok {w w' : World} {blk : Block} {snd : Addr} {a : AddrArg} {out : List Out}
    (h : tx w blk (.addHook snd a) = .ok (w', out)) :
    w.st.admin = some snd ∧ out = [] ∧ a.text ∉ w.st.hooks ∧
      w' = { w with st := { w.st with hooks := w.st.hooks ++ [a.text] } } := by
  simp only [tx, execute] at h
  simp only [Res.bind_ok] at h
  obtain ⟨r, hu, hf⟩ := h
  obtain ⟨hd, rfl⟩ := finish_ok hf
  simp [execAddHook, isAdmin] at hu
  obtain ⟨_, hadm, hnot, rfl⟩ := hu
  simp [deliver] at hd
  exact ⟨hadm, rfl, hnot, hd.symm⟩

theorem tx_removeHook_ok {w w' : World} {blk : Block} {snd : Addr} {a : AddrArg} {out : List Out}
    (h : tx w blk (.removeHook snd a) = .ok (w', out)) :
    w.st.admin = some snd ∧ out = [] ∧ a.text ∈ w.st.hooks ∧
      w' = { w with st := { w.st with hooks := w.st.hooks.erase a.text } } := by
  simp only [tx, execute] at h
  simp only [Res.bind_ok] at h
  obtain ⟨r, hu, hf⟩ := h
  obtain ⟨hd, rfl⟩ := finish_ok hf
  simp [execRemoveHook, isAdmin] at hu
  obtain ⟨_, hadm, hin, rfl⟩ := hu
  simp [deliver] at hd
  exact ⟨hadm, rfl, hin, hd.symm⟩

theorem tx_donate_ok {w w' : World} {blk : Block} {snd : Addr} {amt : Nat} {out : List Out}
    (h : tx w blk (.donate snd amt) = .ok (w', out)) :
    amt ≤ balOf w snd ∧ out = [] ∧
      w' = { w with bal := w.bal.set snd (balOf w snd - amt), held := w.held + amt, extra := w.extra + amt } := by
  simp only [tx] at h
  simp only [Res.bind_ok, check_ok] at h
  obtain ⟨_, _, w1, h1, h2⟩ := h
  obtain ⟨hle, rfl⟩ := payIn_ok h1
  simp at h2
  exact ⟨hle, h2.2, h2.1.symm⟩

/-- The admin operations and the forged `Receive`: transactions that move no funds, stakes, claims or weights. -/
def Op.isQuiet : Op → Bool
  | .updateAdmin _ _ | .addHook _ _ | .removeHook _ _ | .receive _ _ _ _ => true
  | _ => false

/-- A quiet transaction that succeeds was sent by the admin, sends nothing and changes `admin` / `hooks` only
(a forged `Receive` never succeeds). -/
theorem tx_quiet_ok {w w' : World} {blk : Block} {op : Op} {out : List Out} (h : tx w blk op = .ok (w', out))
    (hq : Op.isQuiet op = true) :
    out = [] ∧ w.st.admin = some (Op.sender op) ∧
      ∃ adm hooks, w' = { w with st := { w.st with admin := adm, hooks := hooks } } := by
  cases op with
  | updateAdmin snd x => obtain ⟨ha, ho, adm, rfl⟩ := tx_updateAdmin_ok h; exact ⟨ho, ha, adm, _, rfl⟩
  | addHook snd x => obtain ⟨ha, ho, _, rfl⟩ := tx_addHook_ok h; exact ⟨ho, ha, _, _, rfl⟩
  | removeHook snd x => obtain ⟨ha, ho, _, rfl⟩ := tx_removeHook_ok h; exact ⟨ho, ha, _, _, rfl⟩
  | receive snd sender amt ok => exact (tx_receive_not_ok h).elim
  | bond _ _ | send _ _ _ _ | unbond _ _ | claim _ | donate _ _ => cases hq

/-- Native `Bond` and cw20 `Send`: the two ways to deposit. -/
def Op.isDeposit : Op → Bool
  | .bond _ _ | .send _ _ _ _ => true
  | _ => false

/-- Bond (native or through a cw20 `Send`) and unbond: the transactions that go through `update_membership`. -/
def Op.isStaking : Op → Bool
  | .bond _ _ | .send _ _ _ _ | .unbond _ _ => true
  | _ => false

theorem hook_ne_payout {hk k : Addr} {old new : Option Nat} {d : Denom} {to : Addr} {amt : Nat} :
    Out.hook hk k old new ≠ payout d to amt := by
  cases d <;> exact Out.noConfusion

/-- **The membership side of a successful transaction.**  A staking transaction is `update_membership` for its
sender, with the weight `calc_weight` gives for the sender's new stake, on a state that differs from the old one in
stakes and claims only; every other transaction leaves configuration, members, total and stakes alone and sends
no hook message. -/
theorem tx_staking {w w' : World} {blk : Block} {op : Op} {out : List Out} (h : tx w blk op = .ok (w', out)) :
    (Op.isStaking op = true → ∃ stake' claims' ns new,
      (∀ x, (AMap.get? stake' x).getD 0 = if Op.sender op = x then ns else stakeOf w.st x) ∧
      calcWeight w.st.cfg ns = .ok new ∧
      (w'.st, out) = um { w.st with stake := stake', claims := claims' } blk.height (Op.sender op) new ∧
      TotalRoom w.st (Op.sender op) new ∧
      ∀ hk k old nw, Out.hook hk k old nw ∈ out → hk ∈ w.accepting) ∧
    (Op.isStaking op = false → w'.st.cfg = w.st.cfg ∧ w'.st.members = w.st.members ∧ w'.st.total = w.st.total ∧
      w'.st.stake = w.st.stake ∧ ∀ hk k old new, Out.hook hk k old new ∉ out) := by
  have hset : ∀ (snd : Addr) (ns : Nat) (x : Addr),
      (AMap.get? (w.st.stake.set snd ns) x).getD 0 = if snd = x then ns else stakeOf w.st x := fun snd ns x => by
    rw [AMap.get?_set]; split <;> rfl
  cases op with
  | bond snd coins =>
    obtain ⟨_, amt, _, _, _, new, _, _, hc, hu, hb, _, _, _, _, hacc⟩ := tx_bond_ok h
    exact ⟨fun _ => ⟨_, _, _, new, hset snd _, hc, hu, hb, hacc⟩, fun hf => (nomatch hf)⟩
  | send snd token amt ok =>
    obtain ⟨_, _, new, _, _, hc, hu, hb, _, _, _, _, hacc⟩ := tx_send_ok h
    exact ⟨fun _ => ⟨_, _, _, new, hset snd _, hc, hu, hb, hacc⟩, fun hf => (nomatch hf)⟩
  | unbond snd amt =>
    obtain ⟨new, _, hc, hu, hb, _, _, _, _, hacc⟩ := tx_unbond_ok h
    exact ⟨fun _ => ⟨_, _, _, new, hset snd _, hc, hu, hb, hacc⟩, fun hf => (nomatch hf)⟩
  | claim snd =>
    obtain ⟨_, _, ho, hst, _⟩ := tx_claim_ok h
    refine ⟨fun hf => (nomatch hf), fun _ => ?_⟩
    rw [hst, ho]
    exact ⟨rfl, rfl, rfl, rfl, fun _ _ _ _ hm => hook_ne_payout (List.mem_singleton.mp hm)⟩
  | donate snd amt =>
    obtain ⟨_, rfl, rfl⟩ := tx_donate_ok h
    exact ⟨fun hf => (nomatch hf), fun _ => ⟨rfl, rfl, rfl, rfl, fun _ _ _ _ hm => (nomatch hm)⟩⟩
  | receive _ _ _ _ | updateAdmin _ _ | addHook _ _ | removeHook _ _ =>
    obtain ⟨rfl, _, _, _, rfl⟩ := tx_quiet_ok h rfl
    exact ⟨fun hf => (nomatch hf), fun _ => ⟨rfl, rfl, rfl, rfl, fun _ _ _ _ hm => (nomatch hm)⟩⟩

theorem tx_hooks {w w' : World} {blk : Block} {op : Op} {out : List Out} (h : tx w blk op = .ok (w', out)) :
    w'.st.hooks = w.st.hooks ∨
      (∃ s a, op = .addHook s a ∧ a.text ∉ w.st.hooks ∧ w'.st.hooks = w.st.hooks ++ [a.text]) ∨
      ∃ s a, op = .removeHook s a ∧ w'.st.hooks = w.st.hooks.erase a.text := by
  cases hk : Op.isStaking op with
  | true =>
    obtain ⟨_, _, _, _, _, _, hu, _⟩ := (tx_staking h).1 hk
    rw [(um_pair hu).1, (um_frame _ _ _ _).2.2.1]
    exact Or.inl rfl
  | false =>
    cases op with
    | bond _ _ | send _ _ _ _ | unbond _ _ => cases hk
    | receive snd sender amt ok => exact (tx_receive_not_ok h).elim
    | claim snd => obtain ⟨_, _, _, hst, _⟩ := tx_claim_ok h; rw [hst]; exact Or.inl rfl
    | updateAdmin snd x => obtain ⟨_, _, _, rfl⟩ := tx_updateAdmin_ok h; exact Or.inl rfl
    | addHook snd x => obtain ⟨_, _, hn, rfl⟩ := tx_addHook_ok h; exact Or.inr (Or.inl ⟨snd, x, rfl, hn, rfl⟩)
    | removeHook snd x => obtain ⟨_, _, _, rfl⟩ := tx_removeHook_ok h; exact Or.inr (Or.inr ⟨snd, x, rfl, rfl⟩)
    | donate snd amt => obtain ⟨_, _, rfl⟩ := tx_donate_ok h; exact Or.inl rfl

theorem um_sameBlock (s : State) (h : Nat) (a : Addr) (new : Option Nat) :
    SnapMap.SameBlock s.members (um s h a new).1.members h := by
  unfold um
  split
  · exact .refl _ _
  · exact .write _ _ _ _

theorem tx_sameBlock {w w' : World} {blk : Block} {op : Op} {out : List Out}
    (h : tx w blk op = .ok (w', out)) : SnapMap.SameBlock w.st.members w'.st.members blk.height := by
  cases hk : Op.isStaking op with
  | true =>
    obtain ⟨stake', claims', _, new, _, _, hu, _⟩ := (tx_staking h).1 hk
    rw [(um_pair hu).1]
    exact um_sameBlock { w.st with stake := stake', claims := claims' } _ _ _
  | false => rw [((tx_staking h).2 hk).2.1]; exact .refl _ _

/-! ## Histories -/

theorem step_ok {w w' : World} {blk : Block} {op : Op} {out : List Out} (h : tx w blk op = .ok (w', out)) :
    step w blk op = w' := by
  simp [step, h]

theorem step_error {w : World} {blk : Block} {op : Op} {e : String} (h : tx w blk op = .error e) :
    step w blk op = w := by
  simp [step, h]

theorem step_sameBlock (w : World) (o : Block × Op) :
    SnapMap.SameBlock w.st.members (step w o.1 o.2).st.members o.1.height := by
  unfold step
  split
  · rename_i w' out ht; exact tx_sameBlock ht
  · exact .refl _ _

/-- Anything preserved by every successful transaction holds along every history
(failed transactions are rolled back). -/
theorem run_inv (P : World → Prop)
    (hstep : ∀ w blk op w' out, P w → tx w blk op = .ok (w', out) → P w')
    {w : World} (h0 : P w) (ops : List (Block × Op)) : P (run w ops) := by
  refine foldl_invariant P (fun w hw o _ => ?_) h0
  unfold step
  split
  · rename_i w' out h; exact hstep _ _ _ _ _ hw h
  · exact hw

@[simp] theorem run_nil (w : World) : run w [] = w := rfl
@[simp] theorem run_cons (w : World) (o : Block × Op) (ops : List (Block × Op)) :
    run w (o :: ops) = run (step w o.1 o.2) ops := rfl

theorem run_append (w : World) (a b : List (Block × Op)) : run w (a ++ b) = run (run w a) b := by
  simp [run, List.foldl_append]

/-! ## Messages emitted along a history -/

/-- The messages of one transaction of a history: those of the handler when it succeeds, none when the
transaction fails (and is rolled back). -/
def stepOut (w : World) (blk : Block) (op : Op) : List Out :=
  match tx w blk op with
  | .ok (_, out) => out
  | .error _ => []

/-- All messages emitted along a history, in order. -/
def outs (w : World) : List (Block × Op) → List Out
  | [] => []
  | o :: rest => stepOut w o.1 o.2 ++ outs (step w o.1 o.2) rest

@[simp] theorem outs_nil (w : World) : outs w [] = [] := rfl
@[simp] theorem outs_cons (w : World) (o : Block × Op) (ops : List (Block × Op)) :
    outs w (o :: ops) = stepOut w o.1 o.2 ++ outs (step w o.1 o.2) ops := rfl

theorem outs_append (w : World) (a b : List (Block × Op)) :
    outs w (a ++ b) = outs w a ++ outs (run w a) b := by
  induction a generalizing w with
  | nil => simp
  | cons o rest ih => simp [ih, List.append_assoc]

theorem stepOut_ok {w w' : World} {blk : Block} {op : Op} {out : List Out} (h : tx w blk op = .ok (w', out)) :
    stepOut w blk op = out := by
  simp [stepOut, h]

theorem stepOut_error {w : World} {blk : Block} {op : Op} {e : String} (h : tx w blk op = .error e) :
    stepOut w blk op = [] := by
  simp [stepOut, h]

theorem step_cases (w : World) (blk : Block) (op : Op) :
    (∃ w' out, tx w blk op = .ok (w', out) ∧ step w blk op = w' ∧ stepOut w blk op = out ∧
        (tx w blk op).isOk = true) ∨
    (step w blk op = w ∧ stepOut w blk op = [] ∧ (tx w blk op).isOk = false) := by
  cases h : tx w blk op with
  | ok r => exact Or.inl ⟨r.1, r.2, rfl, step_ok h, stepOut_ok h, rfl⟩
  | error e => exact Or.inr ⟨step_error h, stepOut_error h, rfl⟩

end CwPlus.Cw4Stake
