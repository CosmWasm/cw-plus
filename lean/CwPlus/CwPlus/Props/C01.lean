import CwPlus.Props.C20
/-!
# C01 — cw20: total supply always equals the sum of all balances

The handlers are used through their characterisations in `Lemmas/Cw20.lean` (entry point for a per-message case
analysis: `execute_frame`).  The statement about the
paged `AllAccounts` listing (`listed_sum`) uses the paging theorems of C20 (`Props/C20.lean`,
`Lemmas/Paginate.lean`); `Props/C20.lean` does not import this file.
-/
namespace CwPlus.Props.C01
open CwPlus CwPlus.Cw20

/-- The invariant: reported supply = Σ balances, and it fits `Uint128`. -/
def Inv (s : State) : Prop := s.supply = AMap.sum s.balances ∧ s.supply ≤ U128_MAX

/-- Under the invariant every balance is part of the supply. -/
theorem bal_le_supply {s : State} (hi : Inv s) (a : Addr) : bal s a ≤ s.supply :=
  hi.1 ▸ AMap.get?_le_sum s.balances a

/-- Histories: any list of (block, sender, message); failed calls roll back. -/
def run (s : State) (ops : List (Block × Addr × Msg)) : State :=
  ops.foldl (fun s op => step s op.1 op.2.1 op.2.2) s

theorem createAccounts_sum (l : List (AddrArg × Nat)) (b : AMap Addr Nat) (t : Nat)
    (hnd : (l.map (·.1.text)).Nodup) (hfresh : ∀ a ∈ l, b.get? a.1.text = none)
    {b' : AMap Addr Nat} {t' : Nat} (h : createAccounts l b t = .ok (b', t')) (hi : t = AMap.sum b ∧ t ≤ U128_MAX) :
    t' = AMap.sum b' ∧ t' ≤ U128_MAX := by
  induction l generalizing b t with
  | nil => cases createAccounts_nil_ok_iff.mp h; exact hi
  | cons p rest ih =>
    obtain ⟨a, amt⟩ := p
    obtain ⟨_, hle, h⟩ := createAccounts_cons_ok_iff.mp h
    simp at hnd
    apply ih (b.set a.text amt) (t + amt) hnd.2 _ h
    · have := AMap.sum_set b a.text amt
      have e : b.get? a.text = none := hfresh (a, amt) (by simp)
      simp [e] at this
      omega
    · intro x hx
      have hne : a.text ≠ x.1.text := by
        intro e; exact hnd.1 x.1 x.2 hx e.symm
      rw [AMap.get?_set_ne _ _ _ _ hne]
      exact hfresh x (by simp [hx])

/-- Every accepted instantiation establishes the invariant. -/
theorem instantiate_inv {m : InstMsg} {s : State} (h : instantiate m = .ok s) : Inv s := by
  obtain ⟨hnd, b, t, mk, lg, hc, _, _, rfl⟩ := instantiate_ok h
  exact createAccounts_sum m.initial [] 0 hnd (by simp) hc (by simp [U128_MAX])

/-- What a successful call does to the tokens, for every state (no invariant assumed): supply and Σ balances move
by the same amount and the supply stays within `Uint128` if it was; and per message kind the deltas of
`supply_delta`. -/
theorem execute_tokens {s s' : State} {blk : Block} {snd : Addr} {msg : Msg} {out : List Out}
    (h : execute s blk snd msg = .ok (s', out)) :
    (s'.supply + AMap.sum s.balances = s.supply + AMap.sum s'.balances ∧ (s.supply ≤ U128_MAX → s'.supply ≤ U128_MAX)) ∧
    match msg with
    | .mint to amt =>
        s'.supply = s.supply + amt ∧ bal s' to.text = bal s to.text + amt
          ∧ ∀ x, x ≠ to.text → s'.balances.get? x = s.balances.get? x
    | .burn amt =>
        s'.supply + amt = s.supply ∧ bal s' snd + amt = bal s snd
          ∧ ∀ x, x ≠ snd → s'.balances.get? x = s.balances.get? x
    | .burnFrom o amt =>
        s'.supply + amt = s.supply ∧ bal s' o.text + amt = bal s o.text
          ∧ ∀ x, x ≠ o.text → s'.balances.get? x = s.balances.get? x
    | _ => s'.supply = s.supply := by
  have htok := (execute_frame h).2.2.2.1
  have moved : ∀ {frm to amt}, Moves s s' frm to amt →
      (s'.supply + AMap.sum s.balances = s.supply + AMap.sum s'.balances ∧ (s.supply ≤ U128_MAX → s'.supply ≤ U128_MAX)) ∧
      s'.supply = s.supply :=
    fun ⟨_, b1, h1, h2, hs⟩ => ⟨⟨by rw [hs, move_sum h1 h2], fun hm => hs ▸ hm⟩, hs⟩
  have burned : ∀ {a amt}, Burns s s' a amt →
      (s'.supply + AMap.sum s.balances = s.supply + AMap.sum s'.balances ∧ (s.supply ≤ U128_MAX → s'.supply ≤ U128_MAX)) ∧
      s'.supply + amt = s.supply ∧ bal s' a + amt = bal s a ∧ ∀ x, x ≠ a → s'.balances.get? x = s.balances.get? x := by
    intro a amt ⟨h1, hle, hs⟩
    have := debit_sum h1
    obtain ⟨hb, e⟩ := debit_ok_iff.mp h1
    exact ⟨⟨by omega, by omega⟩, by omega, by simp [bal, e]; omega, fun x hx => e ▸ AMap.get?_set_ne _ _ _ _ (Ne.symm hx)⟩
  cases msg
  case transfer | send | transferFrom | sendFrom => exact moved htok
  case burn | burnFrom => exact burned htok
  case mint to amt =>
    obtain ⟨h1, hle, hs⟩ := htok
    have := credit_sum h1
    obtain ⟨_, e⟩ := credit_ok_iff.mp h1
    exact ⟨⟨by omega, fun _ => hs ▸ hle⟩, hs, by simp [bal, e], fun x hx => e ▸ AMap.get?_set_ne _ _ _ _ (Ne.symm hx)⟩
  -- the other kinds touch neither balances nor supply
  all_goals
    obtain ⟨hb, hs⟩ := htok
    exact ⟨⟨by rw [hb, hs], fun hm => hs ▸ hm⟩, hs⟩

/-- Every successful call of every message kind preserves the invariant. -/
theorem execute_inv {s s' : State} {blk : Block} {snd : Addr} {msg : Msg} {out : List Out}
    (hi : Inv s) (h : execute s blk snd msg = .ok (s', out)) : Inv s' := by
  obtain ⟨⟨hc, hmax⟩, _⟩ := execute_tokens h
  exact ⟨by have := hi.1; omega, hmax hi.2⟩

/-- **C01, main theorem**: after any accepted instantiation and any finite history of execute
messages by any senders with any arguments (failed ones rolled back), supply = Σ balances. -/
theorem reach_inv {m : InstMsg} {s : State} (h : instantiate m = .ok s) (ops : List (Block × Addr × Msg)) :
    Inv (run s ops) :=
  run_preserves execute_inv ops (instantiate_inv h)

/-! ## Supply and balance deltas per message kind -/

/-- **C01, delta clause**: what a successful call does to the supply and to the balances, for each of
the message kinds.  `mint` raises the supply and exactly the recipient's balance by `amt`;
`burn` / `burnFrom` lower the supply and exactly the sender's / owner's balance by `amt`; every other
kind (transfers and sends, direct or through an allowance, minter, allowance, marketing and logo
updates) leaves the supply unchanged.  Holds for every state (the invariant is not needed). -/
theorem supply_delta {s s' : State} {blk : Block} {snd : Addr} {msg : Msg} {out : List Out}
    (h : execute s blk snd msg = .ok (s', out)) :
    match msg with
    | .mint to amt =>
        s'.supply = s.supply + amt ∧ bal s' to.text = bal s to.text + amt
          ∧ ∀ x, x ≠ to.text → s'.balances.get? x = s.balances.get? x
    | .burn amt =>
        s'.supply + amt = s.supply ∧ bal s' snd + amt = bal s snd
          ∧ ∀ x, x ≠ snd → s'.balances.get? x = s.balances.get? x
    | .burnFrom o amt =>
        s'.supply + amt = s.supply ∧ bal s' o.text + amt = bal s o.text
          ∧ ∀ x, x ≠ o.text → s'.balances.get? x = s.balances.get? x
    | _ => s'.supply = s.supply :=
  (execute_tokens h).2

/-! ## Only a mint raises, only a burn lowers; the history ledger -/

/-- **C01, "only a successful mint raises the supply"**: a successful call after which the supply is higher
was a `mint`, and the supply rose by exactly its amount.  (That the sender was the stored minter is
`C13.mint_only_minter`.) -/
theorem supply_raised_only_by_mint {s s' : State} {blk : Block} {snd : Addr} {msg : Msg} {out : List Out}
    (h : execute s blk snd msg = .ok (s', out)) (hlt : s.supply < s'.supply) :
    ∃ to amt, msg = .mint to amt ∧ s'.supply = s.supply + amt := by
  have hd := supply_delta h
  cases msg <;> simp only [] at hd
  case mint to amt => exact ⟨to, amt, rfl, hd.1⟩
  case burn amt => have := hd.1; omega
  case burnFrom o amt => have := hd.1; omega
  all_goals omega

/-- **C01, "only a successful burn lowers the supply"**: a successful call after which the supply is lower was
a `burn` by the sender or a `burnFrom` through an allowance, and the supply fell by exactly its amount. -/
theorem supply_lowered_only_by_burn {s s' : State} {blk : Block} {snd : Addr} {msg : Msg} {out : List Out}
    (h : execute s blk snd msg = .ok (s', out)) (hlt : s'.supply < s.supply) :
    (∃ amt, msg = .burn amt ∧ s'.supply + amt = s.supply)
    ∨ (∃ o amt, msg = .burnFrom o amt ∧ s'.supply + amt = s.supply) := by
  have hd := supply_delta h
  cases msg <;> simp only [] at hd
  case mint to amt => have := hd.1; omega
  case burn amt => exact Or.inl ⟨amt, rfl, hd.1⟩
  case burnFrom o amt => exact Or.inr ⟨o, amt, rfl, hd.1⟩
  all_goals omega

/-- Ghost: what one transaction of a history mints (the amount of a *successful* `mint`, else 0). -/
def mintedAt (s : State) (op : Block × Addr × Msg) : Nat :=
  match op.2.2 with
  | .mint _ amt => if (execute s op.1 op.2.1 op.2.2).isOk then amt else 0
  | _ => 0

/-- Ghost: what one transaction of a history burns (the amount of a *successful* `burn` / `burnFrom`). -/
def burnedAt (s : State) (op : Block × Addr × Msg) : Nat :=
  match op.2.2 with
  | .burn amt => if (execute s op.1 op.2.1 op.2.2).isOk then amt else 0
  | .burnFrom _ amt => if (execute s op.1 op.2.1 op.2.2).isOk then amt else 0
  | _ => 0

/-- Ghost: total amount minted by the successful `mint` calls of a history run from `s`. -/
def minted (s : State) : List (Block × Addr × Msg) → Nat
  | [] => 0
  | op :: rest => mintedAt s op + minted (step s op.1 op.2.1 op.2.2) rest

/-- Ghost: total amount burned by the successful `burn` / `burnFrom` calls of a history run from `s`. -/
def burned (s : State) : List (Block × Addr × Msg) → Nat
  | [] => 0
  | op :: rest => burnedAt s op + burned (step s op.1 op.2.1 op.2.2) rest

set_option linter.unusedSimpArgs false in
/-- One transaction (committed or rolled back) moves the supply by exactly what it minted and burned. -/
theorem step_ledger (s : State) (op : Block × Addr × Msg) :
    (step s op.1 op.2.1 op.2.2).supply + burnedAt s op = s.supply + mintedAt s op := by
  obtain ⟨blk, snd, msg⟩ := op
  unfold step mintedAt burnedAt
  cases h : execute s blk snd msg with
  | error e => cases msg <;> simp [h, Res.isOk]
  | ok r =>
    obtain ⟨s', out⟩ := r
    have hd := supply_delta h
    cases msg <;> simp only [] at hd <;> simp [h, Res.isOk] <;> omega

/-- **C01, history ledger**: over any history from any state, `supply + burned = initial supply + minted`:
the supply is moved by the successful mints and burns, by exactly their amounts, and by nothing else
(transfers, sends, draws, allowance/minter/marketing updates and failed calls contribute nothing). -/
theorem supply_ledger (s : State) (ops : List (Block × Addr × Msg)) :
    (run s ops).supply + burned s ops = s.supply + minted s ops := by
  induction ops generalizing s with
  | nil => rfl
  | cons op rest ih =>
    have h1 := step_ledger s op
    have h2 := ih (step s op.1 op.2.1 op.2.2)
    show (run (step s op.1 op.2.1 op.2.2) rest).supply + (burnedAt s op + burned (step s op.1 op.2.1 op.2.2) rest)
      = s.supply + (mintedAt s op + minted (step s op.1 op.2.1 op.2.2) rest)
    omega

/-- The ledger for the tokens that exist: after an accepted instantiation and any history,
`Σ balances + burned = initial Σ balances + minted`. -/
theorem circulation_ledger {m : InstMsg} {s : State} (h : instantiate m = .ok s) (ops : List (Block × Addr × Msg)) :
    AMap.sum (run s ops).balances + burned s ops = AMap.sum s.balances + minted s ops := by
  have h1 := (reach_inv h ops).1
  have h2 := (instantiate_inv h).1
  have := supply_ledger s ops
  omega

/-- A history without a successful mint never raises the supply; one without a successful burn never
lowers it. -/
theorem supply_monotone_without {s : State} (ops : List (Block × Addr × Msg)) :
    (minted s ops = 0 → (run s ops).supply ≤ s.supply) ∧ (burned s ops = 0 → s.supply ≤ (run s ops).supply) := by
  have := supply_ledger s ops
  constructor <;> intro h0 <;> omega

/-- Handler level: a `burn` fails only for lack of funds (under the invariant the supply subtraction cannot
underflow, because the balance is part of the supply). -/
theorem burn_ok_iff {s : State} {snd : Addr} {amt : Nat} (hi : Inv s) :
    (∃ r, execBurn s snd amt = .ok r) ↔ amt ≤ bal s snd := by
  constructor
  · rintro ⟨r, h⟩
    obtain ⟨b1, h1, _⟩ := execBurn_ok_iff.mp h
    exact (debit_ok_iff.mp h1).1
  · intro hle
    exact ⟨_, execBurn_ok_iff.mpr ⟨_, debit_ok_iff.mpr ⟨hle, rfl⟩, Nat.le_trans hle (bal_le_supply hi snd), rfl⟩⟩

/-! ## The unchecked `+` of the credit step cannot panic -/

/-- **C01**: under the invariant, the `credit` (`balance + amount`, which panics on overflow
in the Rust code) after a successful `debit` of the same amount can never fail: what was debited
plus what any account holds is at most the supply, which fits `Uint128`. -/
theorem credit_cannot_overflow {s : State} {a r : Addr} {amt : Nat} {b1 : AMap Addr Nat}
    (hi : Inv s) (h : debit s.balances a amt = .ok b1) : ∃ b2, credit b1 r amt = .ok b2 := by
  have hsum := debit_sum h
  have := AMap.get?_le_sum b1 r
  obtain ⟨h1, h2⟩ := hi
  exact ⟨_, credit_ok_iff.mpr ⟨by omega, rfl⟩⟩

/-- Handler level: a `transfer` to a valid address fails only for lack of funds. -/
theorem transfer_ok_iff {s : State} {snd : Addr} {to : AddrArg} {amt : Nat} (hi : Inv s) :
    (∃ r, execTransfer s snd to amt = .ok r) ↔ (to.valid = true ∧ amt ≤ bal s snd) := by
  constructor
  · rintro ⟨r, h⟩
    obtain ⟨hv, b1, h1, _⟩ := execTransfer_ok_iff.mp h
    exact ⟨hv, (debit_ok_iff.mp h1).1⟩
  · rintro ⟨hv, hle⟩
    have hd := debit_ok_iff.mpr ⟨hle, rfl⟩
    obtain ⟨b2, h2⟩ := credit_cannot_overflow (r := to.text) hi hd
    exact ⟨_, execTransfer_ok_iff.mpr ⟨hv, _, hd, b2, h2, rfl⟩⟩

/-- Handler level: a `send` to a valid address fails only for lack of funds. -/
theorem send_ok_iff {s : State} {snd : Addr} {c : AddrArg} {amt : Nat} {p : String} (hi : Inv s) :
    (∃ r, execSend s snd c amt p = .ok r) ↔ (c.valid = true ∧ amt ≤ bal s snd) := by
  constructor
  · rintro ⟨r, h⟩
    obtain ⟨hv, b1, h1, _⟩ := execSend_ok_iff.mp h
    exact ⟨hv, (debit_ok_iff.mp h1).1⟩
  · rintro ⟨hv, hle⟩
    have hd := debit_ok_iff.mpr ⟨hle, rfl⟩
    obtain ⟨b2, h2⟩ := credit_cannot_overflow (r := c.text) hi hd
    exact ⟨_, execSend_ok_iff.mpr ⟨hv, _, hd, b2, h2, rfl⟩⟩

/-- The same for the `*From` handlers: `deduct_allowance` does not touch balances or supply, so the
credit after `deduct` + `debit` cannot fail either. -/
theorem credit_cannot_overflow_from {s s1 : State} {blk : Block} {o sp r : Addr} {amt : Nat} {b1 : AMap Addr Nat}
    (hi : Inv s) (hd : deduct s blk o sp amt = .ok s1) (h : debit s1.balances o amt = .ok b1) :
    ∃ b2, credit b1 r amt = .ok b2 := by
  obtain ⟨_, _, rfl⟩ := deduct_frame hd
  exact credit_cannot_overflow hi h

/-- Handler level: once the allowance was deducted and the owner debited, `transferFrom` succeeds. -/
theorem transferFrom_credit_ok {s s1 : State} {blk : Block} {snd : Addr} {o to : AddrArg} {amt : Nat}
    {b1 : AMap Addr Nat} (hi : Inv s) (hto : to.valid = true) (ho : o.valid = true)
    (hd : deduct s blk o.text snd amt = .ok s1) (h : debit s1.balances o.text amt = .ok b1) :
    ∃ r, execTransferFrom s blk snd o to amt = .ok r := by
  obtain ⟨b2, h2⟩ := credit_cannot_overflow_from (r := to.text) hi hd h
  exact ⟨_, execTransferFrom_ok_iff.mpr ⟨hto, ho, _, hd, b1, h, b2, h2, rfl⟩⟩

/-- Handler level: once the allowance was deducted and the owner debited, `sendFrom` succeeds. -/
theorem sendFrom_credit_ok {s s1 : State} {blk : Block} {snd : Addr} {o c : AddrArg} {amt : Nat} {p : String}
    {b1 : AMap Addr Nat} (hi : Inv s) (hc : c.valid = true) (ho : o.valid = true)
    (hd : deduct s blk o.text snd amt = .ok s1) (h : debit s1.balances o.text amt = .ok b1) :
    ∃ r, execSendFrom s blk snd o c amt p = .ok r := by
  obtain ⟨b2, h2⟩ := credit_cannot_overflow_from (r := c.text) hi hd h
  exact ⟨_, execSendFrom_ok_iff.mpr ⟨hc, ho, _, hd, b1, h, b2, h2, rfl⟩⟩

/-- **C01, rollback clause**: a call that fails leaves the state exactly as it was (this is the
definition of `step`: the runtime discards the writes of a failing transaction). -/
theorem failed_call_changes_nothing {s : State} {blk : Block} {snd : Addr} {msg : Msg} {e : String}
    (h : execute s blk snd msg = .error e) : step s blk snd msg = s := by
  simp [step, h]

/-! ## The listed accounts: supply = Σ `Balance` over the complete `AllAccounts` listing -/

/-- `TokenInfo.total_supply` as the query reports it: the stored `TOKEN_INFO.total_supply` (the
driver renders `obs.supply` from this field). -/
def queryTotalSupply (s : State) : Nat := s.supply

/-- What a client reads with `Balance { address }` for a listed (hence valid) address. -/
def balanceOf (s : State) (a : Addr) : Nat :=
  match queryBalance s ⟨true, a⟩ with
  | .ok n => n
  | .error _ => 0

theorem balanceOf_eq (s : State) (a : Addr) : queryBalance s ⟨true, a⟩ = .ok (balanceOf s a) ∧ balanceOf s a = bal s a := by
  simp [balanceOf, queryBalance, check, bind, Except.bind, pure, Except.pure]

/-- State level: where supply = Σ balances and no balance key is repeated, the `Balance` answers over the completely
paged `AllAccounts` listing add up to the reported total supply. -/
theorem listed_sum_of_inv {s : State} (hi : Inv s) (hn : AMap.NodupKeys s.balances) (limit : Option Nat)
    (hl : limit ≠ some 0) {fuel : Nat} (hf : s.balances.length + 1 ≤ fuel) :
    ((Paginate.fetchLoop (fun c => queryAllAccounts s c limit) id none fuel).map (balanceOf s)).sum
      = queryTotalSupply s := by
  rw [CwPlus.Props.C20.all_accounts_complete hn limit hl hf, queryTotalSupply, hi.1,
    ← Paginate.sum_sortedEntries Paginate.strLt s.balances, List.map_map]
  unfold AMap.sum
  congr 1
  apply List.map_congr_left
  intro e he
  obtain ⟨k, v⟩ := e
  have := (Paginate.mem_sortedEntries_iff_get? Paginate.strLt hn k v).mp he
  simp [(balanceOf_eq s k).2, bal, this]

/-- **C01 "the total supply it reports equals the sum of the balances of all accounts it lists"**:
after any accepted instantiation and any history, page through `AllAccounts` to completion — any
`limit ≠ 0` (absent, small, or above the maximum), each page requested with the last returned
address as `start_after`, until an empty page comes back — and add up `Balance` over the addresses
obtained: the result is exactly `TokenInfo.total_supply`.  (By C20 the listing so obtained contains
every account with a balance entry exactly once, in ascending order; `fuel` only bounds the number of
page requests and any `fuel > number of accounts` suffices.) -/
theorem listed_sum {m : InstMsg} {s0 : State} (h : instantiate m = .ok s0) (ops : List (Block × Addr × Msg))
    (limit : Option Nat) (hl : limit ≠ some 0) {fuel : Nat} (hf : (run s0 ops).balances.length + 1 ≤ fuel) :
    ((Paginate.fetchLoop (fun c => queryAllAccounts (run s0 ops) c limit) id none fuel).map
        (balanceOf (run s0 ops))).sum = queryTotalSupply (run s0 ops) :=
  listed_sum_of_inv (reach_inv h ops) (CwPlus.Props.C20.reach_nodup h ops).balances limit hl hf

/-- … and every address of that listing answers the `Balance` query with its stored balance. -/
theorem listed_balance_answers (s : State) (a : Addr) : queryBalance s ⟨true, a⟩ = .ok (balanceOf s a) :=
  (balanceOf_eq s a).1

/-! ## Non-vacuity: the hypotheses are satisfiable on a concrete, non-trivial history -/

/-- An instantiate message with two funded accounts, an empty account and a capped minter. -/
def exInst : InstMsg :=
  { name := "Token", symbol := "TKN", decimals := 6,
    initial := [(⟨true, "alice"⟩, 100), (⟨true, "bob"⟩, 25), (⟨true, "carol"⟩, 0)],
    mint := some (⟨true, "minter"⟩, some 1000) }

def exState : State :=
  { supply := 125, mint := some ⟨"minter", some 1000⟩,
    balances := [("alice", 100), ("bob", 25), ("carol", 0)],
    allow := [], allowSp := [], version := ⟨CONTRACT_NAME, 2, 0, 0, none⟩ }

def exBlk : Block := ⟨100, 5000⟩

/-- transfer, mint, allowance grant, draw through the allowance, burn, self-transfer, and two failing
calls (overdraft, mint by a stranger). -/
def exOps : List (Block × Addr × Msg) :=
  [ (exBlk, "alice", .transfer ⟨true, "bob"⟩ 40),
    (exBlk, "minter", .mint ⟨true, "dave"⟩ 500),
    (exBlk, "alice", .increaseAllowance ⟨true, "bob"⟩ 30 none),
    (exBlk, "bob", .transferFrom ⟨true, "alice"⟩ ⟨true, "carol"⟩ 30),
    (exBlk, "bob", .burn 5),
    (exBlk, "dave", .transfer ⟨true, "dave"⟩ 500),
    (exBlk, "carol", .transfer ⟨true, "bob"⟩ 31),
    (exBlk, "bob", .mint ⟨true, "bob"⟩ 1) ]

/-- `reach_inv`'s hypothesis holds for `exInst`: it is accepted, with the expected state. -/
example : instantiate exInst = .ok exState := by rfl

/-- The history really moves tokens: supply 125 → 620, four non-zero balances, and the invariant's
two sides are both 620. -/
example : (run exState exOps).supply = 620 ∧ AMap.sum (run exState exOps).balances = 620
    ∧ (run exState exOps).balances = [("alice", 30), ("bob", 60), ("carol", 30), ("dave", 500)] := by
  decide +kernel

/-- The two failing calls of the history do fail (and the others succeed). -/
example : (execute (run exState (exOps.take 6)) exBlk "carol" (.transfer ⟨true, "bob"⟩ 31)).isOk = false
    ∧ (execute (run exState (exOps.take 6)) exBlk "bob" (.mint ⟨true, "bob"⟩ 1)).isOk = false
    ∧ (execute exState exBlk "alice" (.transfer ⟨true, "bob"⟩ 40)).isOk = true := by
  decide +kernel

example : Inv (run exState exOps) := reach_inv (m := exInst) rfl exOps

/-- non-vacuity of `listed_sum`: paging the four accounts of the example history two at a time (three
requests: two full pages and the empty one) lists all of them, and their balances add up to the
reported supply 620 -/
example : Paginate.fetchLoop (fun c => queryAllAccounts (run exState exOps) c (some 2)) id none 5 = ["alice", "bob", "carol", "dave"] ∧
    (["alice", "bob", "carol", "dave"].map (balanceOf (run exState exOps))).sum = 620 ∧
    queryTotalSupply (run exState exOps) = 620 := by
  have hb : (run exState exOps).balances = [("alice", 30), ("bob", 60), ("carol", 30), ("dave", 500)] := by decide +kernel
  have hs : Paginate.sortedEntries Paginate.strLt (run exState exOps).balances =
      [("alice", 30), ("bob", 60), ("carol", 30), ("dave", 500)] := by
    rw [hb]; exact Paginate.sortedEntries_of_sorted Paginate.strictTotal_strLt (by unfold Paginate.Sorted; decide +kernel)
  refine ⟨?_, by decide +kernel, by decide +kernel⟩
  simp only [queryAllAccounts, hs]; decide +kernel

example : ((Paginate.fetchLoop (fun c => queryAllAccounts (run exState exOps) c (some 2)) id none 5).map
      (balanceOf (run exState exOps))).sum = queryTotalSupply (run exState exOps) :=
  listed_sum (m := exInst) rfl exOps (some 2) (by decide +kernel) (by decide +kernel)


/-! ### Non-vacuity of the ledger and the only-mint / only-burn theorems -/

/-- The example history mints 500 and burns 5 (the failing mint by bob counts for nothing):
125 + 500 = 620 + 5. -/
example : minted exState exOps = 500 := by decide +kernel
example : burned exState exOps = 5 := by decide +kernel
example : (run exState exOps).supply + burned exState exOps = exState.supply + minted exState exOps :=
  supply_ledger exState exOps
/-- hypotheses of `supply_raised_only_by_mint` / `supply_lowered_only_by_burn` are satisfiable -/
example : ∃ s' out, execute exState exBlk "minter" (.mint ⟨true, "dave"⟩ 50) = .ok (s', out) ∧ exState.supply < s'.supply :=
  ⟨_, _, rfl, by decide +kernel⟩
example : ∃ s' out, execute exState exBlk "bob" (.burn 5) = .ok (s', out) ∧ s'.supply < exState.supply :=
  ⟨_, _, rfl, by decide +kernel⟩
/-- a burn through an allowance lowers the supply too (second disjunct) -/
example : ∃ s' out, execute (run exState (exOps.take 3)) exBlk "bob" (.burnFrom ⟨true, "alice"⟩ 30) = .ok (s', out)
    ∧ s'.supply < (run exState (exOps.take 3)).supply := ⟨_, _, rfl, by decide⟩
example : (∃ r, execBurn exState "bob" 25 = .ok r) ∧ ¬ (∃ r, execBurn exState "bob" 26 = .ok r) :=
  ⟨(burn_ok_iff (reach_inv (m := exInst) rfl [])).mpr (by decide),
   fun h => absurd ((burn_ok_iff (reach_inv (m := exInst) rfl [])).mp h) (by decide)⟩

end CwPlus.Props.C01
