import CwPlus.Lemmas.Cw4Group
/-!
# cw4-group: the current view of `MEMBERS` never holds a key twice

`AMap.NodupKeys s.members.cur` is established by `instantiate` (`create` on the empty storage) and
preserved by every handler, hence by every history (`run_nodup`).  It is the hypothesis of the
`ListMembers` completeness theorem of C20 (`Props/C20Listings.lean`).  Core only.
-/
namespace CwPlus.Cw4Group
open CwPlus CwPlus.Snapshot

theorem instantiate_nodup {msg : InstMsg} {h : Nat} {s : State} (hi : instantiate msg h = .ok s) :
    AMap.NodupKeys s.members.cur :=
  (instantiate_sameBlock hi).1.nodup SnapMap.nodup_empty

theorem execute_nodup {s s' : State} {h : Nat} {snd : Addr} {msg : Msg} {out : List Out}
    (hs : AMap.NodupKeys s.members.cur) (hc : execute s h snd msg = .ok (s', out)) :
    AMap.NodupKeys s'.members.cur :=
  (execute_sameBlock hc).1.nodup hs

theorem run_nodup (ops : List Op) {s : State} (hs : AMap.NodupKeys s.members.cur) :
    AMap.NodupKeys (run s ops).members.cur :=
  run_induct (P := fun s => AMap.NodupKeys s.members.cur) execute_nodup hs ops

end CwPlus.Cw4Group
