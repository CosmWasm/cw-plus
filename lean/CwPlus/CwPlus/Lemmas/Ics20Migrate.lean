import CwPlus.Lemmas.Ics20
/-!
The upgrade path of cw20-ics20 (`migrate` from a stored version ≤ 0.13.0, which runs `v2::update_balances`):
exact effect of the reconciliation loop on `outstanding` *and* `total_sent`; the storage well-formedness
invariant (`WellFormed`: distinct keys, every key belongs to a known channel) and its preservation by every
transaction; the single-channel sum lemma used by C11; and the converse direction: conditions under which
`reduceBalance`, a receive, a refund and `migrate` itself succeed.
-/
namespace CwPlus.Ics20
open CwPlus

/-! ## Association-list facts about the channel-state map -/

theorem mem_keys_of_get? {m : ChanMap} {k : Key} {v : ChanState} (h : m.get? k = some v) : k ∈ AMap.keys m :=
  List.mem_map_of_mem (f := (·.1)) (AMap.get?_some_mem h)

theorem outAt_of_not_mem_keys {m : ChanMap} {k : Key} (h : k ∉ AMap.keys m) : outAt m k = 0 := by
  simp [outAt, AMap.get?_eq_none_iff.mpr h]

theorem totAt_of_not_mem_keys {m : ChanMap} {k : Key} (h : k ∉ AMap.keys m) : totAt m k = 0 := by
  simp [totAt, AMap.get?_eq_none_iff.mpr h]

/-! ## `v2::update_balances`: exact effect -/

/-- One round of the reconciliation loop (`v2::update_denom`): an entry of another channel, or one whose booked
balance already is the real one, is skipped; otherwise `outstanding` becomes the real balance and
`total_sent` grows by the same difference. -/
theorem updateDenoms_cons {ch : String} {hold : Denom → Option Nat} {c : String} {d : Denom} {cs : ChanState}
    {rest : List (Key × ChanState)} {m m' : ChanMap} (h : updateDenoms ch hold (((c, d), cs) :: rest) m = .ok m') :
    ∃ m1, updateDenoms ch hold rest m1 = .ok m' ∧
      ((c ≠ ch ∧ m1 = m) ∨
       (c = ch ∧ ∃ bal, hold d = some bal ∧ cs.outstanding ≤ bal ∧
          ((bal = cs.outstanding ∧ m1 = m) ∨
           (bal ≤ U128_MAX ∧ m1 = m.set (c, d) ⟨bal, cs.totalSent + (bal - cs.outstanding)⟩)))) := by
  unfold updateDenoms at h
  split at h
  · next hc =>
    split at h
    · cases h
    · next bal hb =>
      simp only [subU128_bind_ok] at h
      obtain ⟨hle, h⟩ := h
      split at h
      · next hz => exact ⟨m, h, Or.inr ⟨hc, bal, hb, hle, Or.inl ⟨by omega, rfl⟩⟩⟩
      · simp only [addU128_bind_ok] at h
        obtain ⟨hfit, _, h⟩ := h
        have e : cs.outstanding + (bal - cs.outstanding) = bal := by omega
        rw [e] at h hfit
        exact ⟨_, h, Or.inr ⟨hc, bal, hb, hle, Or.inr ⟨hfit, rfl⟩⟩⟩
  · next hc => exact ⟨m, h, Or.inl ⟨hc, rfl⟩⟩
/-- The reconciliation loop, entry by entry: an entry of the migrated channel ends with
`outstanding = real balance` and `total_sent` increased by the same difference; every other key is
untouched. -/
theorem updateDenoms_get? (ch : String) (hold : Denom → Option Nat) (es : List (Key × ChanState))
    (m m' : ChanMap) (h : updateDenoms ch hold es m = .ok m')
    (hnd : (es.map (·.1)).Nodup) (hagree : ∀ e ∈ es, m.get? e.1 = some e.2) :
    (∀ e ∈ es, e.1.1 = ch → ∃ bal, hold e.1.2 = some bal ∧ e.2.outstanding ≤ bal ∧
        m'.get? e.1 = some ⟨bal, e.2.totalSent + (bal - e.2.outstanding)⟩) ∧
    (∀ k, (k ∉ es.map (·.1) ∨ k.1 ≠ ch) → m'.get? k = m.get? k) := by
  induction es generalizing m with
  | nil => cases h; exact ⟨fun _ he => absurd he (List.not_mem_nil), fun _ _ => rfl⟩
  | cons e rest ih =>
    obtain ⟨⟨c, d⟩, cs⟩ := e
    simp only [List.map_cons, List.nodup_cons] at hnd
    obtain ⟨hnotin, hnd'⟩ := hnd
    have hhead : m.get? (c, d) = some cs := hagree ((c, d), cs) (List.mem_cons_self ..)
    obtain ⟨m1, h1, hm1⟩ := updateDenoms_cons h
    -- the round touches at most its own key, and the rest of the loop does not come back to it
    have hframe : ∀ k, k ≠ (c, d) → m1.get? k = m.get? k := by
      intro k hk
      rcases hm1 with ⟨_, rfl⟩ | ⟨_, _, _, _, ⟨_, rfl⟩ | ⟨_, rfl⟩⟩
      · rfl
      · rfl
      · exact AMap.get?_set_ne _ _ _ _ (Ne.symm hk)
    have hown : c = ch → ∃ bal, hold d = some bal ∧ cs.outstanding ≤ bal ∧
        m1.get? (c, d) = some ⟨bal, cs.totalSent + (bal - cs.outstanding)⟩ := by
      intro hc
      rcases hm1 with ⟨hne, _⟩ | ⟨_, bal, hb, hle, ⟨rfl, rfl⟩ | ⟨_, rfl⟩⟩
      · exact absurd hc hne
      · exact ⟨_, hb, hle, by rw [hhead, Nat.sub_self]; rfl⟩
      · exact ⟨bal, hb, hle, AMap.get?_set_eq ..⟩
    have hagree' : ∀ e ∈ rest, m1.get? e.1 = some e.2 := by
      intro e he
      have hne : e.1 ≠ (c, d) := by
        intro eq; apply hnotin; rw [← eq]; exact List.mem_map_of_mem he
      rw [hframe _ hne]; exact hagree e (List.mem_cons_of_mem _ he)
    obtain ⟨ih1, ih2⟩ := ih m1 h1 hnd' hagree'
    refine ⟨?_, ?_⟩
    · intro e he hch
      rcases List.mem_cons.mp he with rfl | he
      · obtain ⟨bal, hb, hle, hget⟩ := hown hch
        exact ⟨bal, hb, hle, by rw [ih2 (c, d) (Or.inl hnotin)]; exact hget⟩
      · exact ih1 e he hch
    · intro k hk
      rw [ih2 k (hk.imp (fun hk hin => hk (List.mem_cons_of_mem _ hin)) id)]
      by_cases hkk : k = (c, d)
      · subst hkk
        rcases hk with hk | hk
        · exact absurd (List.mem_cons_self ..) hk
        · rcases hm1 with ⟨_, rfl⟩ | ⟨hc, _⟩
          · rfl
          · exact absurd hc hk
      · exact hframe k hkk

theorem updateDenoms_keys (ch : String) (hold : Denom → Option Nat) (es : List (Key × ChanState)) {m m' : ChanMap}
    (hes : ∀ e ∈ es, e.1 ∈ AMap.keys m) (h : updateDenoms ch hold es m = .ok m') : AMap.keys m' = AMap.keys m := by
  induction es generalizing m with
  | nil => cases h; rfl
  | cons e rest ih =>
    obtain ⟨⟨c, d⟩, cs⟩ := e
    have hrest : ∀ e' ∈ rest, e'.1 ∈ AMap.keys m := fun e' he' => hes e' (List.mem_cons_of_mem _ he')
    obtain ⟨m1, h1, hm1⟩ := updateDenoms_cons h
    rcases hm1 with ⟨_, rfl⟩ | ⟨_, _, _, _, ⟨_, rfl⟩ | ⟨_, rfl⟩⟩
    · exact ih hrest h1
    · exact ih hrest h1
    · have hk := fun v => AMap.keys_set_of_mem (v := v) (hes ((c, d), cs) (List.mem_cons_self ..))
      rw [ih (fun e' he' => hk _ ▸ hrest e' he') h1, hk]

/-- `v2::update_balances` on the books of a one-channel contract with distinct storage keys: every
denomination with an entry on the channel ends with `outstanding = real balance ≥ old outstanding` and
`total_sent` increased by exactly the difference; every key of another channel is untouched. -/
theorem updateDenoms_full {m m' : ChanMap} {hold : Denom → Option Nat} {ch : String}
    (hnd : AMap.NodupKeys m) (h : updateDenoms ch hold m m = .ok m') :
    (∀ d cs, m.get? (ch, d) = some cs → ∃ bal, hold d = some bal ∧ cs.outstanding ≤ bal ∧
        m'.get? (ch, d) = some ⟨bal, cs.totalSent + (bal - cs.outstanding)⟩) ∧
    (∀ k, (k ∉ AMap.keys m ∨ k.1 ≠ ch) → m'.get? k = m.get? k) := by
  obtain ⟨r1, r2⟩ := updateDenoms_get? ch hold m m m' h hnd (fun e he => (AMap.get?_eq_some_iff hnd).mpr he)
  exact ⟨fun d cs hg => r1 ((ch, d), cs) (AMap.get?_some_mem hg) rfl, r2⟩

/-! ## What `migrate` does to the books -/

/-- `migrate` never touches the channel list; the books are either unchanged or (stored version ≤ 0.13.0,
exactly one channel) rewritten by the reconciliation loop of `v2::update_balances`. -/
theorem migrate_books {s s' : State} {gas : Option Nat} {hold : Denom → Option Nat}
    (h : migrate s gas hold = .ok s') :
    s'.channels = s.channels ∧
    (s'.chan = s.chan ∨
     (Version.le s.version MIGRATE_VERSION_3 = true ∧
        ∃ ch, s.channels = [ch] ∧ updateDenoms ch hold s.chan s.chan = .ok s'.chan)) := by
  obtain ⟨adm, v1, c0, cfg, m, rfl, _, _, hB, _⟩ := migrate_ok h
  refine ⟨rfl, ?_⟩
  rcases hB with ⟨_, rfl⟩ | ⟨hv, ⟨_, rfl⟩ | ⟨ch, hc, hm⟩⟩
  · exact Or.inl rfl
  · exact Or.inl rfl
  · exact Or.inr ⟨hv, ch, hc, hm⟩

theorem migrate_keys {s s' : State} {gas : Option Nat} {hold : Denom → Option Nat}
    (h : migrate s gas hold = .ok s') : AMap.keys s'.chan = AMap.keys s.chan := by
  rcases (migrate_books h).2 with e | ⟨_, ch, _, hm⟩
  · rw [e]
  · exact updateDenoms_keys ch hold s.chan (fun _ => List.mem_map_of_mem) hm

/-! ## Storage well-formedness and its preservation -/

/-- The channel-state map as the storage engine keeps it: distinct keys, and every key belongs to a
channel of `CHANNEL_INFO` (`increase_channel_balance` is only reached after the channel lookup of
`execute_transfer`; all other writers overwrite existing keys). -/
def WellFormed (s : State) : Prop :=
  AMap.NodupKeys s.chan ∧ ∀ k ∈ AMap.keys s.chan, k.1 ∈ s.channels

theorem wellFormed_of_keys {s s' : State} (h : WellFormed s) (hk : AMap.keys s'.chan = AMap.keys s.chan)
    (hc : ∀ c ∈ s.channels, c ∈ s'.channels) : WellFormed s' := by
  obtain ⟨h1, h2⟩ := h
  refine ⟨?_, ?_⟩
  · unfold AMap.NodupKeys at *; rw [hk]; exact h1
  · intro k hkm; rw [hk] at hkm; exact hc _ (h2 k hkm)

theorem wellFormed_set {s s' : State} (h : WellFormed s) (k : Key) (v : ChanState)
    (hk : k ∈ AMap.keys s.chan ∨ k.1 ∈ s.channels) (hc : s'.chan = s.chan.set k v)
    (hch : ∀ c ∈ s.channels, c ∈ s'.channels) : WellFormed s' := by
  obtain ⟨h1, h2⟩ := h
  refine ⟨by rw [hc]; exact AMap.nodup_set h1, ?_⟩
  intro x hx
  rw [hc] at hx
  rcases AMap.mem_keys_set.mp hx with hx | rfl
  · exact hch _ (h2 x hx)
  · rcases hk with hk | hk
    · exact hch _ (h2 x hk)
    · exact hch _ hk

theorem wellFormed_increase {s s' : State} {ch : ChanMap} {c : String} {d : Denom} {amt : Nat} (h : WellFormed s)
    (hinc : increaseBalance s.chan c d amt = .ok ch) (hmem : c ∈ s.channels) (hc : s'.chan = ch)
    (hch : s'.channels = s.channels) : WellFormed s' := by
  simp [increaseBalance] at hinc
  obtain ⟨_, _, rfl⟩ := hinc
  exact wellFormed_set h (c, d) _ (Or.inr hmem) hc (by intro x hx; rw [hch]; exact hx)

theorem wellFormed_reduce {s s' : State} {ch : ChanMap} {c : String} {d : Denom} {amt : Nat} (h : WellFormed s)
    (hred : reduceBalance s.chan c d amt = .ok ch) (hc : s'.chan = ch) (hch : s'.channels = s.channels) :
    WellFormed s' := by
  obtain ⟨cs, hg, _, rfl, _, _⟩ := reduceBalance_ok hred
  exact wellFormed_set h (c, d) _ (Or.inl (mem_keys_of_get? hg)) hc (by intro x hx; rw [hch]; exact hx)

theorem migrate_wellFormed {s s' : State} {gas : Option Nat} {hold : Denom → Option Nat} (hwf : WellFormed s)
    (h : migrate s gas hold = .ok s') : WellFormed s' :=
  wellFormed_of_keys hwf (migrate_keys h) (fun _ hc => (migrate_books h).1 ▸ hc)

theorem exec_wellFormed {w w' : World} {blk : Block} {op : Op} {o : Outcome}
    (hwf : WellFormed w.st) (h : w.exec blk op = .ok (w', o)) : WellFormed w'.st := by
  cases exec_tx h with
  | quiet s' hw hchan _ hchs _ _ _ _ => subst hw; exact wellFormed_of_keys hwf (by rw [hchan]) hchs
  | migrate gas s' _ hm hw _ => subst hw; exact migrate_wellFormed hwf hm
  | escrow w1 out ch _ hinc hmem _ _ hw _ _ _ _ _ => subst hw; exact wellFormed_increase hwf hinc hmem rfl rfl
  | redeem p rv tv f d amt ch sub _ _ hred _ _ hst _ => rw [hst]; exact wellFormed_reduce hwf hred rfl rfl
  | refund chan p sv tv f ch sub _ hred _ _ _ hst => rw [hst]; exact wellFormed_reduce hwf hred rfl rfl
  | acked chan p sv tv f _ hw _ => subst hw; exact hwf

/-- A freshly instantiated contract has no channel entry yet. -/
theorem instantiate_chan {m : InstMsg} {s : State} (h : instantiate m = .ok s) : s.chan = [] := by
  simp [instantiate] at h
  obtain ⟨_, allow, _, rfl⟩ := h
  rfl

theorem instantiate_wellFormed {m : InstMsg} {s : State} (h : instantiate m = .ok s) : WellFormed s := by
  rw [WellFormed, instantiate_chan h]
  exact ⟨by simp [AMap.NodupKeys, AMap.keys], by intro k hk; simp [AMap.keys] at hk⟩

/-! ## One channel: the sum over channels is the entry of that channel -/

theorem sumDenom_single {m : ChanMap} {ch : String} (hnd : AMap.NodupKeys m) (hk : ∀ k ∈ AMap.keys m, k.1 = ch)
    (d : Denom) : sumDenom m d = outAt m (ch, d) := by
  induction m with
  | nil => simp [sumDenom, outAt]
  | cons e rest ih =>
    obtain ⟨⟨c, d'⟩, cs⟩ := e
    simp only [AMap.NodupKeys, AMap.keys, List.map_cons, List.nodup_cons] at hnd
    have hc : c = ch := hk (c, d') (by simp [AMap.keys])
    subst hc
    have ih' := ih hnd.2 (fun k hkm => hk k (by simp [AMap.keys] at hkm ⊢; right; exact hkm))
    by_cases hd : d' = d
    · subst hd
      have h0 : outAt rest (c, d') = 0 := outAt_of_not_mem_keys hnd.1
      simp [sumDenom, outAt, AMap.get?] at ih' h0 ⊢
      omega
    · have hne : ¬ ((c, d') = (c, d)) := by intro e; cases e; exact hd rfl
      have e1 : outAt (((c, d'), cs) :: rest) (c, d) = outAt rest (c, d) := by simp [outAt, AMap.get?, hne]
      rw [e1, ← ih']; simp [sumDenom, hd]

theorem sumDenom_no_channels {s : State} (hwf : WellFormed s) (h0 : s.channels = []) (d : Denom) :
    sumDenom s.chan d = 0 := by
  have : s.chan = [] := by
    cases hm : s.chan with
    | nil => rfl
    | cons e rest =>
      have := hwf.2 e.1 (by rw [hm]; simp [AMap.keys])
      rw [h0] at this; cases this
  rw [this]; rfl

/-- After the reconciliation loop on a well-formed one-channel contract, the sum over channels of the
outstanding balance of a denomination is the real balance when the channel has an entry for it and zero
otherwise. -/
theorem updateDenoms_sum {s : State} {m : ChanMap} {hold : Denom → Option Nat} {ch : String}
    (hch : s.channels = [ch]) (hwf : WellFormed s) (h : updateDenoms ch hold s.chan s.chan = .ok m) (d : Denom) :
    (∀ cs, s.chan.get? (ch, d) = some cs → ∃ bal, hold d = some bal ∧ cs.outstanding ≤ bal ∧
        sumDenom m d = bal ∧ outAt m (ch, d) = bal) ∧
    (s.chan.get? (ch, d) = none → sumDenom m d = 0) := by
  obtain ⟨r1, r2⟩ := updateDenoms_full hwf.1 h
  have r3 := updateDenoms_keys ch hold s.chan (fun _ => List.mem_map_of_mem) h
  have hk' : ∀ k ∈ AMap.keys m, k.1 = ch := by
    intro k hk; rw [r3] at hk
    have := hwf.2 k hk; rw [hch] at this; simpa using this
  have hnd' : AMap.NodupKeys m := by unfold AMap.NodupKeys; rw [r3]; exact hwf.1
  have hsum := sumDenom_single hnd' hk' d
  constructor
  · intro cs hg
    obtain ⟨bal, hb, hle, hget⟩ := r1 d cs hg
    have ho : outAt m (ch, d) = bal := by simp [outAt, hget]
    exact ⟨bal, hb, hle, by rw [hsum, ho], ho⟩
  · intro hn
    rw [hsum]
    apply outAt_of_not_mem_keys
    rw [r3]; exact AMap.get?_eq_none_iff.mp hn

/-! ## `migrate` from ≤ 0.13.0, entry by entry -/

/-- A successful `migrate` from a stored version ≤ 0.13.0 of a one-channel contract ran the reconciliation
loop on the books. -/
theorem migrate_legacy_books {s s' : State} {gas : Option Nat} {hold : Denom → Option Nat} {ch : String}
    (hv : Version.le s.version MIGRATE_VERSION_3 = true) (hch : s.channels = [ch]) (h : migrate s gas hold = .ok s') :
    updateDenoms ch hold s.chan s.chan = .ok s'.chan := by
  obtain ⟨adm, v1, c0, cfg, m, rfl, _, _, hB, _⟩ := migrate_ok h
  rcases hB with ⟨hv', _⟩ | ⟨_, ⟨h0, _⟩ | ⟨ch', hc, hm⟩⟩
  · rw [hv] at hv'; cases hv'
  · rw [hch] at h0; cases h0
  · rw [hch] at hc; cases hc
    exact hm

/-- A successful `migrate` from a stored version ≤ 0.13.0 of a one-channel contract with distinct storage
keys: each entry `{outstanding, total_sent}` of the channel becomes
`{balance, total_sent + (balance − outstanding)}` where `balance ≥ outstanding` is the contract's real
balance of the denomination; keys of other channels are untouched. -/
theorem migrate_legacy_entry {s s' : State} {gas : Option Nat} {hold : Denom → Option Nat} {ch : String}
    (hnd : AMap.NodupKeys s.chan) (hv : Version.le s.version MIGRATE_VERSION_3 = true) (hch : s.channels = [ch])
    (h : migrate s gas hold = .ok s') :
    (∀ d cs, s.chan.get? (ch, d) = some cs → ∃ bal, hold d = some bal ∧ cs.outstanding ≤ bal ∧
        s'.chan.get? (ch, d) = some ⟨bal, cs.totalSent + (bal - cs.outstanding)⟩) ∧
    (∀ k, (k ∉ AMap.keys s.chan ∨ k.1 ≠ ch) → s'.chan.get? k = s.chan.get? k) :=
  updateDenoms_full hnd (migrate_legacy_books hv hch h)

/-- `reduce_channel_balance` cannot fail for an amount up to the stored outstanding balance. -/
theorem reduceBalance_ok_of_le {m : ChanMap} {c : String} {d : Denom} {cs : ChanState} {amt : Nat}
    (hg : m.get? (c, d) = some cs) (hle : amt ≤ cs.outstanding) :
    reduceBalance m c d amt = .ok (m.set (c, d) ⟨cs.outstanding - amt, cs.totalSent⟩) := by
  simp [reduceBalance, hg, subU128, hle, bind, Except.bind, pure, Except.pure]

/-- An incoming packet with well-formed fields, an amount up to the stored outstanding balance of its
denomination on the receiving channel, and a payable token is accepted by `do_ibc_packet_receive`. -/
theorem doReceive_ok_of_entry {s : State} {p : PacketIn} {tv : Bool} {d : Denom} {cs : ChanState} {amt : Nat}
    {gas : Option Nat} (hg : s.chan.get? (p.destChan, d) = some cs) (hamt : p.amount = some amt)
    (hvch : p.voucher = some (p.srcPort, p.srcChan, d)) (hle : amt ≤ cs.outstanding)
    (hgas : checkGasLimit s d tv = .ok gas) :
    doReceive s p tv =
      .ok ({ s with chan := s.chan.set (p.destChan, d) ⟨cs.outstanding - amt, cs.totalSent⟩,
                    replyArgs := some ⟨p.destChan, d, amt⟩ }, ⟨p.receiver, amt, d, gas, RECEIVE_ID⟩) := by
  unfold doReceive
  simp [hamt, hvch, hgas, reduceBalance_ok_of_le hg hle, check, bind, Except.bind, pure, Except.pure]

/-- A failed send (error acknowledgement / timeout) of an amount up to the stored outstanding balance is
accepted by `on_packet_failure` when the token is payable. -/
theorem onPacketFailure_ok_of_entry {s : State} {chan : String} {pk : Packet} {tv : Bool} {cs : ChanState}
    {gas : Option Nat} (hg : s.chan.get? (chan, pk.denom) = some cs) (hle : pk.amount ≤ cs.outstanding)
    (hgas : checkGasLimit s pk.denom tv = .ok gas) :
    onPacketFailure s chan (some pk) tv =
      .ok ({ s with chan := s.chan.set (chan, pk.denom) ⟨cs.outstanding - pk.amount, cs.totalSent⟩ },
           ⟨pk.sender, pk.amount, pk.denom, gas, ACK_FAILURE_ID⟩) := by
  unfold onPacketFailure
  simp [hgas, reduceBalance_ok_of_le hg hle, bind, Except.bind, pure, Except.pure]

/-! ## Liveness: a legacy contract can be migrated -/

/-- The reconciliation loop succeeds when every entry of the channel is under-booked and the reconciled
values fit `Uint128`. -/
theorem updateDenoms_ok (ch : String) (hold : Denom → Option Nat) (es : List (Key × ChanState))
    (h : ∀ e ∈ es, e.1.1 = ch → ∃ bal, hold e.1.2 = some bal ∧ e.2.outstanding ≤ bal ∧ bal ≤ U128_MAX ∧
      e.2.totalSent + (bal - e.2.outstanding) ≤ U128_MAX) (m : ChanMap) :
    ∃ m', updateDenoms ch hold es m = .ok m' := by
  induction es generalizing m with
  | nil => exact ⟨m, rfl⟩
  | cons e rest ih =>
    obtain ⟨⟨c, d⟩, cs⟩ := e
    have ih' := ih (fun e he => h e (List.mem_cons_of_mem _ he))
    unfold updateDenoms
    by_cases hc : c = ch
    · obtain ⟨bal, hb, hle, hfit, htot⟩ := h ((c, d), cs) (by simp) hc
      simp only [hc, if_true, hb]
      have hsub : subU128 bal cs.outstanding = .ok (bal - cs.outstanding) := by simp [subU128, hle]
      simp only [hsub, bind, Except.bind]
      by_cases hz : bal - cs.outstanding = 0
      · simp only [hz, if_true]; exact ih' m
      · have e1 : cs.outstanding + (bal - cs.outstanding) = bal := by omega
        have ha1 : addU128 cs.outstanding (bal - cs.outstanding) = .ok bal := by simp [addU128, e1, hfit]
        have ha2 : addU128 cs.totalSent (bal - cs.outstanding) = .ok (cs.totalSent + (bal - cs.outstanding)) := by
          simp [addU128, htot]
        simp only [hz, if_false, ha1, ha2]
        exact ih' _
    · simp only [hc, if_false]; exact ih' m

theorem not_newer_of_le_v3 {v : Version} (h : Version.le v MIGRATE_VERSION_3 = true) :
    Version.lt CONTRACT_VERSION v = false := by
  have hm : v.major = 0 := by
    unfold Version.le Version.lt MIGRATE_VERSION_3 at h
    by_cases h0 : (0 : Nat) = v.major
    · exact h0.symm
    · simp [h0] at h; omega
  unfold Version.lt CONTRACT_VERSION
  simp [hm]

/-- **A legacy contract can be migrated**: stored by this contract at a version in `[0.11.1, 0.13.0]`, with
the storage layout of that version (`gov_contract` inside the config iff ≤ 0.12.0-alpha1), at most one
channel, and every entry of that channel under-booked with reconciled values that fit `Uint128` (real
balances are `Uint128`; `total_sent + in-flight` fits unless ~2^128 tokens were ever sent): `migrate`
succeeds. -/
theorem migrate_ok_of_legacy {s : State} {gas : Option Nat} {hold : Denom → Option Nat}
    (hname : s.versionName = CONTRACT_NAME) (hmin : Version.lt s.version MIGRATE_MIN_VERSION = false)
    (hv3 : Version.le s.version MIGRATE_VERSION_3 = true)
    (hlayout : if Version.le s.version MIGRATE_VERSION_2 = true then s.v1gov.isSome = true else s.v1gov = none)
    (hone : s.channels.length ≤ 1)
    (hent : ∀ e ∈ s.chan, ∃ bal, hold e.1.2 = some bal ∧ e.2.outstanding ≤ bal ∧ bal ≤ U128_MAX ∧
      e.2.totalSent + (bal - e.2.outstanding) ≤ U128_MAX) :
    ∃ s', migrate s gas hold = .ok s' := by
  have hnew := not_newer_of_le_v3 hv3
  have hub : ∀ s1 : State, s1.v1gov = none → s1.chan = s.chan → s1.channels = s.channels →
      ∃ s2, updateBalances s1 hold = .ok s2 ∧ s2.v1gov = none := by
    intro s1 hg1 hc1 hch1
    cases hch : s1.channels with
    | nil => exact ⟨s1, by simp [updateBalances, hch], hg1⟩
    | cons ch rest =>
      have hrest : rest = [] := by
        rw [hch1] at hch; rw [hch] at hone; simpa using hone
      subst hrest
      obtain ⟨m, hm⟩ := updateDenoms_ok ch hold s1.chan (fun e he _ => hent e (by rw [← hc1]; exact he)) s1.chan
      exact ⟨{ s1 with chan := m }, by simp [updateBalances, hch, hm, bind, Except.bind, pure, Except.pure], hg1⟩
  have hck1 : check (s.versionName == CONTRACT_NAME) "cannotmigrate.name" = .ok () := by simp [check, hname]
  have hck2 : check (!(Version.lt CONTRACT_VERSION s.version)) "cannotmigrate.newer" = .ok () := by simp [check, hnew]
  have hck3 : check (!(Version.lt s.version MIGRATE_MIN_VERSION)) "cannotmigrate.old" = .ok () := by simp [check, hmin]
  have fin : ∀ s2 : State, s2.v1gov = none → ∃ s', (do
      let s3 ← (match gas with
        | some g => do
          let cfg ← loadConfig s2
          pure { s2 with config := ⟨cfg.defaultTimeout, some g⟩ }
        | none => pure s2 : Res State)
      pure (if Version.lt s.version CONTRACT_VERSION then { s3 with version := CONTRACT_VERSION } else s3) : Res State) = .ok s' := by
    intro s2 hg2
    have hcfg : loadConfig s2 = .ok s2.config := by simp [loadConfig, hg2]
    cases gas with
    | none => exact ⟨_, rfl⟩
    | some g => simp only [hcfg, bind, Except.bind]; exact ⟨_, rfl⟩
  unfold migrate
  simp only [hck1, hck2, hck3, hv3, if_true, bind, Except.bind]
  split at hlayout
  · rename_i hv2
    obtain ⟨g, hg⟩ := Option.isSome_iff_exists.mp hlayout
    obtain ⟨s2, h2, hg2⟩ := hub { s with admin := some g, config := ⟨s.config.defaultTimeout, none⟩, v1gov := none } rfl rfl rfl
    simp only [hv2, if_true, hg, pure, Except.pure, h2]
    exact fin s2 hg2
  · rename_i hv2
    obtain ⟨s2, h2, hg2⟩ := hub s hlayout rfl rfl
    simp only [hv2, Bool.false_eq_true, if_false, pure, Except.pure, h2]
    exact fin s2 hg2

end CwPlus.Ics20
