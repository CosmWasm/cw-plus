import CwPlus.Lemmas.Cw4Stake
/-!
# C14 — cw4: only the admin changes hooks/admin, and hooks hear every change truthfully (cw4-stake part)

In cw4-stake the membership itself is not administered (weights follow stakes, see C10); the admin can
only add/remove hooks and hand over / give up the admin role.

* `hooks_admin_change_auth`: a transaction that changes the hook list or the admin is an
  `UpdateAdmin` / `AddHook` / `RemoveHook` signed by the current admin; `admin_none_frozen(_run)`: once the
  admin is cleared, admin and hooks never change again.
* `bond_unbond_diffs_truthful`: a bond (native or cw20) or unbond that changes the sender's weight sends
  every currently registered hook exactly one message with the single diff `(sender, true old weight,
  true new weight)`, in registration order; when the weight does not change no message is sent at all; the
  weights of all other addresses are untouched.  `silent_ops`: no other transaction sends a hook message or
  changes a weight.  `removed_hook_silent`: a removed hook is not among the targets of later notifications.
-/
namespace CwPlus.Props.C14Stake
open CwPlus CwPlus.Cw4Stake CwPlus.Snapshot

def Op.isAdminOp : Op → Bool
  | .updateAdmin _ _ | .addHook _ _ | .removeHook _ _ => true
  | _ => false

theorem um_admin_hooks {st : State} {out : List Out} {s : State} {h : Nat} {a : Addr} {new : Option Nat}
    (e : (st, out) = um s h a new) : st.admin = s.admin ∧ st.hooks = s.hooks := by
  rw [(um_pair e).1]
  exact ⟨(um_frame _ _ _ _).2.1, (um_frame _ _ _ _).2.2.1⟩

/-- **C14 `hooks_admin_change_auth` (cw4-stake)**: if a successful transaction changes the admin or the
hook list, it is one of `UpdateAdmin` / `AddHook` / `RemoveHook` and its sender is the current admin. -/
theorem hooks_admin_change_auth {w w' : World} {blk : Block} {op : Op} {out : List Out}
    (h : tx w blk op = .ok (w', out)) (hc : w'.st.admin ≠ w.st.admin ∨ w'.st.hooks ≠ w.st.hooks) :
    w.st.admin = some (Op.sender op) ∧ Op.isAdminOp op = true := by
  cases op with
  | bond _ _ | send _ _ _ _ | unbond _ _ =>
    obtain ⟨_, _, _, _, _, _, hu, _⟩ := (tx_staking h).1 rfl
    obtain ⟨e1, e2⟩ := um_admin_hooks hu
    exact absurd hc (by simp [e1, e2])
  | claim snd => obtain ⟨_, _, _, hst, _⟩ := tx_claim_ok h; exact absurd hc (by simp [hst])
  | donate snd amt => obtain ⟨_, _, rfl⟩ := tx_donate_ok h; exact absurd hc (by simp)
  | receive _ _ _ _ => exact (tx_receive_not_ok h).elim
  | updateAdmin _ _ | addHook _ _ | removeHook _ _ => exact ⟨(tx_quiet_ok h rfl).2.1, rfl⟩

/-- **C14 `admin_none_frozen`**: with the admin cleared no transaction changes admin or hooks. -/
theorem admin_none_frozen {w w' : World} {blk : Block} {op : Op} {out : List Out}
    (hn : w.st.admin = none) (h : tx w blk op = .ok (w', out)) :
    w'.st.admin = none ∧ w'.st.hooks = w.st.hooks := by
  by_cases hc : w'.st.admin ≠ w.st.admin ∨ w'.st.hooks ≠ w.st.hooks
  · have := (hooks_admin_change_auth h hc).1
    rw [hn] at this; cases this
  · have : w'.st.admin = w.st.admin ∧ w'.st.hooks = w.st.hooks := by
      constructor
      · exact Classical.not_not.mp (fun hx => hc (Or.inl hx))
      · exact Classical.not_not.mp (fun hx => hc (Or.inr hx))
    exact ⟨this.1.trans hn, this.2⟩

/-- … forever: over every later history. -/
theorem admin_none_frozen_run (w : World) (hn : w.st.admin = none) (ops : List (Block × Op)) :
    (run w ops).st.admin = none ∧ (run w ops).st.hooks = w.st.hooks :=
  run_inv (fun x => x.st.admin = none ∧ x.st.hooks = w.st.hooks)
    (fun _ _ _ _ _ hi ht => by
      obtain ⟨a, b⟩ := admin_none_frozen hi.1 ht
      exact ⟨a, b.trans hi.2⟩)
    ⟨hn, rfl⟩ ops

/-! ## Truthful notifications -/

/-- The address whose stake a transaction bonds / unbonds. -/
def Op.staker : Op → Option Addr
  | .bond snd _ | .send snd _ _ _ | .unbond snd _ => some snd
  | _ => none

/-- The notifications a weight change `old → new` of `a` must produce: one single-diff message per
registered hook, in registration order; none when nothing changed. -/
def expectedMsgs (hooks : List Addr) (a : Addr) (old new : Option Nat) : List Out :=
  if new = old then [] else hooks.map (fun hk => Out.hook hk a old new)

theorem staker_eq (op : Op) : Op.staker op = if Op.isStaking op then some (Op.sender op) else none := by
  cases op <;> rfl

theorem um_truthful {st : State} {out : List Out} {s : State} {h : Nat} {a : Addr} {new : Option Nat}
    (e : (st, out) = um s h a new) :
    out = expectedMsgs s.hooks a (s.members.get? a) (st.members.get? a) ∧
    (∀ x, x ≠ a → st.members.get? x = s.members.get? x) := by
  obtain ⟨e1, e2⟩ := um_pair e
  have hnew : st.members.get? a = new := by rw [e1, um_get?]; simp
  constructor
  · rw [hnew, e2, um_out]; rfl
  · intro x hx
    rw [e1, um_get?]
    simp [Ne.symm hx]

/-- **C14 `bond_unbond_diffs_truthful` (cw4-stake)**: a successful bond (native funds or cw20 send) or
unbond by `a` emits exactly: nothing if `a`'s weight is unchanged, otherwise one message per hook registered
*at that moment*, in order, each carrying the single diff `(a, weight before, weight after)` with the true
values as reported by `Member { addr: a }` before and after; nobody else's weight changes; and every
notified hook accepted its message (otherwise the whole transaction would have been rolled back). -/
theorem bond_unbond_diffs_truthful {w w' : World} {blk : Block} {op : Op} {out : List Out} {a : Addr}
    (h : tx w blk op = .ok (w', out)) (hs : Op.staker op = some a) :
    out = expectedMsgs w.st.hooks a (weightOf w.st a) (weightOf w'.st a) ∧
    (∀ x, x ≠ a → weightOf w'.st x = weightOf w.st x) ∧
    (weightOf w'.st a ≠ weightOf w.st a → ∀ hk ∈ w.st.hooks, hk ∈ w.accepting) := by
  rw [staker_eq] at hs
  split at hs
  · rename_i hk
    cases hs
    obtain ⟨stake', claims', _, new, _, _, hu, _, hacc⟩ := (tx_staking h).1 hk
    obtain ⟨k1, k2⟩ := um_truthful hu
    refine ⟨k1, k2, fun hne hk hmem => hacc hk (Op.sender op) (weightOf w.st (Op.sender op)) (weightOf w'.st (Op.sender op)) ?_⟩
    have hne' : ¬ w'.st.members.get? (Op.sender op) = w.st.members.get? (Op.sender op) := hne
    rw [k1, expectedMsgs, if_neg hne']
    exact List.mem_map.mpr ⟨hk, hmem, rfl⟩
  · cases hs

/-- **C14 no spurious notifications**: every other successful transaction (claim, admin operations, plain
transfers) sends no hook message and changes no weight. -/
theorem silent_ops {w w' : World} {blk : Block} {op : Op} {out : List Out}
    (h : tx w blk op = .ok (w', out)) (hs : Op.staker op = none) :
    (∀ hk k old new, Out.hook hk k old new ∉ out) ∧ (∀ x, weightOf w'.st x = weightOf w.st x) := by
  rw [staker_eq] at hs
  split at hs
  · cases hs
  · rename_i hk
    obtain ⟨_, hm, _, _, hsil⟩ := (tx_staking h).2 (by simpa using hk)
    exact ⟨hsil, fun x => by rw [weightOf, hm]; rfl⟩

/-- **C14 `removed_hook_silent`**: a hook that is not registered when a transaction runs is not a target of
any of its notifications. -/
theorem removed_hook_silent {w w' : World} {blk : Block} {op : Op} {out : List Out}
    (h : tx w blk op = .ok (w', out)) (hk : Addr) (hn : hk ∉ w.st.hooks) :
    ∀ k old new, Out.hook hk k old new ∉ out := by
  intro k old new hm
  cases hs : Op.staker op with
  | none => exact (silent_ops h hs).1 hk k old new hm
  | some a =>
    obtain ⟨ho, _⟩ := bond_unbond_diffs_truthful h hs
    rw [ho] at hm
    unfold expectedMsgs at hm
    split at hm
    · simp at hm
    · simp at hm
      exact hn (by obtain ⟨x, hx, e, _⟩ := hm; exact e ▸ hx)

/-! ## Non-vacuity -/

def cfgMsg : InstMsg := ⟨.native "ustake", 10, 20, .height 5, some ⟨true, "admin"⟩⟩

def stOf (m : InstMsg) : State :=
  match instantiate m with
  | .ok st => st
  | .error _ => default

def w0 : World := World.init (stOf cfgMsg) [("alice", 100)] ["hookA", "hookB"]
def b1 : Block := ⟨100, 0⟩

/-- the admin registers two hooks, a stranger cannot; alice's bond of 35 notifies both with `(alice, -, 3)`,
her further bond of 4 (weight stays 3) notifies nobody, after removing hookA only hookB hears the unbond -/
def w1 : World := run w0 [(b1, .addHook "admin" ⟨true, "hookA"⟩), (b1, .addHook "admin" ⟨true, "hookB"⟩),
  (b1, .addHook "mallory" ⟨true, "hookC"⟩)]

example : w1.st.hooks = ["hookA", "hookB"] := by decide +kernel
example : (tx w1 b1 (.bond "alice" [("ustake", 35)])).toOption.map (·.2)
    = some [.hook "hookA" "alice" none (some 3), .hook "hookB" "alice" none (some 3)] := by decide +kernel
example : (tx (run w1 [(b1, .bond "alice" [("ustake", 35)])]) b1 (.bond "alice" [("ustake", 4)])).toOption.map (·.2)
    = some [] := by decide +kernel
example : (tx (run w1 [(b1, .bond "alice" [("ustake", 35)]), (b1, .removeHook "admin" ⟨true, "hookA"⟩)]) b1
    (.unbond "alice" 20)).toOption.map (·.2) = some [.hook "hookB" "alice" (some 3) none] := by decide +kernel
/-- a registered hook that does not accept the message makes the bond fail as a whole -/
example : (tx (run w1 [(b1, .addHook "admin" ⟨true, "refuser"⟩)]) b1 (.bond "alice" [("ustake", 35)])).isOk = false := by
  decide +kernel

/-! # History-level theorems -/

/-! ## Each hook is registered once (closes "exactly one notification per hook" for cw4-stake) -/

theorem hooks_nodup_tx {w w' : World} {blk : Block} {op : Op} {out : List Out}
    (hn : w.st.hooks.Nodup) (h : tx w blk op = .ok (w', out)) : w'.st.hooks.Nodup := by
  rcases tx_hooks h with e | ⟨_, a, _, hnm, e⟩ | ⟨_, a, _, e⟩ <;> rw [e]
  · exact hn
  · exact List.nodup_append.mpr ⟨hn, List.pairwise_singleton _ _, fun x hx y hy e => hnm (by rw [← List.mem_singleton.mp hy, ← e]; exact hx)⟩
  · exact hn.erase _

theorem run_hooks_nodup {w : World} (hn : w.st.hooks.Nodup) (ops : List (Block × Op)) :
    (run w ops).st.hooks.Nodup :=
  run_inv (fun x => x.st.hooks.Nodup) (fun _ _ _ _ _ hi ht => hooks_nodup_tx hi ht) hn ops

/-- **C14 (cw4-stake), each hook is registered once**: after any accepted instantiation and any history the
hook list holds no address twice — so "one message per entry of the hook list"
(`bond_unbond_diffs_truthful`) is "exactly one message per registered hook". -/
theorem reachable_hooks_nodup {m : InstMsg} {st : State} (h : instantiate m = .ok st) (bal : AMap Addr Nat)
    (acc : List Addr) (ops : List (Block × Op)) : (run (World.init st bal acc) ops).st.hooks.Nodup := by
  apply run_hooks_nodup
  obtain ⟨adm, rfl⟩ := instantiate_ok h
  exact List.nodup_nil

/-- **C14 (cw4-stake), exactly one notification per registered hook**: on every reachable world, a
successful bond / unbond of `a` that changes `a`'s weight emits a list of messages without repetition, as
many as there are registered hooks, and a hook gets the message `(a, old weight, new weight)` iff it is
registered: every registered hook hears the change exactly once, nobody else hears anything. -/
theorem exactly_one_msg_per_hook {m : InstMsg} {st : State} (hi : instantiate m = .ok st) (bal : AMap Addr Nat)
    (acc : List Addr) (ops : List (Block × Op)) {w' : World} {blk : Block} {op : Op} {out : List Out} {a : Addr}
    (h : tx (run (World.init st bal acc) ops) blk op = .ok (w', out)) (hs : Op.staker op = some a)
    (hch : weightOf w'.st a ≠ weightOf (run (World.init st bal acc) ops).st a) :
    out.Nodup ∧ out.length = (run (World.init st bal acc) ops).st.hooks.length ∧
    ∀ hk, hk ∈ (run (World.init st bal acc) ops).st.hooks ↔
      Out.hook hk a (weightOf (run (World.init st bal acc) ops).st a) (weightOf w'.st a) ∈ out := by
  have hn := reachable_hooks_nodup hi bal acc ops
  obtain ⟨ho, _⟩ := bond_unbond_diffs_truthful h hs
  rw [ho]
  simp only [expectedMsgs, hch, if_false]
  refine ⟨?_, by simp, ?_⟩
  · exact List.Pairwise.map _ (fun x y hxy e => hxy (by injection e)) hn
  · intro hk
    simp

/-! ## A hook that is not registered hears nothing, over histories -/

theorem step_hooks_not_mem {w : World} {hk : Addr} (hn : hk ∉ w.st.hooks) (blk : Block) (op : Op)
    (hno : ∀ s a, op = .addHook s a → a.text ≠ hk) : hk ∉ (step w blk op).st.hooks := by
  rcases step_cases w blk op with ⟨w', out, ht, hs, _, _⟩ | ⟨hs, _, _⟩ <;> rw [hs]
  · rcases tx_hooks ht with e | ⟨s, a, hop, _, e⟩ | ⟨_, a, _, e⟩ <;> rw [e]
    · exact hn
    · simp only [List.mem_append, List.mem_singleton, not_or]
      exact ⟨hn, fun e => hno s a hop e.symm⟩
    · exact fun hm => hn (List.mem_of_mem_erase hm)
  · exact hn

/-- **C14 `removed_hook_silent` (cw4-stake), histories**: a hook that is not registered stays
unregistered and receives no notification along any history, as long as no `AddHook` names it. -/
theorem unregistered_silent {w : World} {hk : Addr} (hn : hk ∉ w.st.hooks) (ops : List (Block × Op))
    (hno : ∀ o ∈ ops, ∀ s a, o.2 = .addHook s a → a.text ≠ hk) :
    hk ∉ (run w ops).st.hooks ∧ ∀ k old new, Out.hook hk k old new ∉ outs w ops := by
  induction ops generalizing w with
  | nil => exact ⟨hn, by simp⟩
  | cons o rest ih =>
    have hstep := step_hooks_not_mem hn o.1 o.2 (hno o (by simp))
    obtain ⟨i1, i2⟩ := ih hstep (fun o' ho' => hno o' (by simp [ho']))
    refine ⟨i1, ?_⟩
    intro k old new hm
    simp only [outs_cons, List.mem_append] at hm
    rcases hm with hm | hm
    · rcases step_cases w o.1 o.2 with ⟨w', out, ht, _, ho, _⟩ | ⟨_, ho, _⟩
      · rw [ho] at hm; exact removed_hook_silent ht hk hn k old new hm
      · rw [ho] at hm; cases hm
    · exact i2 k old new hm

/-- **C14 `removed_hook_silent` (cw4-stake), after the removal, forever**: on a world whose hook list has
no repetition (every reachable one, `reachable_hooks_nodup`), after a successful `RemoveHook { addr }` the
address is no longer registered and no bond / unbond of any later history notifies it, unless and until an
`AddHook` registers it again. -/
theorem removed_hook_silent_run {w w' : World} {blk : Block} {snd : Addr} {a : AddrArg} {out : List Out}
    (hn : w.st.hooks.Nodup) (h : tx w blk (.removeHook snd a) = .ok (w', out)) (ops : List (Block × Op))
    (hno : ∀ o ∈ ops, ∀ s b, o.2 = .addHook s b → b.text ≠ a.text) :
    out = [] ∧ a.text ∉ (run w' ops).st.hooks ∧ ∀ k old new, Out.hook a.text k old new ∉ outs w' ops := by
  obtain ⟨_, ho, _, rfl⟩ := tx_removeHook_ok h
  have hnot : a.text ∉ w.st.hooks.erase a.text := fun hm => ((List.Nodup.mem_erase_iff hn).mp hm).1 rfl
  obtain ⟨h1, h2⟩ := unregistered_silent (w := { w with st := { w.st with hooks := w.st.hooks.erase a.text } })
    hnot ops hno
  exact ⟨ho, h1, h2⟩

/-! ## A registered hook can rebuild the membership from what it hears -/

/-- The membership change one notification describes. -/
def applyNote (m : AMap Addr Nat) (k : Addr) (new : Option Nat) : AMap Addr Nat :=
  match new with
  | some v => m.set k v
  | none => m.erase k

/-- What hook `hk` does with the messages of a history: it ignores what is not addressed to it and applies
each diff it receives to its replica of the member table — refusing (`none`) if the reported `old` weight is
not what its replica holds. -/
def replica (hk : Addr) : AMap Addr Nat → List Out → Option (AMap Addr Nat)
  | m, [] => some m
  | m, .hook t k old new :: rest =>
    if t = hk then (if m.get? k = old then replica hk (applyNote m k new) rest else none)
    else replica hk m rest
  | m, _ :: rest => replica hk m rest

theorem replica_append (hk : Addr) (m : AMap Addr Nat) (x y : List Out) :
    replica hk m (x ++ y) = (replica hk m x).bind (fun m' => replica hk m' y) := by
  induction x generalizing m with
  | nil => rfl
  | cons o rest ih =>
    cases o with
    | hook t k old new =>
      simp only [List.cons_append, replica]
      split
      · split
        · exact ih _
        · rfl
      · exact ih _
    | bank _ _ _ => simp only [List.cons_append, replica]; exact ih _
    | cw20Transfer _ _ _ => simp only [List.cons_append, replica]; exact ih _

theorem replica_not_addressed (hk : Addr) (m : AMap Addr Nat) {out : List Out}
    (hh : ∀ k old new, Out.hook hk k old new ∉ out) : replica hk m out = some m := by
  induction out with
  | nil => rfl
  | cons o rest ih =>
    have ih' := ih (fun k old new hm => hh k old new (by simp [hm]))
    cases o with
    | hook t k old new =>
      simp only [replica]
      split
      · rename_i e; subst e; exact absurd (by simp) (hh k old new)
      · exact ih'
    | bank _ _ _ => simp only [replica]; exact ih'
    | cw20Transfer _ _ _ => simp only [replica]; exact ih'

theorem replica_round (hk : Addr) (m : AMap Addr Nat) (a : Addr) (old new : Option Nat) (hooks : List Addr)
    (hn : hooks.Nodup) (hmem : hk ∈ hooks) (hold : m.get? a = old) :
    replica hk m (hooks.map (fun t => Out.hook t a old new)) = some (applyNote m a new) := by
  induction hooks with
  | nil => cases hmem
  | cons t rest ih =>
    simp only [List.map_cons, replica]
    rw [List.nodup_cons] at hn
    by_cases e : t = hk
    · subst e
      simp only [if_true, hold]
      apply replica_not_addressed
      intro k o n hm
      simp only [List.mem_map] at hm
      obtain ⟨x, hx, e⟩ := hm
      injection e with e1
      subst e1
      exact hn.1 hx
    · simp only [e, if_false]
      exact ih hn.2 (by simpa [Ne.symm e] using hmem)

theorem um_cur (s : State) (h : Nat) (a : Addr) (new : Option Nat) (hne : new ≠ s.members.get? a) :
    (um s h a new).1.members.cur = applyNote s.members.cur a new := by
  unfold um
  simp only [hne, if_false]
  cases new <;> rfl

theorem um_replica {st : State} {out : List Out} {s : State} {h : Nat} {a : Addr} {new : Option Nat} {hk : Addr}
    (e : (st, out) = um s h a new) (hn : s.hooks.Nodup) (hmem : hk ∈ s.hooks) :
    replica hk s.members.cur out = some st.members.cur := by
  obtain ⟨e1, e2⟩ := um_pair e
  by_cases hne : new = s.members.get? a
  · have : um s h a new = (s, []) := by unfold um; simp [hne]
    rw [e1, e2, this]; rfl
  · rw [e1, e2, um_cur s h a new hne, um_out]
    simp only [hne, if_false]
    exact replica_round hk _ a _ new s.hooks hn hmem rfl

theorem replica_tx {w w' : World} {blk : Block} {op : Op} {out : List Out} {hk : Addr}
    (h : tx w blk op = .ok (w', out)) (hn : w.st.hooks.Nodup) (hmem : hk ∈ w.st.hooks) :
    replica hk w.st.members.cur out = some w'.st.members.cur := by
  cases hs : Op.isStaking op with
  | true =>
    obtain ⟨stake', claims', _, new, _, _, hu, _⟩ := (tx_staking h).1 hs
    exact um_replica (s := { w.st with stake := stake', claims := claims' }) hu hn hmem
  | false =>
    obtain ⟨_, hm, _, _, hsil⟩ := (tx_staking h).2 hs
    rw [replica_not_addressed hk _ (fun k old new => hsil hk k old new), hm]

theorem step_hooks_mem {w : World} {hk : Addr} (hmem : hk ∈ w.st.hooks) (blk : Block) (op : Op)
    (hstay : ∀ s a, op = .removeHook s a → a.text ≠ hk) : hk ∈ (step w blk op).st.hooks := by
  rcases step_cases w blk op with ⟨w', out, ht, hs, _, _⟩ | ⟨hs, _, _⟩ <;> rw [hs]
  · rcases tx_hooks ht with e | ⟨_, a, _, _, e⟩ | ⟨s, a, hop, e⟩ <;> rw [e]
    · exact hmem
    · exact List.mem_append_left _ hmem
    · exact (List.mem_erase_of_ne (Ne.symm (hstay s a hop))).mpr hmem
  · exact hmem

/-- `hk` is registered at every point of the history (at the start and after each transaction). -/
def StaysRegistered (hk : Addr) (w : World) (ops : List (Block × Op)) : Prop :=
  ∀ n, n ≤ ops.length → hk ∈ (run w (ops.take n)).st.hooks

theorem staysRegistered_cons {hk : Addr} {w : World} {o : Block × Op} {rest : List (Block × Op)}
    (h : StaysRegistered hk w (o :: rest)) :
    hk ∈ w.st.hooks ∧ StaysRegistered hk (step w o.1 o.2) rest := by
  refine ⟨by simpa using h 0 (by simp), ?_⟩
  intro n hn
  have := h (n + 1) (by simpa using hn)
  simpa using this

/-- **C14 (cw4-stake), hooks hear every change truthfully — end to end**: a hook `hk` that is registered
(once: every reachable world, `reachable_hooks_nodup`) and stays registered during a history can rebuild the
member table from nothing but the notifications it receives: starting from the table at the time of
registration and applying each received diff `(key, old, new)` in order — checking every `old` against its
own replica — it never hits a mismatch and ends with exactly the contract's current member table.  So no
change of any weight goes unreported, no reported change did not happen, and every reported previous / new
weight is the true one, over whole histories of bonds, unbonds, claims, admin operations (also failed
attempts to remove `hk`), plain transfers and failed transactions of any senders. -/
theorem hook_replica_registered {w : World} {hk : Addr} (hn : w.st.hooks.Nodup)
    (ops : List (Block × Op)) (hreg : StaysRegistered hk w ops) :
    replica hk w.st.members.cur (outs w ops) = some (run w ops).st.members.cur := by
  induction ops generalizing w with
  | nil => rfl
  | cons o rest ih =>
    obtain ⟨hmem, hreg'⟩ := staysRegistered_cons hreg
    have hn' : (step w o.1 o.2).st.hooks.Nodup := by
      have := run_hooks_nodup hn [o]; simpa using this
    have i1 := ih hn' hreg'
    rw [outs_cons, replica_append, run_cons]
    rcases step_cases w o.1 o.2 with ⟨w', out, ht, hs, ho, _⟩ | ⟨hs, ho, _⟩
    · rw [ho, replica_tx ht hn hmem]
      rw [hs] at i1 ⊢
      exact i1
    · rw [ho]
      rw [hs] at i1 ⊢
      exact i1

theorem staysRegistered_of_not_removed {w : World} {hk : Addr} (hmem : hk ∈ w.st.hooks)
    (ops : List (Block × Op)) (hstay : ∀ o ∈ ops, ∀ s a, o.2 = .removeHook s a → a.text ≠ hk) :
    StaysRegistered hk w ops := fun _ _ =>
  foldl_invariant (fun w' : World => hk ∈ w'.st.hooks)
    (fun _ hw' o ho => step_hooks_mem hw' o.1 o.2 (hstay o (List.mem_of_mem_take ho))) hmem

/-- **`hook_replica`** in the form "nobody asks to remove `hk`" (sufficient for `StaysRegistered`). -/
theorem hook_replica {w : World} {hk : Addr} (hn : w.st.hooks.Nodup) (hmem : hk ∈ w.st.hooks)
    (ops : List (Block × Op)) (hstay : ∀ o ∈ ops, ∀ s a, o.2 = .removeHook s a → a.text ≠ hk) :
    replica hk w.st.members.cur (outs w ops) = some (run w ops).st.members.cur ∧ hk ∈ (run w ops).st.hooks := by
  have hreg := staysRegistered_of_not_removed hmem ops hstay
  refine ⟨hook_replica_registered hn ops hreg, ?_⟩
  have := hreg ops.length (Nat.le_refl _)
  simpa using this

/-- The weight the hook's replica reports is the contract's: corollary of `hook_replica` for point reads. -/
theorem hook_replica_weight {w : World} {hk : Addr} (hn : w.st.hooks.Nodup) (hmem : hk ∈ w.st.hooks)
    (ops : List (Block × Op)) (hstay : ∀ o ∈ ops, ∀ s a, o.2 = .removeHook s a → a.text ≠ hk) :
    ∃ m, replica hk w.st.members.cur (outs w ops) = some m ∧ ∀ a, m.get? a = weightOf (run w ops).st a :=
  ⟨_, (hook_replica hn hmem ops hstay).1, fun _ => rfl⟩

/-! ## Membership changes only by the member's own bond / unbond, over histories -/

/-- **C14 / C10 (cw4-stake)**: over any history in which `a` signs no transaction the weight of `a` does
not change — nobody but `a` (not the admin, not another staker) can change `a`'s membership. -/
theorem weight_frame_run (a : Addr) (w : World) (ops : List (Block × Op)) (hs : ∀ o ∈ ops, Op.sender o.2 ≠ a) :
    weightOf (run w ops).st a = weightOf w.st a := by
  refine foldl_invariant (fun w' : World => weightOf w'.st a = weightOf w.st a) (fun w1 h1 o ho => ?_) rfl
  rcases step_cases w1 o.1 o.2 with ⟨w', out, ht, hst, _, _⟩ | ⟨hst, _, _⟩
  · rw [hst, ← h1]
    have hne := hs o ho
    cases hk : Op.staker o.2 with
    | none => exact (silent_ops ht hk).2 a
    | some b =>
      have hb : b ≠ a := by
        intro e; subst e
        apply hne
        cases hop : o.2 <;> rw [hop] at hk <;> simp [Op.staker] at hk <;> simp [Op.sender, hk]
      exact (bond_unbond_diffs_truthful ht hk).2.1 a (Ne.symm hb)
  · rw [hst]; exact h1

/-! ## Non-vacuity of the history-level theorems -/

/-- Decidable forms of the side conditions "no `RemoveHook` / `AddHook` names `hk`". -/
def Op.removesHook (hk : Addr) : Op → Bool
  | .removeHook _ a => a.text == hk
  | _ => false
def Op.addsHook (hk : Addr) : Op → Bool
  | .addHook _ a => a.text == hk
  | _ => false

theorem stays_of_removesHook {hk : Addr} {ops : List (Block × Op)} (h : ∀ o ∈ ops, Op.removesHook hk o.2 = false) :
    ∀ o ∈ ops, ∀ s a, o.2 = .removeHook s a → a.text ≠ hk := by
  intro o ho s a e
  have := h o ho
  rw [e] at this
  simpa [Op.removesHook] using this

theorem notAdded_of_addsHook {hk : Addr} {ops : List (Block × Op)} (h : ∀ o ∈ ops, Op.addsHook hk o.2 = false) :
    ∀ o ∈ ops, ∀ s a, o.2 = .addHook s a → a.text ≠ hk := by
  intro o ho s a e
  have := h o ho
  rw [e] at this
  simpa [Op.addsHook] using this

theorem inst_cfgMsg : instantiate cfgMsg = .ok (stOf cfgMsg) := rfl

/-- after `w1` (hookA, hookB registered): alice bonds 35 (weight 3), bonds 4 (still 3), the admin removes
hookA, alice unbonds 20 (no longer a member), mallory tries to remove hookB, alice bonds 30 again (weight 4) -/
def laterOps : List (Block × Op) :=
  [(b1, .bond "alice" [("ustake", 35)]), (b1, .bond "alice" [("ustake", 4)]),
   (b1, .removeHook "admin" ⟨true, "hookA"⟩), (b1, .unbond "alice" 20),
   (b1, .removeHook "mallory" ⟨true, "hookB"⟩), (b1, .bond "alice" [("ustake", 30)])]

example : outs w1 laterOps =
    [.hook "hookA" "alice" none (some 3), .hook "hookB" "alice" none (some 3),
     .hook "hookB" "alice" (some 3) none, .hook "hookB" "alice" none (some 4)] := by decide +kernel
example : (run w1 laterOps).st.members.cur = [("alice", 4)] ∧ (run w1 laterOps).st.hooks = ["hookB"] := by decide +kernel
/-- hookB stays registered along `laterOps` (mallory's attempt to remove it fails) and rebuilds the table
`[("alice", 4)]` -/
example : replica "hookB" w1.st.members.cur (outs w1 laterOps) = some (run w1 laterOps).st.members.cur :=
  hook_replica_registered (w := w1) (hk := "hookB") (by decide +kernel) laterOps (by unfold StaysRegistered; decide +kernel)
/-- nobody names hookB in the first four transactions -/
example := hook_replica (w := w1) (hk := "hookB") (by decide +kernel) (by decide +kernel) (laterOps.take 4)
  (stays_of_removesHook (by decide +kernel))
/-- hookA, removed by the third transaction, hears nothing of the last three -/
example : ∀ k old new, Out.hook "hookA" k old new ∉ outs (run w1 (laterOps.take 3)) (laterOps.drop 3) :=
  (unregistered_silent (w := run w1 (laterOps.take 3)) (hk := "hookA") (by decide +kernel) (laterOps.drop 3)
    (notAdded_of_addsHook (by decide +kernel))).2
example := reachable_hooks_nodup inst_cfgMsg [("alice", 100)] ["hookA", "hookB"]
  [(b1, .addHook "admin" ⟨true, "hookA"⟩), (b1, .addHook "admin" ⟨true, "hookA"⟩)]
/-- bob signs nothing in `laterOps`: his (absent) weight is untouched; alice's is not -/
example : weightOf (run w1 laterOps).st "bob" = weightOf w1.st "bob" :=
  weight_frame_run "bob" w1 laterOps (by decide +kernel)

/-- **admin cleared (cw4-stake)**: the admin gives up the role; afterwards neither the former admin nor
anybody else can add or remove a hook or install an admin, while staking goes on and still notifies the
hooks registered at that moment. -/
def frozenWorld : World := run w1 [(b1, .updateAdmin "admin" none)]
def frozenOps : List (Block × Op) :=
  [(b1, .addHook "admin" ⟨true, "hookC"⟩), (b1, .removeHook "admin" ⟨true, "hookA"⟩),
   (b1, .updateAdmin "admin" (some ⟨true, "admin"⟩)), (b1, .updateAdmin "mallory" (some ⟨true, "mallory"⟩)),
   (b1, .bond "alice" [("ustake", 35)])]
example : frozenWorld.st.admin = none := by decide +kernel
example : (run frozenWorld frozenOps).st.admin = none ∧ (run frozenWorld frozenOps).st.hooks = ["hookA", "hookB"] :=
  admin_none_frozen_run frozenWorld (by decide +kernel) frozenOps
example : weightOf (run frozenWorld frozenOps).st "alice" = some 3 ∧
    outs frozenWorld frozenOps = [.hook "hookA" "alice" none (some 3), .hook "hookB" "alice" none (some 3)] := by
  decide +kernel

theorem tx_ok_of_isOk {w : World} {blk : Block} {op : Op} (h : (tx w blk op).isOk = true) :
    ∃ w' out, tx w blk op = .ok (w', out) ∧ step w blk op = w' := by
  rcases step_cases w blk op with ⟨w', out, ht, hs, _, _⟩ | ⟨_, _, hf⟩
  · exact ⟨w', out, ht, hs⟩
  · rw [h] at hf; cases hf

/-- `exactly_one_msg_per_hook` on alice's first bond in `w1` (two hooks): two distinct messages -/
example : ∃ w' out, tx w1 b1 (.bond "alice" [("ustake", 35)]) = .ok (w', out) ∧ out.Nodup ∧ out.length = 2 ∧
    Out.hook "hookB" "alice" none (some 3) ∈ out := by
  obtain ⟨w', out, ht, hs⟩ := tx_ok_of_isOk (w := w1) (blk := b1) (op := .bond "alice" [("ustake", 35)]) (by decide +kernel)
  have hw : weightOf w'.st "alice" = some 3 := by rw [← hs]; decide
  have hch : weightOf w'.st "alice" ≠ weightOf w1.st "alice" := by rw [hw]; decide
  obtain ⟨h1, h2, h3⟩ := exactly_one_msg_per_hook inst_cfgMsg [("alice", 100)] ["hookA", "hookB"] _ ht rfl hch
  refine ⟨w', out, ht, h1, h2, ?_⟩
  have := (h3 "hookB").mp (by decide +kernel)
  rw [hw] at this
  exact this

/-- `removed_hook_silent_run` on the third transaction of `laterOps` and the three after it -/
example : ∃ w' out, tx (run w1 (laterOps.take 2)) b1 (.removeHook "admin" ⟨true, "hookA"⟩) = .ok (w', out) ∧
    "hookA" ∉ (run w' (laterOps.drop 3)).st.hooks ∧
    ∀ k old new, Out.hook "hookA" k old new ∉ outs w' (laterOps.drop 3) := by
  obtain ⟨w', out, ht, _⟩ := tx_ok_of_isOk (w := run w1 (laterOps.take 2)) (blk := b1)
    (op := .removeHook "admin" ⟨true, "hookA"⟩) (by decide +kernel)
  obtain ⟨_, h2, h3⟩ := removed_hook_silent_run (a := ⟨true, "hookA"⟩) (by decide +kernel) ht (laterOps.drop 3)
    (notAdded_of_addsHook (by decide +kernel))
  exact ⟨w', out, ht, h2, h3⟩

end CwPlus.Props.C14Stake
