import CwPlus.Props.MsgWire
import CwPlus.Lemmas.Ics20
/-!
# cw20-ics20: the payout / refund sub-message, byte for byte (part of C11 / C12)

`send_amount(amount, recipient)` (`contracts/cw20-ics20/src/ibc.rs`) builds the only message the IBC entry points
emit: for a cw20 denomination a `WasmMsg::Execute` on the token whose `msg` is
`to_json_binary(&Cw20ExecuteMsg::Transfer { recipient, amount })`, for a native one a `BankMsg::Send` (no JSON).
`MsgWire.wireOfIcs20` maps the model's `SubMsg` to these bytes.  Here the byte-level facts of `Props/MsgWire.lean`
are lifted to the model's entry points: the payout of a received packet and the refund after an error
acknowledgement or a timeout carry `encodeTransfer` of the receiver (resp. sender) and the amount *of the packet*,
and the token contract reads these bytes back as exactly that `Transfer`.

The tie: the harness prints the real `WasmMsg::Execute.msg` bytes of every emitted sub-message (`subraw=`), the driver
renders the same key with `MsgWire.subRawOfIcs20`.
-/
namespace CwPlus.Props.MsgWireIcs20
open CwPlus CwPlus.Json CwPlus.MsgWire CwPlus.Ics20

/-- the bytes `send_amount` produces for a denomination, a recipient and an amount -/
def expectedWire (d : Denom) (to : String) (amt : Nat) : Option Bytes :=
  match d with
  | .native _ => none
  | .cw20 _ => some (encodeTransfer to amt)

theorem wireOfIcs20_eq (sub : SubMsg) : wireOfIcs20 sub = expectedWire sub.denom sub.to sub.amount := by
  unfold wireOfIcs20 expectedWire; cases sub.denom <;> rfl

/-- C11 / C12 on the wire: `ibc_packet_receive` is total; when it acknowledges success it
emits exactly one sub-message, addressed to the packet's receiver with the packet's amount and the denomination `d`
of the voucher; if `d` is a cw20 token the bytes of its `msg` are `encodeTransfer receiver amount`
(`{"transfer":{"recipient":…,"amount":"…"}}`), if it is native there is no payload.  When it acknowledges an error it
emits no message at all. -/
theorem recv_payout_encoded {s s' : State} {p : PacketIn} {tv : Bool} {ack : Ics20.Ack} {sub : Option SubMsg}
    (h : ibcPacketReceive s p tv = (s', ack, sub)) :
    (ack = .success → ∃ sm amt d, sub = some sm ∧ p.amount = some amt ∧ p.voucher = some (p.srcPort, p.srcChan, d) ∧
        sm.to = p.receiver ∧ sm.amount = amt ∧ sm.denom = d ∧
        wireOfIcs20 sm = expectedWire d p.receiver amt ∧
        sub.toList.filterMap wireOfIcs20 = (expectedWire d p.receiver amt).toList) ∧
    (ack = .error → sub = none ∧ subRawOfIcs20 sub = "-") := by
  unfold ibcPacketReceive at h
  split at h
  · rename_i s1 sm hd
    obtain ⟨amt, d, ch, ha, hv, _, _, hto, hamt, hden, _, _⟩ := doReceive_ok hd
    simp only [Prod.mk.injEq] at h
    obtain ⟨_, rfl, rfl⟩ := h
    refine ⟨fun _ => ⟨sm, amt, d, rfl, ha, hv, hto, hamt, hden, ?_, ?_⟩, fun h => (by cases h)⟩
    · rw [wireOfIcs20_eq, hto, hamt, hden]
    · simp only [Option.toList, List.filterMap_cons, List.filterMap_nil]
      rw [wireOfIcs20_eq, hto, hamt, hden]
      cases expectedWire d p.receiver amt <;> rfl
  · simp only [Prod.mk.injEq] at h
    obtain ⟨_, rfl, rfl⟩ := h
    exact ⟨fun h => (by cases h), fun _ => ⟨rfl, rfl⟩⟩

/-- The refund that `on_packet_failure` (error acknowledgement or timeout of a packet this
contract sent) emits goes to the packet's sender with the packet's amount; for a cw20 denomination the bytes are
`encodeTransfer sender amount`, for a native one there is no payload. -/
theorem refund_encoded {s s' : State} {chan : String} {data : Option Ics20.Packet} {tv : Bool} {sub : SubMsg}
    (h : onPacketFailure s chan data tv = .ok (s', sub)) :
    ∃ pk, data = some pk ∧ wireOfIcs20 sub = expectedWire pk.denom pk.sender pk.amount := by
  obtain ⟨pk, _, hd, _, _, hto, hamt, hden, _⟩ := onPacketFailure_ok h
  exact ⟨pk, hd, by rw [wireOfIcs20_eq, hto, hamt, hden]⟩

/-- the same for the two entry points that call `on_packet_failure` -/
theorem ack_timeout_refund_encoded {s s' : State} {chan : String} {data : Option Ics20.Packet} {tv : Bool}
    {sub : Option SubMsg} :
    (∀ ackOk, ibcPacketAck s chan data ackOk tv = .ok (s', sub) →
      (ackOk = some true ∧ sub = none) ∨
      (ackOk = some false ∧ ∃ sm pk, sub = some sm ∧ data = some pk ∧
        wireOfIcs20 sm = expectedWire pk.denom pk.sender pk.amount)) ∧
    (ibcPacketTimeout s chan data tv = .ok (s', sub) →
      ∃ sm pk, sub = some sm ∧ data = some pk ∧ wireOfIcs20 sm = expectedWire pk.denom pk.sender pk.amount) := by
  constructor
  · intro ackOk h
    rcases ibcPacketAck_ok h with ⟨rfl, _, _, rfl⟩ | ⟨rfl, sm, hf, rfl⟩
    · exact Or.inl ⟨rfl, rfl⟩
    · obtain ⟨pk, hd, hw⟩ := refund_encoded hf
      exact Or.inr ⟨rfl, sm, pk, rfl, hd, hw⟩
  · intro h
    obtain ⟨sm, hf, rfl⟩ := ibcPacketTimeout_ok h
    obtain ⟨pk, hd, hw⟩ := refund_encoded hf
    exact ⟨sm, pk, rfl, hd, hw⟩

/-- The bytes of a cw20 payout / refund are read back by the token contract (`from_json::<Cw20ExecuteMsg>`) as
`Transfer` to exactly that recipient with exactly that amount.  The range of the amount (a `Uint128` in the packet)
is a hypothesis here; nothing of the ics20 model is used. -/
theorem payout_decodable (t : String) (to : String) (amt : Nat) (h : amt < 2 ^ 128) :
    ∃ bs, expectedWire (.cw20 t) to amt = some bs ∧ decodeTransfer bs = .ok ⟨to, amt⟩ :=
  ⟨_, rfl, CwPlus.Props.MsgWire.decode_encode_transfer to amt h⟩

/-- the outcome key: with a cw20 payout `subraw=` is the hex of `encodeTransfer`, with a native one `-` -/
theorem subRaw_of_sub (sm : SubMsg) :
    subRawOfIcs20 (some sm) =
      match sm.denom with
      | .native _ => "-"
      | .cw20 _ => toHex (encodeTransfer sm.to sm.amount) := by
  unfold subRawOfIcs20
  simp only [Option.bind, wireOfIcs20]
  cases sm.denom <;> rfl

set_option maxRecDepth 1000000 in
/-- the literal bytes of a sample payout: 5 tokens of the cw20 `tok` to `bob` -/
example : (wireOfIcs20 ⟨"bob", 5, .cw20 "tok", some 300000, RECEIVE_ID⟩).map bytesToString =
    some "{\"transfer\":{\"recipient\":\"bob\",\"amount\":\"5\"}}" :=
  map_bytesToString_some (by rw [strBytes_ofList]; decide +kernel)
example : wireOfIcs20 ⟨"bob", 5, .native "ucosm", none, RECEIVE_ID⟩ = none := rfl

end CwPlus.Props.MsgWireIcs20
