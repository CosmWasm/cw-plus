import CwPlus.Lemmas.Cw4Raw
import CwPlus.Lemmas.Cw4StakeNodup
import CwPlus.Props.C09
import CwPlus.Props.C09Stake
/-!
# C09, last clause — the raw storage keys published by the cw4 spec return what the smart queries return

"The raw storage keys that the cw4 spec publishes for cross-contract reads return the same values as the smart
queries."  The cw4 spec publishes two keys for `WasmQuery::Raw`: `TOTAL_KEY = "total"` and
`member_key(addr) = "\x00\x07members" ++ addr`.  A raw query reads the contract's *byte-level* storage, so the
clause is about where cw-storage-plus puts `TOTAL` and `MEMBERS` and what bytes it stores there.

`Base/RawStore.lean` models that level (key layout of `Item` / `Map` / `SnapshotMap` / `SnapshotItem`, the JSON
text of the stored numbers), `Model/Cw4Raw.lean` gives the raw image `encode s` of a cw4-group / cw4-stake
model state.  This file proves:

1. **Key layout.**  Length-prefixed components are a prefix-free code (`lp_prefix_free`), map keys are injective
   in their parts (`mapKey_injective`), keys of different map namespaces never coincide (`mapKey_ns_disjoint`),
   a map key equals an item key *iff-style*: never when the item namespace does not start with the
   length-prefixed map namespace (`mapKey_ne_itemKey`), and such a collision does exist otherwise
   (`mapKey_itemKey_collision`); the twelve namespaces of the two contracts satisfy the conditions
   (`cw4_namespaces_disjoint`).  The two-byte length is injective only up to `0xFFFF` (`len2_collision`; the
   Rust code panics above).  `memberKey_eq_primary`: the formula the cw4 package publishes is the key
   cw-storage-plus really uses.
2. **Reads.**  For *every* state and *every* address string (also ones that contain the bytes of other
   namespaces, `__changelog`, length prefixes, …) reading `member_key(addr)` from `encode s` gives exactly the
   decimal digits of `MEMBERS.may_load(addr)` (`raw_member_eq_smart_group/_stake`), reading `"total"` gives
   the digits of the stored total (`raw_total_eq_smart_group/_stake`), and decoding them gives the answers of
   `Member { addr, at_height: None }` / `TotalWeight {}`.  Under the reachable-state invariant (one entry per
   member) the store holds at most one entry under each published key (`raw_member_unique_*`).
3. **Histories.**  After any accepted `instantiate` and any history of calls (`raw_reads_along_history_group`,
   `raw_reads_along_history_stake`): the raw total is present, equals `TotalWeight {}` and the sum of the
   members' weights; every raw member read equals the smart query.
4. **Decimal rendering**: `natDigits_roundtrip`.

What ties `encode` to the Rust code is the lock-step comparison of the observation field `rawkeys` (the real
storage dump against `encode` of the model state after every op; `Driver/Cw4Group.lean`, `Driver/Cw4Stake.lean`,
`harness/src/scen_cw4group.rs::render_raw_keys`).
-/
namespace CwPlus.Props.C09Raw
open CwPlus CwPlus.RawStore CwPlus.Cw4Raw CwPlus.Snapshot

/-! ## 1. Key layout -/

/-- Distinct strings have distinct UTF-8 byte strings. -/
theorem strBytes_injective {a b : String} (h : strBytes a = strBytes b) : a = b := strBytes_inj h

/-- `encode_length` is injective on lengths up to `0xFFFF` (the lengths for which the Rust code does not panic). -/
theorem len2_injective {a b : Nat} (ha : a ≤ 0xFFFF) (hb : b ≤ 0xFFFF) (h : len2 a = len2 b) : a = b :=
  len2_inj ha hb h

/-- The bound is needed: the two bytes wrap at `0x10000`. -/
theorem len2_collision : len2 0 = len2 0x10000 ∧ (0 : Nat) ≠ 0x10000 := by decide +kernel

/-- **Length-prefixed components are a prefix-free code**: if two texts that start with a length-prefixed
component are equal, the components are equal and so are the rests. -/
theorem lp_prefix_free {a b x y : Bytes} (ha : a.length ≤ 0xFFFF) (hb : b.length ≤ 0xFFFF)
    (h : lp a ++ x = lp b ++ y) : a = b ∧ x = y := lp_append_inj ha hb h

/-- **Map keys are injective** (`mapKey_injective`): two keys of maps with the same number of key parts, all
components at most `0xFFFF` bytes long, are equal only if namespace, every part and the last part are equal. -/
theorem mapKey_injective {ns ns' : Bytes} {ps qs : List Bytes} {k k' : Bytes} (hl : ps.length = qs.length)
    (hns : ns.length ≤ 0xFFFF) (hns' : ns'.length ≤ 0xFFFF) (hp : ∀ p ∈ ps, p.length ≤ 0xFFFF)
    (hq : ∀ q ∈ qs, q.length ≤ 0xFFFF) (h : mapKey ns ps k = mapKey ns' qs k') : ns = ns' ∧ ps = qs ∧ k = k' := by
  obtain ⟨h1, h2⟩ := mapKey_ns_inj hns hns' h
  obtain ⟨h3, h4⟩ := flatMap_lp_append_inj hl hp hq h2
  exact ⟨h1, h3, h4⟩

/-- The condition "same number of parts" is needed inside one namespace: a two-part key can equal a one-part
key whose last part happens to start with a length prefix.  (Every cw-storage-plus map has a fixed key type,
hence a fixed number of parts.) -/
theorem mapKey_arity_collision :
    mapKey NS.members [strBytes "a"] (strBytes "b") = mapKey NS.members [] ([0, 1] ++ strBytes "a" ++ strBytes "b") := by
  decide +kernel

/-- **Keys of different map namespaces never coincide**, whatever the key parts are (e.g. `members` /
`members__checkpoints` / `members__changelog`: the length prefixes 7 / 20 / 18 already differ). -/
theorem mapKey_ns_disjoint {ns ns' : Bytes} (hns : ns.length ≤ 0xFFFF) (hns' : ns'.length ≤ 0xFFFF) (hne : ns ≠ ns')
    (ps qs : List Bytes) (k k' : Bytes) : mapKey ns ps k ≠ mapKey ns' qs k' :=
  fun h => hne (mapKey_ns_inj hns hns' h).1

/-- **A map key is never an item key** when the item's namespace does not start with the length-prefixed map
namespace (an `Item` lives under the raw bytes of its namespace, a `Map` key starts with two length bytes). -/
theorem mapKey_ne_itemKey {ns ins : Bytes} (h : ¬ lp ns <+: ins) (ps : List Bytes) (k : Bytes) :
    mapKey ns ps k ≠ itemKey ins :=
  fun he => not_inNs_itemKey h ⟨ps, k, he.symm⟩

/-- The condition of `mapKey_ne_itemKey` is exact: an item whose namespace *does* start with the length-prefixed
namespace of a map shares its key with an entry of that map. -/
theorem mapKey_itemKey_collision {ns ins : Bytes} (h : lp ns <+: ins) : ∃ k, mapKey ns [] k = itemKey ins := by
  obtain ⟨r, hr⟩ := h
  exact ⟨r, by simp [mapKey, nsKey, itemKey, hr]⟩

/-- Such an exotic item exists (nobody declares it in cw4): `Item::new("\x00\x07membersbob")` would overwrite
the membership of `bob`. -/
theorem exotic_item_collides : itemKey ([0, 7] ++ strBytes "membersbob") = memberKey "bob" := by decide +kernel

/-- **The namespaces of cw4-group and cw4-stake are collision-free**: the item namespaces are pairwise distinct,
the map namespaces (primary maps, changelogs, checkpoints) are pairwise distinct and short enough for the
2-byte length, and no item namespace starts with a length-prefixed map namespace.  With `mapKey_ns_disjoint`
and `mapKey_ne_itemKey`: no key of one storage item is ever a key of another. -/
theorem cw4_namespaces_disjoint :
    NS.items.Nodup ∧ NS.maps.Nodup ∧ (∀ ns ∈ NS.maps, ns.length ≤ 0xFFFF)
      ∧ ∀ ins ∈ NS.items, ∀ ns ∈ NS.maps, ¬ lp ns <+: ins :=
  ⟨ns_items_nodup, ns_maps_nodup, ns_len_ok, ns_items_vs_maps⟩

/-- `u64::to_cw_bytes` is injective on `u64`. -/
theorem be8_injective {a b : Nat} (ha : a < 2 ^ 64) (hb : b < 2 ^ 64) (h : be8 a = be8 b) : a = b := be8_inj ha hb h

/-- **`cw4::member_key(addr)` is `MEMBERS.key(&addr)`**: the formula published for raw queries is the key
cw-storage-plus uses for the primary entry of the snapshot map. -/
theorem memberKey_eq_primary (addr : String) : memberKey addr = mapKey NS.members [] (strBytes addr) :=
  RawStore.memberKey_eq_primary addr

/-- Different addresses have different member keys. -/
theorem memberKey_injective {a b : String} (h : memberKey a = memberKey b) : a = b := by
  rw [RawStore.memberKey_eq_primary, RawStore.memberKey_eq_primary] at h
  exact membersPrimaryKey_inj h

/-- Changelog keys of `MEMBERS` determine address and height (addresses up to `0xFFFF` bytes — longer ones make
the Rust code panic —, heights in `u64`). -/
theorem membersChangelogKey_injective {a b : String} {h h' : Nat} (ha : (strBytes a).length ≤ 0xFFFF)
    (hb : (strBytes b).length ≤ 0xFFFF) (hh : h < 2 ^ 64) (hh' : h' < 2 ^ 64)
    (he : membersChangelogKey a h = membersChangelogKey b h') : a = b ∧ h = h' := by
  obtain ⟨_, hp, hk⟩ := mapKey_injective (ps := [strBytes a]) (qs := [strBytes b]) rfl (by decide +kernel) (by decide +kernel)
    (by simpa using ha) (by simpa using hb) he
  exact ⟨strBytes_inj (by simpa using hp), be8_inj hh hh' hk⟩

/-- A member key is never the total key, a changelog key, a checkpoint key, a stake or a claims key. -/
theorem memberKey_ne_others (addr : String) :
    memberKey addr ≠ totalKey ∧ (∀ a h, memberKey addr ≠ membersChangelogKey a h)
      ∧ (∀ h, memberKey addr ≠ totalChangelogKey h) ∧ (∀ h, memberKey addr ≠ checkpointKey NS.membersCheckpoints h)
      ∧ (∀ h, memberKey addr ≠ checkpointKey NS.totalCheckpoints h) ∧ (∀ a, memberKey addr ≠ stakeKey a)
      ∧ (∀ a, memberKey addr ≠ claimsKey a) := by
  rw [RawStore.memberKey_eq_primary]
  refine ⟨mapKey_ne_itemKey (by decide) _ _, fun a h => ?_, fun h => ?_, fun h => ?_, fun h => ?_, fun a => ?_, fun a => ?_⟩
    <;> exact mapKey_ns_disjoint (by decide) (by decide) (by decide) _ _ _ _

/-! ## 4. Decimal rendering (used by the reads) -/

/-- **Round trip of the decimal rendering**: parsing the digits of `n` gives `n`. -/
theorem natDigits_roundtrip (n : Nat) : parseNat (natDigits n) = some n := parseNat_natDigits n

/-- Different numbers have different digit strings. -/
theorem natDigits_injective {a b : Nat} (h : natDigits a = natDigits b) : a = b := natDigits_inj h

/-- The rendering consists of ASCII digits only. -/
theorem natDigits_ascii (n : Nat) : ∀ b ∈ natDigits n, 48 ≤ b ∧ b ≤ 57 := natDigits_lt n

example : natDigits 18446744073709551615 = strBytes "18446744073709551615" ∧ natDigits 0 = strBytes "0"
    ∧ parseNat (strBytes "007") = some 7 ∧ parseNat (strBytes "") = none ∧ parseNat (strBytes "1a") = none := by decide +kernel

/-! ## 2. Reads — cw4-group -/

section group
open CwPlus.Cw4Group

/-- The sections before and after the primary entries of `MEMBERS` hold nothing under a member key. -/
theorem encode_group_memberKey (s : State) (addr : String) :
    ∃ pre post, encode s = pre ++ encodeMembers s.members ++ post ∧
      Avoids pre (memberKey addr) ∧ Avoids post (memberKey addr) :=
  ⟨_, _, rfl,
    avoids_append.mpr ⟨avoids_append.mpr ⟨avoids_append.mpr
      ⟨avoids_memberKey_of_items (by decide +kernel) addr, hooks_avoid_memberKey _ addr⟩,
      total_avoid_memberKey s addr⟩,
      totalLog_avoid_memberKey _ addr⟩,
    membersLog_avoid_memberKey _ addr⟩

theorem encode_group_totalKey (s : State) :
    ∃ pre post, encode s = pre ++ encodeTotal s ++ post ∧ Avoids pre totalKey ∧ Avoids post totalKey :=
  ⟨[(itemKey NS.contractInfo, Val.opaque), (itemKey NS.admin, Val.opaque)] ++ encodeHooks s.hooks,
    encodeTotalLog s.total.log ++ (encodeMembers s.members ++ encodeMembersLog s.members),
    by simp only [encode, List.append_assoc],
    avoids_append.mpr ⟨by unfold Avoids; decide, hooks_avoid_totalKey _⟩,
    avoids_append.mpr ⟨totalLog_avoid_totalKey _,
      avoids_append.mpr ⟨members_avoid_totalKey _,
        membersLog_avoid_totalKey _⟩⟩⟩

theorem get?_memberKey_group (s : State) (addr : String) :
    get? (encode s) (memberKey addr) = (s.members.get? addr).map fun w => Val.bytes (natDigits w) := by
  obtain ⟨_, _, e, h1, h2⟩ := encode_group_memberKey s addr
  rw [e, get?_of_avoids h1 h2, RawStore.memberKey_eq_primary, get?_encodeMembers]

theorem get?_totalKey_group (s : State) :
    get? (encode s) totalKey = s.total.cur.map fun t => Val.bytes (natDigits t) := by
  obtain ⟨_, _, e, h1, h2⟩ := encode_group_totalKey s
  rw [e, get?_of_avoids h1 h2, encodeTotal]
  cases s.total.cur <;> simp [get?]

/-- **C09, raw member key (cw4-group).**  For every state and *every* address string — also ones containing the
bytes of other namespaces, `__checkpoints`, length prefixes, anything —, the bytes stored under
`cw4::member_key(addr)` are exactly the decimal digits of the weight that `Member { addr, at_height: None }`
reports (absent key ⇔ not a member); decoding the raw read gives the smart query's answer. -/
theorem raw_member_eq_smart_group (s : State) (addr : String) :
    get? (encode s) (memberKey addr) = (s.members.cur.get? addr).map (fun w => Val.bytes (natDigits w))
      ∧ readNat (encode s) (memberKey addr) = s.members.cur.get? addr
      ∧ queryMember s ⟨true, addr⟩ none = .ok (readNat (encode s) (memberKey addr))
      ∧ (get? (encode s) (memberKey addr) = none ↔ weight s addr = none) := by
  have h := get?_memberKey_group s addr
  have hr : readNat (encode s) (memberKey addr) = s.members.cur.get? addr := by
    unfold readNat
    rw [h]
    show _ = s.members.get? addr
    cases s.members.get? addr <;> simp [parseNat_natDigits]
  refine ⟨h, hr, ?_, ?_⟩
  · rw [hr]; rfl
  · rw [h]; unfold weight; cases s.members.get? addr <;> simp

/-- **C09, raw total key (cw4-group).**  For every state the bytes stored under `cw4::TOTAL_KEY` are exactly the
decimal digits of the stored total; the key is absent iff `TOTAL` holds nothing (then `TotalWeight {}` answers
0: `unwrap_or_default`); decoding the raw read (with the same default) gives `TotalWeight {}`. -/
theorem raw_total_eq_smart_group (s : State) :
    get? (encode s) totalKey = s.total.cur.map (fun t => Val.bytes (natDigits t))
      ∧ readNat (encode s) totalKey = s.total.cur
      ∧ (readNat (encode s) totalKey).getD 0 = queryTotalWeight s none
      ∧ (get? (encode s) totalKey = none ↔ s.total.cur = none) := by
  have h := get?_totalKey_group s
  have hr : readNat (encode s) totalKey = s.total.cur := by
    unfold readNat
    rw [h]
    cases s.total.cur <;> simp [parseNat_natDigits]
  refine ⟨h, hr, ?_, ?_⟩
  · rw [hr]; rfl
  · rw [h]; cases s.total.cur <;> simp

/-- **The published keys are unambiguous (cw4-group).**  On a state with one entry per member (every reachable
state: `Cw4Group.run_nodup`) the raw image holds at most one entry under `member_key(addr)` and at most one under
`"total"`: the first-match read of `get?` is *the* content of the key, as in a real key-value store. -/
theorem raw_member_unique_group (s : State) (hn : AMap.NodupKeys s.members.cur) (addr : String) :
    count (encode s) (memberKey addr) ≤ 1 ∧ count (encode s) totalKey ≤ 1 := by
  obtain ⟨_, _, e, h1, h2⟩ := encode_group_memberKey s addr
  obtain ⟨_, _, e', h1', h2'⟩ := encode_group_totalKey s
  refine ⟨?_, ?_⟩
  · rw [e, count_of_avoids h1 h2, RawStore.memberKey_eq_primary]
    exact count_encodeMembers s.members hn addr
  · rw [e', count_of_avoids h1' h2', encodeTotal]
    cases s.total.cur <;> simp [count]

/-- **C09, raw reads along every history (cw4-group).**  After any accepted `instantiate` and any history of
calls (any senders, heights, failed calls rolled back): the raw read of `"total"` is present and equals
`TotalWeight {}` — which is the sum of the current members' weights (`C09.total_eq_sum_members`) —, the raw read
of `member_key(addr)` equals `Member { addr }` for every address string, and both keys occur at most once. -/
theorem raw_reads_along_history_group {msg : InstMsg} {h0 : Nat} {s0 : State} (hi : instantiate msg h0 = .ok s0)
    (ops : List Op) (addr : String) :
    readNat (encode (run s0 ops)) totalKey = some (queryTotalWeight (run s0 ops) none)
      ∧ readNat (encode (run s0 ops)) totalKey = some (AMap.sum (run s0 ops).members.cur)
      ∧ readNat (encode (run s0 ops)) (memberKey addr) = weight (run s0 ops) addr
      ∧ count (encode (run s0 ops)) (memberKey addr) ≤ 1 ∧ count (encode (run s0 ops)) totalKey ≤ 1 := by
  obtain ⟨ht, hn, _⟩ := C09.run_inv ops (C09.instantiate_inv hi)
  have h1 := (raw_total_eq_smart_group (run s0 ops)).2.1
  have h2 := (raw_member_eq_smart_group (run s0 ops) addr).2.1
  have h3 := raw_member_unique_group (run s0 ops) hn addr
  refine ⟨?_, ?_, h2, h3.1, h3.2⟩
  · rw [h1, ht]; simp [queryTotalWeight, ht]
  · rw [h1, ht]

end group

/-! ## 2'. Reads — cw4-stake -/

section stake
open CwPlus.Cw4Stake

theorem encode_stake_memberKey (s : State) (addr : String) :
    ∃ pre post, encode s = pre ++ encodeMembers s.members ++ post ∧
      Avoids pre (memberKey addr) ∧ Avoids post (memberKey addr) :=
  ⟨[(itemKey NS.contractInfo, Val.opaque), (itemKey NS.admin, Val.opaque), (itemKey NS.config, Val.opaque)] ++
      (encodeHooks s.hooks ++ [(totalKey, Val.bytes (natDigits s.total))]),
    encodeMembersLog s.members ++ (encodeStake s.stake ++ encodeClaims s.claims),
    by simp only [encode, List.append_assoc],
    avoids_append.mpr ⟨avoids_memberKey_of_items (by decide +kernel) addr,
      avoids_append.mpr ⟨hooks_avoid_memberKey _ addr, avoids_memberKey_of_items (by simp [NS.items, totalKey, itemKey]) addr⟩⟩,
    avoids_append.mpr ⟨membersLog_avoid_memberKey _ addr,
      avoids_append.mpr ⟨stake_avoid_memberKey _ addr,
        claims_avoid_memberKey _ addr⟩⟩⟩

theorem encode_stake_totalKey (s : State) :
    ∃ pre post, encode s = pre ++ [(totalKey, Val.bytes (natDigits s.total))] ++ post ∧
      Avoids pre totalKey ∧ Avoids post totalKey :=
  ⟨[(itemKey NS.contractInfo, Val.opaque), (itemKey NS.admin, Val.opaque), (itemKey NS.config, Val.opaque)] ++
      encodeHooks s.hooks,
    encodeMembers s.members ++ (encodeMembersLog s.members ++ (encodeStake s.stake ++ encodeClaims s.claims)),
    by simp only [encode, List.append_assoc],
    avoids_append.mpr ⟨by unfold Avoids; decide, hooks_avoid_totalKey _⟩,
    avoids_append.mpr ⟨members_avoid_totalKey _,
      avoids_append.mpr ⟨membersLog_avoid_totalKey _,
        avoids_append.mpr ⟨stake_avoid_totalKey _,
          claims_avoid_totalKey _⟩⟩⟩⟩

theorem get?_memberKey_stake (s : State) (addr : String) :
    get? (encode s) (memberKey addr) = (s.members.get? addr).map fun w => Val.bytes (natDigits w) := by
  obtain ⟨_, _, e, h1, h2⟩ := encode_stake_memberKey s addr
  rw [e, get?_of_avoids h1 h2, RawStore.memberKey_eq_primary, get?_encodeMembers]

theorem get?_totalKey_stake (s : State) : get? (encode s) totalKey = some (Val.bytes (natDigits s.total)) := by
  obtain ⟨_, _, e, h1, h2⟩ := encode_stake_totalKey s
  rw [e, get?_of_avoids h1 h2]
  simp [get?]

/-- **C09, raw member key (cw4-stake).**  As for cw4-group: for every state and every address string the bytes
under `cw4::member_key(addr)` are the decimal digits of the weight `Member { addr, at_height: None }` reports. -/
theorem raw_member_eq_smart_stake (s : State) (addr : String) :
    get? (encode s) (memberKey addr) = (s.members.cur.get? addr).map (fun w => Val.bytes (natDigits w))
      ∧ readNat (encode s) (memberKey addr) = s.members.cur.get? addr
      ∧ queryMember s ⟨true, addr⟩ none = .ok (readNat (encode s) (memberKey addr))
      ∧ (get? (encode s) (memberKey addr) = none ↔ weightOf s addr = none) := by
  have h := get?_memberKey_stake s addr
  have hr : readNat (encode s) (memberKey addr) = s.members.cur.get? addr := by
    unfold readNat
    rw [h]
    show _ = s.members.get? addr
    cases s.members.get? addr <;> simp [parseNat_natDigits]
  refine ⟨h, hr, ?_, ?_⟩
  · rw [hr]; rfl
  · rw [h]; unfold weightOf; cases s.members.get? addr <;> simp

/-- **C09, raw total key (cw4-stake).**  `TOTAL` is a plain `Item<u64>` written by `instantiate`: the key `"total"`
is always present, holds the decimal digits of the total, and decoding it gives `TotalWeight {}`. -/
theorem raw_total_eq_smart_stake (s : State) :
    get? (encode s) totalKey = some (Val.bytes (natDigits s.total))
      ∧ readNat (encode s) totalKey = some (queryTotalWeight s) := by
  have h := get?_totalKey_stake s
  refine ⟨h, ?_⟩
  unfold readNat
  rw [h]
  simp [parseNat_natDigits, queryTotalWeight]

/-- **The published keys are unambiguous (cw4-stake)**, on every state with one entry per member (every
reachable state: `Cw4Stake.run_nodup`). -/
theorem raw_member_unique_stake (s : State) (hn : AMap.NodupKeys s.members.cur) (addr : String) :
    count (encode s) (memberKey addr) ≤ 1 ∧ count (encode s) totalKey ≤ 1 := by
  obtain ⟨_, _, e, h1, h2⟩ := encode_stake_memberKey s addr
  obtain ⟨_, _, e', h1', h2'⟩ := encode_stake_totalKey s
  refine ⟨?_, ?_⟩
  · rw [e, count_of_avoids h1 h2, RawStore.memberKey_eq_primary]
    exact count_encodeMembers s.members hn addr
  · rw [e', count_of_avoids h1' h2']
    simp [count]

/-- **C09, raw reads along every history (cw4-stake).**  After any accepted `instantiate` and any history of
transactions of the world (bond, cw20 send, unbond, claim, admin calls, donations; failed ones rolled back): the
raw read of `"total"` equals `TotalWeight {}`, which is the sum of the listed members' weights
(`C09Stake.total_eq_sum_members`); the raw read of `member_key(addr)` equals `Member { addr }` for every address
string; both keys occur at most once. -/
theorem raw_reads_along_history_stake {m : InstMsg} {st : State} (h : instantiate m = .ok st) (bal : AMap Addr Nat)
    (acc : List Addr) (ops : List (Block × Op)) (addr : String) :
    let s := (run (World.init st bal acc) ops).st
    readNat (encode s) totalKey = some (queryTotalWeight s)
      ∧ readNat (encode s) totalKey = some (AMap.sum (Paginate.sortedEntries Paginate.strLt s.members.cur))
      ∧ readNat (encode s) (memberKey addr) = weightOf s addr
      ∧ count (encode s) (memberKey addr) ≤ 1 ∧ count (encode s) totalKey ≤ 1 := by
  intro s
  have hn : AMap.NodupKeys s.members.cur := run_nodup (w := World.init st bal acc) (instantiate_nodup h) ops
  have h1 := (raw_total_eq_smart_stake s).2
  have h2 := (raw_member_eq_smart_stake s addr).2.1
  have h3 := raw_member_unique_stake s hn addr
  have h4 := (C09Stake.total_eq_sum_members h bal acc ops).1
  exact ⟨h1, by rw [h1]; exact congrArg some h4, h2, h3.1, h3.2⟩

end stake

/-! ## Both contracts at once -/

/-- **C09 `raw_total_eq_smart`** (both contracts, every state): decoding the bytes stored under `cw4::TOTAL_KEY`
gives the answer of `TotalWeight {}`. -/
theorem raw_total_eq_smart :
    (∀ s : Cw4Group.State, (readNat (Cw4Group.encode s) totalKey).getD 0 = Cw4Group.queryTotalWeight s none)
      ∧ (∀ s : Cw4Stake.State, readNat (Cw4Stake.encode s) totalKey = some (Cw4Stake.queryTotalWeight s)) :=
  ⟨fun s => (raw_total_eq_smart_group s).2.2.1, fun s => (raw_total_eq_smart_stake s).2⟩

/-- **C09 `raw_member_eq_smart`** (both contracts, every state, every address string): decoding the bytes stored
under `cw4::member_key(addr)` gives the answer of `Member { addr, at_height: None }`. -/
theorem raw_member_eq_smart (addr : String) :
    (∀ s : Cw4Group.State, Cw4Group.queryMember s ⟨true, addr⟩ none = .ok (readNat (Cw4Group.encode s) (memberKey addr)))
      ∧ (∀ s : Cw4Stake.State, Cw4Stake.queryMember s ⟨true, addr⟩ none = .ok (readNat (Cw4Stake.encode s) (memberKey addr))) :=
  ⟨fun s => (raw_member_eq_smart_group s addr).2.2.1, fun s => (raw_member_eq_smart_stake s addr).2.2.1⟩

/-! ## Non-vacuity: concrete states, exotic addresses -/

section examples
open CwPlus.Cw4Group

/-- The keys as bytes (what the harness prints in `rawkeys`). -/
example : totalKey = [116, 111, 116, 97, 108]
    ∧ memberKey "bob" = [0, 7, 109, 101, 109, 98, 101, 114, 115, 98, 111, 98]
    ∧ membersChangelogKey "bob" 12345
        = [0, 18] ++ strBytes "members__changelog" ++ [0, 3] ++ strBytes "bob" ++ [0, 0, 0, 0, 0, 0, 48, 57]
    ∧ totalChangelogKey 12345 = [0, 16] ++ strBytes "total__changelog" ++ [0, 0, 0, 0, 0, 0, 48, 57]
    ∧ stakeKey "bob" = [0, 5] ++ strBytes "stake" ++ strBytes "bob"
    ∧ changeSetJson (some 12) = strBytes "{\"old\":12}" ∧ changeSetJson none = strBytes "{\"old\":null}"
    ∧ quotedDigits 53 = strBytes "\"53\"" := by decide +kernel

/-- The layout lemmas on the cw4 namespaces: a member whose address ends in `__changelog` is not a changelog
entry of the address without the suffix; changelog keys separate addresses and heights; no member key is the key
of the (hypothetical) items named like the map namespaces. -/
example : membersPrimaryKey "x__changelog" ≠ membersChangelogKey "x" 1 :=
  mapKey_ns_disjoint (by decide) (by decide) (by decide) _ _ _ _

example : membersChangelogKey "ab" 1 ≠ membersChangelogKey "a" 1 ∧ membersChangelogKey "a" 1 ≠ membersChangelogKey "a" 2 :=
  ⟨fun h => absurd (membersChangelogKey_injective (by decide) (by decide) (by decide) (by decide) h).1 (by decide),
   fun h => absurd (membersChangelogKey_injective (by decide) (by decide) (by decide) (by decide) h).2 (by decide)⟩

example (addr : String) : memberKey addr ≠ itemKey (strBytes "members") := by
  rw [memberKey_eq_primary]; exact mapKey_ne_itemKey (by decide) _ _

example : lp NS.members ++ strBytes "bob" = lp NS.members ++ strBytes "bob" ∧ NS.members.length ≤ 0xFFFF := by decide +kernel

/-- The history of `C09.exState` / `C09.exOps` (alice 2, bob 4, carol 1 at the end). -/
example :
    let s := run C09.exState C09.exOps
    readNat (encode s) totalKey = some 7 ∧ readNat (encode s) (memberKey "alice") = some 2
      ∧ readNat (encode s) (memberKey "bob") = some 4 ∧ readNat (encode s) (memberKey "carol") = some 1
      ∧ readNat (encode s) (memberKey "dave") = none ∧ get? (encode s) (memberKey "alice") = some (.bytes [50])
      ∧ (encode s).length = 17 := by decide +kernel

/-- The history theorem applies to it. -/
example (addr : String) :
    readNat (encode (run C09.exState C09.exOps)) (memberKey addr) = weight (run C09.exState C09.exOps) addr :=
  (raw_reads_along_history_group C09.exInst_ok C09.exOps addr).2.2.1

/-- Exotic member addresses: strings that contain other namespaces, the changelog suffix with a plausible
composite key behind it, a length prefix, the total key, the empty string.  Each is stored and read back under
its own key; none of them disturbs `"total"`, and `"__changelog…"` — whose member key *starts like* a changelog
key would if the length prefix were ignored — is just another member. -/
def exoticInst : InstMsg :=
  { admin := none,
    members := [(⟨true, "__changelog\x00\x03bob\x00\x00\x00\x00\x00\x00\x30\x39"⟩, 1), (⟨true, "total"⟩, 2), (⟨true, ""⟩, 3),
                (⟨true, "__checkpoints"⟩, 4), (⟨true, "\x00\x07membersbob"⟩, 5), (⟨true, "bob"⟩, 6)] }

def exoticState : State := (match instantiate exoticInst 10 with | .ok s => s | .error _ => State.empty)

theorem exoticInst_ok : instantiate exoticInst 10 = .ok exoticState := by rfl

example : instantiate exoticInst 10 = .ok exoticState := exoticInst_ok

example :
    let s := exoticState
    readNat (encode s) totalKey = some 21
      ∧ readNat (encode s) (memberKey "__changelog\x00\x03bob\x00\x00\x00\x00\x00\x00\x30\x39") = some 1
      ∧ readNat (encode s) (memberKey "total") = some 2 ∧ readNat (encode s) (memberKey "") = some 3
      ∧ readNat (encode s) (memberKey "__checkpoints") = some 4
      ∧ readNat (encode s) (memberKey "\x00\x07membersbob") = some 5 ∧ readNat (encode s) (memberKey "bob") = some 6
      ∧ readNat (encode s) (memberKey "__changelog") = none
      ∧ get? (encode s) (membersChangelogKey "bob" 12345) = none
      ∧ get? (encode s) (membersChangelogKey "bob" 10) = some (.bytes (changeSetJson none)) := by decide +kernel

example (addr : String) : readNat (encode exoticState) (memberKey addr) = weight exoticState addr :=
  by simpa only [run_nil] using (raw_reads_along_history_group exoticInst_ok [] addr).2.2.1

/-- cw4-stake: the demo world of `C09Stake` (alice weight 2, bob weight 4). -/
example :
    let s := C09Stake.demoWorld.st
    readNat (Cw4Stake.encode s) totalKey = some 6 ∧ readNat (Cw4Stake.encode s) (memberKey "alice") = some 2
      ∧ readNat (Cw4Stake.encode s) (memberKey "bob") = some 4 ∧ readNat (Cw4Stake.encode s) (memberKey "carol") = none
      ∧ get? (Cw4Stake.encode s) (stakeKey "alice") = some (.bytes (quotedDigits 25))
      ∧ get? (Cw4Stake.encode s) (claimsKey "alice") = some .opaque := by decide +kernel

example (addr : String) :
    readNat (Cw4Stake.encode C09Stake.demoWorld.st) (memberKey addr) = Cw4Stake.weightOf C09Stake.demoWorld.st addr :=
  (raw_reads_along_history_stake C09Stake.inst_cfgMsg [("alice", 100), ("bob", 100)] [] C09Stake.demoOps addr).2.2.1

end examples

end CwPlus.Props.C09Raw
