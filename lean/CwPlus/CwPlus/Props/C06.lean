import CwPlus.Lemmas.Cw3Fixed
import CwPlus.Lemmas.Cw3FixedAt
/-!
# C06 (cw3-fixed part) — each ballot is one eligible voter's weight from the fixed voter list

cw3-fixed-multisig: the membership snapshot a proposal is opened against is the voter list fixed at
instantiation.  All theorems are about the model `Model/Cw3Fixed.lean` (shared core
`Model/Cw3Core.lean`) and hold for every accepted instantiation and every finite history of
propose / vote / execute / close transactions (with re-entrant self-calls, failing dispatches and
rolled-back transactions), fund transfers and block changes: `Reachable fuel w`.

The cw3-flex part of C06 (group snapshots) is `Props/C06Flex.lean`; the generic lemmas both parts use are in
`Lemmas/Cw3Core.lean`.
-/
namespace CwPlus.Props.C06
open CwPlus CwPlus.Cw3 CwPlus.Cw3Core CwPlus.Cw3Fixed

/-! ## the voter list: fixed at instantiation, its weights add up to the total -/

/-- The voter loop refuses an address that is already stored: the listed addresses are pairwise different and none
of them was stored before. -/
theorem addVoters_fresh : ∀ (l : List (AddrArg × Nat)) (m0 m1 : AMap Addr Nat), addVoters l m0 = .ok m1 →
    (l.map (·.1.text)).Nodup ∧ ∀ a ∈ l, m0.get? a.1.text = none
  | [], _, _, _ => by simp
  | (a, w) :: rest, m0, m1, h => by
    obtain ⟨_, hnone, h⟩ := addVoters_cons.mp h
    obtain ⟨hnd, hfresh⟩ := addVoters_fresh rest _ _ h
    -- an address of `rest` is fresh for `m0.set a.text w`, so it is not `a.text` and fresh for `m0`
    have key : ∀ x ∈ rest, a.text ≠ x.1.text ∧ m0.get? x.1.text = none := fun x hx => by
      have := hfresh x hx
      by_cases e : a.text = x.1.text
      · rw [← e, AMap.get?_set_eq] at this; cases this
      · exact ⟨e, by rwa [AMap.get?_set_ne _ _ _ _ e] at this⟩
    refine ⟨List.nodup_cons.mpr ⟨fun hmem => ?_, hnd⟩, fun x hx => ?_⟩
    · obtain ⟨x, hx, e⟩ := List.mem_map.mp hmem
      exact (key x hx).1 e.symm
    · rcases List.mem_cons.mp hx with rfl | hx
      · exact hnone
      · exact (key x hx).2

/-- C06 "the total weight a proposal's threshold is measured against equals the sum of all voters'
weights": an accepted instantiation stores every listed voter under its own key (a repeated
address is refused) and the configured total is the sum of the stored weights, which is the sum of
the listed weights. -/
theorem total_eq_sum_voters {m : InstMsg} {s : State} (h : instantiate m = .ok s) :
    s.cfg.totalWeight = AMap.sum s.voters ∧ AMap.NodupKeys s.voters ∧
    s.cfg.totalWeight = (m.voters.map (·.2)).sum ∧ (m.voters.map (·.1.text)).Nodup := by
  have hi := instantiate_inv h
  obtain ⟨total, voters, hsum, _, hadd, rfl⟩ := instantiate_ok h
  exact ⟨hi.total, hi.votersNodup, by simpa using sumWeights_eq _ _ _ hsum, (addVoters_fresh _ _ _ hadd).1⟩

/-- C06 "membership never changes" (cw3-fixed has no message that edits the voter list): after any
history the voter list, the threshold and the total are those fixed at instantiation. -/
theorem voters_never_change (fuel : Nat) (w : World) (ops : List Op) :
    (run fuel w ops).ms.voters = w.ms.voters ∧ (run fuel w ops).ms.cfg = w.ms.cfg := by
  have := run_state_inv (fun s => s.voters = w.ms.voters ∧ s.cfg = w.ms.cfg)
    (fun blk s snd m s' out hp h => by
      obtain ⟨h1, h2⟩ := execute_frame h
      exact ⟨h2.trans hp.1, h1.trans hp.2⟩) fuel ops w ⟨rfl, rfl⟩
  exact this

/-- Every proposal of a reachable state carries the configured threshold and a total weight equal
to the sum of the voters' weights. -/
theorem proposal_total_eq_sum_voters {fuel : Nat} {w : World} (hr : Reachable fuel w) {id : Nat} {p : Proposal}
    (hp : w.ms.core.proposals.get? id = some p) :
    p.totalWeight = AMap.sum w.ms.voters ∧ p.threshold = w.ms.cfg.threshold := by
  have hi := reachable_inv hr
  exact ⟨(hi.propCfg id p hp).1.trans hi.total, (hi.propCfg id p hp).2.1⟩

/-- C06 "each address has at most one ballot per proposal": ballots are keyed `(proposal, voter)`
and the ballot map of every proposal has no repeated key … -/
theorem one_ballot {fuel : Nat} {w : World} (hr : Reachable fuel w) (id : Nat) :
    AMap.NodupKeys (ballotsOf w.ms.core id) :=
  (reachable_inv hr).wf.nodup id

/-- … a second vote of the same address on the same proposal is refused (`AlreadyVoted`) … -/
theorem vote_twice_fails {s : State} {blk : Block} {snd : Addr} {id : Nat} {v : Vote} {b : Ballot}
    (hb : (ballotsOf s.core id).get? snd = some b) : (execute s blk snd (.vote id v)).isOk = false := by
  cases h : execute s blk snd (.vote id v) with
  | error e => rfl
  | ok r =>
    obtain ⟨c, hv, _⟩ := execute_vote_ok_iff.mp h
    obtain ⟨_, _, _, _, _, _, _, _, _, hnb, _⟩ := vote_ok hv
    rw [hb] at hnb; cases hnb

/-- … and a recorded ballot is never changed or removed by anything that happens later. -/
theorem ballot_never_changes {fuel : Nat} {w : World} (hr : Reachable fuel w) (ops : List Op)
    {id : Nat} {a : Addr} {b : Ballot} (hb : (ballotsOf w.ms.core id).get? a = some b) :
    (ballotsOf (run fuel w ops).ms.core id).get? a = some b :=
  (run_later (reachable_inv hr) ops).ballots id a b hb

/-- C06 "its recorded weight equals that address's voting weight": every ballot's weight is the
weight of its voter in the voter list (which is the list fixed at instantiation,
`voters_never_change`).  In particular every ballot belongs to a listed voter. -/
theorem ballot_weight_eq_voter_weight {fuel : Nat} {w : World} (hr : Reachable fuel w)
    {id : Nat} {a : Addr} {b : Ballot} (hb : (ballotsOf w.ms.core id).get? a = some b) :
    w.ms.voters.get? a = some b.weight :=
  (reachable_inv hr).ballotWeight id a b hb

/-- C06 "addresses with no or zero weight cannot vote": a Vote by an address that is not a voter
or has weight 0 is refused … -/
theorem zero_weight_cannot_vote {s : State} {blk : Block} {snd : Addr} {id : Nat} {v : Vote}
    (hz : (s.voters.get? snd).getD 0 = 0) : (execute s blk snd (.vote id v)).isOk = false := by
  cases h : execute s blk snd (.vote id v) with
  | error e => rfl
  | ok r =>
    obtain ⟨c, hv, _⟩ := execute_vote_ok_iff.mp h
    obtain ⟨_, w, _, _, _, _, _, hw, hw1, _⟩ := vote_ok hv
    rw [hw] at hz; simp at hz; omega

/-- … so "only the proposer's implicit Yes may carry zero weight": every recorded ballot has weight
≥ 1 or is the Yes ballot of the proposal's proposer. -/
theorem zero_weight_ballot_is_proposers_yes {fuel : Nat} {w : World} (hr : Reachable fuel w)
    {id : Nat} {p : Proposal} {a : Addr} {b : Ballot}
    (hp : w.ms.core.proposals.get? id = some p) (hb : (ballotsOf w.ms.core id).get? a = some b) :
    1 ≤ b.weight ∨ (a = p.proposer ∧ b.vote = .yes) :=
  (reachable_inv hr).ballotPos id p a b hp hb

/-- A non-member cannot propose either (so even the implicit ballot belongs to a listed voter). -/
theorem outsider_cannot_propose {s : State} {blk : Block} {snd : Addr} {t d : String} {msgs : List Msg}
    {latest : Option Expiration} (hz : s.voters.get? snd = none) :
    (execute s blk snd (.propose t d msgs latest)).isOk = false := by
  cases h : execute s blk snd (.propose t d msgs latest) with
  | error e => rfl
  | ok r =>
    obtain ⟨w, _, _, hw, _⟩ := execute_propose_ok_iff.mp h
    rw [hz] at hw; cases hw

/-- C06 "cast before expiry on a proposal not yet executed": a Vote is accepted only while the
proposal is not expired at the current block and its stored status is Open, Passed or Rejected
(never Executed); the ballot then records exactly the sender's voter weight, which is ≥ 1. -/
theorem vote_requires_open_window {s s' : State} {blk : Block} {snd : Addr} {id : Nat} {v : Vote} {out : List Msg}
    (h : execute s blk snd (.vote id v) = .ok (s', out)) :
    ∃ p w, s.core.proposals.get? id = some p ∧ p.expires.isExpired blk = false ∧
      (p.status = .open ∨ p.status = .passed ∨ p.status = .rejected) ∧ p.status ≠ .executed ∧
      s.voters.get? snd = some w ∧ 1 ≤ w ∧ (ballotsOf s.core id).get? snd = none ∧
      (ballotsOf s'.core id).get? snd = some ⟨w, v⟩ := by
  obtain ⟨c, hv, rfl, _⟩ := execute_vote_ok_iff.mp h
  obtain ⟨p, w, votes, st, hp, hvot, hexp, hw, hw1, hnb, _, _, rfl⟩ := vote_ok hv
  refine ⟨p, w, hp, hexp, (votable_iff.mp hvot).1, (votable_iff.mp hvot).2, hw, hw1, hnb, ?_⟩
  rw [ballotsOf_set]; simp

/-- C03/C06 "the stored tally is the sum of the recorded ballots": for every proposal of a reachable
state, `votes = tallyOf ballots` (per option, the sum of the weights of the ballots for it). -/
theorem tally_is_sum_of_ballots {fuel : Nat} {w : World} (hr : Reachable fuel w) {id : Nat} {p : Proposal}
    (hp : w.ms.core.proposals.get? id = some p) : p.votes = tallyOf (ballotsOf w.ms.core id) :=
  (reachable_inv hr).wf.tally id p hp

/-- C06 "ballots can never outweigh the total": the ballots of a proposal together weigh at most
the proposal's total weight (= the sum of the voters' weights). -/
theorem sum_ballots_le_total {fuel : Nat} {w : World} (hr : Reachable fuel w) {id : Nat} {p : Proposal}
    (hp : w.ms.core.proposals.get? id = some p) : weightSum (ballotsOf w.ms.core id) ≤ p.totalWeight :=
  (reachable_inv hr).weightSum_le hp

/-- Corollary: the stored tally never exceeds the total (the premise of the threshold arithmetic, C04). -/
theorem tally_le_total {fuel : Nat} {w : World} (hr : Reachable fuel w) {id : Nat} {p : Proposal}
    (hp : w.ms.core.proposals.get? id = some p) :
    p.votes.yes + p.votes.no + p.votes.abstain + p.votes.veto ≤ p.totalWeight :=
  (reachable_inv hr).tally_le hp

/-- voters a:2, b:1, z:0 (zero weight), threshold 3 of 3 -/
def exInst : InstMsg :=
  { voters := [(⟨true, "a"⟩, 2), (⟨true, "b"⟩, 1), (⟨true, "z"⟩, 0)], threshold := .absoluteCount 3,
    maxVotingPeriod := .height 10 }
def exState : State := match instantiate exInst with | .ok s => s | .error _ => default
def exBlk : Block := ⟨100, 1000⟩
def exWorld : World := World.init exState "ms" [(("ms", "ucosm"), 10)] true
/-- z (weight 0) proposes, a and b vote yes, an outsider executes -/
def exOps : List Op :=
  [⟨exBlk, .exec "z" (.propose "t" "d" [.bank "r" 4 "ucosm"] none)⟩, ⟨exBlk, .exec "a" (.vote 1 .yes)⟩,
   ⟨exBlk, .exec "b" (.vote 1 .yes)⟩, ⟨exBlk, .exec "z" (.vote 1 .no)⟩, ⟨exBlk, .exec "x" (.execute 1)⟩]

example : instantiate exInst = .ok exState := rfl
example : Reachable 10 (run 10 exWorld exOps) := ⟨exInst, exState, "ms", _, true, exOps, rfl, rfl⟩
/-- three ballots: the zero-weight proposer's implicit yes and two real votes; the no-vote of z was refused -/
example : ballotsOf (run 10 exWorld exOps).ms.core 1 = [("z", ⟨0, .yes⟩), ("a", ⟨2, .yes⟩), ("b", ⟨1, .yes⟩)] := by decide +kernel
example : ((run 10 exWorld exOps).ms.core.proposals.get? 1).map (·.votes) = some ⟨3, 0, 0, 0⟩ := by decide +kernel
/-- a repeated address is refused -/
example : (instantiate { exInst with voters := [(⟨true, "a"⟩, 5), (⟨true, "a"⟩, 1), (⟨true, "b"⟩, 1)] }).isOk = false := by decide +kernel

/-! ## over histories: the total is the sum of the listed weights; Vote / Propose succeed exactly for listed voters -/

/-- The `for voter in msg.voters` loop stores every listed voter under its own address with its listed weight and keeps
what was stored before (it refuses an address that is already stored: the D2 fix). -/
theorem addVoters_get : ∀ (l : List (AddrArg × Nat)) (m0 m1 : AMap Addr Nat), addVoters l m0 = .ok m1 →
    (∀ a w, (a, w) ∈ l → m1.get? a.text = some w) ∧ (∀ x v, m0.get? x = some v → m1.get? x = some v) ∧
    (∀ x, m1.get? x ≠ none → m0.get? x ≠ none ∨ x ∈ l.map (·.1.text))
  | [], m0, m1, h => by
    rw [addVoters_nil.mp h]
    exact ⟨fun a w hm => (by cases hm), fun _ _ h => h, fun x hx => Or.inl hx⟩
  | (a, w) :: rest, m0, m1, h => by
    obtain ⟨_, hnone, h⟩ := addVoters_cons.mp h
    obtain ⟨h1, h2, h3⟩ := addVoters_get rest _ _ h
    refine ⟨?_, ?_, ?_⟩
    · intro a' w' hm
      rcases List.mem_cons.mp hm with e | hm
      · cases e; exact h2 a.text w (AMap.get?_set_eq _ _ _)
      · exact h1 a' w' hm
    · intro x v hx
      have hne : a.text ≠ x := by intro e; subst e; rw [hnone] at hx; cases hx
      exact h2 x v (by rw [AMap.get?_set_ne _ _ _ _ hne]; exact hx)
    · intro x hx
      rcases h3 x hx with h | h
      · by_cases e : a.text = x
        · right; simp [e]
        · left; rwa [AMap.get?_set_ne _ _ _ _ e] at h
      · right; simp only [List.map_cons, List.mem_cons]; exact Or.inr h

/-- **`total_eq_sum_voters` over histories (with the D2 fix: duplicate voters are refused).**  After an accepted
instantiation and ANY history — transactions by anybody with re-entrant self-calls and failing dispatches, funding, sink
changes, any blocks — the configured total weight is still the sum of the stored voters' weights and the sum of the
weights listed in the `InstantiateMsg`; the voter list has no repeated key and is the listed one: every listed voter is
stored under its own address with exactly its listed weight, and nobody else is stored. -/
theorem total_eq_sum_voters_run {m : InstMsg} {s : State} (h : instantiate m = .ok s) (fuel : Nat) (self : Addr)
    (bank : AMap (Addr × String) Nat) (sink : Bool) (ops : List Op) :
    let w := run fuel (World.init s self bank sink) ops
    w.ms.cfg.totalWeight = AMap.sum w.ms.voters ∧ w.ms.cfg.totalWeight = (m.voters.map (·.2)).sum ∧
    AMap.NodupKeys w.ms.voters ∧ (m.voters.map (·.1.text)).Nodup ∧
    (∀ a wt, (a, wt) ∈ m.voters → w.ms.voters.get? a.text = some wt) ∧
    (∀ x, w.ms.voters.get? x ≠ none → x ∈ m.voters.map (·.1.text)) := by
  intro w
  obtain ⟨hv, hc⟩ := voters_never_change fuel (World.init s self bank sink) ops
  obtain ⟨h1, h2, h3, h4⟩ := total_eq_sum_voters h
  have hvs : w.ms.voters = s.voters := hv
  have hcs : w.ms.cfg = s.cfg := hc
  rw [hvs, hcs]
  obtain ⟨total, voters, _, _, hadd, rfl⟩ := instantiate_ok h
  obtain ⟨g1, _, g3⟩ := addVoters_get _ _ _ hadd
  exact ⟨h1, h3, h2, h4, g1, fun x hx => (g3 x hx).resolve_left (fun h => h rfl)⟩

/-- In a state satisfying the invariant, a voter who has not voted on a proposal fits into its tally: the ballots so far
plus that voter's weight weigh at most the total. -/
theorem room_for_new_ballot {s : State} (hi : Inv s) {id : Nat} {p : Proposal} {snd : Addr} {w : Nat}
    (hp : s.core.proposals.get? id = some p) (hw : s.voters.get? snd = some w)
    (hnb : (ballotsOf s.core id).get? snd = none) :
    p.votes.yes + p.votes.no + p.votes.abstain + p.votes.veto + w ≤ p.totalWeight := by
  have h1 : weightSum ((ballotsOf s.core id).set snd ⟨w, .yes⟩) ≤ AMap.sum s.voters := by
    refine weightSum_le_sum _ _ (AMap.nodup_set (hi.wf.nodup id)) hi.votersNodup (fun a b hb => ?_)
    rw [AMap.get?_set] at hb
    by_cases e : snd = a
    · subst e; simp at hb; subst hb; exact hw
    · simp only [e, if_false] at hb; exact hi.ballotWeight id a b hb
  rw [weightSum_set_new hnb, weightSum_eq] at h1
  rw [(hi.propCfg id p hp).1, hi.total, hi.wf.tally id p hp]
  simpa [tallyOf] using h1

/-- **`vote_ok_iff` (cw3-fixed): who can vote, exactly.**  In every state satisfying the invariant (every reachable state:
`reachable_inv`), a Vote by `snd` on proposal `id` at block `blk` succeeds if and only if the proposal exists, its stored
status is Open, Passed or Rejected, it has not expired at `blk`, the sender is a listed voter of weight ≥ 1, and the sender
has no ballot on it yet — nothing else (the option voted, the tally, the threshold play no role; inside the invariant the
`u64` additions and the status computation cannot fail).  By `vote_requires_open_window` the ballot recorded is exactly
`⟨VOTERS[snd], vote⟩`. -/
theorem vote_ok_iff {s : State} (hi : Inv s) (blk : Block) (snd : Addr) (id : Nat) (v : Vote) :
    (execute s blk snd (.vote id v)).isOk = true ↔
      ∃ p w, s.core.proposals.get? id = some p ∧ votable p.status = true ∧ p.expires.isExpired blk = false ∧
        s.voters.get? snd = some w ∧ 1 ≤ w ∧ (ballotsOf s.core id).get? snd = none := by
  rw [Res.isOk_iff_exists]
  constructor
  · rintro ⟨⟨s', out⟩, h⟩
    obtain ⟨c, hv, _⟩ := execute_vote_ok_iff.mp h
    obtain ⟨p, w, votes, st, hp, hvot, hexp, hw, hw1, hnb, _⟩ := vote_ok hv
    exact ⟨p, w, hp, hvot, hexp, hw, hw1, hnb⟩
  · rintro ⟨p, w, hp, hvot, hexp, hw, hw1, hnb⟩
    have hroom : C04.cast p.votes + w ≤ p.totalWeight := room_for_new_ballot hi hp hw hnb
    obtain ⟨hT, hthr, _⟩ := hi.propCfg id p hp
    have hu : p.totalWeight ≤ U64_MAX := hT ▸ hi.totalU64
    -- the `u64` addition cannot overflow; the status computation cannot fail (C04 `no_panic`)
    have hadd := add_ok (v := v) (Nat.le_trans hroom hu)
    have hprem : C04.Premise (Proposal.tally { p with votes := C04.plus p.votes (oneVote v w) }) :=
      ⟨(C04.cast_plus _ _).trans (congrArg _ (cast_oneVote v w)) ▸ hroom, hu, (hT ▸ hthr ▸ hi.thrValid :)⟩
    obtain ⟨st, hst⟩ := (C04.no_panic hprem blk).2.2
    exact ⟨_, execute_vote_ok_iff.mpr ⟨_, Cw3Core.vote_ok_iff.mpr ⟨p, w, _, st, hp, hvot, hexp, hw, hw1, hnb, hadd, hst, rfl⟩, rfl, rfl⟩⟩

/-- **`propose_ok_iff` (cw3-fixed): who can propose, exactly.**  In every state satisfying the invariant, a Propose by
`snd` at block `blk` succeeds if and only if the sender is a listed voter (any weight, also 0), the end of the maximum
voting period is representable (`Duration::after` does not overflow `u64`), the requested `latest` is comparable with it
(`chooseExpiry`), and the proposal counter does not overflow — title, description and messages play no role; the status
computation of the fresh proposal cannot fail.  (`proposer_ballot_is_voter_weight`: the implicit Yes ballot records
exactly `VOTERS[snd]`.) -/
theorem propose_ok_iff {s : State} (hi : Inv s) (blk : Block) (snd : Addr) (t d : String) (msgs : List Msg)
    (latest : Option Expiration) :
    (execute s blk snd (.propose t d msgs latest)).isOk = true ↔
      (∃ w, s.voters.get? snd = some w) ∧ (afterChecked s.cfg.maxVotingPeriod blk).isOk = true ∧
      (chooseExpiry (s.cfg.maxVotingPeriod.after blk) latest).isOk = true ∧ s.core.count + 1 ≤ U64_MAX := by
  rw [Res.isOk_iff_exists]
  constructor
  · rintro ⟨⟨s', out⟩, h⟩
    obtain ⟨w, c, id0, hw, hp, _⟩ := execute_propose_ok_iff.mp h
    obtain ⟨h1, expires, st, h2, _, hid, hle, _⟩ := Cw3Core.propose_ok_iff.mp hp
    exact ⟨⟨w, hw⟩, h1, by rw [h2]; rfl, by omega⟩
  · rintro ⟨⟨w, hw⟩, h1, h2, h3⟩
    obtain ⟨expires, hc⟩ := (Res.isOk_iff_exists _).mp h2
    have hwle : w ≤ s.cfg.totalWeight := by
      rw [hi.total]; have := AMap.get?_le_sum s.voters snd; rw [hw] at this; exact this
    -- the status computation of the fresh proposal cannot fail (C04 `no_panic`)
    have hprem : C04.Premise (Proposal.tally ⟨t, d, blk.height, expires, msgs, .open, s.cfg.threshold,
        s.cfg.totalWeight, Votes.ofYes w, snd, none⟩) := ⟨hwle, hi.totalU64, hi.thrValid⟩
    obtain ⟨st, hst⟩ := (C04.no_panic hprem blk).2.2
    exact ⟨_, execute_propose_ok_iff.mpr
      ⟨w, _, _, hw, Cw3Core.propose_ok_iff.mpr ⟨h1, expires, st, hc, hst, rfl, h3, rfl⟩, rfl, rfl⟩⟩

/-- **The proposer's implicit ballot is the proposer's voter weight** (`vote_weight_is_voter_weight` for Propose): a
successful Propose records, for the new proposal `count + 1`, exactly one ballot — `⟨VOTERS[snd], Yes⟩` under the
sender's address — and the initial tally is that weight of Yes. -/
theorem proposer_ballot_is_voter_weight {s s' : State} {blk : Block} {snd : Addr} {t d : String} {msgs : List Msg}
    {latest : Option Expiration} {out : List Msg} (hi : Inv s)
    (h : execute s blk snd (.propose t d msgs latest) = .ok (s', out)) :
    ∃ w p, s.voters.get? snd = some w ∧ ballotsOf s'.core (s.core.count + 1) = [(snd, ⟨w, .yes⟩)] ∧
      s'.core.proposals.get? (s.core.count + 1) = some p ∧ p.votes = Votes.ofYes w ∧ p.proposer = snd := by
  obtain ⟨w, c, id0, hw, hp, rfl, _⟩ := execute_propose_ok_iff.mp h
  obtain ⟨expires, st, _, _, rfl, _, rfl⟩ := propose_ok hp
  have hb : ballotsOf s.core (s.core.count + 1) = [] := hi.wf.noBallots _ (hi.wf.fresh (by omega))
  refine ⟨w, _, hw, ?_, AMap.get?_set_eq _ _ _, rfl, rfl⟩
  rw [ballotsOf_set]
  simp [hb, AMap.set]

/-- non-vacuity of `vote_ok_iff` / `propose_ok_iff` / `total_eq_sum_voters_run`: in the reachable example world (total 3 =
2 + 1 + 0, voters a, b, z) before the votes: `a` may vote on proposal 1, the zero-weight `z` and the outsider `x` may
not; `z` may propose, `x` may not. -/
example :
    let w := run 10 exWorld (exOps.take 1)
    (execute w.ms exBlk "a" (.vote 1 .yes)).isOk = true ∧ (execute w.ms exBlk "z" (.vote 1 .no)).isOk = false ∧
    (execute w.ms exBlk "x" (.vote 1 .yes)).isOk = false ∧
    (execute w.ms exBlk "z" (.propose "t" "d" [] none)).isOk = true ∧
    (execute w.ms exBlk "x" (.propose "t" "d" [] none)).isOk = false ∧
    w.ms.cfg.totalWeight = 3 ∧ AMap.sum w.ms.voters = 3 := by
  decide +kernel

end CwPlus.Props.C06
