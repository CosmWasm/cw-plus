import CwPlus.Lemmas.Cw3Flex
import CwPlus.Lemmas.Cw3FlexInv
import CwPlus.Lemmas.Cw3FlexAt
import CwPlus.Lemmas.Cw3StatusTotal
import CwPlus.Props.C09
/-!
# C06 — cw3: ballots are snapshot weights (cw3-flex-multisig part)

For the flex multisig the weight of a ballot is the voter's weight in the cw4-group *at the proposal's start
height* (`Member { addr, at_height: start_height }`, i.e. — by C09 — the weight at the start of the block in which
the proposal was created), and the proposal's `total_weight` should be the group total at that same point.

* `voter_ballot_is_snapshot`, `ballots_are_snapshot`: every voter's ballot carries exactly that snapshot weight
  (≥ 1), on every history of transactions at non-decreasing block heights — whatever happens to the group later.
* `later_changes_irrelevant`: a group transaction in the proposal's own block or later changes no proposal, no
  ballot and no at-height answer for any earlier-or-equal height.
* `proposer_and_total_are_snapshot_partial`: the proposer's ballot and `total_weight` are snapshot values **under
  the guard** that no group write in block `start_height` precedes the `Propose`.
* `C06_flex_counterexample`: without the guard the statement is FALSE of the code (defect D3, open known finding
  `C06/flex/propose-after-group-update-in-same-block`): `Propose` reads the group's *current* total and proposer
  weight.
-/
namespace CwPlus.Props.C06Flex
open CwPlus CwPlus.Cw3 CwPlus.Cw3Core CwPlus.Cw3Flex CwPlus.Snapshot

/-- **Cast before expiry on a proposal not yet executed** (clause b): a Vote is accepted only while the proposal is
not expired at the current block and its stored status is Open, Passed or Rejected (never Executed); the ballot then
records exactly the weight the group reports for the sender at the proposal's start height, which is ≥ 1. -/
theorem vote_requires_open_window {s s' : State} {g : Cw4Group.State} {self : Addr} {blk : Block} {snd : Addr}
    {funds : List Coin} {id : Nat} {v : Vote} {out : List Out}
    (h : Cw3Flex.execute s g self blk snd funds (.vote id v) = .ok (s', out)) :
    ∃ p w, s.core.proposals.get? id = some p ∧ p.expires.isExpired blk = false ∧
      (p.status = .open ∨ p.status = .passed ∨ p.status = .rejected) ∧ p.status ≠ .executed ∧
      memberAt g snd p.startHeight = some w ∧ 1 ≤ w ∧ (ballotsOf s.core id).get? snd = none ∧
      (ballotsOf s'.core id).get? snd = some ⟨w, v⟩ := by
  obtain ⟨c, hv, rfl, _⟩ := execute_vote_ok_iff.mp h
  obtain ⟨p, w, votes, st, hp, hvot, hexp, hw, hw1, hnb, _, _, rfl⟩ := vote_ok hv
  obtain ⟨h1, h2⟩ := votable_iff.mp hvot
  exact ⟨p, w, hp, hexp, h1, h2, hw, hw1, hnb, by rw [ballotsOf_set, if_pos rfl, AMap.get?_set_eq]⟩

/-- **Voter ballots, handler level.**  A successful `Vote` records for the sender exactly the weight the group
reports for it at the proposal's start height, and that weight is at least 1. -/
theorem voter_ballot_is_snapshot {s s' : State} {g : Cw4Group.State} {self : Addr} {blk : Block} {snd : Addr}
    {funds : List Coin} {id : Nat} {v : Vote} {out : List Out}
    (h : Cw3Flex.execute s g self blk snd funds (.vote id v) = .ok (s', out)) :
    ∃ p w, s.core.proposals.get? id = some p ∧ memberAt g snd p.startHeight = some w ∧ 1 ≤ w ∧
      (ballotsOf s.core id).get? snd = none ∧ (ballotsOf s'.core id).get? snd = some ⟨w, v⟩ := by
  obtain ⟨p, w, hp, _, _, _, hw, hw1, hnb, hb⟩ := vote_requires_open_window h
  exact ⟨p, w, hp, hw, hw1, hnb, hb⟩

/-- The group's changelogs are bounded by `H`, every proposal started at or before `H`, and every ballot other
than the proposer's own carries the group's answer for its voter at the proposal's start height (≥ 1). -/
structure SnapInv (w : World) (H : Nat) : Prop where
  inv : Inv w.flex
  membersLe : w.group.members.LogLe H
  totalLe : w.group.total.LogLe H
  startLe : ∀ id p, w.flex.core.proposals.get? id = some p → p.startHeight ≤ H
  ballot : ∀ id p a b, w.flex.core.proposals.get? id = some p → (ballotsOf w.flex.core id).get? a = some b →
    a ≠ p.proposer → memberAt w.group a p.startHeight = some b.weight ∧ 1 ≤ b.weight

/-- A ballot found after a handler call: an old ballot of an old proposal, or the sender's fresh ballot on an old proposal
with the weight the group reports at its start height (≥ 1), or the proposer's own ballot on the proposal just created. -/
theorem execute_ballot {s s' : State} {g : Cw4Group.State} {self : Addr} {blk : Block} {snd : Addr} {funds : List Coin}
    {m : ExecMsg} {out : List Out} (hwf : WF s.core) (h : Cw3Flex.execute s g self blk snd funds m = .ok (s', out)) {id : Nat}
    {p' : Proposal} {a : Addr} {b : Ballot} (hp' : s'.core.proposals.get? id = some p')
    (hb : (ballotsOf s'.core id).get? a = some b) :
    (∃ p, s.core.proposals.get? id = some p ∧ p'.fixedPart = p.fixedPart ∧
      ((ballotsOf s.core id).get? a = some b ∨ a = snd ∧ memberAt g snd p.startHeight = some b.weight ∧ 1 ≤ b.weight)) ∨
    a = snd ∧ p'.proposer = snd ∧ p'.startHeight = blk.height ∧ memberNow g snd = some b.weight ∧
      eventOf s snd m = .proposed id snd := by
  cases execute_slot hwf h hp' with
  | kept p hp hf hbs => exact .inl ⟨p, hp, hf, .inl (hbs ▸ hb)⟩
  | voted p v w hp hf _ hw hw1 hbs =>
    rw [hbs, AMap.get?_set] at hb
    by_cases ea : snd = a
    · rw [if_pos ea] at hb; cases hb; exact .inl ⟨p, hp, hf, .inr ⟨ea.symm, hw, hw1⟩⟩
    · rw [if_neg ea] at hb; exact .inl ⟨p, hp, hf, .inl hb⟩
  | created w _ hev _ _ hs hpr _ hw hbs =>
    rw [hbs, AMap.get?_singleton] at hb
    by_cases ea : snd = a
    · rw [if_pos ea] at hb; cases hb; exact .inr ⟨ea.symm, hpr, hs, hw, hev⟩
    · rw [if_neg ea] at hb; cases hb

theorem SnapInv.mono {w : World} {H H' : Nat} (h : SnapInv w H) (hh : H ≤ H') : SnapInv w H' :=
  ⟨h.inv, h.membersLe.mono hh, h.totalLe.mono hh, fun id p hp => Nat.le_trans (h.startLe id p hp) hh, h.ballot⟩

theorem snap_flex {w : World} {blk : Block} {snd : Addr} {funds : List Coin} {em : ExecMsg} {s' : State} {out : List Out}
    (hq : SnapInv w blk.height) (he : Cw3Flex.execute w.flex w.group w.self blk snd funds em = .ok (s', out)) :
    SnapInv { w with flex := s', log := w.log ++ [eventOf w.flex snd em] } blk.height := by
  refine ⟨execute_inv hq.inv he, hq.membersLe, hq.totalLe, fun id p' hp' => ?_, fun id p' a b hp' hb hne => ?_⟩
  · cases execute_slot hq.inv.wf he hp' with
    | kept p hp hf _ => exact (fixedPart_fields hf).2.2.1 ▸ hq.startLe id p hp
    | voted p _ _ hp hf => exact (fixedPart_fields hf).2.2.1 ▸ hq.startLe id p hp
    | created _ _ _ _ _ hs => exact Nat.le_of_eq hs
  · rcases execute_ballot hq.inv.wf he hp' hb with ⟨p, hp, hf, hold⟩ | ⟨ea, hpr, _⟩
    · obtain ⟨_, _, hst, _, _, _, _, hpr, _⟩ := fixedPart_fields hf
      rw [hst]
      rcases hold with hb | ⟨rfl, hw⟩
      · exact hq.ballot id p a b hp hb (hpr ▸ hne)
      · exact hw
    · exact absurd (ea.trans hpr.symm) hne

/-- A group call in block `H` keeps `SnapInv · H`: its writes are invisible at every height `≤ H`. -/
theorem snap_group {w : World} {blk : Block} {snd : Addr} {m : Cw4Group.Msg} {g' : Cw4Group.State} {outs : List Cw4Group.Out}
    (hq : SnapInv w blk.height) (hg : Cw4Group.execute w.group blk.height snd m = .ok (g', outs)) :
    SnapInv { w with group := g', log := w.log ++ [.groupWrite blk.height] } blk.height := by
  have hs := CwPlus.Props.C09.execute_sameBlock hg
  refine ⟨hq.inv, hs.1.logLe hq.membersLe (Nat.le_refl _), hs.2.logLe hq.totalLe (Nat.le_refl _), hq.startLe, ?_⟩
  intro id p a b hp hb hne
  have := hq.ballot id p a b hp hb hne
  refine ⟨?_, this.2⟩
  show g'.members.atHeight a p.startHeight = some b.weight
  rw [hs.1.atHeight_le hq.membersLe a (hq.startLe id p hp)]
  exact this.1

theorem snap_step (ext : Ext) (fuel : Nat) {w : World} {H : Nat} (op : Op) (hq : SnapInv w H) (hH : H ≤ op.blk.height) :
    SnapInv (step ext fuel w op) op.blk.height :=
  step_inv ext (fun w => SnapInv w op.blk.height) fuel w op
    (fun w snd funds em s' out hq he => snap_flex hq he)
    (fun w snd m g' outs hq hg => snap_group hq hg)
    (fun w b hq => ⟨hq.inv, hq.membersLe, hq.totalLe, hq.startLe, hq.ballot⟩)
    (fun w t hq => ⟨hq.inv, hq.membersLe, hq.totalLe, hq.startLe, hq.ballot⟩) (hq.mono hH)

/-- Block heights never decrease along a history. -/
def Ordered (ops : List Op) : Prop := ops.Pairwise (fun a b => a.blk.height ≤ b.blk.height)

/-- Induction over a history with non-decreasing heights for an invariant indexed by the height reached so far. -/
theorem run_ordered_inv (ext : Ext) (fuel : Nat) {P : World → Nat → Prop}
    (hstep : ∀ (w : World) (H : Nat) (op : Op), P w H → H ≤ op.blk.height → P (step ext fuel w op) op.blk.height) :
    ∀ (ops : List Op) (w : World) (H : Nat), P w H → (∀ op ∈ ops, H ≤ op.blk.height) → Ordered ops →
      ∃ H', P (run ext fuel w ops) H'
  | [], _, H, hq, _, _ => ⟨H, hq⟩
  | op :: rest, w, H, hq, hge, hord =>
    have hp := List.pairwise_cons.mp hord
    run_ordered_inv ext fuel hstep rest _ op.blk.height (hstep w H op hq (hge op List.mem_cons_self)) hp.1 hp.2

theorem snap_run (ext : Ext) (fuel : Nat) (ops : List Op) : ∀ (w : World) (H : Nat), SnapInv w H →
    (∀ op ∈ ops, H ≤ op.blk.height) → Ordered ops → ∃ H', SnapInv (run ext fuel w ops) H' :=
  run_ordered_inv ext fuel (fun _ _ op hq hH => snap_step ext fuel op hq hH) ops

theorem snap_init {m : InstMsg} {s : State} {g : Cw4Group.State} (t : Cw20.State) (bank : AMap (Addr × String) Nat)
    (self ga ta : Addr) {H0 : Nat} (hi : instantiate m (some g) = .ok s) (hgm : g.members.LogLe H0) (hgt : g.total.LogLe H0) :
    SnapInv (World.init s g t bank self ga ta H0) H0 := by
  have hc : (World.init s g t bank self ga ta H0).flex.core = Core.empty := instantiate_core hi
  exact ⟨instantiate_inv hi, hgm, hgt, fun id p hp => (by rw [hc] at hp; cases hp), fun id p a b hp => (by rw [hc] at hp; cases hp)⟩

/-- **Voter ballots are snapshot weights, over every history.**  Instantiate the multisig on a group whose
changelogs are bounded by `H0`, run any history of transactions (on the multisig, the group, the token; nested
dispatches included) at non-decreasing block heights `≥ H0`.  Then every ballot of every proposal, other than
the proposer's own first Yes, carries exactly the weight the group — in its *final* state, i.e. after all the
membership changes of the history — reports for the voter at the proposal's start height, and that weight is ≥ 1. -/
theorem ballots_are_snapshot {ext : Ext} {fuel : Nat} {m : InstMsg} {s : State} {g : Cw4Group.State} {t : Cw20.State}
    {bank : AMap (Addr × String) Nat} {self ga ta : Addr} {H0 : Nat}
    (hi : instantiate m (some g) = .ok s) (hgm : g.members.LogLe H0) (hgt : g.total.LogLe H0)
    (ops : List Op) (hge : ∀ op ∈ ops, H0 ≤ op.blk.height) (hord : Ordered ops)
    {id : Nat} {p : Proposal} {a : Addr} {b : Ballot} :
    let w := run ext fuel (World.init s g t bank self ga ta H0) ops
    w.flex.core.proposals.get? id = some p → (ballotsOf w.flex.core id).get? a = some b → a ≠ p.proposer →
      memberAt w.group a p.startHeight = some b.weight ∧ 1 ≤ b.weight := by
  intro w hp hb hne
  obtain ⟨H', hq⟩ := snap_run ext fuel ops _ H0 (snap_init t bank self ga ta hi hgm hgt) hge hord
  exact hq.ballot id p a b hp hb hne

/-! ## one ballot per address, who may vote, who may propose -/

/-- **At most one ballot per address and proposal** (clause a): the ballot map of every proposal of a reachable world
has no repeated key … -/
theorem one_ballot {ext : Ext} {fuel : Nat} {w : World} (hr : Reachable ext fuel w) (id : Nat) :
    AMap.NodupKeys (ballotsOf w.flex.core id) :=
  (reachable_inv hr).wf.nodup id

/-- … and a second vote of the same address on the same proposal is refused (`AlreadyVoted`), whatever the group says.
(A recorded ballot never changes: `C05Flex.ballot_never_changes`.) -/
theorem vote_twice_fails {s : State} {g : Cw4Group.State} {self : Addr} {blk : Block} {snd : Addr} {funds : List Coin}
    {id : Nat} {v : Vote} {b : Ballot} (hb : (ballotsOf s.core id).get? snd = some b) :
    (Cw3Flex.execute s g self blk snd funds (.vote id v)).isOk = false := by
  cases h : Cw3Flex.execute s g self blk snd funds (.vote id v) with
  | error e => rfl
  | ok r =>
    obtain ⟨s', out⟩ := r
    obtain ⟨_, _, _, _, _, hnb, _⟩ := voter_ballot_is_snapshot h
    rw [hb] at hnb; cases hnb

/-- **Addresses with no (or zero) snapshot weight cannot vote** (clause d). -/
theorem zero_weight_cannot_vote {s : State} {g : Cw4Group.State} {self : Addr} {blk : Block} {snd : Addr} {funds : List Coin}
    {id : Nat} {v : Vote} {p : Proposal} (hp : s.core.proposals.get? id = some p)
    (hz : (memberAt g snd p.startHeight).getD 0 = 0) : (Cw3Flex.execute s g self blk snd funds (.vote id v)).isOk = false := by
  cases h : Cw3Flex.execute s g self blk snd funds (.vote id v) with
  | error e => rfl
  | ok r =>
    obtain ⟨s', out⟩ := r
    obtain ⟨p', w, hp', _, _, _, hw, hw1, _⟩ := vote_requires_open_window h
    rw [hp] at hp'; cases hp'
    rw [hw] at hz; simp at hz; omega

/-- **A non-member of the group cannot propose** (clause d): `Propose` needs a current raw `members` entry of the sender
(its weight may be 0). -/
theorem outsider_cannot_propose {s : State} {g : Cw4Group.State} {self : Addr} {blk : Block} {snd : Addr} {funds : List Coin}
    {t d : String} {msgs : List Msg} {latest : Option Expiration} (hz : memberNow g snd = none) :
    (Cw3Flex.execute s g self blk snd funds (.propose t d msgs latest)).isOk = false := by
  cases h : Cw3Flex.execute s g self blk snd funds (.propose t d msgs latest) with
  | error e => rfl
  | ok r =>
    obtain ⟨s', out⟩ := r
    obtain ⟨_, w, _, _, _, hw, _⟩ := execute_propose_ok_iff.mp h
    rw [hz] at hw; cases hw

/-- Every proposal's proposer holds a Yes ballot (the implicit first vote), and every other ballot weighs ≥ 1. -/
def BallotInv (s : State) : Prop :=
  Inv s ∧ (∀ id p, s.core.proposals.get? id = some p → ∃ w, (ballotsOf s.core id).get? p.proposer = some ⟨w, .yes⟩) ∧
    ∀ id p a b, s.core.proposals.get? id = some p → (ballotsOf s.core id).get? a = some b → a ≠ p.proposer → 1 ≤ b.weight

theorem ballotInv_step {s s' : State} {g : Cw4Group.State} {self : Addr} {blk : Block} {snd : Addr} {funds : List Coin}
    {m : ExecMsg} {out : List Out} (hq : BallotInv s) (h : Cw3Flex.execute s g self blk snd funds m = .ok (s', out)) :
    BallotInv s' := by
  obtain ⟨hi, hy, hw⟩ := hq
  refine ⟨execute_inv hi h, fun id p' hp' => ?_, fun id p' a b hp' hb hne => ?_⟩
  · cases execute_slot hi.wf h hp' with
    | kept p hp hf hbs => rw [hbs, (fixedPart_fields hf).2.2.2.2.2.2.2.1]; exact hy id p hp
    | voted p v w1 hp hf hnb _ _ hbs =>
      obtain ⟨w, hb⟩ := hy id p hp
      rw [hbs, (fixedPart_fields hf).2.2.2.2.2.2.2.1, AMap.get?_set_ne _ _ _ _ (fun e => by rw [e, hb] at hnb; cases hnb)]
      exact ⟨w, hb⟩
    | created w _ _ _ _ _ hpr _ _ hbs => exact ⟨w, by rw [hbs, hpr, AMap.get?_singleton, if_pos rfl]⟩
  · rcases execute_ballot hi.wf h hp' hb with ⟨p, hp, hf, hb | ⟨_, _, hw1⟩⟩ | ⟨ea, hpr, _⟩
    · exact hw id p a b hp hb ((fixedPart_fields hf).2.2.2.2.2.2.2.1 ▸ hne)
    · exact hw1
    · exact absurd (ea.trans hpr.symm) hne

theorem reachable_ballotInv {ext : Ext} {fuel : Nat} {w : World} (hr : Reachable ext fuel w) : BallotInv w.flex :=
  (reachable_state_inv (P := BallotInv)
    (fun hi => ⟨instantiate_inv hi, fun id p hp => (by rw [instantiate_core hi] at hp; cases hp),
      fun id p a b hp => (by rw [instantiate_core hi] at hp; cases hp)⟩)
    (fun _ hq he => ballotInv_step hq he) hr).2

/-- **The proposer's ballot is a Yes** in every reachable world (any history, any block order): the implicit first
vote recorded by `Propose`, never changed since the proposer cannot vote again. -/
theorem proposer_ballot_is_yes {ext : Ext} {fuel : Nat} {w : World} (hr : Reachable ext fuel w) {id : Nat} {p : Proposal}
    (hp : w.flex.core.proposals.get? id = some p) : ∃ wt, (ballotsOf w.flex.core id).get? p.proposer = some ⟨wt, .yes⟩ :=
  (reachable_ballotInv hr).2.1 id p hp

/-- **Only the proposer's implicit Yes may carry zero weight** (clause d): every recorded ballot has weight ≥ 1 or is
the Yes ballot of the proposal's proposer. -/
theorem zero_weight_ballot_is_proposers_yes {ext : Ext} {fuel : Nat} {w : World} (hr : Reachable ext fuel w)
    {id : Nat} {p : Proposal} {a : Addr} {b : Ballot}
    (hp : w.flex.core.proposals.get? id = some p) (hb : (ballotsOf w.flex.core id).get? a = some b) :
    1 ≤ b.weight ∨ (a = p.proposer ∧ b.vote = .yes) := by
  by_cases e : a = p.proposer
  · right
    obtain ⟨wt, hy⟩ := proposer_ballot_is_yes hr hp
    subst e; rw [hb] at hy; cases hy; exact ⟨rfl, rfl⟩
  · exact Or.inl ((reachable_ballotInv hr).2.2 id p a b hp hb e)

/-- Dispatching the group's hook messages never changes the multisig, the group, the bank or the token
(`MemberChangedHook` is a no-op that only checks its sender). -/
theorem dispatch_hooks (ext : Ext) (blk : Block) : ∀ (fuel : Nat) (w w' : World) (outs : List Cw4Group.Out),
    dispatch ext fuel w blk (outs.map fun o => Out.groupHook o.hook) = .ok w' →
    w'.flex = w.flex ∧ w'.group = w.group ∧ w'.bank = w.bank ∧ w'.token = w.token
  | _, w, w', [], h => by simp [dispatch] at h; subst h; simp
  | 0, w, w', _ :: _, h => by simp [dispatch] at h
  | fuel + 1, w, w', hook :: rest, h => by
    simp only [List.map_cons, dispatch, Res.bind_ok] at h
    obtain ⟨w1, h1, h2⟩ := h
    split at h1
    · simp only [Res.bind_ok] at h1
      obtain ⟨⟨s', out⟩, he, hd⟩ := h1
      obtain ⟨_, rfl, rfl⟩ := execute_hook_ok_iff.mp he
      rw [dispatch_nil] at hd; cases hd
      exact (dispatch_hooks ext blk fuel _ w' rest h2 :)
    · simp at h1

/-- **Later changes are irrelevant.**  A committed group transaction in block `hb` — with every earlier group write
at a height `≤ hb`, as in every history with non-decreasing heights — changes no proposal, no tally, no ballot and
no configuration of the multisig, and leaves the group's answers `Member { addr, at_height: h }` and
`TotalWeight { at_height: h }` unchanged for every `h ≤ hb`: in particular for the start height of every existing
proposal, so the weights of future ballots, the recorded totals and hence every outcome are unaffected. -/
theorem later_changes_irrelevant {ext : Ext} {fuel : Nat} {w w' : World} {blk : Block} {snd : Addr} {m : Cw4Group.Msg}
    (hm : w.group.members.LogLe blk.height) (ht : w.group.total.LogLe blk.height)
    (h : tx ext fuel w blk (.group snd m) = .ok w') :
    w'.flex = w.flex ∧
    (∀ a h, h ≤ blk.height → memberAt w'.group a h = memberAt w.group a h) ∧
    (∀ h, h ≤ blk.height → Cw4Group.queryTotalWeight w'.group (some h) = Cw4Group.queryTotalWeight w.group (some h)) := by
  simp only [tx, Res.bind_ok] at h
  obtain ⟨⟨g', outs⟩, hg, hd⟩ := h
  have hs := CwPlus.Props.C09.execute_sameBlock hg
  obtain ⟨hf, hgr, _, _⟩ := dispatch_hooks ext blk fuel _ w' _ hd
  refine ⟨hf, ?_, ?_⟩
  · intro a h hh
    simp only [memberAt, hgr]
    exact hs.1.atHeight_le hm a hh
  · intro h hh
    simp only [Cw4Group.queryTotalWeight, hgr]
    rw [hs.2.atHeight_le ht hh]

/-- **Proposer's ballot and `total_weight`, partial** (guard: no group write in block `start_height` precedes the
`Propose`, i.e. every changelog entry of the group is from an earlier block).  Then the new proposal's
`total_weight` is the group's `TotalWeight { at_height: start_height }` and the proposer's ballot carries the group's
`Member { proposer, at_height: start_height }` — the same snapshot the voters' ballots use. -/
theorem proposer_and_total_are_snapshot_partial {s s' : State} {g : Cw4Group.State} {self : Addr} {blk : Block} {snd : Addr}
    {funds : List Coin} {t d : String} {msgs : List Msg} {latest : Option Expiration} {out : List Out} {B : Nat}
    (h : Cw3Flex.execute s g self blk snd funds (.propose t d msgs latest) = .ok (s', out))
    (hgm : g.members.LogLe B) (hgt : g.total.LogLe B) (hB : B < blk.height) :
    ∃ p w, s'.core.proposals.get? (s.core.count + 1) = some p ∧ p.startHeight = blk.height ∧ p.proposer = snd ∧
      p.totalWeight = Cw4Group.queryTotalWeight g (some p.startHeight) ∧
      (ballotsOf s'.core (s.core.count + 1)).get? snd = some ⟨w, .yes⟩ ∧
      memberAt g snd p.startHeight = some w := by
  obtain ⟨_, w, total, c, id, hw, htot, hp, rfl, _⟩ := execute_propose_ok_iff.mp h
  obtain ⟨expires, st, _, _, rfl, _, rfl⟩ := propose_ok hp
  refine ⟨_, w, AMap.get?_set_eq _ _ _, rfl, rfl, ?_, ?_, ?_⟩
  · show total = Cw4Group.queryTotalWeight g (some blk.height)
    simp only [Cw4Group.queryTotalWeight]
    rw [Cell.atHeight_of_logLe hgt hB, htot]; rfl
  · rw [ballotsOf_set, if_pos rfl, AMap.get?_set_eq]
  · show g.members.atHeight snd blk.height = some w
    rw [SnapMap.atHeight_of_logLe hgm hB snd]; exact hw

/-! ## the unguarded statement is false: D3 -/

namespace Cex

def group0 : Cw4Group.State :=
  match Cw4Group.instantiate ⟨some ⟨true, "adm"⟩, [(⟨true, "a"⟩, 1), (⟨true, "b"⟩, 4)]⟩ 5 with
  | .ok g => g
  | .error _ => Cw4Group.State.empty

def token0 : Cw20.State :=
  { supply := 0, mint := none, balances := [], allow := [], allowSp := [], version := ⟨"crates.io:cw20-base", 2, 0, 0, none⟩ }

def inst : InstMsg :=
  { group := ⟨true, "grp"⟩, threshold := .absoluteCount 4, maxVotingPeriod := .height 5, executor := none, deposit := none }

def flex0 : State := match instantiate inst (some group0) with | .ok s => s | .error _ => default

def world0 : World := World.init flex0 group0 token0 [] "ms" "grp" "tok" 5

def noExt : Ext := fun _ => none

/-- In block 10 the group admin raises `a` from 1 to 3, then — still in block 10 — `a` proposes;
in block 11 `b` votes with its snapshot weight. -/
def ops : List Op :=
  [⟨⟨10, 0⟩, .group "adm" (.updateMembers [] [(⟨true, "a"⟩, 3)])⟩,
   ⟨⟨10, 0⟩, .flex "a" [] (.propose "t" "d" [] none)⟩,
   ⟨⟨11, 0⟩, .flex "b" [] (.vote 1 .no)⟩]

def final : World := run noExt 10 world0 ops

end Cex

example : instantiate Cex.inst (some Cex.group0) = .ok Cex.flex0 := rfl
example : Ordered Cex.ops ∧ ∀ op ∈ Cex.ops, 5 ≤ op.blk.height := by unfold Ordered; decide

/-- **D3, machine-checked.**  Group update and `Propose` in the same block (10): the proposal records
`total_weight = 7` and a proposer ballot of weight 3 — the values *after* the update — although the group's
snapshot at the proposal's start height says total 5 and weight 1 for the proposer; the voter `b` votes with its
snapshot weight 4.  The unguarded "proposer's ballot and total are snapshot values" is false of the code. -/
theorem C06_flex_counterexample :
    ((Cex.final.flex.core.proposals.get? 1).map fun p => (p.startHeight, p.totalWeight)) = some (10, 7) ∧
    Cw4Group.queryTotalWeight Cex.final.group (some 10) = 5 ∧
    ((ballotsOf Cex.final.flex.core 1).get? "a").map (·.weight) = some 3 ∧
    memberAt Cex.final.group "a" 10 = some 1 ∧
    ((ballotsOf Cex.final.flex.core 1).get? "b").map (·.weight) = some 4 ∧
    memberAt Cex.final.group "b" 10 = some 4 := by
  decide +kernel

/-- Non-vacuity of the guarded theorem: the same `Propose` one block later (no group write in block 11 before
it) records the snapshot values. -/
example :
    let w := run Cex.noExt 10 Cex.world0 [Cex.ops.head!, ⟨⟨11, 0⟩, .flex "a" [] (.propose "t" "d" [] none)⟩]
    ((w.flex.core.proposals.get? 1).map fun p => (p.startHeight, p.totalWeight)) = some (11, 7) ∧
    Cw4Group.queryTotalWeight w.group (some 11) = 7 ∧
    ((ballotsOf w.flex.core 1).get? "a").map (·.weight) = some 3 ∧ memberAt w.group "a" 11 = some 3 := by
  decide +kernel

/-! ## history level: proposer and total are snapshot values, ballots never outweigh the total — under the guard

The guard `CleanStart w.log id p.startHeight` (Lemmas/Cw3FlexInv.lean) reads the ghost log: no group write at the
proposal's start height precedes the `Propose` that created it.  It is exactly the complement of the known
same-block finding (D3, `C06_flex_counterexample`).  Everything below is an invariant of whole histories with
non-decreasing block heights, nested dispatches (group updates sent by proposals, hooks, self-calls) included. -/

/-- At height `h` the group's snapshot is a membership map `M` without repeated keys whose weights sum to `total`
(a `u64`): `Member { a, at_height: h }` answers `M.get? a` for every address, `TotalWeight { at_height: h }` answers
`total`. -/
def Snapshotted (g : Cw4Group.State) (h total : Nat) : Prop :=
  ∃ M : AMap Addr Nat, AMap.NodupKeys M ∧ AMap.sum M = total ∧ total ≤ U64_MAX ∧
    (∀ a, memberAt g a h = M.get? a) ∧ g.total.atHeight h = some total

/-- `SnapInv` plus: the strengthened state invariant `Inv'`; the group satisfies the cw4-group invariant of C09
(total = Σ weights, one entry per member, `u64`); if no group write happened in block `H` yet, the group's changelogs
end before `H`; and for every proposal whose creation is not preceded by a group write in its own block
(`CleanStart`): its `total_weight` and the membership at its start height form a `Snapshotted` snapshot, and the
proposer's ballot carries the proposer's snapshot weight. -/
structure TotalInv (w : World) (H : Nat) : Prop where
  snap : SnapInv w H
  inv' : Inv' w.flex
  grp : CwPlus.Props.C09.Inv w.group
  fresh : Event.groupWrite H ∉ w.log → ∃ B, B < H ∧ w.group.members.LogLe B ∧ w.group.total.LogLe B
  total : ∀ id p, w.flex.core.proposals.get? id = some p → CleanStart w.log id p.startHeight →
    Snapshotted w.group p.startHeight p.totalWeight
  propBallot : ∀ id p b, w.flex.core.proposals.get? id = some p → CleanStart w.log id p.startHeight →
    (ballotsOf w.flex.core id).get? p.proposer = some b → memberAt w.group p.proposer p.startHeight = some b.weight

theorem TotalInv.mono {w : World} {H H' : Nat} (h : TotalInv w H) (hh : H ≤ H') : TotalInv w H' := by
  refine ⟨h.snap.mono hh, h.inv', h.grp, ?_, h.total, h.propBallot⟩
  intro hn
  by_cases e : H = H'
  · subst e; exact h.fresh hn
  · exact ⟨H, by omega, h.snap.membersLe, h.snap.totalLe⟩

theorem total_flex {w : World} {blk : Block} {snd : Addr} {funds : List Coin} {em : ExecMsg} {s' : State} {out : List Out}
    (hq : TotalInv w blk.height) (he : Cw3Flex.execute w.flex w.group w.self blk snd funds em = .ok (s', out)) :
    TotalInv { w with flex := s', log := w.log ++ [eventOf w.flex snd em] } blk.height := by
  have hnw : ∀ h, Event.groupWrite h ∉ w.log ++ [eventOf w.flex snd em] → Event.groupWrite h ∉ w.log :=
    fun h hn hm => hn (List.mem_append_left _ hm)
  -- a proposal created by this very call: the guard says no group write happened in this block yet
  have fresh : ∀ {id : Nat} {p' : Proposal}, eventOf w.flex snd em = .proposed id snd → p'.startHeight = blk.height →
      CleanStart (w.log ++ [eventOf w.flex snd em]) id p'.startHeight →
      ∃ B, B < blk.height ∧ w.group.members.LogLe B ∧ w.group.total.LogLe B := by
    intro id p' hev hs hcl
    refine hq.fresh (hs ▸ ((cleanStart_snoc _ _ _ _).mp hcl).1 ?_)
    rw [hev]; simp [Event.isProposed]
  refine ⟨snap_flex hq.snap he, execute_inv' hq.inv' he, hq.grp, fun hn => hq.fresh (hnw _ hn),
    fun id p' hp' hcl => ?_, fun id p' b hp' hcl hb => ?_⟩
  · have old : ∀ p, w.flex.core.proposals.get? id = some p → p'.fixedPart = p.fixedPart →
        Snapshotted w.group p'.startHeight p'.totalWeight := by
      intro p hp hf
      obtain ⟨_, _, hst, _, _, _, htw, _, _⟩ := fixedPart_fields hf
      rw [hst] at hcl ⊢; rw [htw]; exact hq.total id p hp ((cleanStart_snoc _ _ _ _).mp hcl).2
    cases execute_slot hq.snap.inv.wf he hp' with
    | kept p hp hf _ => exact old p hp hf
    | voted p _ _ hp hf => exact old p hp hf
    | created w0 _ hev _ _ hs _ htot =>
      obtain ⟨B, hB, hm, ht⟩ := fresh hev hs hcl
      obtain ⟨hsum, hnd, hu⟩ := hq.grp
      have htotal : AMap.sum w.group.members.cur = p'.totalWeight := by
        rw [hsum] at htot; exact Option.some.inj htot
      rw [hs]
      refine ⟨w.group.members.cur, hnd, htotal, by omega, fun a => ?_, ?_⟩
      · show w.group.members.atHeight a blk.height = _
        rw [SnapMap.atHeight_of_logLe hm hB a]; rfl
      · rw [Cell.atHeight_of_logLe ht hB]; exact htot
  · rcases execute_ballot hq.snap.inv.wf he hp' hb with ⟨p, hp, hf, hold⟩ | ⟨_, hpr, hs, hw, hev⟩
    · obtain ⟨_, _, hst, _, _, _, _, hpr, _⟩ := fixedPart_fields hf
      rw [hst] at hcl ⊢; rw [hpr] at hold ⊢
      rcases hold with hb | ⟨ea, hw, _⟩
      · exact hq.propBallot id p b hp ((cleanStart_snoc _ _ _ _).mp hcl).2 hb
      · rw [ea]; exact hw
    · obtain ⟨B, hB, hm, _⟩ := fresh hev hs hcl
      rw [hs, hpr]
      show w.group.members.atHeight snd blk.height = some b.weight
      rw [SnapMap.atHeight_of_logLe hm hB snd]; exact hw

/-- A group call in block `H` keeps `TotalInv · H`: its writes are invisible at every height `≤ H`, and the group keeps
its own invariant (C09). -/
theorem total_group {w : World} {blk : Block} {snd : Addr} {m : Cw4Group.Msg} {g' : Cw4Group.State} {outs : List Cw4Group.Out}
    (hq : TotalInv w blk.height) (hg : Cw4Group.execute w.group blk.height snd m = .ok (g', outs)) :
    TotalInv { w with group := g', log := w.log ++ [.groupWrite blk.height] } blk.height := by
  have hs := CwPlus.Props.C09.execute_sameBlock hg
  have hcs : ∀ id h, CleanStart (w.log ++ [Event.groupWrite blk.height]) id h → CleanStart w.log id h :=
    fun id h hc => ((cleanStart_snoc _ _ _ _).mp hc).2
  refine ⟨snap_group hq.snap hg, hq.inv', CwPlus.Props.C09.execute_inv hq.grp hg, ?_, ?_, ?_⟩
  · intro hn; exact absurd (List.mem_append_right _ (List.mem_singleton.mpr rfl)) hn
  · intro id p hp hcl
    have hle := hq.snap.startLe id p hp
    obtain ⟨M, hnd, hsum, hu, hmem, htot⟩ := hq.total id p hp (hcs _ _ hcl)
    refine ⟨M, hnd, hsum, hu, ?_, ?_⟩
    · intro a
      show g'.members.atHeight a p.startHeight = _
      rw [hs.1.atHeight_le hq.snap.membersLe a hle]; exact hmem a
    · show g'.total.atHeight p.startHeight = _
      rw [hs.2.atHeight_le hq.snap.totalLe hle]; exact htot
  · intro id p b hp hcl hb
    have hle := hq.snap.startLe id p hp
    show g'.members.atHeight p.proposer p.startHeight = _
    rw [hs.1.atHeight_le hq.snap.membersLe _ hle]
    exact hq.propBallot id p b hp (hcs _ _ hcl) hb

theorem total_step (ext : Ext) (fuel : Nat) {w : World} {H : Nat} (op : Op) (hq : TotalInv w H) (hH : H ≤ op.blk.height) :
    TotalInv (step ext fuel w op) op.blk.height :=
  step_inv ext (fun w => TotalInv w op.blk.height) fuel w op
    (fun w snd funds em s' out hq he => total_flex hq he)
    (fun w snd m g' outs hq hg => total_group hq hg)
    (fun w b hq => ⟨⟨hq.snap.inv, hq.snap.membersLe, hq.snap.totalLe, hq.snap.startLe, hq.snap.ballot⟩, hq.inv', hq.grp,
      hq.fresh, hq.total, hq.propBallot⟩)
    (fun w t hq => ⟨⟨hq.snap.inv, hq.snap.membersLe, hq.snap.totalLe, hq.snap.startLe, hq.snap.ballot⟩, hq.inv', hq.grp,
      hq.fresh, hq.total, hq.propBallot⟩) (hq.mono hH)

/-- The freshly instantiated world satisfies `TotalInv · H0` when the group satisfies its own invariant and its
changelogs are bounded by the instantiation height `H0` (which the initial ghost log records as a group write). -/
theorem total_init {m : InstMsg} {s : State} {g : Cw4Group.State} (t : Cw20.State) (bank : AMap (Addr × String) Nat)
    (self ga ta : Addr) {H0 : Nat} (hi : instantiate m (some g) = .ok s) (hg : CwPlus.Props.C09.Inv g)
    (hgm : g.members.LogLe H0) (hgt : g.total.LogLe H0) : TotalInv (World.init s g t bank self ga ta H0) H0 := by
  have hc : (World.init s g t bank self ga ta H0).flex.core = Core.empty := instantiate_core hi
  refine ⟨snap_init t bank self ga ta hi hgm hgt, instantiate_inv' hi, hg, fun hn => ?_,
    fun id p hp => (by rw [hc] at hp; cases hp), fun id p b hp => (by rw [hc] at hp; cases hp)⟩
  simp [World.init] at hn

/-- Worlds reached from an accepted instantiation of the multisig on a cw4-group that satisfies the cw4-group
invariant of C09 (as every instantiated cw4-group does, after any history of its own: `C09.run_inv`) and whose
changelogs are bounded by `h0`, by a history (transactions on the multisig, the group, the token) whose blocks are at
or after height `h0` and never go back.  The last argument is the block of the last transaction. -/
inductive ReachableSnap (ext : Ext) (fuel : Nat) : World → Block → Prop
  | init {m : InstMsg} {s : State} (g : Cw4Group.State) (t : Cw20.State) (bank : AMap (Addr × String) Nat)
      (self groupAddr tokenAddr : Addr) (h0 : Nat) (b : Block) :
      instantiate m (some g) = .ok s → CwPlus.Props.C09.Inv g → g.members.LogLe h0 → g.total.LogLe h0 → h0 ≤ b.height →
      ReachableSnap ext fuel (World.init s g t bank self groupAddr tokenAddr h0) b
  | step {w : World} {b : Block} (op : Op) : ReachableSnap ext fuel w b → C04.later b op.blk →
      ReachableSnap ext fuel (step ext fuel w op) op.blk

/-- The hypotheses of `ReachableSnap.init` about the group hold for every freshly instantiated cw4-group (instantiated at
height `h0`): the multisig may be instantiated on it and any history at blocks `≥ h0` that never go back follows. -/
theorem ReachableSnap.init_of_group_instantiate {ext : Ext} {fuel : Nat} {gm : Cw4Group.InstMsg} {h0 : Nat}
    {g : Cw4Group.State} (hg : Cw4Group.instantiate gm h0 = .ok g) {m : InstMsg} {s : State}
    (hi : instantiate m (some g) = .ok s) (t : Cw20.State) (bank : AMap (Addr × String) Nat) (self ga ta : Addr)
    (b : Block) (hb : h0 ≤ b.height) : ReachableSnap ext fuel (World.init s g t bank self ga ta h0) b := by
  have hsb := CwPlus.Props.C09.instantiate_sameBlock hg
  exact ReachableSnap.init g t bank self ga ta h0 b hi (CwPlus.Props.C09.instantiate_inv hg)
    (hsb.1.logLe (SnapMap.logLe_empty h0) (Nat.le_refl _)) (hsb.2.logLe (Cell.logLe_empty h0) (Nat.le_refl _)) hb

theorem ReachableSnap.reachableAt {ext : Ext} {fuel : Nat} {w : World} {b : Block} (h : ReachableSnap ext fuel w b) :
    ReachableAt ext fuel w b := by
  induction h with
  | init g t bank self ga ta h0 b hi _ _ _ _ => exact ReachableAt.init g t bank self ga ta h0 b hi
  | step op _ hb ih => exact ReachableAt.step op ih hb

theorem ReachableSnap.totalInv {ext : Ext} {fuel : Nat} {w : World} {b : Block} (h : ReachableSnap ext fuel w b) :
    TotalInv w b.height := by
  induction h with
  | init g t bank self ga ta h0 b hi hg hgm hgt hle => exact (total_init t bank self ga ta hi hg hgm hgt).mono hle
  | step op _ hb ih => exact total_step ext fuel op ih hb.1

/-- Every ballot of a proposal created outside the same-block situation carries the weight the snapshot map of its
start height has for the voter. -/
theorem TotalInv.ballot_in_snapshot {w : World} {H : Nat} (hq : TotalInv w H) {id : Nat} {p : Proposal}
    (hp : w.flex.core.proposals.get? id = some p) (hc : CleanStart w.log id p.startHeight) {a : Addr} {b : Ballot}
    (hb : (ballotsOf w.flex.core id).get? a = some b) : memberAt w.group a p.startHeight = some b.weight := by
  by_cases e : a = p.proposer
  · subst e; exact hq.propBallot id p b hp hc hb
  · exact (hq.snap.ballot id p a b hp hb e).1

/-- **C06 "ballots never outweigh the total", cw3-flex** (clause e).  On every history with non-decreasing blocks, for
every proposal whose `Propose` was not preceded by a group write in its own block (`CleanStart`, the exact complement of
the known same-block finding D3): the recorded ballots together weigh at most the recorded `total_weight`, the
recorded total is the group's `TotalWeight { at_height: start_height }` in the FINAL group state, and it fits `u64`. -/
theorem flex_sum_ballots_le_total {ext : Ext} {fuel : Nat} {w : World} {b : Block} (hr : ReachableSnap ext fuel w b)
    {id : Nat} {p : Proposal} (hp : w.flex.core.proposals.get? id = some p) (hc : CleanStart w.log id p.startHeight) :
    weightSum (ballotsOf w.flex.core id) ≤ p.totalWeight ∧ p.totalWeight ≤ U64_MAX ∧
      Cw4Group.queryTotalWeight w.group (some p.startHeight) = p.totalWeight := by
  have hq := hr.totalInv
  obtain ⟨M, hnd, hsum, hu, hmem, htot⟩ := hq.total id p hp hc
  refine ⟨?_, hu, by simp [Cw4Group.queryTotalWeight, htot]⟩
  rw [← hsum]
  refine weightSum_le_sum _ M (hq.snap.inv.wf.nodup id) hnd ?_
  intro a b hb
  rw [← hmem a]; exact hq.ballot_in_snapshot hp hc hb

/-- … hence the stored tally (yes + no + abstain + veto) never exceeds the recorded total: `C04.Premise.tally_le`. -/
theorem flex_tally_le_total {ext : Ext} {fuel : Nat} {w : World} {b : Block} (hr : ReachableSnap ext fuel w b)
    {id : Nat} {p : Proposal} (hp : w.flex.core.proposals.get? id = some p) (hc : CleanStart w.log id p.startHeight) :
    p.votes.yes + p.votes.no + p.votes.abstain + p.votes.veto ≤ p.totalWeight := by
  have h := (flex_sum_ballots_le_total hr hp hc).1
  rw [weightSum_eq] at h
  rw [hr.totalInv.snap.inv.wf.tally id p hp]
  exact h

/-- … so the four tally counters together fit `u64` (`Proposal.Fits`): the proviso of `C05Flex.query_always_answers`
and `C15.failed_deposit_recoverable_reachable` holds for every proposal created outside the same-block situation, and
its `current_status` never fails, at any block. -/
theorem flex_fits {ext : Ext} {fuel : Nat} {w : World} {b : Block} (hr : ReachableSnap ext fuel w b)
    {id : Nat} {p : Proposal} (hp : w.flex.core.proposals.get? id = some p) (hc : CleanStart w.log id p.startHeight) :
    p.Fits ∧ ∀ blk, ∃ st, p.currentStatus blk = .ok st := by
  have h1 := flex_tally_le_total hr hp hc
  have h2 := (flex_sum_ballots_le_total hr hp hc).2.1
  have hf : p.Fits := by unfold Proposal.Fits; omega
  exact ⟨hf, fun blk => reachable_statusInv hr.reachableAt.reachable id p hp hf blk⟩

/-- **C06 "the proposer's ballot and the total are snapshot values", cw3-flex, history level** (clause c).  On every
history with non-decreasing blocks, for every proposal whose `Propose` was not preceded by a group write in its own
block: in the FINAL world — after all later membership changes — `total_weight` is the group's
`TotalWeight { at_height: start_height }`, and EVERY ballot (the proposer's first Yes included) carries the group's
`Member { voter, at_height: start_height }`.  (The voters' part needs no guard: `ballots_are_snapshot`.) -/
theorem proposer_and_total_are_snapshot {ext : Ext} {fuel : Nat} {w : World} {b : Block} (hr : ReachableSnap ext fuel w b)
    {id : Nat} {p : Proposal} (hp : w.flex.core.proposals.get? id = some p) (hc : CleanStart w.log id p.startHeight) :
    p.totalWeight = Cw4Group.queryTotalWeight w.group (some p.startHeight) ∧
    (∀ a bl, (ballotsOf w.flex.core id).get? a = some bl → memberAt w.group a p.startHeight = some bl.weight) := by
  exact ⟨(flex_sum_ballots_le_total hr hp hc).2.2.symm, fun a bl hb => hr.totalInv.ballot_in_snapshot hp hc hb⟩

/-! ## later changes are irrelevant over a whole history suffix; `ReachableSnap` along `run` -/

/-- The group's changelogs are bounded by `H`, and every at-height answer for a height `≤ H0` is the one of `w0`. -/
structure FrozenBelow (w0 : World) (H0 : Nat) (w : World) (H : Nat) : Prop where
  le : H0 ≤ H
  membersLe : w.group.members.LogLe H
  totalLe : w.group.total.LogLe H
  member : ∀ a h, h ≤ H0 → memberAt w.group a h = memberAt w0.group a h
  total : ∀ h, h ≤ H0 → Cw4Group.queryTotalWeight w.group (some h) = Cw4Group.queryTotalWeight w0.group (some h)

theorem frozen_step (ext : Ext) (fuel : Nat) {w0 w : World} {H0 H : Nat} (op : Op) (hq : FrozenBelow w0 H0 w H)
    (hH : H ≤ op.blk.height) : FrozenBelow w0 H0 (step ext fuel w op) op.blk.height := by
  refine step_inv ext (fun w => FrozenBelow w0 H0 w op.blk.height) fuel w op
    (fun w snd funds em s' out hq he => ⟨hq.le, hq.membersLe, hq.totalLe, hq.member, hq.total⟩)
    (fun w snd m g' outs hq hg => ?_)
    (fun w b hq => ⟨hq.le, hq.membersLe, hq.totalLe, hq.member, hq.total⟩)
    (fun w t hq => ⟨hq.le, hq.membersLe, hq.totalLe, hq.member, hq.total⟩)
    ⟨Nat.le_trans hq.le hH, hq.membersLe.mono hH, hq.totalLe.mono hH, hq.member, hq.total⟩
  have hs := CwPlus.Props.C09.execute_sameBlock hg
  refine ⟨hq.le, hs.1.logLe hq.membersLe (Nat.le_refl _), hs.2.logLe hq.totalLe (Nat.le_refl _), ?_, ?_⟩
  · intro a h hh
    rw [← hq.member a h hh]
    exact hs.1.atHeight_le hq.membersLe a (Nat.le_trans hh hq.le)
  · intro h hh
    rw [← hq.total h hh]
    simp only [Cw4Group.queryTotalWeight]
    rw [hs.2.atHeight_le hq.totalLe (Nat.le_trans hh hq.le)]

/-- **Later membership changes never alter any snapshot answer — over a whole history** (clause f).  From a world whose
group changelogs are bounded by `H`, run ANY further history (transactions on the multisig, the group, the token; group
updates dispatched by proposals and hooks included) at non-decreasing block heights `≥ H`: the group's answers
`Member { addr, at_height: h }` and `TotalWeight { at_height: h }` are unchanged for every `h ≤ H` — in particular for
the start height of every proposal that already exists, so the weights of future ballots and the snapshot totals of
existing proposals are unaffected by anything that happens later.  (Recorded ballots and totals themselves never
change: `C05Flex.ballot_never_changes`, `C05Flex.proposal_immutable`.) -/
theorem later_changes_irrelevant_run (ext : Ext) (fuel : Nat) (ops : List Op) : ∀ (w : World) (H : Nat),
    w.group.members.LogLe H → w.group.total.LogLe H → (∀ op ∈ ops, H ≤ op.blk.height) → Ordered ops →
    (∀ a h, h ≤ H → memberAt (run ext fuel w ops).group a h = memberAt w.group a h) ∧
    (∀ h, h ≤ H → Cw4Group.queryTotalWeight (run ext fuel w ops).group (some h) = Cw4Group.queryTotalWeight w.group (some h)) := by
  intro w H hm ht hge hord
  obtain ⟨K', hq⟩ := run_ordered_inv ext fuel (P := FrozenBelow w H) (fun _ _ op hq hH => frozen_step ext fuel op hq hH) ops w H
    ⟨Nat.le_refl _, hm, ht, fun _ _ _ => rfl, fun _ _ => rfl⟩ hge hord
  exact ⟨hq.member, hq.total⟩

/-- A list of transactions whose blocks never go back, starting at or after `b`. -/
def BlocksFrom : Block → List Op → Prop
  | _, [] => True
  | b, op :: rest => C04.later b op.blk ∧ BlocksFrom op.blk rest

/-- the block of the last transaction (`b` if there is none) -/
def lastBlock : Block → List Op → Block
  | b, [] => b
  | _, op :: rest => lastBlock op.blk rest

/-- `ReachableSnap` along `run`: any further history whose blocks never go back leads to a `ReachableSnap` world. -/
theorem ReachableSnap.run {ext : Ext} {fuel : Nat} : ∀ (ops : List Op) {w : World} {b : Block},
    ReachableSnap ext fuel w b → BlocksFrom b ops → ReachableSnap ext fuel (Cw3Flex.run ext fuel w ops) (lastBlock b ops)
  | [], _, _, hr, _ => hr
  | op :: rest, _, _, hr, hb => ReachableSnap.run rest (ReachableSnap.step op hr hb.1) hb.2

/-- Non-vacuity: the history of `C06_flex_counterexample` moved one block on (group update in block 10, `Propose` in
block 11, `b` votes in block 12) is a `ReachableSnap` history, the guard holds for proposal 1, and ballots 3 + 4 = 7 ≤
total 7.  In the counterexample history itself the guard is false. -/
def Cex.opsOk : List Op :=
  [⟨⟨10, 0⟩, .group "adm" (.updateMembers [] [(⟨true, "a"⟩, 3)])⟩,
   ⟨⟨11, 0⟩, .flex "a" [] (.propose "t" "d" [] none)⟩,
   ⟨⟨12, 0⟩, .flex "b" [] (.vote 1 .no)⟩]

theorem Cex.okReachable : ReachableSnap Cex.noExt 10 (run Cex.noExt 10 Cex.world0 Cex.opsOk) ⟨12, 0⟩ :=
  ReachableSnap.run Cex.opsOk
    (ReachableSnap.init_of_group_instantiate (gm := ⟨some ⟨true, "adm"⟩, [(⟨true, "a"⟩, 1), (⟨true, "b"⟩, 4)]⟩) (h0 := 5)
      (g := Cex.group0) rfl (m := Cex.inst) (s := Cex.flex0) rfl Cex.token0 [] "ms" "grp" "tok" ⟨10, 0⟩ (by decide))
    ⟨⟨by decide, by decide⟩, ⟨by decide, by decide⟩, ⟨by decide, by decide⟩, trivial⟩

example :
    let w := run Cex.noExt 10 Cex.world0 Cex.opsOk
    CleanStart w.log 1 11 ∧
    ((w.flex.core.proposals.get? 1).map fun p => (p.startHeight, p.totalWeight)) = some (11, 7) ∧
    weightSum (ballotsOf w.flex.core 1) = 7 ∧ ¬ CleanStart Cex.final.log 1 10 := by
  decide +kernel

/-- non-vacuity of `vote_twice_fails`, `outsider_cannot_propose`, `zero_weight_cannot_vote`, `proposer_ballot_is_yes`
on the reachable world `Cex.final`: `b` already holds a ballot on proposal 1, `x` is not in the group (no entry now, no
weight at height 10), and the proposer `a` holds a Yes ballot -/
example : Reachable Cex.noExt 10 Cex.final ∧
    ((ballotsOf Cex.final.flex.core 1).get? "b").isSome = true ∧
    (Cw3Flex.execute Cex.final.flex Cex.final.group "ms" ⟨11, 0⟩ "b" [] (.vote 1 .yes)).isOk = false ∧
    memberNow Cex.final.group "x" = none ∧ (memberAt Cex.final.group "x" 10).getD 0 = 0 ∧
    (Cw3Flex.execute Cex.final.flex Cex.final.group "ms" ⟨11, 0⟩ "x" [] (.propose "t" "d" [] none)).isOk = false ∧
    (Cw3Flex.execute Cex.final.flex Cex.final.group "ms" ⟨11, 0⟩ "x" [] (.vote 1 .yes)).isOk = false ∧
    (ballotsOf Cex.final.flex.core 1).get? "a" = some ⟨3, .yes⟩ :=
  ⟨⟨Cex.inst, Cex.flex0, Cex.group0, Cex.token0, _, "ms", "grp", "tok", 5, Cex.ops, rfl, rfl⟩,
   by decide +kernel⟩

/-- non-vacuity of `vote_requires_open_window`: `b`'s vote in block 11 (third op of `Cex.ops`) is accepted in the world
after the first two ops -/
example :
    let w := run Cex.noExt 10 Cex.world0 (Cex.ops.take 2)
    (Cw3Flex.execute w.flex w.group "ms" ⟨11, 0⟩ "b" [] (.vote 1 .no)).isOk = true := by
  decide +kernel

/-- non-vacuity of `later_changes_irrelevant_run` and `ReachableSnap.run`: `Cex.opsOk` is ordered, at heights ≥ 5 (the
bound of `group0`'s changelogs), and its blocks never go back from block 10 -/
example : Ordered Cex.opsOk ∧ (∀ op ∈ Cex.opsOk, 5 ≤ op.blk.height) ∧ BlocksFrom ⟨10, 0⟩ Cex.opsOk ∧
    lastBlock ⟨10, 0⟩ Cex.opsOk = ⟨12, 0⟩ :=
  ⟨by unfold Ordered; decide, by decide,
   ⟨⟨by decide, by decide⟩, ⟨by decide, by decide⟩, ⟨by decide, by decide⟩, trivial⟩, rfl⟩

end CwPlus.Props.C06Flex
