import CwPlus.Props.C19
/-!
# cw20-base: the history theorems of C01 and C20 over histories that contain `migrate` calls

`migrate` is not an execute message, so the history theorems of `Props/C01.lean` and `Props/C20.lean`
(`reach_inv`, `listed_sum`, `supply_ledger`, `cw20_listings_complete`, …) quantify over execute calls only.
`Props/C19.lean` has the mixed history type (`C19.Op` = an execute call or a `migrate` call, `C19.runOps`;
a refused `migrate` is rolled back like any failing transaction).  This file lifts the C01 and C20 history
theorems to `C19.runOps`; it sits above C19 in the import order (C19 imports C01, C01 imports C20), which is
why these theorems are not in `C01.lean` / `C20.lean` themselves.  The mixed-history versions of C13 and C02
are in their own files (which import this one).

`migrate` writes only the cw2 version and `ALLOWANCES_SPENDER` (`migrate_frame`).
-/
namespace CwPlus.Props.Cw20Mixed
open CwPlus CwPlus.Cw20 CwPlus.Paginate
open CwPlus.Props.C19 (Op stepOp runOps)
open CwPlus.Props.C20 (okItems)

/-- **Frame of `migrate`**: a successful migration leaves balances, supply, minter record, the owner-keyed
allowance map, marketing info and logo exactly as they were (it writes the cw2 version and, below 0.14.0,
the spender-keyed allowance map). -/
theorem migrate_frame {s s' : State} (h : migrate s = .ok s') :
    s'.balances = s.balances ∧ s'.supply = s.supply ∧ s'.mint = s.mint ∧ s'.allow = s.allow
    ∧ s'.marketing = s.marketing ∧ s'.logo = s.logo := by
  obtain ⟨_, _, rfl⟩ := migrate_ok.mp h
  exact ⟨rfl, rfl, rfl, rfl, rfl, rfl⟩

/-- One transaction of a mixed history that is a `migrate` (accepted or refused) leaves the C01-relevant
part of the state alone. -/
theorem stepOp_migrate_frame (s : State) :
    (stepOp s .migrate).balances = s.balances ∧ (stepOp s .migrate).supply = s.supply
    ∧ (stepOp s .migrate).mint = s.mint ∧ (stepOp s .migrate).allow = s.allow := by
  cases hm : migrate s with
  | ok s' =>
    obtain ⟨h1, h2, h3, h4, _⟩ := migrate_frame hm
    simp only [stepOp, hm]; exact ⟨h1, h2, h3, h4⟩
  | error e => simp [stepOp, hm]

/-! ## C01 over mixed histories -/

/-- `migrate` preserves the C01 invariant. -/
theorem migrate_inv {s s' : State} (hi : C01.Inv s) (h : migrate s = .ok s') : C01.Inv s' := by
  obtain ⟨h1, h2, _⟩ := migrate_frame h
  unfold C01.Inv at *; rw [h1, h2]; exact hi

/-- Any mixed history preserves the C01 invariant, from any state that has it (in particular from a migrated
legacy state whose balances add up to its supply). -/
theorem runOps_inv {s : State} (hi : C01.Inv s) (ops : List Op) : C01.Inv (runOps s ops) :=
  C19.runOps_preserves C01.execute_inv migrate_inv ops hi

/-- **C01, main theorem over mixed histories**: after any accepted instantiation and any finite history of
execute calls *and* `migrate` calls in any order (failed ones rolled back), supply = Σ balances and fits
`Uint128`. -/
theorem reach_inv_mixed {m : InstMsg} {s : State} (h : instantiate m = .ok s) (ops : List Op) :
    C01.Inv (runOps s ops) :=
  runOps_inv (C01.instantiate_inv h) ops

theorem runOps_nodup {s : State} (hi : NodupInv s) (ops : List Op) : NodupInv (runOps s ops) :=
  C19.runOps_preserves execute_nodup migrate_nodup ops hi

theorem reach_nodup_mixed {m : InstMsg} {s0 : State} (h : instantiate m = .ok s0) (ops : List Op) :
    NodupInv (runOps s0 ops) :=
  runOps_nodup (instantiate_nodup h) ops

/-- **C01 on the listed accounts, mixed histories**: after any accepted instantiation and any history of
execute and `migrate` calls, the `Balance` answers over the accounts obtained by paging `AllAccounts` to
completion (any limit other than 0) add up to the reported total supply. -/
theorem listed_sum_mixed {m : InstMsg} {s0 : State} (h : instantiate m = .ok s0) (ops : List Op)
    (limit : Option Nat) (hl : limit ≠ some 0) {fuel : Nat} (hf : (runOps s0 ops).balances.length + 1 ≤ fuel) :
    ((fetchLoop (fun c => queryAllAccounts (runOps s0 ops) c limit) id none fuel).map
        (C01.balanceOf (runOps s0 ops))).sum = C01.queryTotalSupply (runOps s0 ops) :=
  C01.listed_sum_of_inv (reach_inv_mixed h ops) (reach_nodup_mixed h ops).balances limit hl hf

/-- Ghost: amount minted by the successful `mint` calls of a mixed history (`migrate` mints nothing). -/
def mintedOps (s : State) : List Op → Nat
  | [] => 0
  | .exec blk snd msg :: rest => C01.mintedAt s (blk, snd, msg) + mintedOps (step s blk snd msg) rest
  | .migrate :: rest => mintedOps (stepOp s .migrate) rest

/-- Ghost: amount burned by the successful `burn` / `burnFrom` calls of a mixed history. -/
def burnedOps (s : State) : List Op → Nat
  | [] => 0
  | .exec blk snd msg :: rest => C01.burnedAt s (blk, snd, msg) + burnedOps (step s blk snd msg) rest
  | .migrate :: rest => burnedOps (stepOp s .migrate) rest

/-- **C01, history ledger over mixed histories**: `supply + burned = initial supply + minted`; migrations
contribute nothing. -/
theorem supply_ledger_mixed (s : State) (ops : List Op) :
    (runOps s ops).supply + burnedOps s ops = s.supply + mintedOps s ops := by
  induction ops generalizing s with
  | nil => rfl
  | cons op rest ih =>
    cases op with
    | exec blk snd msg =>
      have h1 := C01.step_ledger s (blk, snd, msg)
      have h2 := ih (step s blk snd msg)
      show (runOps (step s blk snd msg) rest).supply
          + (C01.burnedAt s (blk, snd, msg) + burnedOps (step s blk snd msg) rest)
        = s.supply + (C01.mintedAt s (blk, snd, msg) + mintedOps (step s blk snd msg) rest)
      simp only [] at h1
      omega
    | migrate =>
      have h1 := (stepOp_migrate_frame s).2.1
      have h2 := ih (stepOp s .migrate)
      show (runOps (stepOp s .migrate) rest).supply + burnedOps (stepOp s .migrate) rest
        = s.supply + mintedOps (stepOp s .migrate) rest
      omega

/-! ## C20 (the three cw20 listings) over mixed histories -/

/-- **All three cw20 listings are complete after any mixed history**: any accepted instantiation, any history
of execute and `migrate` calls, any owner/spender, any limit other than 0; from the start and from any cursor. -/
theorem cw20_listings_complete_mixed {m : InstMsg} {s0 : State} (h : instantiate m = .ok s0)
    (ops : List Op) (a : AddrArg) (hv : a.valid = true) (limit : Option Nat) (hl : limit ≠ some 0) :
    let s := runOps s0 ops
    (fetchLoop (fun c => queryAllAccounts s c limit) id none (s.balances.length + 1)
        = (sortedEntries strLt s.balances).map (·.1) ∧
    fetchLoop (fun c => okItems (queryOwnerAllowances s a c limit)) (·.1) none ((ownerPrefix s a.text).length + 1)
        = sortedEntries strLt (ownerPrefix s a.text) ∧
    fetchLoop (fun c => okItems (querySpenderAllowances s a c limit)) (·.1) none ((spenderPrefix s a.text).length + 1)
        = sortedEntries strLt (spenderPrefix s a.text)) ∧
    ∀ c : String,
    (fetchLoop (fun c => queryAllAccounts s c limit) id (some c) (s.balances.length + 1)
        = ((sortedEntries strLt s.balances).filter (fun x => strLt c x.1)).map (·.1) ∧
    fetchLoop (fun c => okItems (queryOwnerAllowances s a c limit)) (·.1) (some c) ((ownerPrefix s a.text).length + 1)
        = (sortedEntries strLt (ownerPrefix s a.text)).filter (fun x => strLt c x.1) ∧
    fetchLoop (fun c => okItems (querySpenderAllowances s a c limit)) (·.1) (some c) ((spenderPrefix s a.text).length + 1)
        = (sortedEntries strLt (spenderPrefix s a.text)).filter (fun x => strLt c x.1)) := by
  intro s
  have hi := reach_nodup_mixed h ops
  exact ⟨C20.cw20_listings_from hi a hv limit hl none, fun c => C20.cw20_listings_from hi a hv limit hl (some c)⟩

/-- The same for a migrated legacy token: any state without duplicate keys (a storage state), migrated, then
any mixed history. -/
theorem cw20_listings_nodup_migrated {s s' : State} (hn : NodupInv s) (h : migrate s = .ok s') (ops : List Op) :
    NodupInv (runOps s' ops) :=
  runOps_nodup (migrate_nodup hn h) ops

/-- A mixed history from the C01 example token: a transfer, a `migrate` (accepted: same version, nothing to do),
a mint, a burn, another `migrate`. -/
def exMixed : List Op :=
  [ .exec C01.exBlk "alice" (.transfer ⟨true, "bob"⟩ 40),
    .migrate,
    .exec C01.exBlk "minter" (.mint ⟨true, "dave"⟩ 50),
    .exec C01.exBlk "bob" (.burn 5),
    .migrate ]

example : (runOps C01.exState exMixed).supply = 170
    ∧ (runOps C01.exState exMixed).balances = [("alice", 60), ("bob", 60), ("carol", 0), ("dave", 50)] := by decide +kernel
example : mintedOps C01.exState exMixed = 50 ∧ burnedOps C01.exState exMixed = 5 := by decide +kernel
example : C01.Inv (runOps C01.exState exMixed) := reach_inv_mixed (m := C01.exInst) rfl exMixed
example : (runOps C01.exState exMixed).supply + burnedOps C01.exState exMixed
    = C01.exState.supply + mintedOps C01.exState exMixed := supply_ledger_mixed _ _
example : ((fetchLoop (fun c => queryAllAccounts (runOps C01.exState exMixed) c (some 3)) id none 5).map
      (C01.balanceOf (runOps C01.exState exMixed))).sum = C01.queryTotalSupply (runOps C01.exState exMixed) :=
  listed_sum_mixed (m := C01.exInst) rfl exMixed (some 3) (by decide +kernel) (by decide +kernel)
/-- `migrate_frame` on the legacy state of C19 (a migration that does rebuild the spender map). -/
example : C19.exMigrated.balances = C19.exLegacy.balances ∧ C19.exMigrated.supply = C19.exLegacy.supply :=
  let h := migrate_frame (s := C19.exLegacy) (s' := C19.exMigrated) rfl
  ⟨h.1, h.2.1⟩

end CwPlus.Props.Cw20Mixed
