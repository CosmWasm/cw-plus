import CwPlus.Props.MsgWire
import CwPlus.Lemmas.Cw3Flex
/-!
# cw3-flex-multisig: the deposit messages, byte for byte (part of C15)

`packages/cw3/src/deposit.rs`: `DepositInfo::get_take_deposit_messages(depositor, contract)` — for a cw20 deposit
with a non-zero amount one `WasmMsg::Execute` on the token whose `msg` is
`to_json_binary(&Cw20ExecuteMsg::TransferFrom { owner: depositor, recipient: contract, amount })`, else nothing;
`get_return_deposit_message(depositor)` — cw20: `Cw20ExecuteMsg::Transfer { recipient: depositor, amount }`, native: a
`BankMsg::Send` (no JSON).  `MsgWire.wireOfFlex` maps the model's `Out` to these bytes (`none` for everything that
is not a cw20 deposit message: proposal messages, bank refunds, group hooks).

Here: the deposit messages among what `Propose`, `Execute` and `Close` return carry exactly these bytes (the
refund is of the deposit *stored with the proposal*), `Vote` and `MemberChangedHook` return none, and the token
contract reads the bytes back as exactly that call.

The tie: the harness prints the real `msg` bytes of every `WasmMsg::Execute` addressed to the deposit token among the
messages the top-level handler returned (`depraw=`), the driver renders the same key with `MsgWire.depRawOfFlex`.
-/
namespace CwPlus.Props.MsgWireFlex
open CwPlus CwPlus.Json CwPlus.MsgWire CwPlus.Cw3 CwPlus.Cw3Core CwPlus.Cw3Flex

/-- the JSON deposit messages `get_take_deposit_messages` produces -/
def expectedTake (d : Deposit) (depositor self : Addr) : List Bytes :=
  if d.cw20 && d.amount ≠ 0 then [encodeTransferFrom depositor self d.amount] else []

/-- the JSON payload of `get_return_deposit_message` (none for a native deposit) -/
def expectedRefund (d : Deposit) (depositor : Addr) : List Bytes :=
  if d.cw20 then [encodeTransfer depositor d.amount] else []

theorem takeDeposit_wire (d : Deposit) (depositor self : Addr) :
    (takeDeposit d depositor self).filterMap wireOfFlex = expectedTake d depositor self := by
  unfold takeDeposit expectedTake
  split <;> simp [wireOfFlex]

theorem refundMsg_wire (d : Deposit) (depositor : Addr) :
    [refundMsg d depositor].filterMap wireOfFlex = expectedRefund d depositor := by
  unfold refundMsg expectedRefund
  split <;> simp [wireOfFlex]

theorem msgs_no_wire (msgs : List Msg) : (msgs.map Out.msg).filterMap wireOfFlex = [] := by
  simp [wireOfFlex]

/-- C15 on the wire: a successful `Propose` by `snd` returns, as its only cw20 deposit
message, the bytes `encodeTransferFrom snd multisig amount` — owner the proposer, recipient the multisig itself, the
configured amount — when a cw20 deposit of non-zero amount is configured; with a native deposit (taken from
`info.funds`), a zero amount or no deposit: no such message. -/
theorem propose_deposit_encoded {s s' : State} {g : Cw4Group.State} {self : Addr} {blk : Block} {snd : Addr}
    {funds : List Coin} {t d : String} {msgs : List Msg} {latest : Option Expiration} {out : List Out}
    (h : execPropose s g self blk snd funds t d msgs latest = .ok (s', out)) :
    out.filterMap wireOfFlex =
      match s.cfg.deposit with
      | some dep => expectedTake dep snd self
      | none => [] := by
  obtain ⟨_, _, _, _, _, _, _, _, _, rfl⟩ := execute_propose_ok_iff.mp h
  cases s.cfg.deposit with
  | none => rfl
  | some dep => exact takeDeposit_wire dep snd self

/-- A successful `Execute` of proposal `id` refunds unconditionally: the deposit messages
among the returned messages are exactly `encodeTransfer proposer amount` when the proposal carries a cw20 deposit
(nothing for a native one — that refund is a `BankMsg` — or none); proposal messages never count as deposit
messages. -/
theorem execute_refund_encoded {s s' : State} {g : Cw4Group.State} {blk : Block} {snd : Addr} {id : Nat}
    {out : List Out} (h : execExecute s g blk snd id = .ok (s', out)) :
    ∃ p, load s.core id = .ok p ∧
      out.filterMap wireOfFlex =
        match p.deposit with
        | some dep => expectedRefund dep p.proposer
        | none => [] := by
  obtain ⟨p, hp, _, _, _, _, rfl⟩ := (execute_execute_ok_iff (self := "") (funds := [])).mp h
  refine ⟨p, load_ok.mpr hp, ?_⟩
  rw [List.filterMap_append, msgs_no_wire, List.append_nil]
  cases p.deposit with
  | none => rfl
  | some dep => exact refundMsg_wire dep p.proposer

/-- A successful `Close` of proposal `id` returns the cw20 refund
`encodeTransfer proposer amount` exactly when the stored deposit is a cw20 deposit with `refund_failed_proposals`;
otherwise no deposit message. -/
theorem close_refund_encoded {s s' : State} {blk : Block} {id : Nat} {out : List Out}
    (h : execClose s blk id = .ok (s', out)) :
    ∃ p, load s.core id = .ok p ∧
      out.filterMap wireOfFlex =
        match p.deposit with
        | some dep => if dep.refundFailed then expectedRefund dep p.proposer else []
        | none => [] := by
  -- `execute` hands `Close` neither the group nor the sender: any value will do for them
  obtain ⟨p, hp, _, _, _, rfl⟩ := (execute_close_ok_iff (g := default) (self := "") (snd := "") (funds := [])).mp h
  refine ⟨p, load_ok.mpr hp, ?_⟩
  cases p.deposit with
  | none => rfl
  | some dep =>
    simp only
    split
    · exact refundMsg_wire dep p.proposer
    · rfl

/-- `Vote` and `MemberChangedHook` return no deposit message -/
theorem vote_hook_no_deposit_bytes {s s' : State} {g : Cw4Group.State} {self : Addr} {blk : Block} {snd : Addr}
    {funds : List Coin} {msg : ExecMsg} {out : List Out}
    (h : Cw3Flex.execute s g self blk snd funds msg = .ok (s', out))
    (hm : (∃ id v, msg = .vote id v) ∨ msg = .memberChangedHook) : out.filterMap wireOfFlex = [] := by
  rcases hm with ⟨id, v, rfl⟩ | rfl
  · obtain ⟨_, _, _, rfl⟩ := execute_vote_ok_iff.mp h; rfl
  · obtain ⟨_, _, rfl⟩ := execute_hook_ok_iff.mp h; rfl

/-- The token contract (`from_json::<Cw20ExecuteMsg>`) reads the deposit messages back as exactly these calls.  The
range of the amount (a `Uint128` in `deposit.rs`) is a hypothesis here; nothing of the cw3-flex model is used. -/
theorem deposit_bytes_decodable (owner self : Addr) (amt : Nat) (h : amt < 2 ^ 128) :
    decodeTransferFrom (encodeTransferFrom owner self amt) = .ok ⟨owner, self, amt⟩ ∧
    decodeTransfer (encodeTransfer owner amt) = .ok ⟨owner, amt⟩ :=
  ⟨CwPlus.Props.MsgWire.decode_encode_transferFrom owner self amt h,
   CwPlus.Props.MsgWire.decode_encode_transfer owner amt h⟩

/-- the outcome key is the `+`-joined hex of these messages -/
theorem depRaw_eq (out : List Out) : depRawOfFlex out = "+".intercalate ((out.filterMap wireOfFlex).map toHex) := rfl

set_option maxRecDepth 1000000 in
/-- the literal bytes of the messages for a deposit of 10 tokens of `tok`, proposer `alice`, multisig `flex` -/
example : (expectedTake ⟨10, "tok", true, false⟩ "alice" "flex").map bytesToString =
      ["{\"transfer_from\":{\"owner\":\"alice\",\"recipient\":\"flex\",\"amount\":\"10\"}}"] ∧
    (expectedRefund ⟨10, "tok", true, false⟩ "alice").map bytesToString =
      ["{\"transfer\":{\"recipient\":\"alice\",\"amount\":\"10\"}}"] ∧
    expectedTake ⟨10, "ucosm", false, false⟩ "alice" "flex" = [] ∧
    expectedRefund ⟨10, "ucosm", false, true⟩ "alice" = [] := by
  refine ⟨map_bytesToString_eq ?_, map_bytesToString_eq ?_, by decide +kernel, by decide +kernel⟩
  · rw [List.map_singleton, strBytes_ofList]; decide +kernel
  · rw [List.map_singleton, strBytes_ofList]; decide +kernel

end CwPlus.Props.MsgWireFlex
