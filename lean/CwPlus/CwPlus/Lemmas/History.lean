/-!
# Histories

Every `run` of the models is a `List.foldl` of a step function over a list of calls.  These are the two ways in
which a statement about a history is obtained from a statement about one step: an invariant of the steps holds at
the end, and a change of an observable happens at one step.
-/
namespace CwPlus

/-- An invariant kept by every step of a history is kept by the history. -/
theorem foldl_invariant {σ ι : Type} {step : σ → ι → σ} (P : σ → Prop) {ops : List ι}
    (hstep : ∀ s, P s → ∀ op ∈ ops, P (step s op)) {s : σ} (h : P s) : P (ops.foldl step s) := by
  induction ops generalizing s with
  | nil => exact h
  | cons op rest ih =>
    exact ih (fun s hs o ho => hstep s hs o (List.mem_cons_of_mem _ ho)) (hstep s h op List.mem_cons_self)

/-- If a history changes an observable `f` of the state, one of its steps does. -/
theorem foldl_change {σ ι α : Type} {step : σ → ι → σ} (f : σ → α) {ops : List ι} {s : σ}
    (h : f (ops.foldl step s) ≠ f s) :
    ∃ pre op post, ops = pre ++ op :: post ∧ f (step (pre.foldl step s) op) ≠ f (pre.foldl step s) := by
  induction ops generalizing s with
  | nil => exact absurd rfl h
  | cons op rest ih =>
    by_cases hs : f (step s op) = f s
    · obtain ⟨pre, o, post, he, hc⟩ := ih (s := step s op) (by rw [hs]; exact h)
      exact ⟨op :: pre, o, post, by rw [he]; rfl, hc⟩
    · exact ⟨[], op, rest, rfl, hs⟩

end CwPlus
