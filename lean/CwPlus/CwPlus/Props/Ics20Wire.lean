import CwPlus.Lemmas.Json
import CwPlus.Lemmas.JsonFuel
import CwPlus.Model.Ics20Wire
import CwPlus.Props.C12
/-!
# cw20-ics20: the JSON wire format (part of C12)

`Base/Json.lean` is a byte-level model of exactly what `to_json_binary` / `from_json` (serde-json-wasm 1.0.1 + the
serde-derive code) do to `Ics20Packet` and `Ics20Ack`; `Model/Ics20Wire.lean` puts it between the bytes that travel
and the handlers of `Model/Ics20.lean`.  Here: what the contract writes, it (and any peer running the same code)
reads back, for every amount below 2^128 and every text (`SupportedText` is `True`; a Lean `String` is a sequence of
Unicode scalar values, exactly what a Rust `String` is); the two acknowledgement shapes never collide; the decoder
never runs out of fuel.  Then C12 `transfer_emits_one_packet` is lifted to the bytes of `IbcMsg::SendPacket.data`,
and the entry points that take bytes either decode them and run the handler of `Model/Ics20.lean` on the fields, or
answer as the contract does on undecodable data; on op lines with `data=` / `ackdata=` this is computed from the
bytes, the `raw=1` / `ok=raw` flag is trusted only on lines without them.

The tie: the harness delivers arbitrary bytes (`data=`, `ackdata=`: canonical JSON, and a stream of mutated JSON)
to the real entry points and prints the bytes the contract produced (`pkt=`, `ackraw=`); the driver decodes /
encodes with the functions of `Base/Json.lean` and `Model/Ics20Wire.lean`.  The directed inputs of
`Props/Ics20WireExamples.lean` are replayed first on every run (`corpus/C12/wire_directed.ops`).
-/
namespace CwPlus.Props.Ics20Wire
open CwPlus CwPlus.Ics20 CwPlus.Ics20Wire

/-! ## What is supported -/

/-- The texts for which the round trip is proved: all of them.  (Kept as an explicit predicate: it is the
place where a restriction would have to be stated.) -/
def SupportedText (_s : String) : Prop := True

instance (s : String) : Decidable (SupportedText s) := isTrue trivial

/-- The packets for which the round trip is proved: the amount is a `Uint128`, every text is supported. -/
def SupportedPacket (p : Json.Packet) : Prop :=
  p.amount < 2 ^ 128 ∧ SupportedText p.denom ∧ SupportedText p.receiver ∧ SupportedText p.sender ∧
    (∀ m, p.memo = some m → SupportedText m)

instance (p : Json.Packet) : Decidable (SupportedPacket p) :=
  if h : p.amount < 2 ^ 128 then isTrue ⟨h, trivial, trivial, trivial, fun _ _ => trivial⟩
  else isFalse fun h' => h h'.1

theorem supportedPacket_iff (p : Json.Packet) : SupportedPacket p ↔ p.amount < 2 ^ 128 :=
  ⟨fun h => h.1, fun h => ⟨h, trivial, trivial, trivial, fun _ _ => trivial⟩⟩

/-- `Ics20Packet::validate` (amount ≤ u64::MAX, checked before sending) implies support. -/
theorem supported_of_validate (p : Json.Packet) (h : p.amount ≤ U64_MAX) : SupportedPacket p :=
  (supportedPacket_iff p).2 (by unfold U64_MAX at h; omega)

/-! ## Strings -/

/-- `parse_string` after `serialize_str`, for every supported text and whatever follows the closing quote: the
scanner finds exactly the closing quote that `serialize_str` wrote, `unescape`
(or the raw path, when no escape was needed) gives back the bytes, and they are the UTF-8 of the same string. -/
theorem unescape_escape (s : String) (_h : SupportedText s) (rest : Json.Bytes) :
    Json.parseStrTok (Json.escape (Json.strBytes s) ++ 0x22 :: rest) = .ok (s, rest) :=
  Json.parseStrTok_encStr s rest

/-- the byte-level core: `unescape` undoes `escape` on every byte string -/
theorem unescape_escape_bytes (bs : Json.Bytes) : Json.unescapeGo {} (Json.escape bs) = .ok bs :=
  Json.unescape_escape bs

example : Json.escape (Json.strBytes "a\"b\\c\nd\x01é/") = Json.strBytes "a\\\"b\\\\c\\nd\\u0001é/" := by
  rw [Json.strBytes_ofList, Json.strBytes_ofList]; decide +kernel
example : Json.parseStrTok (Json.strBytes "a\\\"b\\\\c\\nd\\u0001é\\/\" tail") = .ok ("a\"b\\c\nd\x01é/", Json.strBytes " tail") := by
  rw [Json.strBytes_ofList, Json.strBytes_ofList]; decide +kernel

/-! ## Packets -/

/-- `from_json::<Ics20Packet>(to_json_binary(&p)) = Ok(p)` for every
supported packet (amount < 2^128, any texts, memo present or not). -/
theorem decode_encode_packet_bytes (p : Json.Packet) (h : SupportedPacket p) :
    Json.decodePacketBytes (Json.encodePacketBytes p) = .ok p := by
  have h := h.1
  unfold Json.decodePacketBytes
  -- five fields and the end of the object: six rounds of the loop
  obtain ⟨f, hf⟩ : ∃ f, Json.fuelFor (Json.encodePacketBytes p) = f + 6 :=
    ⟨Json.fuelFor (Json.encodePacketBytes p) - 6, by simp only [Json.fuelFor]; omega⟩
  obtain ⟨a, dn, rc, sn, memo⟩ := p
  rw [hf]
  cases memo <;>
    simp [Json.encodePacketBytes, Json.keys_escape, Json.skipWs_cons, Json.isWs, Json.field_append,
      Json.parseFields_first, Json.parseFields_next, Json.parseFields_end, Json.fieldValue,
      Json.parseAmountValue_amountTok _ _ h, Json.parseStringValue_encStr, Json.parseOptStringValue_encStr,
      Json.skipWs]

/-- the encoder writes UTF-8: the `String` front end loses nothing -/
theorem encodePacket_bytes (p : Json.Packet) : Json.strBytes (Json.encodePacket p) = Json.encodePacketBytes p :=
  Json.strBytes_bytesToString (Json.isText_encodePacketBytes p)

/-- `decode_encode_packet_bytes` for the string forms `decodePacket` / `encodePacket`. -/
theorem decode_encode_packet (p : Json.Packet) (h : SupportedPacket p) :
    Json.decodePacket (Json.encodePacket p) = .ok p := by
  unfold Json.decodePacket
  rw [encodePacket_bytes, decode_encode_packet_bytes p h]

theorem encodePacketBytes_injective (p q : Json.Packet) (hp : SupportedPacket p) (hq : SupportedPacket q)
    (h : Json.encodePacketBytes p = Json.encodePacketBytes q) : p = q :=
  Json.eq_of_decode_eq (decode_encode_packet_bytes p hp) (decode_encode_packet_bytes q hq) h

/-- Different supported packets have different wire forms. -/
theorem encodePacket_injective (p q : Json.Packet) (hp : SupportedPacket p) (hq : SupportedPacket q)
    (h : Json.encodePacket p = Json.encodePacket q) : p = q := by
  apply encodePacketBytes_injective p q hp hq
  rw [← encodePacket_bytes, ← encodePacket_bytes, h]

/-- a supported packet with an escape-needing memo, and its wire form -/
example : SupportedPacket ⟨5, "uatom", "re\"mote", "alice", some "a\nb\\"⟩ := by decide +kernel
example : Json.encodePacket ⟨5, "uatom", "re\"mote", "alice", some "a\nb\\"⟩ =
    "{\"amount\":\"5\",\"denom\":\"uatom\",\"receiver\":\"re\\\"mote\",\"sender\":\"alice\",\"memo\":\"a\\nb\\\\\"}" :=
  Json.bytesToString_eq (by rw [Json.strBytes_ofList]; decide +kernel)
example : Json.encodePacket ⟨18446744073709551615, "cw20:T1", "bob", "alice", none⟩ =
    "{\"amount\":\"18446744073709551615\",\"denom\":\"cw20:T1\",\"receiver\":\"bob\",\"sender\":\"alice\"}" :=
  Json.bytesToString_eq (by rw [Json.strBytes_ofList]; decide +kernel)
/-- the hypothesis is needed: 2^128 is written but not read back -/
example : (Json.decodePacket (Json.encodePacket ⟨2 ^ 128, "d", "r", "s", none⟩)).toOption = none := by
  rw [Json.decodePacket, encodePacket_bytes]; decide +kernel

/-! ## Acknowledgements -/

theorem decode_encode_ack_bytes (a : Json.Ack) : Json.decodeAckBytes (Json.encodeAckBytes a) = .ok a := by
  cases a with
  | success => decide +kernel
  | error t =>
    simp [Json.decodeAckBytes, Json.encodeAckBytes, Json.field, Json.keys_escape, Json.skipWs_cons, Json.isWs,
      Json.parseStringValue_key, Json.parseColon_colon, Json.parseStringValue_encStr, Json.skipWs]

theorem encodeAck_bytes (a : Json.Ack) : Json.strBytes (Json.encodeAck a) = Json.encodeAckBytes a :=
  Json.strBytes_bytesToString (Json.isText_encodeAckBytes a)

/-- `decode_encode_ack_bytes` for the string forms `decodeAck` / `encodeAck`. -/
theorem decode_encode_ack (a : Json.Ack) : Json.decodeAck (Json.encodeAck a) = .ok a := by
  unfold Json.decodeAck
  rw [encodeAck_bytes, decode_encode_ack_bytes]

/-- No error text makes the bytes of the success acknowledgement (nor bytes that decode
to it): the third byte is `r` in one and `e` in the other. -/
theorem ack_success_ne_error (t : String) :
    Json.encodeAckBytes (.error t) ≠ Json.encodeAckBytes .success ∧
    Json.encodeAck (.error t) ≠ Json.encodeAck .success ∧
    Json.decodeAckBytes (Json.encodeAckBytes (.error t)) ≠ .ok .success := by
  have h1 : Json.encodeAckBytes (.error t) ≠ Json.encodeAckBytes .success := by
    intro h
    have := congrArg Json.decodeAckBytes h
    rw [decode_encode_ack_bytes, decode_encode_ack_bytes] at this
    cases this
  refine ⟨h1, ?_, ?_⟩
  · intro h
    apply h1
    rw [← encodeAck_bytes, ← encodeAck_bytes, h]
  · rw [decode_encode_ack_bytes]; intro h; cases h

/-- the monitor's classification of acknowledgement bytes (`C12/ack-wire-format`) is right on everything the
encoder writes -/
theorem ackClass_encode (a : Json.Ack) :
    ackClass (Json.encodeAckBytes a) = some (match a with | .success => Ack.success | .error _ => Ack.error) := by
  unfold ackClass
  rw [decode_encode_ack_bytes]
  cases a <;> simp

example : Json.encodeAck .success = "{\"result\":\"MQ==\"}" := Json.bytesToString_eq (by decide +kernel)
example : Json.encodeAck (.error "a\"b") = "{\"error\":\"a\\\"b\"}" := Json.bytesToString_eq (by decide +kernel)
example : ackData .success = some (Json.strBytes "{\"result\":\"MQ==\"}") := by decide +kernel

/-! ## Totality -/

/-- On every input the decoders answer with a value or with an error.  (True by
construction: they are total Lean functions — structural recursion on the input or on a fuel argument, no
`partial`, no `panic` — which is the point: the Rust code's `unreachable!()` arms and `hex_decode_4bit`'s panic
are not reachable for these two types, and the harness runs arbitrary bytes under `catch_unwind`.) -/
theorem decode_total (bs : Json.Bytes) :
    ((∃ p, Json.decodePacketBytes bs = .ok p) ∨ (∃ e, Json.decodePacketBytes bs = .error e)) ∧
    ((∃ a, Json.decodeAckBytes bs = .ok a) ∨ (∃ e, Json.decodeAckBytes bs = .error e)) := by
  constructor
  · cases h : Json.decodePacketBytes bs with
    | ok p => exact Or.inl ⟨p, rfl⟩
    | error e => exact Or.inr ⟨e, rfl⟩
  · cases h : Json.decodeAckBytes bs with
    | ok a => exact Or.inl ⟨a, rfl⟩
    | error e => exact Or.inr ⟨e, rfl⟩

/-- The fuel argument that makes the loops of the decoder structurally recursive is
never the reason for an answer — `decodePacketBytes` hands out `2·len + 16`, every loop iteration and every
recursive descent (`parseFields`, `skipValue`, `skipSeq`, `skipMap`) consumes at least one byte per two units.
So the error the model reports is always one the real deserializer reports too, never an artefact. -/
theorem decode_fuel_sufficient (bs : Json.Bytes) : Json.decodePacketBytes bs ≠ .error .fuel :=
  Json.decodePacketBytes_ne_fuel bs

set_option maxRecDepth 100000 in
/-- deep nesting is refused because of the recursion limit of serde-json-wasm (128), not for lack of fuel -/
example : Json.decodePacketBytes (Json.strBytes ("{\"x\":" ++ String.ofList (List.replicate 200 '[')))
    = .error .recursionLimitExceeded := by
  rw [Json.strBytes_append, Json.strBytes_ofList, Json.strBytes_ofList]; decide +kernel

/-! ## Sending: the bytes of `IbcMsg::SendPacket` -/

/-- C12 `transfer_emits_one_packet` on the wire: every accepted transfer
emits exactly one `IbcMsg::SendPacket` whose `data` is `encodePacket` of the escrowed amount, the denomination
(`<denom>` resp. `cw20:<token>`), the true sender, the requested receiver and memo — and decoding those bytes on
the other side yields exactly these five fields. -/
theorem transfer_emits_encoded_packet {w w' : World} {blk : Block} {o : Outcome} :
    (∀ snd funds msg, w.exec blk (.transferNative snd funds msg) = .ok (w', o) →
      ∃ d amt, funds = [(d, amt)] ∧
        o.sent.map (fun x => packetData x.packet) = [Json.encodePacketBytes ⟨amt, d, msg.remote, snd, msg.memo⟩] ∧
        Json.decodePacketBytes (Json.encodePacketBytes ⟨amt, d, msg.remote, snd, msg.memo⟩) =
          .ok ⟨amt, d, msg.remote, snd, msg.memo⟩) ∧
    (∀ snd token amt msg, w.exec blk (.sendCw20 snd token amt msg) = .ok (w', o) →
      ∃ m, msg = some m ∧
        o.sent.map (fun x => packetData x.packet) =
          [Json.encodePacketBytes ⟨amt, "cw20:" ++ token, m.remote, snd, m.memo⟩] ∧
        Json.decodePacketBytes (Json.encodePacketBytes ⟨amt, "cw20:" ++ token, m.remote, snd, m.memo⟩) =
          .ok ⟨amt, "cw20:" ++ token, m.remote, snd, m.memo⟩) ∧
    (∀ snd funds sender amt msg, w.exec blk (.hook snd funds sender amt msg) = .ok (w', o) →
      ∃ m, msg = some m ∧
        o.sent.map (fun x => packetData x.packet) =
          [Json.encodePacketBytes ⟨amt, "cw20:" ++ snd, m.remote, sender.text, m.memo⟩] ∧
        Json.decodePacketBytes (Json.encodePacketBytes ⟨amt, "cw20:" ++ snd, m.remote, sender.text, m.memo⟩) =
          .ok ⟨amt, "cw20:" ++ snd, m.remote, sender.text, m.memo⟩) := by
  obtain ⟨h1, h2, h3⟩ := @C12.transfer_emits_one_packet w w' blk o
  refine ⟨?_, ?_, ?_⟩
  · intro snd funds msg h
    obtain ⟨d, amt, hf, _, hle, hs, _⟩ := h1 snd funds msg h
    refine ⟨d, amt, hf, ?_, decode_encode_packet_bytes _ (supported_of_validate _ hle)⟩
    rw [hs]; rfl
  · intro snd token amt msg h
    obtain ⟨m, hm, _, hle, hs, _⟩ := h2 snd token amt msg h
    refine ⟨m, hm, ?_, decode_encode_packet_bytes _ (supported_of_validate _ hle)⟩
    rw [hs]; rfl
  · intro snd funds sender amt msg h
    obtain ⟨m, hm, _, hle, hs⟩ := h3 snd funds sender amt msg h
    refine ⟨m, hm, ?_, decode_encode_packet_bytes _ (supported_of_validate _ hle)⟩
    rw [hs]; rfl

/-- the texts of the sent packets, from their bytes (reading long byte strings back as `String`s is dear to evaluate) -/
private theorem sent_text {r : Option (World × Outcome)} {t : String}
    (h : r.map (fun r => r.2.sent.map fun x => packetData x.packet) = some [Json.strBytes t]) :
    r.map (fun r => r.2.sent.map fun x => Json.bytesToString (packetData x.packet)) = some [t] := by
  simpa only [Option.map_map, List.map_map, Function.comp_def, Option.map_some, List.map_cons, List.map_nil,
    Json.bytesToString_strBytes] using congrArg (Option.map (List.map Json.bytesToString)) h

/-- the bytes of the packet of `C12.hist`'s first transfer (40 T1 from alice, memo "memo") -/
example : ((C12.w0.exec C12.b0 (.sendCw20 "alice" "T1" 40 (some C12.tm))).toOption.map
      (fun r => r.2.sent.map (fun x => Json.bytesToString (packetData x.packet)))) =
    some ["{\"amount\":\"40\",\"denom\":\"cw20:T1\",\"receiver\":\"remote-bob\",\"sender\":\"alice\",\"memo\":\"memo\"}"] :=
  sent_text (by rw [Json.strBytes_ofList]; decide +kernel)

/-- … and of a native transfer whose receiver and memo need escaping -/
example : ((C12.w0.exec C12.b0 (.transferNative "alice" [("uatom", 60)] ⟨"channel-0", "bob\"\\", none, some "line\nbreak\x01"⟩)).toOption.map
      (fun r => r.2.sent.map (fun x => Json.bytesToString (packetData x.packet)))) =
    some ["{\"amount\":\"60\",\"denom\":\"uatom\",\"receiver\":\"bob\\\"\\\\\",\"sender\":\"alice\",\"memo\":\"line\\nbreak\\u0001\"}"] :=
  sent_text (by rw [Json.strBytes_ofList]; decide +kernel)

/-! ## Receiving: the bytes of `IbcPacket.data` -/

/-- `ibc_packet_receive` on a packet with data `d`.  If `decodePacketBytes d` fails, the answer is an error
acknowledgement, no sub-message, and the state is the old one; otherwise the entry point behaves as the receive
model of `Model/Ics20.lean` on the decoded amount, the voucher denomination split at its first two `/`, the decoded
receiver and sender.  (That the data is undecodable is computed from the bytes, not taken from the `raw=1` flag of
an op line.) -/
theorem receive_decodes_or_error_ack (s : State) (srcPort srcChan destChan : String) (d : Json.Bytes) (tv : Bool) :
    (∀ e, Json.decodePacketBytes d = .error e →
      ibcPacketReceiveData s srcPort srcChan destChan d tv = (s, .error, none)) ∧
    (∀ p, Json.decodePacketBytes d = .ok p →
      ibcPacketReceiveData s srcPort srcChan destChan d tv =
        ibcPacketReceive s ⟨srcPort, srcChan, destChan, some p.amount, splitVoucher p.denom, p.receiver, p.sender⟩ tv) := by
  constructor
  · intro e h
    simp [ibcPacketReceiveData, packetInOfData, h, ibcPacketReceive, doReceive]
  · intro p h
    simp [ibcPacketReceiveData, packetInOfData, h]

/-- the transaction: undecodable data is answered with an error acknowledgement and the **world** (contract
state, every balance) is unchanged, whatever the flags -/
theorem receive_undecodable_tx (w : World) (blk : Block) (srcPort srcChan destChan : String) (d : Json.Bytes)
    (rv tv f : Bool) (e : Json.DecodeErr) (h : Json.decodePacketBytes d = .error e) :
    w.exec blk (.recv (packetInOfData srcPort srcChan destChan d) rv tv f) =
      .ok (w, { ack := some .error, sent := [], sub := none }) := by
  simp [World.exec, packetInOfData, h, ibcPacketReceive, doReceive, World.dispatch]

/-- what the contract writes is what it reads: a packet sent by this contract on one chain arrives on the other as
the same amount / denomination / receiver / sender -/
theorem receive_of_sent (s : State) (srcPort srcChan destChan : String) (p : Packet) (tv : Bool)
    (h : p.amount ≤ U64_MAX) :
    ibcPacketReceiveData s srcPort srcChan destChan (packetData p) tv =
      ibcPacketReceive s ⟨srcPort, srcChan, destChan, some p.amount, splitVoucher p.denom.render, p.receiver, p.sender⟩ tv :=
  (receive_decodes_or_error_ack s srcPort srcChan destChan (packetData p) tv).2 (toWire p)
    (decode_encode_packet_bytes _ (supported_of_validate _ h))

/-- undecodable: a duplicate field -/
example : (packetInOfData "transfer" "channel-10" "channel-0"
    (Json.strBytes "{\"amount\":\"1\",\"amount\":\"1\",\"denom\":\"d\",\"receiver\":\"r\",\"sender\":\"s\"}")).amount = none := by
  rw [Json.strBytes_ofList]; decide +kernel
/-- decodable, with an unknown field, a leading `+` and whitespace: the fields of the packet `C12.pkt (.cw20 "T1") 15`
of the non-vacuity history of C12 (15 T1 for alice; `splitVoucher` — `String.splitOn` — is not evaluated by the
kernel, the voucher is shown on the decoded denomination) -/
example :
    Json.decodePacketBytes (Json.strBytes " {\"x\":[1,{}],\"amount\":\"+15\",\"denom\":\"transfer/channel-10/cw20:T1\", \"receiver\":\"alice\",\"sender\":\"remote-bob\"}\n") =
      .ok ⟨15, "transfer/channel-10/cw20:T1", "alice", "remote-bob", none⟩ := by
  rw [Json.strBytes_ofList]; decide +kernel
example :
    ((packetInOfData "transfer" "channel-10" "channel-0"
      (Json.strBytes " {\"x\":[1,{}],\"amount\":\"+15\",\"denom\":\"transfer/channel-10/cw20:T1\", \"receiver\":\"alice\",\"sender\":\"remote-bob\"}\n")).amount,
     (packetInOfData "transfer" "channel-10" "channel-0"
      (Json.strBytes " {\"x\":[1,{}],\"amount\":\"+15\",\"denom\":\"transfer/channel-10/cw20:T1\", \"receiver\":\"alice\",\"sender\":\"remote-bob\"}\n")).receiver) =
      (some 15, "alice") := by
  rw [Json.strBytes_ofList]; decide +kernel

/-! ## Acknowledgements coming in -/

/-- `ibc_packet_ack` with acknowledgement bytes `a`: if `decodeAckBytes a` fails the entry
point fails (the transaction is aborted, nothing changes); a `result` acknowledgement only checks that the
original packet decodes; an `error` acknowledgement (whatever its text) runs `on_packet_failure`. -/
theorem ack_decodes_or_aborts (s : State) (chan : String) (orig : Option Packet) (a : Json.Bytes) (tv : Bool) :
    (∀ e, Json.decodeAckBytes a = .error e → ibcPacketAckData s chan orig a tv = .error "decode.ack") ∧
    (Json.decodeAckBytes a = .ok .success → ibcPacketAckData s chan orig a tv = ibcPacketAck s chan orig (some true) tv) ∧
    (∀ t, Json.decodeAckBytes a = .ok (.error t) →
      ibcPacketAckData s chan orig a tv = ibcPacketAck s chan orig (some false) tv) := by
  refine ⟨?_, ?_, ?_⟩
  · intro e h; simp [ibcPacketAckData, ackOkOfData, h, ibcPacketAck]
  · intro h; simp [ibcPacketAckData, ackOkOfData, h]
  · intro t h; simp [ibcPacketAckData, ackOkOfData, h]

example : ackOkOfData (Json.strBytes "{\"result\":\"AQ==\"}") = some true := by rw [Json.strBytes_ofList]; decide +kernel
example : ackOkOfData (Json.strBytes "{\"error\":\"ABCI code: 5: error handling packet\"}") = some false := by rw [Json.strBytes_ofList]; decide +kernel
example : ackOkOfData (Json.strBytes "{\"result\":\"AR==\"}") = none := by rw [Json.strBytes_ofList]; decide +kernel

end CwPlus.Props.Ics20Wire
