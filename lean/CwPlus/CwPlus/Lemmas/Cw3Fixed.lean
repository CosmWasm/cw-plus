import CwPlus.Model.Cw3Fixed
import CwPlus.Lemmas.Cw3Core
import CwPlus.Lemmas.History
/-!
# Lemmas about the cw3-fixed-multisig model and its runtime world

* inversion of `execute`, one lemma per message (together `execute_cases`), and when Execute / Close succeed,
* induction principles: over a successful `dispatch` as a relation between the worlds before and after
  (`dispatch_induction`); a world / state predicate preserved by every handler call is preserved by
  `dispatch`, `tx`, `step`, `run`, and holds in every reachable world if it holds after `instantiate`,
* the invariant `Inv` of the multisig state and its preservation; the core only moves to a `Later` core,
* `ReachableAt`: histories whose blocks never go back.
-/
namespace CwPlus.Cw3Fixed
open CwPlus CwPlus.Cw3 CwPlus.Cw3Core

theorem execute_propose_ok_iff {s s' : State} {blk : Block} {snd : Addr} {t d : String} {msgs : List Msg}
    {latest : Option Expiration} {out : List Msg} :
    execute s blk snd (.propose t d msgs latest) = .ok (s', out) ↔
      ∃ w c id, s.voters.get? snd = some w ∧
        Cw3Core.propose s.core blk snd w s.cfg.threshold s.cfg.totalWeight s.cfg.maxVotingPeriod t d msgs latest none
          = .ok (c, id) ∧ s' = { s with core := c } ∧ out = [] := by
  simp only [execute, execPropose, Res.bind_ok, Res.pure_ok, Prod.mk.injEq, Prod.exists]
  constructor
  · rintro ⟨w, hw, c, id, h, rfl, rfl⟩; exact ⟨w, c, id, memberWeight_ok.mp hw, h, rfl, rfl⟩
  · rintro ⟨w, c, id, hw, h, rfl, rfl⟩; exact ⟨w, memberWeight_ok.mpr hw, c, id, h, rfl, rfl⟩

theorem execute_vote_ok_iff {s s' : State} {blk : Block} {snd : Addr} {id : Nat} {v : Vote} {out : List Msg} :
    execute s blk snd (.vote id v) = .ok (s', out) ↔
      ∃ c, Cw3Core.vote s.core blk snd id v (fun _ => s.voters.get? snd) = .ok c ∧ s' = { s with core := c } ∧ out = [] := by
  simp only [execute, execVote, Res.bind_ok, Res.pure_ok, Prod.mk.injEq]
  constructor <;> rintro ⟨c, h, rfl, rfl⟩ <;> exact ⟨c, h, rfl, rfl⟩

theorem execute_execute_ok_iff {s s' : State} {blk : Block} {snd : Addr} {id : Nat} {out : List Msg} :
    execute s blk snd (.execute id) = .ok (s', out) ↔
      ∃ c, Cw3Core.execute s.core blk id true = .ok (c, out) ∧ s' = { s with core := c } := by
  simp only [execute, execExecute, Res.bind_ok, Res.pure_ok, Prod.mk.injEq, Prod.exists]
  constructor
  · rintro ⟨c, o, h, rfl, rfl⟩; exact ⟨c, h, rfl⟩
  · rintro ⟨c, h, rfl⟩; exact ⟨c, out, h, rfl, rfl⟩

theorem execute_close_ok_iff {s s' : State} {blk : Block} {snd : Addr} {id : Nat} {out : List Msg} :
    execute s blk snd (.close id) = .ok (s', out) ↔
      ∃ c, Cw3Core.close s.core blk id = .ok c ∧ s' = { s with core := c } ∧ out = [] := by
  simp only [execute, execClose, Res.bind_ok, Res.pure_ok, Prod.mk.injEq]
  constructor <;> rintro ⟨c, h, rfl, rfl⟩ <;> exact ⟨c, h, rfl, rfl⟩

/-- A successful handler call is one of the four core operations. -/
theorem execute_cases {s s' : State} {blk : Block} {snd : Addr} {m : ExecMsg} {out : List Msg}
    (h : execute s blk snd m = .ok (s', out)) :
    s'.cfg = s.cfg ∧ s'.voters = s.voters ∧
    ((∃ t d msgs latest w id, m = .propose t d msgs latest ∧ s.voters.get? snd = some w ∧ out = [] ∧
        Cw3Core.propose s.core blk snd w s.cfg.threshold s.cfg.totalWeight s.cfg.maxVotingPeriod t d msgs latest none
          = .ok (s'.core, id)) ∨
     (∃ id v, m = .vote id v ∧ out = [] ∧ Cw3Core.vote s.core blk snd id v (fun _ => s.voters.get? snd) = .ok s'.core) ∨
     (∃ id, m = .execute id ∧ Cw3Core.execute s.core blk id true = .ok (s'.core, out)) ∨
     (∃ id, m = .close id ∧ out = [] ∧ Cw3Core.close s.core blk id = .ok s'.core)) := by
  cases m with
  | propose t d msgs latest =>
    obtain ⟨w, c, id, hw, hp, rfl, rfl⟩ := execute_propose_ok_iff.mp h
    exact ⟨rfl, rfl, Or.inl ⟨t, d, msgs, latest, w, id, rfl, hw, rfl, hp⟩⟩
  | vote id v =>
    obtain ⟨c, hv, rfl, rfl⟩ := execute_vote_ok_iff.mp h
    exact ⟨rfl, rfl, Or.inr (Or.inl ⟨id, v, rfl, rfl, hv⟩)⟩
  | execute id =>
    obtain ⟨c, he, rfl⟩ := execute_execute_ok_iff.mp h
    exact ⟨rfl, rfl, Or.inr (Or.inr (Or.inl ⟨id, rfl, he⟩))⟩
  | close id =>
    obtain ⟨c, hc, rfl, rfl⟩ := execute_close_ok_iff.mp h
    exact ⟨rfl, rfl, Or.inr (Or.inr (Or.inr ⟨id, rfl, rfl, hc⟩))⟩

theorem execute_execute_isOk_iff {s : State} {blk : Block} {snd : Addr} {id : Nat} :
    (execute s blk snd (.execute id)).isOk = true ↔
      ∃ p, s.core.proposals.get? id = some p ∧ p.currentStatus blk = .ok .passed := by
  rw [Res.isOk_iff_exists]
  constructor
  · rintro ⟨⟨s', out⟩, h⟩
    obtain ⟨c, he, _⟩ := execute_execute_ok_iff.mp h
    obtain ⟨p, hp, hst, _⟩ := execute_ok he
    exact ⟨p, hp, hst⟩
  · rintro ⟨p, hp, hst⟩
    exact ⟨_, execute_execute_ok_iff.mpr ⟨_, execute_ok_iff.mpr ⟨p, hp, hst, rfl, rfl, rfl⟩, rfl⟩⟩

theorem execute_close_isOk_iff {s : State} (hw : WF s.core) {blk : Block} {snd : Addr} {id : Nat} :
    (execute s blk snd (.close id)).isOk = true ↔
      ∃ p st, s.core.proposals.get? id = some p ∧ p.status = .open ∧ p.expires.isExpired blk = true ∧
        p.currentStatus blk = .ok st ∧ st ≠ .passed := by
  rw [Res.isOk_iff_exists]
  constructor
  · rintro ⟨⟨s', out⟩, h⟩
    obtain ⟨c, hcl, _⟩ := execute_close_ok_iff.mp h
    obtain ⟨p, st, hp, h1, h2, h3, hst, hne, hexp, _⟩ := close_ok hcl
    exact ⟨p, st, hp, status_eq_open (hw.notPending id p hp) h1 h2 h3, hexp, hst, hne⟩
  · rintro ⟨p, st, hp, ho, hexp, hst, hne⟩
    exact ⟨_, execute_close_ok_iff.mpr
      ⟨_, close_ok_iff.mpr ⟨p, st, hp, by simp [ho], by simp [ho], by simp [ho], hst, hne, hexp, rfl⟩, rfl, rfl⟩⟩

theorem execute_frame {s s' : State} {blk : Block} {snd : Addr} {m : ExecMsg} {out : List Msg}
    (h : execute s blk snd m = .ok (s', out)) : s'.cfg = s.cfg ∧ s'.voters = s.voters :=
  ⟨(execute_cases h).1, (execute_cases h).2.1⟩

theorem leaf_ms {w w' : World} {m : Msg} (h : leaf w m = .ok w') : w'.ms = w.ms ∧ w'.self = w.self ∧ w'.sinkOk = w.sinkOk := by
  cases m <;> simp [leaf] at h
  · obtain ⟨b, _, rfl⟩ := h; simp
  · obtain ⟨_, rfl⟩ := h; simp

theorem dispatch_nil (fuel : Nat) (w : World) (blk : Block) : dispatch fuel w blk [] = .ok w := by
  cases fuel <;> rfl

/-- Induction over a successful `dispatch`, as a relation between the world before, the message list and the world
after: the empty list; a leaf message, then the rest; a self-call — the handler, the dispatch of what it returned, then
the rest. -/
theorem dispatch_induction (blk : Block) {M : World → List Msg → World → Prop}
    (hnil : ∀ w, M w [] w)
    (hleaf : ∀ {w m rest w1 w'}, selfCall m = none → leaf w m = .ok w1 → M w1 rest w' → M w (m :: rest) w')
    (hcall : ∀ {w m rest em s' out w1 w'}, selfCall m = some em → execute w.ms blk w.self em = .ok (s', out) →
      M { w with ms := s', log := w.log ++ [eventOf w.ms w.self em] } out w1 → M w1 rest w' → M w (m :: rest) w') :
    ∀ fuel w msgs w', dispatch fuel w blk msgs = .ok w' → M w msgs w' := by
  intro fuel
  induction fuel with
  | zero =>
    intro w msgs w' h
    cases msgs with
    | nil => cases h; exact hnil w
    | cons m rest => cases h
  | succ fuel ih =>
    intro w msgs w' h
    cases msgs with
    | nil => cases h; exact hnil w
    | cons m rest =>
      simp only [dispatch, Res.bind_ok] at h
      obtain ⟨w1, h1, h2⟩ := h
      cases hs : selfCall m with
      | none => rw [hs] at h1; exact hleaf hs h1 (ih w1 rest w' h2)
      | some em =>
        rw [hs] at h1
        simp only [Res.bind_ok] at h1
        obtain ⟨⟨s', out⟩, he, hd⟩ := h1
        exact hcall hs he (ih _ out w1 hd) (ih w1 rest w' h2)

/-- A predicate on worlds preserved by every successful handler call (with the ghost log extended)
and by every leaf message is preserved by `dispatch`. -/
theorem dispatch_inv (Q : World → Prop) (blk : Block)
    (hcall : ∀ w snd em s' out, Q w → execute w.ms blk snd em = .ok (s', out) →
        Q { w with ms := s', log := w.log ++ [eventOf w.ms snd em] })
    (hleaf : ∀ w m w', Q w → leaf w m = .ok w' → Q w') :
    ∀ fuel w msgs w', Q w → dispatch fuel w blk msgs = .ok w' → Q w' :=
  fun fuel w msgs w' hq h =>
    dispatch_induction blk (M := fun w _ w' => Q w → Q w') (fun _ hq => hq)
      (fun _ hl ih hq => ih (hleaf _ _ _ hq hl))
      (fun _ he ih1 ih2 hq => ih2 (ih1 (hcall _ _ _ _ _ hq he))) fuel w msgs w' h hq

theorem tx_inv (Q : World → Prop) (blk : Block)
    (hcall : ∀ w snd em s' out, Q w → execute w.ms blk snd em = .ok (s', out) →
        Q { w with ms := s', log := w.log ++ [eventOf w.ms snd em] })
    (hleaf : ∀ w m w', Q w → leaf w m = .ok w' → Q w')
    {fuel : Nat} {w w' : World} {snd : Addr} {m : ExecMsg} (hq : Q w) (h : tx fuel w blk snd m = .ok w') : Q w' := by
  simp only [tx, Res.bind_ok] at h
  obtain ⟨⟨s', out⟩, he, hd⟩ := h
  exact dispatch_inv Q blk hcall hleaf fuel _ out w' (hcall w snd m s' out hq he) hd

theorem tx_state_inv (P : State → Prop) (blk : Block)
    (hP : ∀ s snd m s' out, P s → execute s blk snd m = .ok (s', out) → P s')
    {fuel : Nat} {w w' : World} {snd : Addr} {m : ExecMsg} (hq : P w.ms) (h : tx fuel w blk snd m = .ok w') : P w'.ms :=
  tx_inv (fun w => P w.ms) blk (fun w snd em s' out hq he => hP w.ms snd em s' out hq he)
    (fun w m w' hq hl => by rw [(leaf_ms hl).1]; exact hq) hq h

theorem step_ms_cases (fuel : Nat) (w : World) (op : Op) :
    (step fuel w op).ms = w.ms ∨ ∃ snd m w', op.act = .exec snd m ∧ tx fuel w op.blk snd m = .ok w' ∧ step fuel w op = w' := by
  unfold step
  split
  · rename_i snd m hact
    split
    · rename_i w' htx; exact Or.inr ⟨snd, m, w', hact, htx, rfl⟩
    · exact Or.inl rfl
  · split <;> exact Or.inl rfl
  · exact Or.inl rfl

theorem step_state_inv (P : State → Prop) (fuel : Nat) (w : World) (op : Op)
    (hP : ∀ s snd m s' out, P s → execute s op.blk snd m = .ok (s', out) → P s') (hq : P w.ms) :
    P (step fuel w op).ms := by
  rcases step_ms_cases fuel w op with e | ⟨snd, m, w', _, htx, e⟩
  · rw [e]; exact hq
  · rw [e]; exact tx_state_inv P op.blk hP hq htx

theorem run_inv (Q : World → Prop) (fuel : Nat)
    (hstep : ∀ w op, Q w → Q (step fuel w op)) (ops : List Op) (w : World) (h : Q w) : Q (run fuel w ops) :=
  foldl_invariant Q (fun w hw op _ => hstep w op hw) h

theorem run_state_inv (P : State → Prop)
    (hP : ∀ blk s snd m s' out, P s → execute s blk snd m = .ok (s', out) → P s')
    (fuel : Nat) (ops : List Op) (w : World) (h : P w.ms) : P (run fuel w ops).ms :=
  run_inv (fun w => P w.ms) fuel (fun w op h => step_state_inv P fuel w op (hP op.blk) h) ops w h

theorem step_inv (Q : World → Prop)
    (hcall : ∀ blk w snd em s' out, Q w → execute w.ms blk snd em = .ok (s', out) →
        Q { w with ms := s', log := w.log ++ [eventOf w.ms snd em] })
    (hleaf : ∀ w m w', Q w → leaf w m = .ok w' → Q w')
    (hbank : ∀ w b, Q w → Q { w with bank := b })
    (hsink : ∀ w b, Q w → Q { w with sinkOk := b })
    (fuel : Nat) (w : World) (op : Op) (hq : Q w) : Q (step fuel w op) := by
  unfold step
  split
  · split
    · rename_i w' htx; exact tx_inv Q op.blk (hcall op.blk) hleaf hq htx
    · exact hq
  · split
    · exact hbank _ _ hq
    · exact hq
  · exact hsink _ _ hq

/-- * the core is well-formed (`Cw3Core.WF`: ids, one ballot per key, tally = Σ ballots),
* `VOTERS` has no repeated key and the configured total is the sum of the voters' weights,
* every proposal carries the configured threshold and total, and no deposit,
* every ballot's weight is its voter's weight in `VOTERS`,
* a ballot has weight ≥ 1 unless it is the proposer's own Yes. -/
structure Inv (s : State) : Prop where
  wf : Cw3Core.WF s.core
  votersNodup : AMap.NodupKeys s.voters
  total : s.cfg.totalWeight = AMap.sum s.voters
  thrValid : s.cfg.threshold.validate s.cfg.totalWeight = .ok ()
  propCfg : ∀ id p, s.core.proposals.get? id = some p →
    p.totalWeight = s.cfg.totalWeight ∧ p.threshold = s.cfg.threshold ∧ p.deposit = none
  ballotWeight : ∀ id a b, (ballotsOf s.core id).get? a = some b → s.voters.get? a = some b.weight
  ballotPos : ∀ id p a b, s.core.proposals.get? id = some p → (ballotsOf s.core id).get? a = some b →
    1 ≤ b.weight ∨ (a = p.proposer ∧ b.vote = .yes)
  totalU64 : s.cfg.totalWeight ≤ U64_MAX

theorem sumWeights_nil {acc t : Nat} : sumWeights [] acc = .ok t ↔ t = acc :=
  ⟨fun h => (Except.ok.inj h).symm, fun h => h ▸ rfl⟩

theorem sumWeights_cons {a : AddrArg} {w : Nat} {rest : List (AddrArg × Nat)} {acc t : Nat} :
    sumWeights ((a, w) :: rest) acc = .ok t ↔ acc + w ≤ U64_MAX ∧ sumWeights rest (acc + w) = .ok t := by
  simp only [sumWeights, Res.bind_ok, addU64_ok]
  exact ⟨fun ⟨_, ⟨h1, rfl⟩, h2⟩ => ⟨h1, h2⟩, fun ⟨h1, h2⟩ => ⟨_, ⟨h1, rfl⟩, h2⟩⟩

theorem addVoters_nil {m m' : AMap Addr Nat} : addVoters [] m = .ok m' ↔ m' = m :=
  ⟨fun h => (Except.ok.inj h).symm, fun h => h ▸ rfl⟩

theorem addVoters_cons {a : AddrArg} {w : Nat} {rest : List (AddrArg × Nat)} {m m' : AMap Addr Nat} :
    addVoters ((a, w) :: rest) m = .ok m' ↔
      a.valid = true ∧ m.get? a.text = none ∧ addVoters rest (m.set a.text w) = .ok m' := by
  simp only [addVoters, Res.bind_ok, check_ok, Option.isNone_iff_eq_none]
  exact ⟨fun ⟨_, h1, _, h2, h3⟩ => ⟨h1, h2, h3⟩, fun ⟨h1, h2, h3⟩ => ⟨(), h1, (), h2, h3⟩⟩

theorem sumWeights_eq : ∀ (l : List (AddrArg × Nat)) (acc t : Nat), sumWeights l acc = .ok t →
    t = acc + (l.map (·.2)).sum
  | [], acc, t, h => sumWeights_nil.mp h
  | (a, w) :: rest, acc, t, h => by
    rw [sumWeights_eq rest (acc + w) t (sumWeights_cons.mp h).2, List.map_cons, List.sum_cons, Nat.add_assoc]

theorem sumWeights_le : ∀ (l : List (AddrArg × Nat)) (acc t : Nat), sumWeights l acc = .ok t → acc ≤ U64_MAX → t ≤ U64_MAX
  | [], acc, t, h, ha => sumWeights_nil.mp h ▸ ha
  | (a, w) :: rest, acc, t, h, _ => sumWeights_le rest (acc + w) t (sumWeights_cons.mp h).2 (sumWeights_cons.mp h).1

/-- The voter loop rejects repeated addresses, so every listed weight is stored under its own key. -/
theorem addVoters_sum : ∀ (l : List (AddrArg × Nat)) (m m' : AMap Addr Nat), addVoters l m = .ok m' →
    AMap.NodupKeys m → AMap.NodupKeys m' ∧ AMap.sum m' = AMap.sum m + (l.map (·.2)).sum
  | [], m, m', h, hn => by rw [addVoters_nil.mp h]; exact ⟨hn, rfl⟩
  | (a, w) :: rest, m, m', h, hn => by
    obtain ⟨_, hnone, h⟩ := addVoters_cons.mp h
    have ih := addVoters_sum rest (m.set a.text w) m' h (AMap.nodup_set hn)
    have hs := AMap.sum_set m a.text w
    rw [hnone] at hs
    refine ⟨ih.1, ?_⟩
    rw [ih.2, List.map_cons, List.sum_cons, ← Nat.add_assoc]
    simp only [Option.getD_none] at hs
    omega

theorem instantiate_ok {m : InstMsg} {s : State} (h : instantiate m = .ok s) :
    ∃ total voters, sumWeights m.voters 0 = .ok total ∧ m.threshold.validate total = .ok () ∧
      addVoters m.voters [] = .ok voters ∧
      s = { cfg := ⟨m.threshold, total, m.maxVotingPeriod⟩, voters := voters, core := Core.empty } := by
  simp only [instantiate, Res.bind_ok, check_ok, Res.pure_ok] at h
  obtain ⟨_, _, total, hsum, ⟨⟩, hval, voters, hadd, rfl⟩ := h
  exact ⟨total, voters, hsum, hval, hadd, rfl⟩

theorem instantiate_core {m : InstMsg} {s : State} (h : instantiate m = .ok s) : s.core = Core.empty := by
  obtain ⟨_, _, _, _, _, rfl⟩ := instantiate_ok h
  rfl

/-- Every accepted instantiation establishes the invariant; in particular
`total_weight = Σ voters` (duplicates are refused). -/
theorem instantiate_inv {m : InstMsg} {s : State} (h : instantiate m = .ok s) : Inv s := by
  obtain ⟨total, voters, hsum, hval, hadd, rfl⟩ := instantiate_ok h
  have h1 := sumWeights_eq _ _ _ hsum
  have h2 := addVoters_sum _ _ _ hadd (by simp [AMap.NodupKeys, AMap.keys])
  refine ⟨wf_empty, h2.1, ?_, hval, ?_, ?_, ?_, sumWeights_le _ _ _ hsum (by simp [U64_MAX])⟩
  · simp [h1, h2.2]
  · intro id p hp; simp [Core.empty] at hp
  · intro id a b hb; simp [Core.empty, ballotsOf] at hb
  · intro id p a b hp; simp [Core.empty] at hp

theorem Inv.set_status {s : State} (hi : Inv s) {id : Nat} {p : Proposal} (hp : s.core.proposals.get? id = some p)
    (st : Status) (hs : st ≠ .pending) :
    Inv { s with core := { s.core with proposals := s.core.proposals.set id { p with status := st } } } := by
  refine ⟨wf_set_status hi.wf hp st hs, hi.votersNodup, hi.total, hi.thrValid, ?_, hi.ballotWeight, ?_, hi.totalU64⟩
  · intro id' p' hp'
    rcases AMap.get?_set_some hp' with ⟨rfl, rfl⟩ | ⟨_, hp'⟩
    · exact hi.propCfg id p hp
    · exact hi.propCfg id' p' hp'
  · intro id' p' a b hp' hb
    rcases AMap.get?_set_some hp' with ⟨rfl, rfl⟩ | ⟨_, hp'⟩
    · exact hi.ballotPos id p a b hp hb
    · exact hi.ballotPos id' p' a b hp' hb

/-- Every successful handler call preserves the invariant. -/
theorem execute_inv {s s' : State} {blk : Block} {snd : Addr} {m : ExecMsg} {out : List Msg}
    (hi : Inv s) (h : execute s blk snd m = .ok (s', out)) : Inv s' := by
  cases m with
  | propose t d msgs latest =>
    obtain ⟨w, c, id, hw, hp, rfl, _⟩ := execute_propose_ok_iff.mp h
    have hwf := propose_wf hi.wf hp
    obtain ⟨expires, st, _, _, hid, _, rfl⟩ := propose_ok hp
    have hb0 : ballotsOf s.core id = [] := hi.wf.noBallots id (hi.wf.fresh (by omega))
    refine ⟨hwf, hi.votersNodup, hi.total, hi.thrValid, ?_, ?_, ?_, hi.totalU64⟩
    · intro id' p' hp'
      rcases AMap.get?_set_some hp' with ⟨rfl, rfl⟩ | ⟨_, hp'⟩
      · exact ⟨rfl, rfl, rfl⟩
      · exact hi.propCfg id' p' hp'
    · intro id' a b hb
      rcases ballotsOf_set_some hb with ⟨rfl, rfl, rfl⟩ | hb
      · exact hw
      · exact hi.ballotWeight id' a b hb
    · intro id' p' a b hp' hb
      rcases AMap.get?_set_some hp' with ⟨rfl, rfl⟩ | ⟨_, hp'⟩
      · -- the new proposal has one ballot, its proposer's Yes
        rcases ballotsOf_set_some hb with ⟨_, rfl, rfl⟩ | hb
        · exact Or.inr ⟨rfl, rfl⟩
        · rw [hb0] at hb; cases hb
      · rcases ballotsOf_set_some hb with ⟨rfl, _, _⟩ | hb
        · rw [hi.wf.fresh (by omega)] at hp'; cases hp'
        · exact hi.ballotPos id' p' a b hp' hb
  | vote id v =>
    obtain ⟨c, hv, rfl, _⟩ := execute_vote_ok_iff.mp h
    have hwf := vote_wf hi.wf hv
    obtain ⟨p, w, votes, st, hp, _, _, hw, hw1, _, _, _, rfl⟩ := vote_ok hv
    refine ⟨hwf, hi.votersNodup, hi.total, hi.thrValid, ?_, ?_, ?_, hi.totalU64⟩
    · intro id' p' hp'
      rcases AMap.get?_set_some hp' with ⟨rfl, rfl⟩ | ⟨_, hp'⟩
      · exact hi.propCfg id p hp
      · exact hi.propCfg id' p' hp'
    · intro id' a b hb
      rcases ballotsOf_set_some hb with ⟨rfl, rfl, rfl⟩ | hb
      · exact hw
      · exact hi.ballotWeight id' a b hb
    · intro id' p' a b hp' hb
      rcases ballotsOf_set_some hb with ⟨rfl, rfl, rfl⟩ | hb
      · exact Or.inl hw1
      · rcases AMap.get?_set_some hp' with ⟨rfl, rfl⟩ | ⟨_, hp'⟩
        · exact hi.ballotPos id p a b hp hb
        · exact hi.ballotPos id' p' a b hp' hb
  | execute id =>
    obtain ⟨c, he, rfl⟩ := execute_execute_ok_iff.mp h
    obtain ⟨p, hp, _, _, _, rfl⟩ := execute_ok he
    exact hi.set_status hp _ (by simp)
  | close id =>
    obtain ⟨c, hc, rfl, _⟩ := execute_close_ok_iff.mp h
    obtain ⟨p, _, hp, _, _, _, _, _, _, rfl⟩ := close_ok hc
    exact hi.set_status hp _ (by simp)

theorem Inv.weightSum_le {s : State} (hi : Inv s) {id : Nat} {p : Proposal} (hp : s.core.proposals.get? id = some p) :
    weightSum (ballotsOf s.core id) ≤ p.totalWeight := by
  rw [(hi.propCfg id p hp).1, hi.total]
  exact weightSum_le_sum _ _ (hi.wf.nodup id) hi.votersNodup (fun a b hb => hi.ballotWeight id a b hb)

theorem Inv.tally_le {s : State} (hi : Inv s) {id : Nat} {p : Proposal} (hp : s.core.proposals.get? id = some p) :
    p.votes.yes + p.votes.no + p.votes.abstain + p.votes.veto ≤ p.totalWeight := by
  have h1 := hi.weightSum_le hp
  rw [weightSum_eq] at h1
  rw [hi.wf.tally id p hp]
  exact h1

/-- The worlds reachable from an accepted instantiation (any multisig address, any initial bank
balances, any sink setting) by any finite history of operations. -/
def Reachable (fuel : Nat) (w : World) : Prop :=
  ∃ (m : InstMsg) (s : State) (self : Addr) (bank : AMap (Addr × String) Nat) (sink : Bool) (ops : List Op),
    instantiate m = .ok s ∧ w = run fuel (World.init s self bank sink) ops

theorem reachable_step {fuel : Nat} {w : World} (h : Reachable fuel w) (op : Op) : Reachable fuel (step fuel w op) := by
  obtain ⟨m, s, self, bank, sink, ops, hi, rfl⟩ := h
  exact ⟨m, s, self, bank, sink, ops ++ [op], hi, by simp [run, List.foldl_append]⟩

theorem reachable_inv {fuel : Nat} {w : World} (h : Reachable fuel w) : Inv w.ms := by
  obtain ⟨m, s, self, bank, sink, ops, hi, rfl⟩ := h
  exact run_state_inv Inv (fun _ _ _ _ _ _ hi h => execute_inv hi h) fuel ops _ (instantiate_inv hi)

theorem reachable_ind (P : State → Prop) (hinit : ∀ m s, instantiate m = .ok s → P s)
    (hstep : ∀ blk s snd m s' out, Inv s → P s → execute s blk snd m = .ok (s', out) → P s')
    {fuel : Nat} {w : World} (h : Reachable fuel w) : P w.ms := by
  obtain ⟨m, s, self, bank, sink, ops, hi, rfl⟩ := h
  exact (run_state_inv (fun s => Inv s ∧ P s)
    (fun blk s snd m s' out hq h => ⟨execute_inv hq.1 h, hstep blk s snd m s' out hq.1 hq.2 h⟩)
    fuel ops _ ⟨instantiate_inv hi, hinit m s hi⟩).2

theorem reachable_world_ind (Q : World → Prop) {fuel : Nat}
    (hinit : ∀ m s self bank sink, instantiate m = .ok s → Q (World.init s self bank sink))
    (hstep : ∀ w op, Q w → Q (step fuel w op)) {w : World} (h : Reachable fuel w) : Q w := by
  obtain ⟨m, s, self, bank, sink, ops, hi, rfl⟩ := h
  exact run_inv Q fuel hstep ops _ (hinit m s self bank sink hi)

/-- The relation `Props.C04.later` (a file this one does not import). -/
def blockLe (a b : Block) : Prop := a.height ≤ b.height ∧ a.time ≤ b.time

/-- Worlds reachable by a history whose blocks never go back; the second argument is the block of
the last operation (any block for the freshly instantiated world). -/
inductive ReachableAt (fuel : Nat) : World → Block → Prop
  | init {m : InstMsg} {s : State} (self : Addr) (bank : AMap (Addr × String) Nat) (sink : Bool) (b : Block) :
      instantiate m = .ok s → ReachableAt fuel (World.init s self bank sink) b
  | step {w : World} {b : Block} (op : Op) : ReachableAt fuel w b → blockLe b op.blk → ReachableAt fuel (step fuel w op) op.blk

theorem ReachableAt.reachable {fuel : Nat} {w : World} {b : Block} (h : ReachableAt fuel w b) : Reachable fuel w := by
  induction h with
  | init self bank sink b hi => exact ⟨_, _, self, bank, sink, [], hi, rfl⟩
  | step op _ _ ih => exact reachable_step ih op

instance (a b : Block) : Decidable (blockLe a b) := inferInstanceAs (Decidable (_ ∧ _))

/-- A list of operations whose blocks never go back, run from a world reached at block `b`. -/
theorem ReachableAt.run {fuel : Nat} : ∀ (ops : List Op) {w : World} {b : Block}, ReachableAt fuel w b →
    List.Pairwise blockLe (b :: ops.map (·.blk)) →
    ReachableAt fuel (run fuel w ops) ((ops.map (·.blk)).getLast?.getD b)
  | [], _, _, h, _ => h
  | op :: rest, w, b, h, hb => by
    have hb' := List.pairwise_cons.mp hb
    have := ReachableAt.run rest (ReachableAt.step op h (hb'.1 _ (List.mem_cons_self ..))) hb'.2
    rw [List.map_cons, List.getLast?_cons]
    exact this

theorem execute_later {s s' : State} {blk : Block} {snd : Addr} {m : ExecMsg} {out : List Msg}
    (hi : Inv s) (h : execute s blk snd m = .ok (s', out)) : Later s.core s'.core := by
  obtain ⟨_, _, hc⟩ := execute_cases h
  rcases hc with ⟨t, d, msgs, latest, w, id, _, hw, _, hp⟩ | ⟨id, v, _, _, hv⟩ | ⟨id, _, he⟩ | ⟨id, _, _, hcl⟩
  · exact propose_later hi.wf hp
  · exact vote_later hv
  · exact Cw3Core.execute_later he
  · exact close_later hi.wf hcl

theorem run_later {fuel : Nat} {w : World} (hi : Inv w.ms) (ops : List Op) : Later w.ms.core (run fuel w ops).ms.core :=
  (run_state_inv (fun s => Inv s ∧ Later w.ms.core s.core)
    (fun _ _ _ _ _ _ hq h => ⟨execute_inv hq.1 h, later_trans hq.2 (execute_later hq.1 h)⟩)
    fuel ops w ⟨hi, later_refl _⟩).2

end CwPlus.Cw3Fixed
