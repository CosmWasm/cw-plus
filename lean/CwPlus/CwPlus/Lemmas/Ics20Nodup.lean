import CwPlus.Lemmas.Ics20
/-!
# cw20-ics20: `ALLOW_LIST` never holds a token twice

`ALLOW_LIST` is written by `instantiate` (`addAllows`: one `save` per listed token) and by `execute_allow`
only; every other entry point (transfers, IBC callbacks with their sub-message dispatch and `reply`,
`migrate`) leaves it untouched (`exec_allow_cases`).  Hence `AMap.NodupKeys st.allow` in every world
reachable from an accepted instantiation (`run_nodup`).  Core only.
-/
namespace CwPlus.Ics20
open CwPlus

theorem addAllows_nodup : ∀ (l : List (AddrArg × Option Nat)) (m m' : AMap Addr (Option Nat)),
    addAllows l m = .ok m' → AMap.NodupKeys m → AMap.NodupKeys m'
  | [], m, m', h, hn => by simp [addAllows] at h; subst h; exact hn
  | (a, g) :: rest, m, m', h, hn => by
    simp [addAllows] at h
    exact addAllows_nodup rest _ m' h.2 (AMap.nodup_set hn)

theorem instantiate_nodup {m : InstMsg} {s : State} (h : instantiate m = .ok s) : AMap.NodupKeys s.allow := by
  simp [instantiate] at h
  obtain ⟨_, allow, ha, rfl⟩ := h
  exact addAllows_nodup _ _ _ ha (by simp [AMap.NodupKeys, AMap.keys])

theorem migrate_allow {s s' : State} {gas : Option Nat} {hold : Denom → Option Nat} (h : migrate s gas hold = .ok s') :
    s'.allow = s.allow := by
  obtain ⟨_, _, _, _, _, rfl, _⟩ := migrate_ok h
  rfl

/-- A successful transaction leaves `ALLOW_LIST` unchanged or saves one entry (`execute_allow`). -/
theorem exec_allow_cases {w w' : World} {blk : Block} {op : Op} {o : Outcome} (h : w.exec blk op = .ok (w', o)) :
    w'.st.allow = w.st.allow ∨ ∃ k v, w'.st.allow = w.st.allow.set k v := by
  rcases exec_st h with ⟨_, _, _, _, _, _, hs⟩ | ⟨_, _, _, _, hs⟩ | ⟨_, _, _, hs⟩ | ⟨_, _, hs⟩ | ⟨_, _, e⟩
  · rw [(ibcChannelConnect_ok hs).2]; exact Or.inl rfl
  · rw [(execAllow_ok hs).2.2]; exact Or.inr ⟨_, _, rfl⟩
  · rw [(execUpdateAdmin_ok hs).2.2]; exact Or.inl rfl
  · exact Or.inl (migrate_allow hs)
  · rw [e]; exact Or.inl rfl

theorem run_nodup (ops : List (Block × Op)) {w : World} (hn : AMap.NodupKeys w.st.allow) :
    AMap.NodupKeys (ops.foldl (fun w o => w.step o.1 o.2) w).st.allow := by
  refine run_induction (P := fun w => AMap.NodupKeys w.st.allow) (fun w _ _ w' _ hn h => ?_) ops hn
  rcases exec_allow_cases h with e | ⟨k, v, e⟩
  · rw [e]; exact hn
  · rw [e]; exact AMap.nodup_set hn

end CwPlus.Ics20
