import CwPlus.Props.C01
import CwPlus.Lemmas.Cw20Allow
/-!
# C19 — cw20: the three allowance views agree, also after migration

`ALLOWANCES` (keyed owner, spender) and `ALLOWANCES_SPENDER` (keyed spender, owner) are written by
separate statements on every path.  `Inv19` says they hold the same data; it is established by
`instantiate` and by the pre-0.14 `migrate`, preserved by every message kind, and it makes the point
query, the owner listing and the spender listing report the same amount and expiry.
Histories are `C01.run`.
-/
namespace CwPlus.Props.C19
open CwPlus CwPlus.Cw20
open CwPlus.Props.C01 (run)
open CwPlus.Lemmas.Cw20Allow

/-- The invariant: every (owner, spender) pair has the same entry (or none) in both maps. -/
def Inv19 (s : State) : Prop := ∀ o sp, s.allow.get? (o, sp) = s.allowSp.get? (sp, o)

/-- Both maps have distinct keys (they model storage maps); needed for membership statements about
the listings and for `migrate`. -/
def Nodup19 (s : State) : Prop := AMap.NodupKeys s.allow ∧ AMap.NodupKeys s.allowSp

theorem inv19_iff_mirror (s : State) : Inv19 s ↔ Mirror s.allow s.allowSp := Iff.rfl

theorem instantiate_inv19 {m : InstMsg} {s : State} (h : instantiate m = .ok s) : Inv19 s ∧ Nodup19 s := by
  obtain ⟨_, b, t, mk, lg, _, _, _, rfl⟩ := instantiate_ok h
  exact ⟨fun _ _ => rfl, List.nodup_nil, List.nodup_nil⟩

/-! ## Preserved by every message kind -/

/-- `deduct_allowance` updates each map from its own old value; under `Inv19` the two old values are
equal, so the two new ones are (a draw to exactly zero keeps a zero entry in both maps). -/
theorem deduct_inv19 {s s1 : State} {blk : Block} {o sp : Addr} {amt : Nat}
    (hi : Inv19 s) (h : deduct s blk o sp amt = .ok s1) : Inv19 s1 := by
  obtain ⟨al, al2, h1, _, _, h2, _, _, rfl⟩ := deduct_ok_iff.mp h
  rw [hi o sp, h2] at h1
  cases h1
  exact mirror_set hi o sp _

theorem deduct_nodup19 {s s1 : State} {blk : Block} {o sp : Addr} {amt : Nat}
    (hi : Nodup19 s) (h : deduct s blk o sp amt = .ok s1) : Nodup19 s1 := by
  obtain ⟨_, _, _, _, _, _, _, _, rfl⟩ := deduct_ok_iff.mp h
  exact ⟨AMap.nodup_set hi.1, AMap.nodup_set hi.2⟩

/-- **C19, step clause**: every successful call of every message kind preserves the agreement of the
two maps (grants, decreases incl. removal, draws incl. draws to exactly zero, burns through an
allowance, and all kinds that do not touch allowances). -/
theorem execute_inv19 {s s' : State} {blk : Block} {snd : Addr} {msg : Msg} {out : List Out}
    (hi : Inv19 s) (h : execute s blk snd msg = .ok (s', out)) : Inv19 s' := by
  unfold Inv19
  rcases execute_allow h with ⟨e1, e2⟩ | ⟨o, sp, a, a2, e1, e2, he⟩ | ⟨o, sp, e1, e2⟩
  · rw [e1, e2]; exact hi
  · cases he (hi o sp); rw [e1, e2]; exact mirror_set hi o sp a
  · rw [e1, e2]; exact mirror_erase hi o sp

theorem execute_nodup19 {s s' : State} {blk : Block} {snd : Addr} {msg : Msg} {out : List Out}
    (hn : Nodup19 s) (h : execute s blk snd msg = .ok (s', out)) : Nodup19 s' := by
  unfold Nodup19
  rcases execute_allow h with ⟨e1, e2⟩ | ⟨o, sp, a, a2, e1, e2, _⟩ | ⟨o, sp, e1, e2⟩
  · rw [e1, e2]; exact hn
  · rw [e1, e2]; exact ⟨AMap.nodup_set hn.1, AMap.nodup_set hn.2⟩
  · rw [e1, e2]; exact ⟨AMap.nodup_erase hn.1, AMap.nodup_erase hn.2⟩

theorem execute_both19 {s s' : State} {blk : Block} {snd : Addr} {msg : Msg} {out : List Out}
    (hi : Inv19 s ∧ Nodup19 s) (h : execute s blk snd msg = .ok (s', out)) : Inv19 s' ∧ Nodup19 s' :=
  ⟨execute_inv19 hi.1 h, execute_nodup19 hi.2 h⟩

theorem run_inv19 {s : State} (hi : Inv19 s ∧ Nodup19 s) (ops : List (Block × Addr × Msg)) :
    Inv19 (run s ops) ∧ Nodup19 (run s ops) :=
  run_preserves execute_both19 ops hi

/-- **C19, main theorem (histories)**: after any accepted instantiation and any finite history of
execute messages (any owners, spenders, amounts, expiries; failed calls rolled back) the two maps
agree on every pair, and both have distinct keys. -/
theorem reach_inv19 {m : InstMsg} {s : State} (h : instantiate m = .ok s) (ops : List (Block × Addr × Msg)) :
    Inv19 (run s ops) ∧ Nodup19 (run s ops) :=
  run_inv19 (instantiate_inv19 h) ops

theorem migrate_allow {s s' : State} (h : migrate s = .ok s') :
    s'.allow = s.allow ∧
    s'.allowSp = if verLt s.version.key (relKey (0, 14, 0)) then rebuild s.allow s.allowSp else s.allowSp := by
  obtain ⟨_, _, rfl⟩ := migrate_ok.mp h
  exact ⟨rfl, rfl⟩

/-- Generalisation of `migrate_pre014_establishes`: the spender map need not be empty, it is enough
that it has no entry whose mirrored key is absent from the owner map (stale entries would survive the
rebuild); entries that are present but different are overwritten. -/
theorem migrate_pre014_establishes_of_no_stale {s s' : State}
    (hsp : ∀ o sp, s.allow.get? (o, sp) = none → s.allowSp.get? (sp, o) = none) (hnd : Nodup19 s)
    (hv : verLt s.version.key (relKey (0, 14, 0)) = true)
    (h : migrate s = .ok s') : Inv19 s' ∧ Nodup19 s' := by
  obtain ⟨e1, e2⟩ := migrate_allow h
  unfold Inv19 Nodup19
  rw [e1, e2, if_pos hv]
  refine ⟨?_, hnd.1, nodup_rebuild _ _ hnd.2⟩
  intro o sp
  rw [get?_rebuild s.allow hnd.1]
  cases hg : AMap.get? s.allow (o, sp) with
  | none => exact (hsp o sp hg).symm
  | some v => rfl

/-- **C19, migration clause**: migrating any pre-0.14 state that has no spender map (and, being a
storage map, distinct keys in the owner map) produces a spender map that agrees with the owner map on
every pair. -/
theorem migrate_pre014_establishes {s s' : State} (hsp : s.allowSp = []) (hnd : AMap.NodupKeys s.allow)
    (hv : verLt s.version.key (relKey (0, 14, 0)) = true)
    (h : migrate s = .ok s') : Inv19 s' ∧ Nodup19 s' := by
  refine migrate_pre014_establishes_of_no_stale (fun _ _ _ => ?_) ⟨hnd, ?_⟩ hv h
  · rw [hsp]; rfl
  · rw [hsp]; exact List.nodup_nil

/-- `migrate` from 0.14.0 or later does not touch the allowance maps. -/
theorem migrate_no_rebuild_frame {s s' : State}
    (hv : verLt s.version.key (relKey (0, 14, 0)) = false)
    (h : migrate s = .ok s') : s'.allow = s.allow ∧ s'.allowSp = s.allowSp := by
  obtain ⟨e1, e2⟩ := migrate_allow h
  rw [hv] at e2
  exact ⟨e1, e2⟩

/-- `migrate` preserves the agreement whenever it holds before: trivially when it does not rebuild
(version ≥ 0.14.0), and also when it rebuilds over an already agreeing spender map. -/
theorem migrate_preserves {s s' : State} (hi : Inv19 s) (hn : Nodup19 s) (h : migrate s = .ok s') :
    Inv19 s' ∧ Nodup19 s' := by
  obtain ⟨e1, e2⟩ := migrate_allow h
  unfold Inv19 Nodup19
  rw [e1, e2]
  split
  · exact ⟨mirror_rebuild_of_mirror _ _ hn.1 hi, hn.1, nodup_rebuild _ _ hn.2⟩
  · exact ⟨hi, hn⟩

/-- After a pre-0.14 migration, every later history keeps the views in agreement. -/
theorem reach_inv19_migrated {s s' : State} (hsp : s.allowSp = []) (hnd : AMap.NodupKeys s.allow)
    (hv : verLt s.version.key (relKey (0, 14, 0)) = true)
    (h : migrate s = .ok s') (ops : List (Block × Addr × Msg)) : Inv19 (run s' ops) ∧ Nodup19 (run s' ops) :=
  run_inv19 (migrate_pre014_establishes hsp hnd hv h) ops

/-! ## Histories that contain migrations -/

/-- An operation of a mixed history: an execute call or a `migrate` call.  (`Cw20Mixed`, C02 and C13 state their
mixed-history theorems over this type and `runOps`.) -/
inductive Op where
  | exec (blk : Block) (snd : Addr) (msg : Msg)
  | migrate

/-- One transaction of a mixed history; failing calls (also a refused `migrate`) are rolled back. -/
def stepOp (s : State) : Op → State
  | .exec blk snd msg => step s blk snd msg
  | .migrate => match migrate s with
    | .ok s' => s'
    | .error _ => s

def runOps (s : State) (ops : List Op) : State := ops.foldl stepOp s

theorem runOps_preserves {P : State → Prop}
    (hexec : ∀ {s s' blk snd msg out}, P s → execute s blk snd msg = .ok (s', out) → P s')
    (hmig : ∀ {s s'}, P s → migrate s = .ok s' → P s') (ops : List Op) {s : State} (hi : P s) :
    P (runOps s ops) := by
  refine foldl_invariant P (fun s hi op _ => ?_) hi
  cases op with
  | exec blk snd msg => exact step_preserves hexec blk snd msg hi
  | migrate =>
    cases hm : migrate s with
    | ok s' => simp only [stepOp, hm]; exact hmig hi hm
    | error e => simp only [stepOp, hm]; exact hi

theorem runOps_inv19 {s : State} (hi : Inv19 s ∧ Nodup19 s) (ops : List Op) :
    Inv19 (runOps s ops) ∧ Nodup19 (runOps s ops) :=
  runOps_preserves execute_both19 (fun hi h => migrate_preserves hi.1 hi.2 h) ops hi

/-- **C19, main theorem with migrations**: after any accepted instantiation and any finite history of
execute calls *and* `migrate` calls in any order, the two maps agree on every pair. -/
theorem reach_inv19_mixed {m : InstMsg} {s : State} (h : instantiate m = .ok s) (ops : List Op) :
    Inv19 (runOps s ops) ∧ Nodup19 (runOps s ops) :=
  runOps_inv19 (instantiate_inv19 h) ops

/-- … and the same after migrating a pre-0.14 state without spender map. -/
theorem reach_inv19_migrated_mixed {s s' : State} (hsp : s.allowSp = []) (hnd : AMap.NodupKeys s.allow)
    (hv : verLt s.version.key (relKey (0, 14, 0)) = true)
    (h : migrate s = .ok s') (ops : List Op) : Inv19 (runOps s' ops) ∧ Nodup19 (runOps s' ops) :=
  runOps_inv19 (migrate_pre014_establishes hsp hnd hv h) ops

/-- **C19, view clause**: under the invariant, for valid `o`, `sp` the point query answers with the
entry for `sp` in the owner view of `o` (default `{0, never}` if absent), and that entry is the same
— amount and expiry, or absent in both — as the entry for `o` in the spender view of `sp`. -/
theorem views_agree {s : State} (hi : Inv19 s) (o sp : AddrArg) (ho : o.valid = true) (hs : sp.valid = true) :
    queryAllowance s o sp = .ok (((ownerPrefix s o.text).get? sp.text).getD Allowance.default)
    ∧ (ownerPrefix s o.text).get? sp.text = (spenderPrefix s sp.text).get? o.text
    ∧ queryAllowance s o sp = .ok (((spenderPrefix s sp.text).get? o.text).getD Allowance.default) := by
  have e : (ownerPrefix s o.text).get? sp.text = (spenderPrefix s sp.text).get? o.text := by
    rw [ownerPrefix_get?, spenderPrefix_get?]; exact hi o.text sp.text
  have q : queryAllowance s o sp = .ok (((ownerPrefix s o.text).get? sp.text).getD Allowance.default) := by
    simp [queryAllowance, ho, hs, ownerPrefix_get?]
  exact ⟨q, e, e ▸ q⟩

/-- The complete (unpaged, ascending) listings contain the same entries: `(sp, a)` is listed for
owner `o` iff `(o, a)` is listed for spender `sp`, iff `ALLOWANCES` holds `a` under `(o, sp)`.
(Paging through the listings is C20's theorem.) -/
theorem listings_agree {s : State} (hi : Inv19 s) (hn : Nodup19 s) (o sp : Addr) (a : Allowance) :
    ((sp, a) ∈ Paginate.sortedEntries Paginate.strLt (ownerPrefix s o) ↔ s.allow.get? (o, sp) = some a)
    ∧ ((o, a) ∈ Paginate.sortedEntries Paginate.strLt (spenderPrefix s sp) ↔ s.allow.get? (o, sp) = some a) := by
  refine ⟨C20.owner_allowances_exact hn.1 o sp a, ?_⟩
  rw [hi o sp]
  exact C20.spender_allowances_exact hn.2 o sp a

/-- The listings never report a pair twice. -/
theorem listings_nodup {s : State} (hn : Nodup19 s) (o sp : Addr) :
    AMap.NodupKeys (ownerPrefix s o) ∧ AMap.NodupKeys (spenderPrefix s sp) :=
  ⟨ownerPrefix_nodup hn.1 o, spenderPrefix_nodup hn.2 sp⟩

/-! ## The three views as the *paged query functions* report them

`views_agree` / `listings_agree` above speak of the prefix maps and their unpaged sorted listings.  The
theorems below speak of what a client actually obtains: the `Allowance` point query and the results of paging
`AllAllowances { owner }` and `AllSpenderAllowances { spender }` to completion (client loop
`Paginate.fetchLoop`: request a page, continue from the last returned key, stop at the empty page), with any
two page sizes.  Completeness of the paging is C20 (`owner_allowances_complete`,
`spender_allowances_complete`); the invariants are discharged on reachable states, not assumed. -/

open CwPlus.Paginate in
/-- What a client obtains by paging `AllAllowances { owner }` to completion with page size `limit`. -/
def ownerListing (s : State) (o : AddrArg) (limit : Option Nat) (fuel : Nat) : List (Addr × Allowance) :=
  fetchLoop (fun c => CwPlus.Props.C20.okItems (queryOwnerAllowances s o c limit)) (·.1) none fuel

open CwPlus.Paginate in
/-- What a client obtains by paging `AllSpenderAllowances { spender }` to completion with page size `limit`. -/
def spenderListing (s : State) (sp : AddrArg) (limit : Option Nat) (fuel : Nat) : List (Addr × Allowance) :=
  fetchLoop (fun c => CwPlus.Props.C20.okItems (querySpenderAllowances s sp c limit)) (·.1) none fuel

/-- State level: under `Inv19` and distinct keys, the completely paged owner listing and the completely
paged spender listing are the sorted prefix listings (C20), so an entry `(sp, a)` is reported for owner `o`
iff `(o, a)` is reported for spender `sp` iff `ALLOWANCES[(o, sp)] = a`, and the point query answers with
that entry (default `{0, never}` when there is none).  Any two page sizes other than 0, any number of allowed
requests above the number of entries. -/
theorem paged_views_agree_of_inv {s : State} (hi : Inv19 s) (hn : Nodup19 s) (o sp : AddrArg)
    (ho : o.valid = true) (hs : sp.valid = true) (l1 l2 : Option Nat) (h1 : l1 ≠ some 0) (h2 : l2 ≠ some 0)
    {f1 f2 : Nat} (hf1 : (ownerPrefix s o.text).length + 1 ≤ f1) (hf2 : (spenderPrefix s sp.text).length + 1 ≤ f2)
    (a : Allowance) :
    ((sp.text, a) ∈ ownerListing s o l1 f1 ↔ (o.text, a) ∈ spenderListing s sp l2 f2)
    ∧ ((sp.text, a) ∈ ownerListing s o l1 f1 ↔ s.allow.get? (o.text, sp.text) = some a)
    ∧ ((o.text, a) ∈ spenderListing s sp l2 f2 ↔ s.allow.get? (o.text, sp.text) = some a)
    ∧ queryAllowance s o sp = .ok ((s.allow.get? (o.text, sp.text)).getD Allowance.default) := by
  obtain ⟨a1, a2⟩ := listings_agree hi hn o.text sp.text a
  rw [ownerListing, spenderListing, C20.owner_allowances_complete hn.1 o ho l1 h1 hf1,
    C20.spender_allowances_complete hn.2 sp hs l2 h2 hf2]
  refine ⟨a1.trans a2.symm, a1, a2, ?_⟩
  simp [queryAllowance, ho, hs]

/-- **C19, view clause on the query functions (main theorem)**: after any accepted instantiation and any
finite history of execute messages, for valid `o`, `sp`, any two page sizes other than 0: paging
`AllAllowances {o}` to completion reports `(sp, a)` iff paging `AllSpenderAllowances {sp}` to completion
reports `(o, a)` iff the stored allowance of the pair is `a` — and then `Allowance {o, sp}` answers `a`
(same amount, same expiry); when neither listing has an entry for the pair the point query answers
`{0, never}` (`unlisted_point_default`).  `Inv19` is discharged by `reach_inv19`, not assumed. -/
theorem paged_views_agree {m : InstMsg} {s0 : State} (h : instantiate m = .ok s0) (ops : List (Block × Addr × Msg))
    (o sp : AddrArg) (ho : o.valid = true) (hs : sp.valid = true) (l1 l2 : Option Nat)
    (h1 : l1 ≠ some 0) (h2 : l2 ≠ some 0) (a : Allowance) :
    let s := run s0 ops
    ((sp.text, a) ∈ ownerListing s o l1 ((ownerPrefix s o.text).length + 1)
        ↔ (o.text, a) ∈ spenderListing s sp l2 ((spenderPrefix s sp.text).length + 1))
    ∧ ((sp.text, a) ∈ ownerListing s o l1 ((ownerPrefix s o.text).length + 1)
        ↔ s.allow.get? (o.text, sp.text) = some a)
    ∧ ((o.text, a) ∈ spenderListing s sp l2 ((spenderPrefix s sp.text).length + 1)
        ↔ s.allow.get? (o.text, sp.text) = some a)
    ∧ queryAllowance s o sp = .ok ((s.allow.get? (o.text, sp.text)).getD Allowance.default) := by
  intro s
  obtain ⟨hi, hn⟩ := reach_inv19 h ops
  exact paged_views_agree_of_inv hi hn o sp ho hs l1 l2 h1 h2 (Nat.le_refl _) (Nat.le_refl _) a

/-- The same over histories that interleave execute and `migrate` calls in any order. -/
theorem paged_views_agree_mixed {m : InstMsg} {s0 : State} (h : instantiate m = .ok s0) (ops : List Op)
    (o sp : AddrArg) (ho : o.valid = true) (hs : sp.valid = true) (l1 l2 : Option Nat)
    (h1 : l1 ≠ some 0) (h2 : l2 ≠ some 0) (a : Allowance) :
    let s := runOps s0 ops
    ((sp.text, a) ∈ ownerListing s o l1 ((ownerPrefix s o.text).length + 1)
        ↔ (o.text, a) ∈ spenderListing s sp l2 ((spenderPrefix s sp.text).length + 1))
    ∧ ((sp.text, a) ∈ ownerListing s o l1 ((ownerPrefix s o.text).length + 1)
        ↔ s.allow.get? (o.text, sp.text) = some a)
    ∧ ((o.text, a) ∈ spenderListing s sp l2 ((spenderPrefix s sp.text).length + 1)
        ↔ s.allow.get? (o.text, sp.text) = some a)
    ∧ queryAllowance s o sp = .ok ((s.allow.get? (o.text, sp.text)).getD Allowance.default) := by
  intro s
  obtain ⟨hi, hn⟩ := reach_inv19_mixed h ops
  exact paged_views_agree_of_inv hi hn o sp ho hs l1 l2 h1 h2 (Nat.le_refl _) (Nat.le_refl _) a

/-- **C19, "also after migration", on the query functions**: migrate any pre-0.14 state without spender
map (any allowance table with distinct keys — not only those an old contract could have produced), then run
any history of execute and further `migrate` calls: the three paged/point views agree as in
`paged_views_agree`. -/
theorem paged_views_agree_migrated {s s' : State} (hsp : s.allowSp = []) (hnd : AMap.NodupKeys s.allow)
    (hv : verLt s.version.key (relKey (0, 14, 0)) = true)
    (h : migrate s = .ok s') (ops : List Op)
    (o sp : AddrArg) (ho : o.valid = true) (hs : sp.valid = true) (l1 l2 : Option Nat)
    (h1 : l1 ≠ some 0) (h2 : l2 ≠ some 0) (a : Allowance) :
    let t := runOps s' ops
    ((sp.text, a) ∈ ownerListing t o l1 ((ownerPrefix t o.text).length + 1)
        ↔ (o.text, a) ∈ spenderListing t sp l2 ((spenderPrefix t sp.text).length + 1))
    ∧ ((sp.text, a) ∈ ownerListing t o l1 ((ownerPrefix t o.text).length + 1)
        ↔ t.allow.get? (o.text, sp.text) = some a)
    ∧ ((o.text, a) ∈ spenderListing t sp l2 ((spenderPrefix t sp.text).length + 1)
        ↔ t.allow.get? (o.text, sp.text) = some a)
    ∧ queryAllowance t o sp = .ok ((t.allow.get? (o.text, sp.text)).getD Allowance.default) := by
  intro t
  obtain ⟨hi, hn⟩ := reach_inv19_migrated_mixed hsp hnd hv h ops
  exact paged_views_agree_of_inv hi hn o sp ho hs l1 l2 h1 h2 (Nat.le_refl _) (Nat.le_refl _) a

/-- **Listed pairs**: in a state with `Inv19` and distinct keys, if the completely paged owner listing shows
`(sp, a)` then the point query answers exactly `a` (amount and expiry) — also for an entry drawn down to 0,
which stays listed with its old expiry. -/
theorem listed_point_agrees {s : State} (hi : Inv19 s) (hn : Nodup19 s) (o sp : AddrArg)
    (ho : o.valid = true) (hs : sp.valid = true) (l : Option Nat) (hl : l ≠ some 0) {f : Nat}
    (hf : (ownerPrefix s o.text).length + 1 ≤ f) (a : Allowance)
    (hm : (sp.text, a) ∈ ownerListing s o l f) : queryAllowance s o sp = .ok a := by
  obtain ⟨_, h2, _, h4⟩ := paged_views_agree_of_inv hi hn o sp ho hs l l hl hl hf (Nat.le_refl _) a
  rw [h4, h2.mp hm]; rfl

/-- **Absent vs. zero**: if the completely paged owner listing has no entry for `sp` at all (never granted, or
removed by a decrease), the point query answers the default `{0, never}`, and the spender listing has no
entry for `o` either. -/
theorem unlisted_point_default {s : State} (hi : Inv19 s) (hn : Nodup19 s) (o sp : AddrArg)
    (ho : o.valid = true) (hs : sp.valid = true) (l1 l2 : Option Nat) (h1 : l1 ≠ some 0) (h2 : l2 ≠ some 0)
    {f1 f2 : Nat} (hf1 : (ownerPrefix s o.text).length + 1 ≤ f1) (hf2 : (spenderPrefix s sp.text).length + 1 ≤ f2)
    (hm : ∀ a, (sp.text, a) ∉ ownerListing s o l1 f1) :
    queryAllowance s o sp = .ok Allowance.default ∧ ∀ a, (o.text, a) ∉ spenderListing s sp l2 f2 := by
  have key := paged_views_agree_of_inv hi hn o sp ho hs l1 l2 h1 h2 hf1 hf2
  have hnone : s.allow.get? (o.text, sp.text) = none :=
    Option.eq_none_iff_forall_ne_some.mpr fun a hg => hm a ((key a).2.1.mpr hg)
  refine ⟨?_, fun a hmem => hm a ((key a).1.mpr hmem)⟩
  rw [(key Allowance.default).2.2.2, hnone]; rfl

/-- The paged listings report every pair at most once and in ascending key order (they are the sorted prefix
listings). -/
theorem paged_listings_once {s : State} (hn : Nodup19 s) (o sp : AddrArg)
    (ho : o.valid = true) (hs : sp.valid = true) (l1 l2 : Option Nat) (h1 : l1 ≠ some 0) (h2 : l2 ≠ some 0)
    {f1 f2 : Nat} (hf1 : (ownerPrefix s o.text).length + 1 ≤ f1) (hf2 : (spenderPrefix s sp.text).length + 1 ≤ f2) :
    ((ownerListing s o l1 f1).map (·.1)).Nodup ∧ ((spenderListing s sp l2 f2).map (·.1)).Nodup := by
  rw [ownerListing, spenderListing, C20.owner_allowances_complete hn.1 o ho l1 h1 hf1,
    C20.spender_allowances_complete hn.2 sp hs l2 h2 hf2]
  exact ⟨Paginate.sortedEntries_nodupKeys (ownerPrefix_nodup hn.1 _),
    Paginate.sortedEntries_nodupKeys (spenderPrefix_nodup hn.2 _)⟩

/-! ## `migrate`: when it succeeds, and what it leaves -/

/-- **C19, migration clause, applicability**: `migrate` succeeds exactly when the stored cw2 record names
this contract and its version is not newer than the code's version (2.0.0).  In particular every pre-0.14
token of this contract can be migrated. -/
theorem migrate_ok_iff (s : State) :
    (∃ s', migrate s = .ok s') ↔
      (s.version.name = CONTRACT_NAME ∧ verLt (relKey CONTRACT_VERSION) s.version.key = false) :=
  ⟨fun ⟨_, h⟩ => ⟨(migrate_ok.mp h).1, (migrate_ok.mp h).2.1⟩, fun ⟨h1, h2⟩ => ⟨_, migrate_ok.mpr ⟨h1, h2, rfl⟩⟩⟩

/-- A version below 0.14.0 is below 2.0.0: a pre-0.14 token of this contract is never refused. -/
theorem migrate_pre014_succeeds {s : State} (hname : s.version.name = CONTRACT_NAME)
    (hv : verLt s.version.key (relKey (0, 14, 0)) = true) :
    ∃ s', migrate s = .ok s' := by
  rw [migrate_ok_iff]
  refine ⟨hname, ?_⟩
  unfold verLt relKey Version.key at hv
  simp only [Bool.or_eq_true, Bool.and_eq_true, decide_eq_true_eq, beq_iff_eq] at hv
  have hmaj : s.version.major = 0 := by omega
  simp [verLt, CONTRACT_VERSION, relKey, Version.key, hmaj]

/-- **C19, migration clause, content**: a successful migration of a pre-0.14 state with distinct keys
neither loses nor alters an allowance: `ALLOWANCES` is untouched, the rebuilt `ALLOWANCES_SPENDER` holds under
`(sp, o)` exactly the entry of `(o, sp)` (or, where `ALLOWANCES` has none, what was there before), and
balances, supply and minter are untouched. -/
theorem migrate_pre014_content {s s' : State} (hnd : AMap.NodupKeys s.allow)
    (hv : verLt s.version.key (relKey (0, 14, 0)) = true)
    (h : migrate s = .ok s') :
    s'.allow = s.allow ∧ s'.balances = s.balances ∧ s'.supply = s.supply ∧ s'.mint = s.mint
    ∧ ∀ o sp, s'.allowSp.get? (sp, o) = (match s.allow.get? (o, sp) with
        | some v => some v
        | none => s.allowSp.get? (sp, o)) := by
  have e2 := (migrate_allow h).2
  obtain ⟨_, _, rfl⟩ := migrate_ok.mp h
  refine ⟨rfl, rfl, rfl, rfl, fun o sp => ?_⟩
  rw [e2, if_pos hv, get?_rebuild s.allow hnd]
  cases s.allow.get? (o, sp) <;> rfl

/-! ## Semver precedence with pre-release tags -/

/-- semver precedence of a stored version below a *release* `r` (a version without pre-release tag): a smaller
`major.minor.patch`, or the same triple carrying a pre-release tag. -/
def precedesRelease (v : Version) (r : Nat × Nat × Nat) : Prop :=
  v.major < r.1 ∨ (v.major = r.1 ∧ (v.minor < r.2.1 ∨ (v.minor = r.2.1 ∧
    (v.patch < r.2.2 ∨ (v.patch = r.2.2 ∧ v.pre.isSome = true)))))

/-- … and of a release below a stored version: a strictly smaller triple (a pre-release of the same triple is *below*
the release, never above it). -/
def releasePrecedes (r : Nat × Nat × Nat) (v : Version) : Prop :=
  r.1 < v.major ∨ (r.1 = v.major ∧ (r.2.1 < v.minor ∨ (r.2.1 = v.minor ∧ r.2.2 < v.patch)))

theorem key_lt_relKey_iff (v : Version) (r : Nat × Nat × Nat) :
    verLt v.key (relKey r) = true ↔ precedesRelease v r := by
  unfold verLt relKey Version.key precedesRelease
  simp only [Bool.or_eq_true, Bool.and_eq_true, decide_eq_true_eq, beq_iff_eq]
  cases v.pre <;> simp <;> omega

theorem relKey_lt_key_iff (v : Version) (r : Nat × Nat × Nat) :
    verLt (relKey r) v.key = true ↔ releasePrecedes r v := by
  unfold verLt relKey Version.key releasePrecedes
  simp only [Bool.or_eq_true, Bool.and_eq_true, decide_eq_true_eq, beq_iff_eq]
  cases v.pre <;> simp <;> omega

/-- `migrate_ok_iff` in words: accepted exactly when the cw2 record names this contract and the code's release 2.0.0
does not precede the stored version — so `2.0.0-beta` is accepted (and bumped), `2.0.1-alpha` is refused. -/
theorem migrate_ok_iff_precedence (s : State) :
    (∃ s', migrate s = .ok s') ↔ (s.version.name = CONTRACT_NAME ∧ ¬ releasePrecedes CONTRACT_VERSION s.version) := by
  rw [migrate_ok_iff, ← relKey_lt_key_iff]
  simp

/-- The spender listing is rebuilt exactly for stored versions that precede the release 0.14.0 in semver order
(`0.13.99`, `0.14.0-rc.1`, `0.13.0-rc.1` … — not `0.14.0`). -/
theorem migrate_rebuilds_iff_precedes_014 {s s' : State} (h : migrate s = .ok s') :
    (precedesRelease s.version (0, 14, 0) → s'.allowSp = rebuild s.allow s.allowSp) ∧
    (¬ precedesRelease s.version (0, 14, 0) → s'.allowSp = s.allowSp) := by
  rw [(migrate_allow h).2, ← key_lt_relKey_iff]
  exact ⟨fun hp => if_pos hp, fun hn => if_neg hn⟩

example : precedesRelease ⟨CONTRACT_NAME, 0, 14, 0, some "rc.1"⟩ (0, 14, 0) ∧ ¬ precedesRelease ⟨CONTRACT_NAME, 0, 14, 0, none⟩ (0, 14, 0)
    ∧ ¬ releasePrecedes CONTRACT_VERSION ⟨CONTRACT_NAME, 2, 0, 0, some "beta"⟩ ∧ releasePrecedes CONTRACT_VERSION ⟨CONTRACT_NAME, 2, 0, 1, some "alpha"⟩ := by
  simp [precedesRelease, releasePrecedes, CONTRACT_VERSION]

def exInst : InstMsg :=
  { name := "Token", symbol := "TKN", decimals := 6,
    initial := [(⟨true, "alice"⟩, 100), (⟨true, "bob"⟩, 50)], mint := none }

def exState : State :=
  { supply := 150, mint := none, balances := [("alice", 100), ("bob", 50)],
    allow := [], allowSp := [], version := ⟨CONTRACT_NAME, 2, 0, 0, none⟩ }

def exBlk : Block := ⟨100, 5000⟩

/-- Two owners, two spenders; a grant with expiry, a top-up, a draw to exactly zero (entry kept at 0),
a decrease to removal, a partial decrease with new expiry, a burn through an allowance, and a failing
draw beyond the allowance. -/
def exOps : List (Block × Addr × Msg) :=
  [ (exBlk, "alice", .increaseAllowance ⟨true, "carol"⟩ 30 (some (.atHeight 200))),
    (exBlk, "alice", .increaseAllowance ⟨true, "dave"⟩ 20 none),
    (exBlk, "bob", .increaseAllowance ⟨true, "carol"⟩ 40 none),
    (exBlk, "alice", .increaseAllowance ⟨true, "carol"⟩ 5 none),
    (exBlk, "dave", .transferFrom ⟨true, "alice"⟩ ⟨true, "dave"⟩ 20),
    (exBlk, "bob", .increaseAllowance ⟨true, "dave"⟩ 7 none),
    (exBlk, "bob", .decreaseAllowance ⟨true, "dave"⟩ 7 none),
    (exBlk, "bob", .decreaseAllowance ⟨true, "carol"⟩ 10 (some (.atTime 9000))),
    (exBlk, "carol", .burnFrom ⟨true, "alice"⟩ 15),
    (exBlk, "carol", .sendFrom ⟨true, "alice"⟩ ⟨true, "bob"⟩ 21 "x") ]

example : instantiate exInst = .ok exState := by rfl

/-- The history leaves non-trivial, mirrored tables (note the zero entry for alice/dave and the
removed bob/dave). -/
example : (run exState exOps).allow =
      [(("alice", "carol"), ⟨20, .atHeight 200⟩), (("alice", "dave"), ⟨0, .never⟩), (("bob", "carol"), ⟨30, .atTime 9000⟩)]
    ∧ (run exState exOps).allowSp =
      [(("carol", "alice"), ⟨20, .atHeight 200⟩), (("dave", "alice"), ⟨0, .never⟩), (("carol", "bob"), ⟨30, .atTime 9000⟩)] := by
  decide +kernel

/-- All three views of one pair on that state. -/
example : queryAllowance (run exState exOps) ⟨true, "alice"⟩ ⟨true, "carol"⟩ = .ok ⟨20, .atHeight 200⟩
    ∧ (ownerPrefix (run exState exOps) "alice").get? "carol" = some ⟨20, .atHeight 200⟩
    ∧ (spenderPrefix (run exState exOps) "carol").get? "alice" = some ⟨20, .atHeight 200⟩
    ∧ spenderPrefix (run exState exOps) "carol" = [("alice", ⟨20, .atHeight 200⟩), ("bob", ⟨30, .atTime 9000⟩)]
    ∧ ownerPrefix (run exState exOps) "alice" = [("carol", ⟨20, .atHeight 200⟩), ("dave", ⟨0, .never⟩)] :=
  ⟨rfl, by decide, by decide, by decide, by decide⟩

example : Inv19 (run exState exOps) ∧ Nodup19 (run exState exOps) := reach_inv19 (m := exInst) rfl exOps

/-- A pre-0.14 state as the legacy contract left it: three allowances, no spender map. -/
def exLegacy : State :=
  { supply := 150, mint := none, balances := [("alice", 100), ("bob", 50)],
    allow := [(("alice", "carol"), ⟨20, .atHeight 200⟩), (("bob", "carol"), ⟨30, .never⟩), (("alice", "bob"), ⟨0, .atTime 1⟩)],
    allowSp := [], version := ⟨CONTRACT_NAME, 0, 13, 4, none⟩ }

def exMigrated : State :=
  { exLegacy with
    allowSp := [(("carol", "alice"), ⟨20, .atHeight 200⟩), (("carol", "bob"), ⟨30, .never⟩), (("bob", "alice"), ⟨0, .atTime 1⟩)],
    version := ⟨CONTRACT_NAME, 2, 0, 0, none⟩ }

/-- The hypotheses of `migrate_pre014_establishes` hold for `exLegacy`, and the views disagree before
the migration (so the theorem is not about an invariant that holds anyway). -/
theorem exLegacy_nodup : AMap.NodupKeys exLegacy.allow := by
  show (AMap.keys exLegacy.allow).Nodup
  decide +kernel

example : exLegacy.allowSp = [] ∧ AMap.NodupKeys exLegacy.allow
    ∧ verLt exLegacy.version.key (relKey (0, 14, 0)) = true :=
  ⟨rfl, exLegacy_nodup, by decide +kernel⟩
example : migrate exLegacy = .ok exMigrated := by rfl
example : ¬ Inv19 exLegacy := fun h => absurd (h "alice" "carol") (by decide +kernel)
example : Inv19 exMigrated ∧ Nodup19 exMigrated :=
  migrate_pre014_establishes (s := exLegacy) rfl exLegacy_nodup (by decide +kernel) rfl

/-- Migration is refused from a newer version and for another contract; from 1.1.0 it succeeds
without rebuilding. -/
example : (migrate { exLegacy with version := ⟨CONTRACT_NAME, 2, 0, 1, none⟩ }).isOk = false
    ∧ (migrate { exLegacy with version := ⟨"crates.io:other", 0, 13, 4, none⟩ }).isOk = false
    ∧ (migrate { exMigrated with version := ⟨CONTRACT_NAME, 1, 1, 0, none⟩ }).isOk = true := by decide +kernel

/-- Pre-release tags: `0.13.0-rc.1` and `0.14.0-beta` are below 0.14.0 (the spender map is rebuilt), `2.0.0-beta` is
below the code's 2.0.0 (accepted, no rebuild, version bumped), and no pre-release of a later version is accepted. -/
example : verLt (⟨CONTRACT_NAME, 0, 13, 0, some "rc.1"⟩ : Version).key (relKey (0, 14, 0)) = true
    ∧ verLt (⟨CONTRACT_NAME, 0, 14, 0, some "beta"⟩ : Version).key (relKey (0, 14, 0)) = true
    ∧ verLt (⟨CONTRACT_NAME, 0, 14, 0, none⟩ : Version).key (relKey (0, 14, 0)) = false
    ∧ (match migrate { exMigrated with version := ⟨CONTRACT_NAME, 2, 0, 0, some "beta"⟩ } with
        | .ok s => decide (s.version = ⟨CONTRACT_NAME, 2, 0, 0, none⟩ ∧ s.allowSp = exMigrated.allowSp)
        | .error _ => false) = true
    ∧ (migrate { exMigrated with version := ⟨CONTRACT_NAME, 2, 0, 1, some "alpha"⟩ }).isOk = false := by decide +kernel

/-- The distinct-keys hypothesis of `migrate_pre014_establishes` cannot be dropped in the model: an
association list with a repeated key (impossible in a storage map) is looked up first-match but
rebuilt last-write-wins. -/
example : let s : State := { exLegacy with allow := [(("a", "b"), ⟨1, .never⟩), (("a", "b"), ⟨2, .never⟩)] }
    ∃ s', migrate s = .ok s' ∧ s'.allow.get? ("a", "b") ≠ s'.allowSp.get? ("b", "a") :=
  ⟨_, rfl, by decide +kernel⟩

/-- A mixed history on the migrated legacy state: a draw, a second (no-op) `migrate`, a top-up. -/
def exMixed : List Op :=
  [ .exec exBlk "carol" (.transferFrom ⟨true, "alice"⟩ ⟨true, "carol"⟩ 20),
    .migrate,
    .exec exBlk "bob" (.increaseAllowance ⟨true, "carol"⟩ 1 (some (.atHeight 101))) ]

example : (runOps exMigrated exMixed).allow.get? ("alice", "carol") = some ⟨0, .atHeight 200⟩
    ∧ (runOps exMigrated exMixed).allowSp.get? ("carol", "alice") = some ⟨0, .atHeight 200⟩
    ∧ (runOps exMigrated exMixed).allowSp.get? ("carol", "bob") = some ⟨31, .atHeight 101⟩ := by decide +kernel

example : Inv19 (runOps exMigrated exMixed) ∧ Nodup19 (runOps exMigrated exMixed) :=
  reach_inv19_migrated_mixed (s := exLegacy) rfl exLegacy_nodup (by decide +kernel) rfl exMixed

/-! ### Non-vacuity of the paged-view theorems -/

/-- `paged_views_agree` on the example history: owner listing paged one entry at a time, spender listing
with the default page size; the pair alice/carol is reported by both with `{20, height 200}`, which is
also the point query's answer. -/
example : ("carol", ⟨20, .atHeight 200⟩) ∈ ownerListing (run exState exOps) ⟨true, "alice"⟩ (some 1)
        ((ownerPrefix (run exState exOps) "alice").length + 1)
    ∧ ("alice", ⟨20, .atHeight 200⟩) ∈ spenderListing (run exState exOps) ⟨true, "carol"⟩ none
        ((spenderPrefix (run exState exOps) "carol").length + 1)
    ∧ queryAllowance (run exState exOps) ⟨true, "alice"⟩ ⟨true, "carol"⟩ = .ok ⟨20, .atHeight 200⟩ := by
  have h := paged_views_agree (m := exInst) rfl exOps ⟨true, "alice"⟩ ⟨true, "carol"⟩ rfl rfl (some 1) none
    (by decide) (by decide) ⟨20, .atHeight 200⟩
  exact ⟨h.2.1.mpr (by decide), h.2.2.1.mpr (by decide), rfl⟩

/-- The paged owner listing of alice, computed: two requests of one entry each and the empty page.  The entry
drawn to zero (dave) stays listed. -/
example : ownerListing (run exState exOps) ⟨true, "alice"⟩ (some 1) 3
    = [("carol", ⟨20, .atHeight 200⟩), ("dave", ⟨0, .never⟩)] := by
  have hp : ownerPrefix (run exState exOps) "alice" = [("carol", ⟨20, .atHeight 200⟩), ("dave", ⟨0, .never⟩)] := by
    decide +kernel
  have hn := (reach_inv19 (m := exInst) (s := exState) rfl exOps).2
  rw [ownerListing, CwPlus.Props.C20.owner_allowances_complete hn.1 ⟨true, "alice"⟩ rfl (some 1) (by decide +kernel)
    (by rw [hp]; decide +kernel)]
  show Paginate.sortedEntries Paginate.strLt (ownerPrefix (run exState exOps) "alice") = _
  rw [hp]
  exact Paginate.sortedEntries_of_sorted Paginate.strictTotal_strLt (by unfold Paginate.Sorted; decide +kernel)

/-- `unlisted_point_default` on the example history: bob/dave was removed by a full decrease — no entry in
either paged listing, point query `{0, never}`. -/
example : queryAllowance (run exState exOps) ⟨true, "bob"⟩ ⟨true, "dave"⟩ = .ok Allowance.default
    ∧ ∀ a, ("bob", a) ∉ spenderListing (run exState exOps) ⟨true, "dave"⟩ (some 2)
        ((spenderPrefix (run exState exOps) "dave").length + 1) := by
  obtain ⟨hi, hn⟩ := reach_inv19 (m := exInst) (s := exState) rfl exOps
  have hnone : (run exState exOps).allow.get? ("bob", "dave") = none := by decide +kernel
  refine unlisted_point_default hi hn ⟨true, "bob"⟩ ⟨true, "dave"⟩ rfl rfl (some 3) (some 2) (by decide +kernel) (by decide +kernel)
    (Nat.le_refl _) (Nat.le_refl _) fun a hm => ?_
  cases hnone.symm.trans ((paged_views_agree_of_inv hi hn ⟨true, "bob"⟩ ⟨true, "dave"⟩ rfl rfl (some 3) (some 2)
    (by decide +kernel) (by decide +kernel) (Nat.le_refl _) (Nat.le_refl _) a).2.1.mp hm)

/-- `paged_views_agree_migrated` on the legacy state followed by the mixed history. -/
example : ("bob", ⟨31, .atHeight 101⟩) ∈ spenderListing (runOps exMigrated exMixed) ⟨true, "carol"⟩ (some 1)
      ((spenderPrefix (runOps exMigrated exMixed) "carol").length + 1) := by
  have h := paged_views_agree_migrated (s := exLegacy) rfl exLegacy_nodup (by decide) rfl exMixed
    ⟨true, "bob"⟩ ⟨true, "carol"⟩ rfl rfl none (some 1) (by decide) (by decide) ⟨31, .atHeight 101⟩
  exact h.2.2.1.mpr (by decide)

/-- `migrate_ok_iff` / `migrate_pre014_succeeds` / `migrate_pre014_content` on the legacy state. -/
example : exLegacy.version.name = CONTRACT_NAME
    ∧ verLt (relKey CONTRACT_VERSION) exLegacy.version.key = false := by decide +kernel
example : ∃ s', migrate exLegacy = .ok s' := migrate_pre014_succeeds rfl (by decide +kernel)
example : exMigrated.allowSp.get? ("carol", "bob") = some ⟨30, .never⟩ ∧ exMigrated.allow = exLegacy.allow := by
  obtain ⟨h1, _, _, _, h5⟩ := migrate_pre014_content (s := exLegacy) (s' := exMigrated) exLegacy_nodup (by decide) rfl
  exact ⟨(h5 "bob" "carol").trans (by decide), h1⟩

end CwPlus.Props.C19
