import CwPlus.Model.Cw20
/-!
Helper lemmas for C19 about pair-keyed maps: mirrored maps (`(a,b) ↦ v` in one, `(b,a) ↦ v` in the
other), the `foldl … set` of `migrate` that rebuilds the mirror, and prefix views.  Core only.
-/
namespace CwPlus.Lemmas.Cw20Allow
open CwPlus

variable {ν : Type}

/-- `b` holds under `(y, x)` exactly what `a` holds under `(x, y)`. -/
def Mirror (a b : AMap (Addr × Addr) ν) : Prop := ∀ x y, a.get? (x, y) = b.get? (y, x)

theorem mirror_nil : Mirror ([] : AMap (Addr × Addr) ν) [] := fun _ _ => rfl

theorem mirror_set {a b : AMap (Addr × Addr) ν} (h : Mirror a b) (x y : Addr) (v : ν) :
    Mirror (a.set (x, y) v) (b.set (y, x) v) := by
  intro x' y'
  rw [AMap.get?_set, AMap.get?_set, h x' y']
  by_cases e : x = x' ∧ y = y'
  · obtain ⟨rfl, rfl⟩ := e; simp
  · have e1 : ¬ (x, y) = (x', y') := by simpa using e
    have e2 : ¬ (y, x) = (y', x') := by
      intro he; simp at he; exact e ⟨he.2, he.1⟩
    simp [e1, e2]

theorem mirror_erase {a b : AMap (Addr × Addr) ν} (h : Mirror a b) (x y : Addr) :
    Mirror (a.erase (x, y)) (b.erase (y, x)) := by
  intro x' y'
  rw [AMap.get?_erase, AMap.get?_erase, h x' y']
  by_cases e : x = x' ∧ y = y'
  · obtain ⟨rfl, rfl⟩ := e; simp
  · have e1 : ¬ (x, y) = (x', y') := by simpa using e
    have e2 : ¬ (y, x) = (y', x') := by
      intro he; simp at he; exact e ⟨he.2, he.1⟩
    simp [e1, e2]

/-- The loop of `migrate`: save every entry of `l` under the swapped key. -/
def rebuild (l acc : AMap (Addr × Addr) ν) : AMap (Addr × Addr) ν :=
  l.foldl (fun acc (p : (Addr × Addr) × ν) => acc.set (p.1.2, p.1.1) p.2) acc

/-- What the rebuilt map holds: the entry of `l` under the swapped key if there is one, otherwise what
the accumulator held.  Needs distinct keys in `l` (a storage map has them): lookups are first-match,
the loop is last-write-wins. -/
theorem get?_rebuild (l : AMap (Addr × Addr) ν) (hnd : AMap.NodupKeys l) (acc : AMap (Addr × Addr) ν) (x y : Addr) :
    (rebuild l acc).get? (y, x) = (l.get? (x, y)).or (acc.get? (y, x)) := by
  induction l generalizing acc with
  | nil => simp [rebuild]
  | cons p rest ih =>
    obtain ⟨⟨x', y'⟩, v⟩ := p
    obtain ⟨hk, hr⟩ : (x', y') ∉ AMap.keys rest ∧ AMap.NodupKeys rest := List.nodup_cons.mp hnd
    have := ih hr (acc.set (y', x') v)
    simp only [rebuild, List.foldl_cons] at this ⊢
    rw [this]
    by_cases e : x' = x ∧ y' = y
    · obtain ⟨rfl, rfl⟩ := e
      have hn : AMap.get? rest (x', y') = none := AMap.get?_eq_none_iff.mpr hk
      simp [AMap.get?, hn]
    · have e1 : ¬ (x', y') = (x, y) := by simpa using e
      have e2 : (y', x') ≠ (y, x) := by
        intro he; simp at he; exact e ⟨he.2, he.1⟩
      simp [AMap.get?, e1, AMap.get?_set_ne _ _ _ _ e2]

theorem nodup_rebuild (l acc : AMap (Addr × Addr) ν) (h : AMap.NodupKeys acc) : AMap.NodupKeys (rebuild l acc) := by
  induction l generalizing acc with
  | nil => exact h
  | cons p rest ih => exact ih _ (AMap.nodup_set h)

theorem mirror_rebuild_nil (l : AMap (Addr × Addr) ν) (hnd : AMap.NodupKeys l) : Mirror l (rebuild l []) := by
  intro x y
  rw [get?_rebuild l hnd]; simp

theorem mirror_rebuild_of_mirror (l acc : AMap (Addr × Addr) ν) (hnd : AMap.NodupKeys l) (h : Mirror l acc) :
    Mirror l (rebuild l acc) := by
  intro x y
  rw [get?_rebuild l hnd, ← h x y]
  cases AMap.get? l (x, y) <;> simp

/-- Looking `b` up in `Map::prefix(a)` (the entries whose first key component is `a`, keyed by the second
component: `ownerPrefix`, `spenderPrefix`) is looking `(a, b)` up in the map. -/
theorem get?_prefix (m : AMap (Addr × Addr) ν) (a b : Addr) :
    AMap.get? ((m.filter (fun p => p.1.1 = a)).map (fun p => (p.1.2, p.2)) : AMap Addr ν) b = m.get? (a, b) := by
  induction m with
  | nil => rfl
  | cons p rest ih =>
    obtain ⟨⟨x, y⟩, v⟩ := p
    by_cases hx : x = a
    · subst hx
      by_cases hy : y = b
      · subst hy; simp [AMap.get?]
      · have : ¬ (x, y) = (x, b) := by simpa using hy
        simp [AMap.get?, hy, this, ih]
    · have : ¬ (x, y) = (a, b) := by intro e; simp at e; exact hx e.1
      simp [AMap.get?, hx, this, ih]

theorem prefix_nodup (m : AMap (Addr × Addr) ν) (a : Addr) (hm : AMap.NodupKeys m) :
    AMap.NodupKeys ((m.filter (fun p => p.1.1 = a)).map (fun p => (p.1.2, p.2))) := by
  unfold AMap.NodupKeys AMap.keys List.Nodup at *
  rw [List.map_map, List.pairwise_map]
  rw [List.pairwise_map] at hm
  have h1 := List.Pairwise.filter (fun p => decide (p.1.1 = a)) hm
  rw [List.pairwise_iff_forall_sublist] at h1 ⊢
  intro x y hxy
  have hx : x.1.1 = a := by
    have := hxy.subset (List.mem_cons_self ..); simpa using (List.mem_filter.mp this).2
  have hy : y.1.1 = a := by
    have := hxy.subset (List.mem_cons_of_mem _ (List.mem_cons_self ..)); simpa using (List.mem_filter.mp this).2
  have := h1 hxy
  intro e
  apply this
  exact Prod.ext (hx.trans hy.symm) e

end CwPlus.Lemmas.Cw20Allow
