import CwPlus.Lemmas.Cw3FlexNodup
import CwPlus.Lemmas.Cw3Flex
import CwPlus.Props.C03
import CwPlus.Props.C15
import CwPlus.Props.C05Flex
import CwPlus.Lemmas.Cw3FlexAt
import CwPlus.Props.C06Flex
/-!
# C03 (cw3-flex part) — the status reported for a proposal is the outcome implied by its ballots

The cw3-flex instances of the cw3-fixed theorems of `Props/C03.lean`; `ballotTally` and `Outcome` (the library's
decision applied to the recorded ballots, the proposal's threshold, its recorded total weight and its expiry) are
the definitions of that file.  For cw3-flex the recorded total is the one `Propose` stored (see C06 for how it
relates to the group's snapshot).

Premise of the *meaning* of `Outcome` as "the documented cw3 rule": tally ≤ total (C06).  For cw3-flex that premise
can fail only in the same-block situation tracked under C06 (D3); `status_eq_outcome`, `execute_admits_iff_outcome`,
`close_admits_iff_outcome` and the Yes-weight theorems do not need it — they state that queries, `Execute` and `Close`
all follow the library's decision on the recorded ballots, whatever the total.  The theorems that read the decision
as the exact rule or justify a sticky status (`status_eq_exact_outcome`, `status_exact_outcome_within_one`,
`passed_justified`, `rejected_justified`, `rejected_when_stored`) take the premise of C04 for the proposal at hand as
an explicit hypothesis `C04.Premise …`: recorded ballots ≤ recorded total (false only inside D3), recorded total in
`u64`, threshold valid for the recorded total (for `AbsoluteCount` false once the group has shrunk below the count:
`C04.count_above_total`).
-/
namespace CwPlus.Props.C03Flex
open CwPlus CwPlus.Cw3 CwPlus.Cw3Core CwPlus.Cw3Flex CwPlus.Props CwPlus.Props.C03

/-- In a reachable world the stored tally of every proposal is the per-option sum of its recorded ballots. -/
theorem tally_is_ballots {ext : Ext} {fuel : Nat} {w : World} (hr : Reachable ext fuel w) {id : Nat} {p : Proposal}
    (hp : w.flex.core.proposals.get? id = some p) : p.votes = tallyOf (ballotsOf w.flex.core id) :=
  (reachable_inv hr).wf.tally id p hp

theorem tally_eq_ballotTally {ext : Ext} {fuel : Nat} {w : World} (hr : Reachable ext fuel w) {id : Nat} {p : Proposal}
    (hp : w.flex.core.proposals.get? id = some p) (ho : p.status = .open) :
    p.tally = ballotTally p (ballotsOf w.flex.core id) :=
  C03.tally_eq_ballotTally_inv (reachable_inv hr).wf hp ho

/-- **Status = outcome of the ballots.**  For every reachable world, every proposal and every query block:
stored Open ⇒ the reported status is `Outcome` of the recorded ballots at that block; stored Passed / Rejected /
Executed ⇒ the reported status is the stored one (sticky). -/
theorem status_eq_outcome {ext : Ext} {fuel : Nat} {w : World} (hr : Reachable ext fuel w) {id : Nat} {p : Proposal}
    (hp : w.flex.core.proposals.get? id = some p) (blk : Block) :
    (Cw3Flex.queryProposal w.flex blk id).map (·.status) =
      if p.status = .open then Outcome p (ballotsOf w.flex.core id) blk else .ok p.status := by
  rw [Cw3Flex.queryProposal, query_status _ _ _ _ hp]
  exact C03.currentStatus_eq_outcome (reachable_inv hr).wf hp blk

/-- **C03 for the list queries** (`ListProposals`, `ReverseProposals`), cw3-flex: in every reachable world, whenever a
listing answers, every listed entry is a stored proposal under its id and the status listed for it is the `Outcome` of
its recorded ballots at the query block if it is stored Open, and the stored status otherwise — the same as the point
query reports (`status_eq_outcome`). -/
theorem listed_status_eq_outcome {ext : Ext} {fuel : Nat} {w : World} (hr : Reachable ext fuel w) (blk : Block)
    (cur limit : Option Nat) {vs : List ProposalView}
    (h : Cw3Flex.listProposals w.flex blk cur limit = .ok vs ∨ Cw3Flex.reverseProposals w.flex blk cur limit = .ok vs) :
    ∀ v ∈ vs, ∃ p, w.flex.core.proposals.get? v.id = some p ∧
      (Except.ok v.status : Res Status) =
        if p.status = .open then Outcome p (ballotsOf w.flex.core v.id) blk else .ok p.status := by
  intro v hv
  obtain ⟨p, hp, hst⟩ := listings_status_core (Cw3Flex.reachable_nodup hr) blk cur limit h v hv
  refine ⟨p, hp, ?_⟩
  rw [← status_eq_outcome hr hp blk, Cw3Flex.queryProposal, query_status _ _ _ _ hp, hst]

/-- **Execute is admitted iff Passed and authorised, for every state satisfying `Inv`** — in particular the
intermediate states inside `dispatch` (`dispatch_inv` preserves `Inv`), so re-entrant `selfExecute` is covered. -/
theorem execute_admits_iff_outcome_inv {s : State} (hi : Inv s) (g : Cw4Group.State)
    (self : Addr) (blk : Block) (snd : Addr) (funds : List Coin) (id : Nat) :
    (Cw3Flex.execute s g self blk snd funds (.execute id)).isOk = true ↔
      ∃ p, s.core.proposals.get? id = some p ∧ authorize s.cfg g snd = true ∧
        (p.status = .passed ∨ (p.status = .open ∧ Outcome p (ballotsOf s.core id) blk = .ok .passed)) := by
  rw [CwPlus.Props.C05Flex.execute_ok_iff]
  refine exists_congr fun p => and_congr_right fun hp => ?_
  rw [C03.currentStatus_eq_outcome hi.wf hp, and_comm]
  by_cases ho : p.status = .open <;> simp [ho]

/-- **Close is admitted iff expired and not Passed, for every state satisfying `Inv`** (also mid-dispatch). -/
theorem close_admits_iff_outcome_inv {s : State} (hi : Inv s) (g : Cw4Group.State)
    (self : Addr) (blk : Block) (snd : Addr) (funds : List Coin) (id : Nat) :
    (Cw3Flex.execute s g self blk snd funds (.close id)).isOk = true ↔
      ∃ p, s.core.proposals.get? id = some p ∧ p.status = .open ∧ p.expires.isExpired blk = true ∧
        Outcome p (ballotsOf s.core id) blk = .ok .rejected := by
  rw [CwPlus.Props.C05Flex.close_ok_iff hi]
  refine exists_congr fun p => ?_
  constructor
  · rintro ⟨st, hp, ho, hst, hne, hexp⟩
    rw [C03.currentStatus_eq_outcome hi.wf hp, if_pos ho] at hst
    rcases expired_status (t := ballotTally p _) rfl hexp hst with rfl | rfl
    · exact absurd rfl hne
    · exact ⟨hp, ho, hexp, hst⟩
  · rintro ⟨hp, ho, hexp, hout⟩
    refine ⟨.rejected, hp, ho, ?_, by simp, hexp⟩
    rw [C03.currentStatus_eq_outcome hi.wf hp, if_pos ho]; exact hout

/-- **Execute is admitted iff Passed** (and the sender is authorised): in a reachable world Execute succeeds exactly
when the proposal is stored Passed, or stored Open with `Outcome` of its recorded ballots = Passed at the call's
block, and the executor rule admits the sender. -/
theorem execute_admits_iff_outcome {ext : Ext} {fuel : Nat} {w : World} (hr : Reachable ext fuel w) (g : Cw4Group.State)
    (self : Addr) (blk : Block) (snd : Addr) (funds : List Coin) (id : Nat) :
    (Cw3Flex.execute w.flex g self blk snd funds (.execute id)).isOk = true ↔
      ∃ p, w.flex.core.proposals.get? id = some p ∧ authorize w.flex.cfg g snd = true ∧
        (p.status = .passed ∨ (p.status = .open ∧ Outcome p (ballotsOf w.flex.core id) blk = .ok .passed)) :=
  execute_admits_iff_outcome_inv (reachable_inv hr) g self blk snd funds id

/-- **Close is admitted iff expired and not Passed**: in a reachable world Close succeeds (for anybody, with any
group state and funds) exactly when the proposal is stored Open, has expired, and the outcome of its recorded
ballots at the call's block is not Passed — then it is Rejected. -/
theorem close_admits_iff_outcome {ext : Ext} {fuel : Nat} {w : World} (hr : Reachable ext fuel w) (g : Cw4Group.State)
    (self : Addr) (blk : Block) (snd : Addr) (funds : List Coin) (id : Nat) :
    (Cw3Flex.execute w.flex g self blk snd funds (.close id)).isOk = true ↔
      ∃ p, w.flex.core.proposals.get? id = some p ∧ p.status = .open ∧ p.expires.isExpired blk = true ∧
        Outcome p (ballotsOf w.flex.core id) blk = .ok .rejected :=
  close_admits_iff_outcome_inv (reachable_inv hr) g self blk snd funds id

/-! ## the status is the EXACT documented rule (C03 × C04), inside the premise -/

/-- **Status = the exact documented rule** (cw3-flex instance of `C03.status_eq_exact_outcome`; thresholds / quorums
with at most 9 decimals).  Hypothesis `hprem`: the premise of C04 for the recorded ballots and the recorded total
— ballots ≤ total holds outside the known same-block finding of C06.  Then for a proposal stored Open the query
answers at every block and reports Passed exactly when the recorded Yes weight is positive and the documented
rule holds in exact cross-multiplied integer arithmetic for every completion of the outstanding votes (after
expiry: for the recorded ballots); Rejected only if expired without passing or no completion can pass; Open
otherwise and only before expiry. -/
theorem status_eq_exact_outcome {ext : Ext} {fuel : Nat} {w : World} (hr : Reachable ext fuel w) {id : Nat} {p : Proposal}
    (hp : w.flex.core.proposals.get? id = some p) (ho : p.status = .open)
    (hprem : C04.Premise (ballotTally p (ballotsOf w.flex.core id))) (h9 : C04.nineDecimals p.threshold) (blk : Block) :
    ∃ st, (Cw3Flex.queryProposal w.flex blk id).map (·.status) = .ok st ∧
      (st = .passed ↔ 0 < sumK .yes (ballotsOf w.flex.core id) ∧
        CertainBy C04.exactPasses p.threshold p.totalWeight (tallyOf (ballotsOf w.flex.core id)) (p.expires.isExpired blk)) ∧
      (st = .rejected →
        HopelessBy C04.exactPasses p.threshold p.totalWeight (tallyOf (ballotsOf w.flex.core id)) (p.expires.isExpired blk)) ∧
      (st = .open → p.expires.isExpired blk = false) ∧
      (st = .open ∨ st = .passed ∨ st = .rejected) := by
  rw [status_eq_outcome hr hp, if_pos ho]
  exact exact_outcome9 (t := ballotTally p (ballotsOf w.flex.core id)) rfl hprem h9 blk

/-- … and for thresholds with up to 18 digits: never stricter than the exact rule, at most one vote more
permissive (`C04.laxPasses`). -/
theorem status_exact_outcome_within_one {ext : Ext} {fuel : Nat} {w : World} (hr : Reachable ext fuel w) {id : Nat}
    {p : Proposal} (hp : w.flex.core.proposals.get? id = some p) (ho : p.status = .open)
    (hprem : C04.Premise (ballotTally p (ballotsOf w.flex.core id))) (blk : Block) :
    ∃ st, (Cw3Flex.queryProposal w.flex blk id).map (·.status) = .ok st ∧
      (CertainBy C04.exactPasses p.threshold p.totalWeight (tallyOf (ballotsOf w.flex.core id)) (p.expires.isExpired blk) →
        st = .passed) ∧
      (st = .passed → 0 < sumK .yes (ballotsOf w.flex.core id) ∧
        CertainBy C04.laxPasses p.threshold p.totalWeight (tallyOf (ballotsOf w.flex.core id)) (p.expires.isExpired blk)) ∧
      (st = .rejected →
        HopelessBy C04.exactPasses p.threshold p.totalWeight (tallyOf (ballotsOf w.flex.core id)) (p.expires.isExpired blk)) ∧
      (st = .open → p.expires.isExpired blk = false) ∧
      (st = .open ∨ st = .passed ∨ st = .rejected) := by
  rw [status_eq_outcome hr hp, if_pos ho]
  exact exact_outcome18 (t := ballotTally p (ballotsOf w.flex.core id)) rfl hprem blk

/-! ## a stored Passed / Rejected is justified by the recorded ballots, inside the premise -/

/-- On histories whose blocks never go back every stored Passed / Rejected whose tally is inside the premise of
C04 is backed by that tally at the block of the last transaction and at every later block. -/
theorem reachableAt_decided {ext : Ext} {fuel : Nat} {w : World} {b : Block} (h : ReachableAt ext fuel w b) :
    Inv w.flex ∧ AllP (fun _ p => DecidedOk b p) w.flex.core := by
  refine reachableAt_inv (fun b s => Inv s ∧ AllP (fun _ p => DecidedOk b p) s.core) ?_ ?_ ?_ h
  · intro b b2 s hb ⟨hi, ha⟩
    exact ⟨hi, fun id p hp => decidedOk_mono hb (ha id p hp)⟩
  · intro b s g self snd funds m s' out ⟨hi, ha⟩ he
    exact ⟨execute_inv hi he, allP_step hi.wf (fun _ _ _ hold hs => decidedOk_step hold hs) ha (execute_coreStep he)⟩
  · intro m g s b hi
    exact ⟨instantiate_inv hi, by rw [instantiate_core hi]; exact allP_empty _⟩

/-- **A stored Passed is justified** (cw3-flex instance of `C03.passed_justified`): on every history whose blocks
never go back, for a proposal stored Passed whose recorded ballots are inside the premise of C04 (`hprem`, about
the final world only), the outcome implied by its currently recorded ballots is Passed at the block of the last
transaction and at every later block — later votes on a Passed proposal and the passage of time never
contradict the stored status. -/
theorem passed_justified {ext : Ext} {fuel : Nat} {w : World} {b : Block} (hr : ReachableAt ext fuel w b) {id : Nat}
    {p : Proposal} (hp : w.flex.core.proposals.get? id = some p) (hs : p.status = .passed)
    (hprem : C04.Premise (ballotTally p (ballotsOf w.flex.core id))) {b' : Block} (hb : C04.later b b') :
    Outcome p (ballotsOf w.flex.core id) b' = .ok .passed := by
  obtain ⟨hi, ha⟩ := reachableAt_decided hr
  have e := ballotTally_eq_openT (hi.wf.tally id p hp)
  unfold Outcome; rw [e]
  exact cs_passed_of_isPassed rfl ((ha id p hp (e ▸ hprem)).1 hs b' hb)

/-- Hence, inside the premise, whenever Execute succeeds at or after the block of the last transaction the
outcome implied by the recorded ballots at that block is Passed: no proposal becomes executable with a Yes share
below its threshold. -/
theorem executable_implies_outcome_passed {ext : Ext} {fuel : Nat} {w : World} {b : Block} (hr : ReachableAt ext fuel w b)
    {b' : Block} (hb : C04.later b b') {g : Cw4Group.State} {self snd : Addr} {funds : List Coin} {id : Nat}
    (hprem : ∀ p, w.flex.core.proposals.get? id = some p → C04.Premise (ballotTally p (ballotsOf w.flex.core id)))
    (h : (Cw3Flex.execute w.flex g self b' snd funds (.execute id)).isOk = true) :
    ∃ p, w.flex.core.proposals.get? id = some p ∧ Outcome p (ballotsOf w.flex.core id) b' = .ok .passed := by
  obtain ⟨p, hp, _, hs | ⟨_, hout⟩⟩ := (execute_admits_iff_outcome hr.reachable g self b' snd funds id).mp h
  · exact ⟨p, hp, passed_justified hr hp hs (hprem p hp) hb⟩
  · exact ⟨p, hp, hout⟩

/-- **A stored Rejected is justified** (cw3-flex instance of `C03.rejected_justified`): on every history whose
blocks never go back, for a proposal stored Rejected whose recorded ballots are inside the premise of C04, the
outcome implied by its currently recorded ballots is Rejected at the block of the last transaction and at every
later block `b'`, and at each such block either it has expired and the recorded ballots fail the rule, or it has
not and no completion of the outstanding votes can pass. -/
theorem rejected_justified {ext : Ext} {fuel : Nat} {w : World} {b : Block} (hr : ReachableAt ext fuel w b) {id : Nat}
    {p : Proposal} (hp : w.flex.core.proposals.get? id = some p) (hs : p.status = .rejected)
    (hprem : C04.Premise (ballotTally p (ballotsOf w.flex.core id))) {b' : Block} (hb : C04.later b b') :
    Outcome p (ballotsOf w.flex.core id) b' = .ok .rejected ∧
    HopelessBy C04.libPasses p.threshold p.totalWeight (tallyOf (ballotsOf w.flex.core id)) (p.expires.isExpired b') ∧
    HopelessBy C04.exactPasses p.threshold p.totalWeight (tallyOf (ballotsOf w.flex.core id)) (p.expires.isExpired b') := by
  obtain ⟨hi, ha⟩ := reachableAt_decided hr
  have e := ballotTally_eq_openT (hi.wf.tally id p hp)
  have hout : Outcome p (ballotsOf w.flex.core id) b' = .ok .rejected := by
    unfold Outcome; rw [e]; exact (ha id p hp (e ▸ hprem)).2 hs b' hb
  exact ⟨hout, rejected_hopeless (t := ballotTally p (ballotsOf w.flex.core id)) rfl hprem hout⟩

/-- … and at the moment it is stored: whenever a flex handler call at block `b` leaves a proposal stored Rejected
that was not stored Rejected before, and its tally is inside the premise, then at `b` either the proposal has
expired and its tally fails the rule, or no completion of the then outstanding votes can pass. -/
theorem rejected_when_stored {s s' : State} {g : Cw4Group.State} {self : Addr} {b : Block} {snd : Addr} {funds : List Coin}
    {m : ExecMsg} {out : List Out} (hi : Inv s) (h : Cw3Flex.execute s g self b snd funds m = .ok (s', out))
    {id : Nat} {p' : Proposal} (hp' : s'.core.proposals.get? id = some p') (hs : p'.status = .rejected)
    (hnew : ∀ p, s.core.proposals.get? id = some p → p.status ≠ .rejected) (hprem : C04.Premise (openT p')) :
    HopelessBy C04.libPasses p'.threshold p'.totalWeight p'.votes (p'.expires.isExpired b) ∧
    HopelessBy C04.exactPasses p'.threshold p'.totalWeight p'.votes (p'.expires.isExpired b) := by
  have hst := propStep_stores_rejected (coreStep_prop hi.wf (execute_coreStep h) hp') hs hnew
  exact rejected_hopeless (t := openT p') rfl hprem hst

/-! ## the premise discharged from the history: the `…_reachable` corollaries

`C06Flex.ReachableSnap` = histories with non-decreasing blocks on a cw4-group that satisfies the cw4-group invariant
(C09).  `CleanStart w.log id p.startHeight` = in the ghost log no group write in the proposal's own block precedes its
`Propose` — the exact complement of the known same-block finding (D3).  Under that guard the premise of C04 holds for
the recorded ballots of the proposal in every such world, so the meaning theorems above hold WITHOUT `hprem`. -/

open CwPlus.Props.C06Flex in
/-- **The premise of C04 holds in every reachable world, outside the same-block finding.**  Recorded ballots ≤ recorded
total (`C06Flex.flex_sum_ballots_le_total`), recorded total in `u64`, and the proposal's threshold — which is the
configured one (`Inv'.propThr`) — passes `Threshold::validate` for the recorded total: for `AbsoluteCount k` because
`Propose` stored a status, so either `total - k` did not underflow or the proposer's own ballot weighs `k ≤ total`. -/
theorem premise_reachable {ext : Ext} {fuel : Nat} {w : World} {b : Block} (hr : ReachableSnap ext fuel w b) {id : Nat}
    {p : Proposal} (hp : w.flex.core.proposals.get? id = some p) (hc : CleanStart w.log id p.startHeight) :
    C04.Premise (ballotTally p (ballotsOf w.flex.core id)) ∧ p.threshold = w.flex.cfg.threshold := by
  have hq := hr.totalInv
  obtain ⟨hle, hu, _⟩ := flex_sum_ballots_le_total hr hp hc
  have hthr := hq.inv'.propThr id p hp
  refine ⟨⟨?_, hu, ?_⟩, hthr⟩
  · show C04.cast (tallyOf (ballotsOf w.flex.core id)) ≤ p.totalWeight
    rw [weightSum_eq] at hle; exact hle
  · show p.threshold.validate p.totalWeight = .ok ()
    obtain ⟨t0, hv⟩ := hq.inv'.cfgValid
    rw [← hthr] at hv
    refine validate_of_validate hv ?_
    intro k hk
    rcases hq.inv'.countOk id p k hp hk with h | ⟨bl, hb, h⟩
    · exact h
    · have := weight_le_weightSum hb; omega

open CwPlus.Props.C06Flex in
/-- **Status = the exact documented rule, no premise** (`status_eq_exact_outcome` with `hprem` discharged): on every
history with non-decreasing blocks, for every proposal stored Open whose `Propose` was not preceded by a group write in
its own block, with a threshold of at most 9 decimals, at every query block. -/
theorem status_eq_exact_outcome_reachable {ext : Ext} {fuel : Nat} {w : World} {b : Block} (hr : ReachableSnap ext fuel w b)
    {id : Nat} {p : Proposal} (hp : w.flex.core.proposals.get? id = some p) (ho : p.status = .open)
    (hc : CleanStart w.log id p.startHeight) (h9 : C04.nineDecimals p.threshold) (blk : Block) :
    ∃ st, (Cw3Flex.queryProposal w.flex blk id).map (·.status) = .ok st ∧
      (st = .passed ↔ 0 < sumK .yes (ballotsOf w.flex.core id) ∧
        CertainBy C04.exactPasses p.threshold p.totalWeight (tallyOf (ballotsOf w.flex.core id)) (p.expires.isExpired blk)) ∧
      (st = .rejected →
        HopelessBy C04.exactPasses p.threshold p.totalWeight (tallyOf (ballotsOf w.flex.core id)) (p.expires.isExpired blk)) ∧
      (st = .open → p.expires.isExpired blk = false) ∧
      (st = .open ∨ st = .passed ∨ st = .rejected) :=
  status_eq_exact_outcome hr.reachableAt.reachable hp ho (premise_reachable hr hp hc).1 h9 blk

open CwPlus.Props.C06Flex in
/-- … and for thresholds with up to 18 digits (`status_exact_outcome_within_one` with `hprem` discharged). -/
theorem status_exact_outcome_within_one_reachable {ext : Ext} {fuel : Nat} {w : World} {b : Block}
    (hr : ReachableSnap ext fuel w b) {id : Nat} {p : Proposal} (hp : w.flex.core.proposals.get? id = some p)
    (ho : p.status = .open) (hc : CleanStart w.log id p.startHeight) (blk : Block) :
    ∃ st, (Cw3Flex.queryProposal w.flex blk id).map (·.status) = .ok st ∧
      (CertainBy C04.exactPasses p.threshold p.totalWeight (tallyOf (ballotsOf w.flex.core id)) (p.expires.isExpired blk) →
        st = .passed) ∧
      (st = .passed → 0 < sumK .yes (ballotsOf w.flex.core id) ∧
        CertainBy C04.laxPasses p.threshold p.totalWeight (tallyOf (ballotsOf w.flex.core id)) (p.expires.isExpired blk)) ∧
      (st = .rejected →
        HopelessBy C04.exactPasses p.threshold p.totalWeight (tallyOf (ballotsOf w.flex.core id)) (p.expires.isExpired blk)) ∧
      (st = .open → p.expires.isExpired blk = false) ∧
      (st = .open ∨ st = .passed ∨ st = .rejected) :=
  status_exact_outcome_within_one hr.reachableAt.reachable hp ho (premise_reachable hr hp hc).1 blk

open CwPlus.Props.C06Flex in
/-- **A stored Passed is justified, no premise** (`passed_justified` with `hprem` discharged; the unguarded statement is
false: `passed_justified_counterexample`). -/
theorem passed_justified_reachable {ext : Ext} {fuel : Nat} {w : World} {b : Block} (hr : ReachableSnap ext fuel w b)
    {id : Nat} {p : Proposal} (hp : w.flex.core.proposals.get? id = some p) (hs : p.status = .passed)
    (hc : CleanStart w.log id p.startHeight) {b' : Block} (hb : C04.later b b') :
    Outcome p (ballotsOf w.flex.core id) b' = .ok .passed :=
  passed_justified hr.reachableAt hp hs (premise_reachable hr hp hc).1 hb

open CwPlus.Props.C06Flex in
/-- **A stored Rejected is justified, no premise** (`rejected_justified` with `hprem` discharged). -/
theorem rejected_justified_reachable {ext : Ext} {fuel : Nat} {w : World} {b : Block} (hr : ReachableSnap ext fuel w b)
    {id : Nat} {p : Proposal} (hp : w.flex.core.proposals.get? id = some p) (hs : p.status = .rejected)
    (hc : CleanStart w.log id p.startHeight) {b' : Block} (hb : C04.later b b') :
    Outcome p (ballotsOf w.flex.core id) b' = .ok .rejected ∧
    HopelessBy C04.libPasses p.threshold p.totalWeight (tallyOf (ballotsOf w.flex.core id)) (p.expires.isExpired b') ∧
    HopelessBy C04.exactPasses p.threshold p.totalWeight (tallyOf (ballotsOf w.flex.core id)) (p.expires.isExpired b') :=
  rejected_justified hr.reachableAt hp hs (premise_reachable hr hp hc).1 hb

open CwPlus.Props.C06Flex in
/-- **Executable ⇒ the recorded ballots imply Passed, no premise** (`executable_implies_outcome_passed` with `hprem`
discharged): no proposal created outside the same-block situation becomes executable with a Yes share below its
threshold. -/
theorem executable_implies_outcome_passed_reachable {ext : Ext} {fuel : Nat} {w : World} {b : Block}
    (hr : ReachableSnap ext fuel w b) {b' : Block} (hb : C04.later b b') {g : Cw4Group.State} {self snd : Addr}
    {funds : List Coin} {id : Nat}
    (hc : ∀ p, w.flex.core.proposals.get? id = some p → CleanStart w.log id p.startHeight)
    (h : (Cw3Flex.execute w.flex g self b' snd funds (.execute id)).isOk = true) :
    ∃ p, w.flex.core.proposals.get? id = some p ∧ Outcome p (ballotsOf w.flex.core id) b' = .ok .passed :=
  executable_implies_outcome_passed hr.reachableAt hb (fun p hp => (premise_reachable hr hp (hc p hp)).1) h

/-! ## Execute succeeds ⇒ the Yes share meets the threshold in exact arithmetic -/

/-- **"Never executable with a Yes share below its threshold", exact arithmetic, inside the premise** (clause g):
whenever Execute succeeds at or after the block of the last transaction, the recorded Yes weight is positive and the
configured rule holds for the recorded ballots in exact cross-multiplied arithmetic (every completion before expiry,
the recorded ballots after) — exactly for thresholds with at most 9 decimals, within one vote for 18-digit decimals. -/
theorem execute_ok_implies_exact_threshold {ext : Ext} {fuel : Nat} {w : World} {b : Block} (hr : ReachableAt ext fuel w b)
    {b' : Block} (hb : C04.later b b') {g : Cw4Group.State} {self snd : Addr} {funds : List Coin} {id : Nat}
    (hprem : ∀ p, w.flex.core.proposals.get? id = some p → C04.Premise (ballotTally p (ballotsOf w.flex.core id)))
    (h : (Cw3Flex.execute w.flex g self b' snd funds (.execute id)).isOk = true) :
    ∃ p, w.flex.core.proposals.get? id = some p ∧ 0 < sumK .yes (ballotsOf w.flex.core id) ∧
      CertainBy C04.laxPasses p.threshold p.totalWeight (tallyOf (ballotsOf w.flex.core id)) (p.expires.isExpired b') ∧
      (C04.nineDecimals p.threshold →
        CertainBy C04.exactPasses p.threshold p.totalWeight (tallyOf (ballotsOf w.flex.core id)) (p.expires.isExpired b')) := by
  obtain ⟨p, hp, hout⟩ := executable_implies_outcome_passed hr hb hprem h
  exact ⟨p, hp, outcome_passed_exact (hprem p hp) hout⟩

open CwPlus.Props.C06Flex in
/-- **… with the premise discharged from the history**: on every `ReachableSnap` history, for a proposal whose `Propose`
was not preceded by a group write in its own block.  (Without the guard false: `passed_justified_counterexample`.) -/
theorem execute_ok_implies_exact_threshold_reachable {ext : Ext} {fuel : Nat} {w : World} {b : Block}
    (hr : ReachableSnap ext fuel w b) {b' : Block} (hb : C04.later b b') {g : Cw4Group.State} {self snd : Addr}
    {funds : List Coin} {id : Nat}
    (hc : ∀ p, w.flex.core.proposals.get? id = some p → CleanStart w.log id p.startHeight)
    (h : (Cw3Flex.execute w.flex g self b' snd funds (.execute id)).isOk = true) :
    ∃ p, w.flex.core.proposals.get? id = some p ∧ 0 < sumK .yes (ballotsOf w.flex.core id) ∧
      CertainBy C04.laxPasses p.threshold p.totalWeight (tallyOf (ballotsOf w.flex.core id)) (p.expires.isExpired b') ∧
      (C04.nineDecimals p.threshold →
        CertainBy C04.exactPasses p.threshold p.totalWeight (tallyOf (ballotsOf w.flex.core id)) (p.expires.isExpired b')) :=
  execute_ok_implies_exact_threshold hr.reachableAt hb (fun p hp => (premise_reachable hr hp (hc p hp)).1) h

open CwPlus.Props.C06Flex in
/-- A stored Passed read in exact arithmetic, premise discharged (`passed_justified_reachable` × C04). -/
theorem passed_justified_exact_reachable {ext : Ext} {fuel : Nat} {w : World} {b : Block} (hr : ReachableSnap ext fuel w b)
    {id : Nat} {p : Proposal} (hp : w.flex.core.proposals.get? id = some p) (hs : p.status = .passed)
    (hc : CleanStart w.log id p.startHeight) {b' : Block} (hb : C04.later b b') :
    0 < sumK .yes (ballotsOf w.flex.core id) ∧
    CertainBy C04.laxPasses p.threshold p.totalWeight (tallyOf (ballotsOf w.flex.core id)) (p.expires.isExpired b') ∧
    (C04.nineDecimals p.threshold →
      CertainBy C04.exactPasses p.threshold p.totalWeight (tallyOf (ballotsOf w.flex.core id)) (p.expires.isExpired b')) :=
  outcome_passed_exact (premise_reachable hr hp hc).1 (passed_justified_reachable hr hp hs hc hb)

/-! ## never executable without Yes weight (D1 fixed) -/

/-- Invariant: every proposal stored Passed or Executed has positive Yes weight in its tally. -/
def YesInv (s : State) : Prop :=
  Inv s ∧ ∀ id p, s.core.proposals.get? id = some p → (p.status = .passed ∨ p.status = .executed) → 0 < p.votes.yes

theorem yes_step {s s' : State} {g : Cw4Group.State} {self : Addr} {blk : Block} {snd : Addr} {funds : List Coin}
    {m : ExecMsg} {out : List Out} (hy : YesInv s) (h : Cw3Flex.execute s g self blk snd funds m = .ok (s', out)) : YesInv s' :=
  ⟨execute_inv hy.1 h, allP_step hy.1.wf (fun _ _ _ hold hp => yes_propStep hold hp) hy.2 (execute_coreStep h)⟩

theorem reachable_yes {ext : Ext} {fuel : Nat} {w : World} (hr : Reachable ext fuel w) : YesInv w.flex :=
  reachable_state_inv (P := fun s => AllP (fun _ p => (p.status = .passed ∨ p.status = .executed) → 0 < p.votes.yes) s.core)
    (fun hi => instantiate_core hi ▸ allP_empty _) (fun hi hy he => (yes_step ⟨hi, hy⟩ he).2) hr

/-- **Never executable without Yes weight, for every state satisfying `YesInv`** (`yes_step`: every handler call
preserves `YesInv`, so it holds mid-dispatch too). -/
theorem never_executable_without_yes_inv {s : State} (hy : YesInv s) {g : Cw4Group.State}
    {self : Addr} {blk : Block} {snd : Addr} {funds : List Coin} {id : Nat}
    (h : (Cw3Flex.execute s g self blk snd funds (.execute id)).isOk = true) : 0 < sumK .yes (ballotsOf s.core id) := by
  obtain ⟨hi, hy⟩ := hy
  obtain ⟨p, hp, hst, _⟩ := (CwPlus.Props.C05Flex.execute_ok_iff s g self blk snd funds id).mp h
  have := cs_passed_yes (t := p.tally) hst (Or.inl rfl) (fun h => hy id p hp h)
  have ht := hi.wf.tally id p hp
  simp only [Proposal.tally, ht, tallyOf] at this
  exact this

/-- **No proposal ever becomes executable with zero Yes weight** (the all-abstain defect D1 is fixed in the
library): whenever Execute succeeds — in any reachable world, at any block, by anybody, with any group state — the
Yes ballots recorded for the proposal have positive total weight. -/
theorem never_executable_without_yes {ext : Ext} {fuel : Nat} {w : World} (hr : Reachable ext fuel w) {g : Cw4Group.State}
    {self : Addr} {blk : Block} {snd : Addr} {funds : List Coin} {id : Nat}
    (h : (Cw3Flex.execute w.flex g self blk snd funds (.execute id)).isOk = true) : 0 < sumK .yes (ballotsOf w.flex.core id) :=
  never_executable_without_yes_inv (reachable_yes hr) h

/-- Every proposal stored Passed or Executed has positive recorded Yes weight. -/
theorem passed_has_yes {ext : Ext} {fuel : Nat} {w : World} (hr : Reachable ext fuel w) {id : Nat} {p : Proposal}
    (hp : w.flex.core.proposals.get? id = some p) (hs : p.status = .passed ∨ p.status = .executed) :
    0 < sumK .yes (ballotsOf w.flex.core id) := by
  obtain ⟨hi, hy⟩ := reachable_yes hr
  have := hy id p hp hs
  rw [hi.wf.tally id p hp] at this
  exact this

/-! ## non-vacuity: the all-abstain history (51 %, zero-weight proposer) -/

namespace Ex

def group0 : Cw4Group.State :=
  match Cw4Group.instantiate ⟨some ⟨true, "adm"⟩, [(⟨true, "z"⟩, 0), (⟨true, "a"⟩, 2), (⟨true, "b"⟩, 3)]⟩ 5 with
  | .ok g => g
  | .error _ => Cw4Group.State.empty

def inst : InstMsg :=
  { group := ⟨true, "grp"⟩, threshold := .absolutePercentage 510000000000000000, maxVotingPeriod := .height 5,
    executor := none, deposit := none }

def flex0 : State := match instantiate inst (some group0) with | .ok s => s | .error _ => default

def world0 : World := World.init flex0 group0 CwPlus.Props.C15.Cex.token0 [] "ms" "grp" "tok" 5

def ops : List Op :=
  [⟨⟨10, 0⟩, .flex "z" [] (.propose "t" "d" [] none)⟩,
   ⟨⟨10, 0⟩, .flex "a" [] (.vote 1 .abstain)⟩,
   ⟨⟨10, 0⟩, .flex "b" [] (.vote 1 .abstain)⟩]

def final : World := run CwPlus.Props.C15.Cex.noExt 10 world0 ops

/-- `b` (3 of 5) proposes: Passed at once; `a` still votes No on it; `a` proposes a second one, `b` votes No
(2 yes / 3 no: undecided), after its expiry an outsider closes it -/
def opsJ : List Op :=
  [⟨⟨10, 0⟩, .flex "b" [] (.propose "t" "d" [] none)⟩,
   ⟨⟨11, 0⟩, .flex "a" [] (.vote 1 .no)⟩,
   ⟨⟨11, 0⟩, .flex "a" [] (.propose "t2" "d" [] none)⟩,
   ⟨⟨12, 0⟩, .flex "b" [] (.vote 2 .no)⟩,
   ⟨⟨16, 0⟩, .flex "x" [] (.close 2)⟩]

def finalJ : World := run CwPlus.Props.C15.Cex.noExt 10 world0 opsJ

end Ex

example : instantiate Ex.inst (some Ex.group0) = .ok Ex.flex0 := rfl

/-- Zero-weight proposer, everybody abstains: the proposal is reported Open (not Passed), Execute is refused, and
after expiry it is reported Rejected. -/
example :
    ((Cw3Flex.queryProposal Ex.final.flex ⟨10, 0⟩ 1).toOption.map (·.status)) = some .open ∧
    (Cw3Flex.execute Ex.final.flex Ex.final.group "ms" ⟨10, 0⟩ "a" [] (.execute 1)).isOk = false ∧
    ((Cw3Flex.queryProposal Ex.final.flex ⟨15, 0⟩ 1).toOption.map (·.status)) = some .rejected ∧
    ((Ex.final.flex.core.proposals.get? 1).map (·.votes)) = some ⟨0, 0, 5, 0⟩ := by
  decide +kernel

/-! ### non-vacuity of the exact-rule and sticky-status statements -/

/-- proposal 1 is stored Passed and carries a later No ballot; proposal 2 is stored Rejected (closed after expiry) -/
example : ((Ex.finalJ.flex.core.proposals.get? 1).map fun p => (p.status, p.votes, p.totalWeight)) = some (.passed, ⟨3, 2, 0, 0⟩, 5) ∧
    ((Ex.finalJ.flex.core.proposals.get? 2).map fun p => (p.status, p.votes, p.totalWeight)) = some (.rejected, ⟨2, 3, 0, 0⟩, 5) := by
  decide +kernel

/-- the premise of C04 holds for both (ballots 5 ≤ total 5, 51 % is a valid 9-decimal threshold) -/
example : C04.Premise ⟨.open, Ex.inst.threshold, 5, ⟨3, 2, 0, 0⟩, .atHeight 15⟩ ∧
    C04.Premise ⟨.open, Ex.inst.threshold, 5, ⟨2, 3, 0, 0⟩, .atHeight 16⟩ ∧ C04.nineDecimals Ex.inst.threshold :=
  ⟨⟨by decide, by decide, rfl⟩, ⟨by decide, by decide, rfl⟩, ⟨510000000, by decide⟩⟩

/-- before the Close (block 12) proposal 2 is stored Open and reported Open; at its expiry it is reported Rejected -/
example :
    let w := run CwPlus.Props.C15.Cex.noExt 10 Ex.world0 (Ex.opsJ.take 4)
    ((w.flex.core.proposals.get? 2).map (·.status)) = some .open ∧
    ((Cw3Flex.queryProposal w.flex ⟨12, 0⟩ 2).toOption.map (·.status)) = some .open ∧
    ((Cw3Flex.queryProposal w.flex ⟨16, 0⟩ 2).toOption.map (·.status)) = some .rejected ∧
    (Cw3Flex.execute w.flex w.group "ms" ⟨16, 0⟩ "x" [] (.close 2)).isOk = true ∧
    (Cw3Flex.execute w.flex w.group "ms" ⟨15, 0⟩ "x" [] (.close 2)).isOk = false := by
  decide +kernel

/-! ### non-vacuity of the `…_reachable` corollaries -/

open CwPlus.Props.C06Flex in
/-- the history `Ex.opsJ` is a `ReachableSnap` history (group instantiated at height 5, blocks 10 … 16) -/
theorem exJ_reachableSnap : ReachableSnap CwPlus.Props.C15.Cex.noExt 10 Ex.finalJ ⟨16, 0⟩ :=
  ReachableSnap.run Ex.opsJ
    (ReachableSnap.init_of_group_instantiate (h0 := 5) (g := Ex.group0)
      (gm := ⟨some ⟨true, "adm"⟩, [(⟨true, "z"⟩, 0), (⟨true, "a"⟩, 2), (⟨true, "b"⟩, 3)]⟩) rfl
      (m := Ex.inst) (s := Ex.flex0) rfl CwPlus.Props.C15.Cex.token0 [] "ms" "grp" "tok" ⟨10, 0⟩ (by decide))
    ⟨⟨Nat.le_refl _, Nat.le_refl _⟩, ⟨by decide, by decide⟩, ⟨Nat.le_refl _, Nat.le_refl _⟩, ⟨by decide, by decide⟩,
      ⟨by decide, by decide⟩, trivial⟩

/-- the history `Ex.opsJ` has non-decreasing blocks -/
theorem exJ_reachableAt : ReachableAt CwPlus.Props.C15.Cex.noExt 10 Ex.finalJ ⟨16, 0⟩ :=
  exJ_reachableSnap.reachableAt

/-- the guard holds for both proposals of `Ex.finalJ` (started at heights 10 and 11; no group write after height 5);
it fails for the proposal of the counterexample history `CexJ` below -/
example : CleanStart Ex.finalJ.log 1 10 ∧ CleanStart Ex.finalJ.log 2 11 := by decide

open CwPlus.Props.C06Flex in
/-- `passed_justified_reachable` and `rejected_justified_reachable` applied to `Ex.finalJ`: proposal 1 (stored Passed,
with a later No) and proposal 2 (stored Rejected) are justified by their recorded ballots at block 16 — no premise
to check by hand. -/
example : (∀ p, Ex.finalJ.flex.core.proposals.get? 1 = some p → p.status = .passed → p.startHeight = 10 →
      Outcome p (ballotsOf Ex.finalJ.flex.core 1) ⟨16, 0⟩ = .ok .passed) ∧
    (∀ p, Ex.finalJ.flex.core.proposals.get? 2 = some p → p.status = .rejected → p.startHeight = 11 →
      Outcome p (ballotsOf Ex.finalJ.flex.core 2) ⟨16, 0⟩ = .ok .rejected) :=
  ⟨fun p hp hs hh => passed_justified_reachable exJ_reachableSnap hp hs (by rw [hh]; decide) (later_refl_blk _),
   fun p hp hs hh => (rejected_justified_reachable exJ_reachableSnap hp hs (by rw [hh]; decide) (later_refl_blk _)).1⟩

example : ((Ex.finalJ.flex.core.proposals.get? 1).map fun p => (p.status, p.startHeight)) = some (.passed, 10) ∧
    ((Ex.finalJ.flex.core.proposals.get? 2).map fun p => (p.status, p.startHeight)) = some (.rejected, 11) := by decide

/-- non-vacuity of `execute_ok_implies_exact_threshold_reachable` and of the `…_inv` forms: in `Ex.finalJ` (a
`ReachableSnap` world whose state satisfies `Inv` and `YesInv`) Execute of proposal 1 succeeds at block 16, Close is
refused -/
example : (Cw3Flex.execute Ex.finalJ.flex Ex.finalJ.group "ms" ⟨16, 0⟩ "x" [] (.execute 1)).isOk = true ∧
    (Cw3Flex.execute Ex.finalJ.flex Ex.finalJ.group "ms" ⟨16, 0⟩ "x" [] (.close 1)).isOk = false ∧
    Inv Ex.finalJ.flex ∧ YesInv Ex.finalJ.flex :=
  ⟨by decide, by decide, reachable_inv exJ_reachableSnap.reachableAt.reachable,
    reachable_yes exJ_reachableSnap.reachableAt.reachable⟩

/-! ### without the premise the sticky-status statements are FALSE of the code (consequence of D3) -/

namespace CexJ

def group0 : Cw4Group.State :=
  match Cw4Group.instantiate ⟨some ⟨true, "adm"⟩, [(⟨true, "a"⟩, 1), (⟨true, "b"⟩, 4), (⟨true, "c"⟩, 4), (⟨true, "d"⟩, 4)]⟩ 5 with
  | .ok g => g
  | .error _ => Cw4Group.State.empty

/-- quorum 40 %, threshold 60 % -/
def inst : InstMsg :=
  { group := ⟨true, "grp"⟩, threshold := .thresholdQuorum 600000000000000000 400000000000000000,
    maxVotingPeriod := .height 5, executor := none, deposit := none }

def flex0 : State := match instantiate inst (some group0) with | .ok s => s | .error _ => default

def world0 : World := World.init flex0 group0 CwPlus.Props.C15.Cex.token0 [] "ms" "grp" "tok" 5

/-- In block 10 the admin lowers b, c, d from 4 to 1 (group total 13 → 4), then — still in block 10 — `a` proposes:
the proposal records total 4.  b, c, d vote with their snapshot weights 4 (start of block 10). -/
def ops : List Op :=
  [⟨⟨10, 0⟩, .group "adm" (.updateMembers [] [(⟨true, "b"⟩, 1), (⟨true, "c"⟩, 1), (⟨true, "d"⟩, 1)])⟩,
   ⟨⟨10, 0⟩, .flex "a" [] (.propose "t" "d" [] none)⟩,
   ⟨⟨11, 0⟩, .flex "b" [] (.vote 1 .yes)⟩,
   ⟨⟨12, 0⟩, .flex "c" [] (.vote 1 .no)⟩,
   ⟨⟨12, 0⟩, .flex "d" [] (.vote 1 .no)⟩]

def final : World := run CwPlus.Props.C15.Cex.noExt 10 world0 ops

end CexJ

example : instantiate CexJ.inst (some CexJ.group0) = .ok CexJ.flex0 := rfl

/-- **The unguarded `passed_justified` is false for cw3-flex** (machine-checked; a consequence of the open known
finding `C06/flex/propose-after-group-update-in-same-block`, defect D3 — same root cause, seen at the C03 level).
With the recorded total (4) below the snapshot total (13), b's Yes (4) makes the proposal Passed (5 of 4 ≥ 60 %), and
it stays stored Passed while c and d vote No: the recorded ballots are 5 Yes / 8 No — 38 % Yes — yet the proposal is
reported Passed and Execute succeeds at expiry (block 15), although the outcome its recorded ballots imply at that
block is Rejected.  The hypothesis `hprem` of `passed_justified` (ballots ≤ recorded total) is what fails: 13 > 4. -/
theorem passed_justified_counterexample :
    ((CexJ.final.flex.core.proposals.get? 1).map fun p => (p.status, p.votes, p.totalWeight)) = some (.passed, ⟨5, 8, 0, 0⟩, 4) ∧
    Cw4Group.queryTotalWeight CexJ.final.group (some 10) = 13 ∧
    ((CexJ.final.flex.core.proposals.get? 1).map fun p => (Outcome p (ballotsOf CexJ.final.flex.core 1) ⟨15, 0⟩).toOption)
      = some (some .rejected) ∧
    ((Cw3Flex.queryProposal CexJ.final.flex ⟨15, 0⟩ 1).toOption.map (·.status)) = some .passed ∧
    (Cw3Flex.execute CexJ.final.flex CexJ.final.group "ms" ⟨15, 0⟩ "x" [] (.execute 1)).isOk = true := by
  decide +kernel

/-- non-vacuity of `listed_status_eq_outcome`: the listing of the reachable world `Ex.finalJ` answers (every stored
proposal fits `u64`, so it has a status at every block: `reachable_statusInv`) -/
example : ∃ vs, Cw3Flex.listProposals Ex.finalJ.flex ⟨16, 0⟩ none none = .ok vs := by
  have hr := exJ_reachableSnap.reachableAt.reachable
  have hfit : ∀ x ∈ Ex.finalJ.flex.core.proposals,
      x.2.votes.yes + x.2.votes.no + x.2.votes.abstain + x.2.votes.veto ≤ U64_MAX := by decide
  refine ⟨_, viewAll_eq_map (fun x hx => ?_)⟩
  have hm : x ∈ Ex.finalJ.flex.core.proposals :=
    Paginate.mem_sortedEntries.mp ((Paginate.page_sublist _ _ _ _).subset hx)
  have hp := (AMap.get?_eq_some_iff (Cw3Flex.reachable_nodup hr)).mpr hm
  exact reachable_statusInv hr x.1 x.2 hp (hfit x hm) _

/-- … and the guard of the `…_reachable` corollaries is what excludes this history: a group write in block 10 precedes
the `Propose` of proposal 1 (start height 10). -/
example : ¬ CleanStart CexJ.final.log 1 10 := by decide

end CwPlus.Props.C03Flex
