import CwPlus.Lemmas.Cw3Fixed
import CwPlus.Lemmas.Cw3FixedAt
/-!
# C05 (cw3-fixed part) — passed proposals execute at most once; the lifecycle only moves forward

All theorems are about `Model/Cw3Fixed.lean` (shared core `Model/Cw3Core.lean`); "history" = any
finite list of operations (transactions by anybody with re-entrant self-calls and failing
dispatches, funding, sink changes, arbitrary blocks) after an accepted instantiation
(`Reachable fuel w`).  cw3-fixed has no executor setting: anyone may call Execute.

The cw3-flex part of C05 is `Props/C05Flex.lean`; the generic lemmas both use are in `Lemmas/Cw3Core.lean`
and `Lemmas/Cw3Status.lean`.
-/
namespace CwPlus.Props.C05
open CwPlus CwPlus.Cw3 CwPlus.Cw3Core CwPlus.Cw3Fixed

/-- C05 "dispatched only by an Execute call made while the proposal is Passed": the Execute handler
succeeds exactly when the proposal exists and its current status (at the call's block) is Passed —
whoever the sender is. -/
theorem execute_ok_iff (s : State) (blk : Block) (snd : Addr) (id : Nat) :
    (execute s blk snd (.execute id)).isOk = true ↔
      ∃ p, s.core.proposals.get? id = some p ∧ p.currentStatus blk = .ok .passed :=
  execute_execute_isOk_iff

/-- C05 "exactly as proposed": a successful Execute returns exactly the proposal's messages, in
order, and nothing else … -/
theorem execute_out_eq_msgs {s s' : State} {blk : Block} {snd : Addr} {id : Nat} {out : List Msg}
    (h : execute s blk snd (.execute id) = .ok (s', out)) :
    ∃ p, s.core.proposals.get? id = some p ∧ out = p.msgs := by
  obtain ⟨c, he, _⟩ := execute_execute_ok_iff.mp h
  obtain ⟨p, hp, _, _, ho, _⟩ := execute_ok he
  exact ⟨p, hp, ho⟩

/-- … and stores the proposal as Executed (nothing else of it changes) before the messages go out. -/
theorem execute_sets_executed {s s' : State} {blk : Block} {snd : Addr} {id : Nat} {out : List Msg}
    (h : execute s blk snd (.execute id) = .ok (s', out)) :
    ∃ p, s.core.proposals.get? id = some p ∧ s'.core.proposals.get? id = some { p with status := .executed } ∧
      ∀ id', id' ≠ id → s'.core.proposals.get? id' = s.core.proposals.get? id' := by
  obtain ⟨c, he, rfl⟩ := execute_execute_ok_iff.mp h
  obtain ⟨p, hp, _, _, _, rfl⟩ := execute_ok he
  exact ⟨p, hp, AMap.get?_set_eq _ _ _, fun id' hne => AMap.get?_set_ne _ _ _ _ (Ne.symm hne)⟩

/-- No handler other than Execute ever returns a message: Propose, Vote and Close dispatch nothing. -/
theorem only_execute_emits {s s' : State} {blk : Block} {snd : Addr} {m : ExecMsg} {out : List Msg}
    (h : execute s blk snd m = .ok (s', out)) (hne : ∀ id, m ≠ .execute id) : out = [] := by
  obtain ⟨_, _, hc⟩ := execute_cases h
  rcases hc with ⟨_, _, _, _, _, _, _, _, ho, _⟩ | ⟨_, _, _, ho, _⟩ | ⟨id, hm, _⟩ | ⟨_, _, ho, _⟩
  · exact ho
  · exact ho
  · exact absurd hm (hne id)
  · exact ho

/-! ## stored status only moves forward -/

/-- C05 "the lifecycle only moves forward": over every history the stored status of every proposal
moves only along Open→Passed, Open→Rejected, Passed→Executed (and Open→Executed, which by
`execute_ok_iff` happens only in an Execute call that finds the current status Passed).
Executed and Rejected are final; Passed never goes back to Open or Rejected. -/
theorem stored_status_edges {fuel : Nat} {w : World} (hr : Reachable fuel w) (ops : List Op)
    {id : Nat} {p : Proposal} (hp : w.ms.core.proposals.get? id = some p) :
    ∃ p', (run fuel w ops).ms.core.proposals.get? id = some p' ∧
      (p.status = p'.status ∨ (p.status = .open ∧ (p'.status = .passed ∨ p'.status = .rejected ∨ p'.status = .executed)) ∨
       (p.status = .passed ∧ p'.status = .executed)) := by
  obtain ⟨p', hp', _, he⟩ := (run_later (reachable_inv hr) ops).props id p hp
  exact ⟨p', hp', (edge_iff_cases _ _).mp he⟩

/-- One handler call moves the stored status of every proposal along the same edges. -/
theorem handler_status_edge {s s' : State} {blk : Block} {snd : Addr} {m : ExecMsg} {out : List Msg}
    (hi : Inv s) (h : execute s blk snd m = .ok (s', out)) {id : Nat} {p : Proposal}
    (hp : s.core.proposals.get? id = some p) :
    ∃ p', s'.core.proposals.get? id = some p' ∧ edge p.status p'.status = true := by
  obtain ⟨p', hp', _, he⟩ := (execute_later hi h).props id p hp
  exact ⟨p', hp', he⟩

/-! ## at most one execution -/

/-- Is proposal `id` stored as Executed? -/
def isExec (c : Core) (id : Nat) : Bool :=
  match c.proposals.get? id with
  | some p => decide (p.status = .executed)
  | none => false

/-- Ghost: how many successful Execute handler calls for `id` (top-level or re-entrant) lie in
committed transactions of the history. -/
def executions (w : World) (id : Nat) : Nat := w.log.count (.executed id)

theorem eventOf_executed (s : State) (snd : Addr) (m : ExecMsg) (id : Nat) :
    eventOf s snd m = .executed id ↔ m = .execute id := by
  cases m <;> simp [eventOf]

/-- A handler call makes `id` Executed exactly when it is a successful Execute of `id`, and that
requires `id` not to be Executed before. -/
theorem handler_isExec {s s' : State} {blk : Block} {snd : Addr} {m : ExecMsg} {out : List Msg}
    (hi : Inv s) (h : execute s blk snd m = .ok (s', out)) (id : Nat) :
    isExec s'.core id = (isExec s.core id || decide (m = .execute id)) ∧
    (m = .execute id → isExec s.core id = false) := by
  obtain ⟨_, _, hc⟩ := execute_cases h
  rcases hc with ⟨t, d, msgs, latest, w, id0, hm, _, _, hp⟩ | ⟨id0, v, hm, _, hv⟩ | ⟨id0, hm, he⟩ | ⟨id0, hm, _, hcl⟩
  · obtain ⟨expires, st, _, hst, hid, _, hc'⟩ := propose_ok hp
    have hnone : s.core.proposals.get? id0 = none := hi.wf.fresh (by omega)
    have hst' : st ≠ .executed := fun e => by have := (cs_edge hst).2 e; simp [Proposal.tally] at this
    subst hm
    by_cases e : id0 = id
    · subst e; simp [isExec, hc', hnone, hst']
    · simp [isExec, hc', AMap.get?_set_ne _ _ _ _ e]
  · obtain ⟨p, w, votes, st, hp, hvot, _, _, _, _, _, hst, hc'⟩ := vote_ok hv
    have hne : p.status ≠ .executed := (votable_iff.mp hvot).2
    have hst' : st ≠ .executed := fun e => by have := (cs_edge hst).2 e; simp [Proposal.tally] at this; exact hne this
    subst hm
    by_cases e : id0 = id
    · subst e; simp [isExec, hc', hp, hst', hne]
    · simp [isExec, hc', AMap.get?_set_ne _ _ _ _ e]
  · obtain ⟨p, hp, hst, _, _, hc'⟩ := execute_ok he
    have hne : p.status ≠ .executed := fun e => by
      have := stored_of_ne_open (by rw [e]; simp) hst
      rw [e] at this; cases this
    subst hm
    by_cases e : id0 = id
    · subst e; simp [isExec, hc', hp, hne]
    · simp [isExec, hc', AMap.get?_set_ne _ _ _ _ e, e]
  · obtain ⟨p, _, hp, hne, _, _, _, _, _, hc'⟩ := close_ok hcl
    subst hm
    by_cases e : id0 = id
    · subst e; simp [isExec, hc', hp, hne]
    · simp [isExec, hc', AMap.get?_set_ne _ _ _ _ e]

/-- The ghost count of executions of `id` is 1 if `id` is stored Executed and 0 otherwise. -/
def GhostInv (w : World) : Prop := Inv w.ms ∧ ∀ id, executions w id = if isExec w.ms.core id then 1 else 0

theorem GhostInv.executed_of_mem {w : World} (hq : GhostInv w) {id : Nat} (hm : Event.executed id ∈ w.log) :
    ∃ p, w.ms.core.proposals.get? id = some p ∧ p.status = .executed := by
  have hc : 0 < executions w id := List.count_pos_iff.mpr hm
  rw [hq.2 id, isExec] at hc
  cases hp : w.ms.core.proposals.get? id with
  | none => simp [hp] at hc
  | some p =>
    refine ⟨p, rfl, ?_⟩
    by_cases e : p.status = .executed
    · exact e
    · simp [hp, e] at hc

/-- The ghost event a successfully dispatched non-self-call message leaves. -/
def leafEvent : Msg → Event
  | .bank to amt denom => .sent to amt denom
  | .other tag => .called tag
  | _ => .called "unreachable"

theorem leaf_log {w w' : World} {m : Msg} (h : leaf w m = .ok w') : w'.log = w.log ++ [leafEvent m] := by
  cases m <;> simp [leaf] at h
  · obtain ⟨b, _, rfl⟩ := h; simp [leafEvent]
  · obtain ⟨_, rfl⟩ := h; simp [leafEvent]

theorem ghost_call {w : World} {blk : Block} {snd : Addr} {em : ExecMsg} {s' : State} {out : List Msg}
    (hq : GhostInv w) (he : execute w.ms blk snd em = .ok (s', out)) :
    GhostInv { w with ms := s', log := w.log ++ [eventOf w.ms snd em] } := by
  obtain ⟨hi, hg⟩ := hq
  refine ⟨execute_inv hi he, ?_⟩
  intro id
  obtain ⟨h1, h2⟩ := handler_isExec hi he id
  show (w.log ++ [eventOf w.ms snd em]).count (.executed id) = _
  rw [List.count_append, show w.log.count (.executed id) = _ from hg id, h1]
  by_cases e : em = .execute id
  · subst e; simp [h2 rfl, eventOf]
  · have : eventOf w.ms snd em ≠ .executed id := fun h => e ((eventOf_executed _ _ _ _).mp h)
    simp [e, this]

theorem ghost_leaf {w w' : World} {m : Msg} (hq : GhostInv w) (hl : leaf w m = .ok w') : GhostInv w' := by
  have hms := (leaf_ms hl).1
  refine ⟨hms ▸ hq.1, fun id => ?_⟩
  rw [hms, ← hq.2 id, executions, leaf_log hl, List.count_append]
  cases m <;> rfl

theorem ghost_step (fuel : Nat) (w : World) (op : Op) (hq : GhostInv w) : GhostInv (step fuel w op) :=
  step_inv GhostInv (fun _ _ _ _ _ _ hq he => ghost_call hq he) (fun _ _ _ hq hl => ghost_leaf hq hl)
    (fun _ _ h => h) (fun _ _ h => h) fuel w op hq

theorem reachable_ghost {fuel : Nat} {w : World} (hr : Reachable fuel w) : GhostInv w :=
  reachable_world_ind GhostInv
    (fun _ _ _ _ _ hi => ⟨instantiate_inv hi, fun id => by simp [executions, World.init, isExec, instantiate_core hi, Core.empty]⟩)
    (ghost_step fuel) hr

/-- C05 "at most once in its lifetime": on every history, the number of successful Execute calls
for a proposal — top-level or re-entrant, counted over committed transactions — is at most one;
it is one exactly when the proposal is stored Executed. -/
theorem executions_le_one {fuel : Nat} {w : World} (hr : Reachable fuel w) (id : Nat) :
    executions w id ≤ 1 ∧ (executions w id = 1 ↔ isExec w.ms.core id = true) := by
  have := (reachable_ghost hr).2 id
  rw [this]
  cases isExec w.ms.core id <;> simp

/-- C05 "repeated Execute calls fail": Execute on a proposal that is stored Executed is refused. -/
theorem execute_twice_fails {s : State} {blk : Block} {snd : Addr} {id : Nat} (h : isExec s.core id = true) :
    (execute s blk snd (.execute id)).isOk = false := by
  cases hx : (execute s blk snd (.execute id)).isOk with
  | false => rfl
  | true =>
    obtain ⟨p, hp, hst⟩ := (execute_ok_iff s blk snd id).mp hx
    simp [isExec, hp] at h
    have := stored_of_ne_open (by rw [h]; simp) hst
    rw [h] at this; cases this

/-! ## atomicity, failing and re-entrant dispatch -/

/-- C05 "a failed dispatch leaves it Passed and retryable": a transaction that fails anywhere —
in the handler, or in the dispatch of any returned message at any depth — leaves the whole world
(multisig state, all balances, ghost log) exactly as it was. -/
theorem tx_atomic {fuel : Nat} {w : World} {blk : Block} {snd : Addr} {m : ExecMsg} {e : String}
    (h : tx fuel w blk snd m = .error e) : step fuel w ⟨blk, .exec snd m⟩ = w := by
  simp [step, h]

/-- Once proposal `id` is stored Executed, a successful dispatch — any message list, any nesting of self-calls — keeps
it Executed and logs no further `executed id`; and its list held no `selfExecute id`: such a call is refused
(`execute_twice_fails`), and with it the whole dispatch. -/
theorem dispatch_after_executed {fuel : Nat} {w w' : World} {blk : Block} {msgs : List Msg} {id : Nat}
    (h : dispatch fuel w blk msgs = .ok w') (hi : Inv w.ms) (hx : isExec w.ms.core id = true) :
    (Inv w'.ms ∧ isExec w'.ms.core id = true ∧ w'.log.count (.executed id) = w.log.count (.executed id)) ∧
    Msg.selfExecute id ∉ msgs := by
  refine dispatch_induction blk
    (M := fun w msgs w' => Inv w.ms → isExec w.ms.core id = true →
      (Inv w'.ms ∧ isExec w'.ms.core id = true ∧ w'.log.count (.executed id) = w.log.count (.executed id)) ∧
      Msg.selfExecute id ∉ msgs)
    (fun _ hi hx => ⟨⟨hi, hx, rfl⟩, List.not_mem_nil⟩) ?_ ?_ fuel w msgs w' h hi hx
  · intro w m rest w1 w' hs hl ih hi hx
    obtain ⟨hms, _, _⟩ := leaf_ms hl
    obtain ⟨⟨hi', hx', hc⟩, hn⟩ := ih (hms ▸ hi) (hms ▸ hx)
    refine ⟨⟨hi', hx', ?_⟩, fun hm => ?_⟩
    · rw [hc, leaf_log hl, List.count_append]
      cases m <;> simp [leafEvent]
    · rcases List.mem_cons.mp hm with rfl | hm
      · cases hs
      · exact hn hm
  · intro w m rest em s' out w1 w' hs he ih1 ih2 hi hx
    obtain ⟨h1, h2⟩ := handler_isExec hi he id
    have hne : em ≠ .execute id := fun e => by rw [h2 e] at hx; cases hx
    obtain ⟨⟨hi1, hx1, hc1⟩, _⟩ := ih1 (execute_inv hi he) (by rw [h1, hx]; rfl)
    obtain ⟨⟨hi', hx', hc'⟩, hn⟩ := ih2 hi1 hx1
    refine ⟨⟨hi', hx', ?_⟩, fun hm => ?_⟩
    · have : Event.executed id ∉ [eventOf w.ms w.self em] := fun hm =>
        hne ((eventOf_executed _ _ _ _).mp (List.mem_singleton.mp hm).symm)
      rw [hc', hc1, List.count_append, List.count_eq_zero_of_not_mem this]; rfl
    · rcases List.mem_cons.mp hm with rfl | hm
      · cases hs; exact hne rfl
      · exact hn hm

/-- C05 "re-entrant Execute calls fail": the status is saved as Executed *before* the messages are
dispatched, so a proposal whose own messages call Execute on itself can never be executed: the
inner call is refused, the whole transaction fails (for every fuel, sender and block) and by
`tx_atomic` the proposal stays exactly as it was (Passed). -/
theorem reentrant_execute_fails {fuel : Nat} {w : World} {blk : Block} {snd : Addr} {id : Nat} {p : Proposal}
    (hi : Inv w.ms) (hp : w.ms.core.proposals.get? id = some p) (hmem : Msg.selfExecute id ∈ p.msgs) :
    (tx fuel w blk snd (.execute id)).isOk = false ∧ step fuel w ⟨blk, .exec snd (.execute id)⟩ = w := by
  cases ht : tx fuel w blk snd (.execute id) with
  | error e => exact ⟨rfl, tx_atomic ht⟩
  | ok w' =>
    exfalso
    simp only [tx, Res.bind_ok] at ht
    obtain ⟨⟨s', out⟩, he, hd⟩ := ht
    obtain ⟨p', hp', rfl⟩ := execute_out_eq_msgs he
    cases hp.symm.trans hp'
    exact (dispatch_after_executed hd (execute_inv hi he) (by rw [(handler_isExec hi he id).1]; simp)).2 hmem

/-- C05 "Close succeeds only on an expired proposal that did not pass": inside the invariant (every reachable state) the
Close handler succeeds exactly when the proposal exists, is stored Open, is expired at the call's
block, and its current status is not Passed. -/
theorem close_ok_iff {s : State} (hi : Inv s) (blk : Block) (snd : Addr) (id : Nat) :
    (execute s blk snd (.close id)).isOk = true ↔
      ∃ p st, s.core.proposals.get? id = some p ∧ p.status = .open ∧ p.expires.isExpired blk = true ∧
        p.currentStatus blk = .ok st ∧ st ≠ .passed :=
  execute_close_isOk_iff hi.wf

/-- C05 "Close … never dispatches anything": a successful Close returns no message, stores the
proposal as Rejected, and the transaction moves no funds. -/
theorem close_emits_nothing {fuel : Nat} {w w' : World} {blk : Block} {snd : Addr} {id : Nat}
    (h : tx fuel w blk snd (.close id) = .ok w') :
    w'.bank = w.bank ∧ ∃ p, w.ms.core.proposals.get? id = some p ∧
      w'.ms.core.proposals.get? id = some { p with status := .rejected } := by
  simp only [tx, Res.bind_ok] at h
  obtain ⟨⟨s', out⟩, he, hd⟩ := h
  obtain ⟨c, hcl, rfl, rfl⟩ := execute_close_ok_iff.mp he
  obtain ⟨p, _, hp, _, _, _, _, _, _, rfl⟩ := close_ok hcl
  rw [dispatch_nil] at hd
  cases hd
  exact ⟨rfl, p, hp, AMap.get?_set_eq _ _ _⟩

/-! ## ids, immutability, expiry -/

/-- C05 "ids are unique and increasing": in every reachable state the proposal ids are exactly
`1 … count` … -/
theorem ids_are_one_to_count {fuel : Nat} {w : World} (hr : Reachable fuel w) (id : Nat) :
    (w.ms.core.proposals.get? id).isSome = true ↔ (1 ≤ id ∧ id ≤ w.ms.core.count) :=
  (reachable_inv hr).wf.ids id

/-- … every successful Propose takes the next id `count + 1`, which no proposal had before, and
the counter never decreases over a history. -/
theorem ids_fresh_increasing {s s' : State} {blk : Block} {snd : Addr} {t d : String} {msgs : List Msg}
    {latest : Option Expiration} {out : List Msg} (hi : Inv s)
    (h : execute s blk snd (.propose t d msgs latest) = .ok (s', out)) :
    s'.core.count = s.core.count + 1 ∧ s.core.proposals.get? (s.core.count + 1) = none ∧
    (s'.core.proposals.get? (s.core.count + 1)).isSome = true ∧
    ∀ id, id ≠ s.core.count + 1 → s'.core.proposals.get? id = s.core.proposals.get? id := by
  obtain ⟨w, c, id0, _, hp, rfl, _⟩ := execute_propose_ok_iff.mp h
  obtain ⟨expires, st, _, _, rfl, _, rfl⟩ := propose_ok hp
  exact ⟨rfl, hi.wf.fresh (by omega), by simp, fun id hne => AMap.get?_set_ne _ _ _ _ (Ne.symm hne)⟩

theorem count_monotone {fuel : Nat} {w : World} (hr : Reachable fuel w) (ops : List Op) :
    w.ms.core.count ≤ (run fuel w ops).ms.core.count :=
  (run_later (reachable_inv hr) ops).count

/-- C05 "a proposal's content, threshold and expiry are fixed at creation": over every history a
proposal keeps its title, description, start height, expiry, messages, threshold, total weight,
proposer and deposit (only status and tally can change). -/
theorem proposal_immutable {fuel : Nat} {w : World} (hr : Reachable fuel w) (ops : List Op)
    {id : Nat} {p : Proposal} (hp : w.ms.core.proposals.get? id = some p) :
    ∃ p', (run fuel w ops).ms.core.proposals.get? id = some p' ∧
      p'.title = p.title ∧ p'.description = p.description ∧ p'.startHeight = p.startHeight ∧
      p'.expires = p.expires ∧ p'.msgs = p.msgs ∧ p'.threshold = p.threshold ∧
      p'.totalWeight = p.totalWeight ∧ p'.proposer = p.proposer ∧ p'.deposit = p.deposit := by
  obtain ⟨p', hp', hf, _⟩ := (run_later (reachable_inv hr) ops).props id p hp
  exact ⟨p', hp', fixedPart_fields hf⟩

/-- C05 "expiry never later than the maximum voting period": a successful Propose at block `blk`
creates a proposal that starts at `blk.height`, carries exactly the submitted title, description
and messages and the configured threshold/total, and whose expiry is comparable with and not later
than `max_voting_period.after(blk)` (by `proposal_immutable` it keeps that expiry forever).
Without `latest` the expiry is exactly the maximum. -/
theorem expiry_le_max {s s' : State} {blk : Block} {snd : Addr} {t d : String} {msgs : List Msg}
    {latest : Option Expiration} {out : List Msg}
    (h : execute s blk snd (.propose t d msgs latest) = .ok (s', out)) :
    ∃ p, s'.core.proposals.get? (s.core.count + 1) = some p ∧
      (p.expires.cmp? (s.cfg.maxVotingPeriod.after blk) = some .lt ∨
       p.expires.cmp? (s.cfg.maxVotingPeriod.after blk) = some .eq) ∧
      (latest = none → p.expires = s.cfg.maxVotingPeriod.after blk) ∧
      p.startHeight = blk.height ∧ p.title = t ∧ p.description = d ∧ p.msgs = msgs ∧ p.proposer = snd ∧
      p.threshold = s.cfg.threshold ∧ p.totalWeight = s.cfg.totalWeight := by
  obtain ⟨w, c, id0, _, hp, rfl, _⟩ := execute_propose_ok_iff.mp h
  obtain ⟨expires, st, hexp, _, rfl, _, rfl⟩ := propose_ok hp
  refine ⟨_, AMap.get?_set_eq _ _ _, chooseExpiry_le hexp, ?_, rfl, rfl, rfl, rfl, rfl, rfl, rfl⟩
  intro hl; subst hl
  simp only [chooseExpiry, Option.getD_none] at hexp
  cases hm : s.cfg.maxVotingPeriod.after blk <;> simp [hm, Expiration.cmp?] at hexp <;> simp [hexp]

/-! ## world level: what a committed Execute dispatched, and general re-entrancy -/

/-- Dispatching a list of messages none of which calls back into the multisig logs exactly one event per message, in
order, and leaves the multisig state alone. -/
theorem dispatch_leaves (blk : Block) : ∀ (fuel : Nat) (w w' : World) (msgs : List Msg),
    (∀ m ∈ msgs, selfCall m = none) → dispatch fuel w blk msgs = .ok w' →
    w'.log = w.log ++ msgs.map leafEvent ∧ w'.ms = w.ms
  | _, w, w', [], _, h => by simp [dispatch] at h; subst h; simp
  | 0, w, w', _ :: _, _, h => by simp [dispatch] at h
  | fuel + 1, w, w', m :: rest, hl, h => by
    simp only [dispatch, hl m (by simp), Res.bind_ok] at h
    obtain ⟨w1, h1, h2⟩ := h
    obtain ⟨e1, e2⟩ := dispatch_leaves blk fuel w1 w' rest (fun x hx => hl x (by simp [hx])) h2
    rw [e1, e2, leaf_log h1, (leaf_ms h1).1]
    simp

/-- **C05 "messages are dispatched only by Execute, exactly as proposed", world level** (clause a/c at the level of the
runtime).  A committed Execute transaction of a proposal none of whose messages calls back into the multisig appends to
the ghost log exactly `executed id` followed by one event per message of the proposal — `sent to amount denom` for a
bank send, `called tag` for an external call — in the proposal's order, nothing else; and the proposal is stored
Executed.  (By `expiry_le_max` / `proposal_immutable` those messages are the ones submitted with `Propose`.) -/
theorem execute_tx_dispatches_msgs {fuel : Nat} {w w' : World} {blk : Block} {snd : Addr} {id : Nat} {p : Proposal}
    (hp : w.ms.core.proposals.get? id = some p) (hleaf : ∀ m ∈ p.msgs, selfCall m = none)
    (h : tx fuel w blk snd (.execute id) = .ok w') :
    w'.log = w.log ++ .executed id :: p.msgs.map leafEvent ∧
    ∃ p', w'.ms.core.proposals.get? id = some p' ∧ p'.status = .executed := by
  simp only [tx, Res.bind_ok] at h
  obtain ⟨⟨s', out⟩, he, hd⟩ := h
  obtain ⟨p0, hp0, rfl⟩ := execute_out_eq_msgs he
  cases hp.symm.trans hp0
  obtain ⟨e1, e2⟩ := dispatch_leaves blk fuel _ w' p.msgs hleaf hd
  obtain ⟨p', _, hs', _⟩ := execute_sets_executed he
  exact ⟨by rw [e1]; simp [eventOf], e2 ▸ ⟨_, hs', rfl⟩⟩

/-- **End to end: what Execute returns is what was proposed.**  If proposal `id` exists in a reachable world `w0` with
messages `p0.msgs` (by `expiry_le_max` the `msgs` argument of the Propose that created it), then after ANY further
history every successful Execute of `id` returns exactly those messages, in order. -/
theorem executed_msgs_are_proposed {fuel : Nat} {w0 : World} (hr : Reachable fuel w0) (ops : List Op)
    {id : Nat} {p0 : Proposal} (hp0 : w0.ms.core.proposals.get? id = some p0)
    {blk : Block} {snd : Addr} {s' : State} {out : List Msg}
    (h : execute (run fuel w0 ops).ms blk snd (.execute id) = .ok (s', out)) : out = p0.msgs := by
  obtain ⟨p, hp, hout⟩ := execute_out_eq_msgs h
  obtain ⟨p', hp', _, _, _, _, hm, _⟩ := proposal_immutable hr ops hp0
  rw [hp] at hp'; cases hp'
  rw [hout, hm]

/-- **General re-entrancy** (covers indirect cycles 1 → 2 → 1): once a proposal is stored Executed, whatever is
dispatched afterwards — any message list, any nesting of self-calls — adds no further `executed id` event: a nested
Execute of it anywhere fails and with it the whole dispatch; a successful dispatch contains none. -/
theorem dispatch_no_second_execution {fuel : Nat} {w w' : World} {blk : Block} {msgs : List Msg} {id : Nat}
    (hi : Inv w.ms) (hx : isExec w.ms.core id = true) (h : dispatch fuel w blk msgs = .ok w') :
    w'.log.count (.executed id) = w.log.count (.executed id) ∧ isExec w'.ms.core id = true :=
  have := (dispatch_after_executed h hi hx).1
  ⟨this.2.2, this.2.1⟩

/-! ## the converse log invariant: everything ever dispatched traces back to an executed proposal

`execute_tx_dispatches_msgs` says what ONE committed Execute without self-calls appends to the ghost log.  The converse,
over every history and with arbitrary nesting: the multiset of `sent`/`called` events of the committed log is exactly the
multiset union, over the `executed id` events of the log (each proposal at most once: `executions_le_one`), of the
proposal's own non-self-call messages. -/

/-- `sent` / `called`: the events left by dispatched messages that are not calls back into the multisig. -/
def isLeafEvent : Event → Bool
  | .sent .. => true
  | .called _ => true
  | _ => false

/-- The events the non-self-call messages of a message list leave when dispatched, in order. -/
def leafEventsOf (msgs : List Msg) : List Event := (msgs.filter fun m => (selfCall m).isNone).map leafEvent

/-- The stored messages of proposal `id` (`[]` when there is no such proposal). -/
def msgsOf (c : Core) (id : Nat) : List Msg :=
  match c.proposals.get? id with
  | some p => p.msgs
  | none => []

/-- ⨄ over the `executed id` events of a log, in log order, of the leaf events of proposal `id`'s stored messages. -/
def expectedLeaves (c : Core) : List Event → List Event
  | [] => []
  | .executed id :: rest => leafEventsOf (msgsOf c id) ++ expectedLeaves c rest
  | .proposed _ :: rest => expectedLeaves c rest
  | .voted _ _ :: rest => expectedLeaves c rest
  | .closed _ :: rest => expectedLeaves c rest
  | .sent _ _ _ :: rest => expectedLeaves c rest
  | .called _ :: rest => expectedLeaves c rest

theorem expectedLeaves_append (c : Core) (l l' : List Event) :
    expectedLeaves c (l ++ l') = expectedLeaves c l ++ expectedLeaves c l' := by
  induction l with
  | nil => rfl
  | cons e r ih => cases e <;> simp [expectedLeaves, ih]

theorem expectedLeaves_congr {c c' : Core} : ∀ (l : List Event),
    (∀ id, Event.executed id ∈ l → msgsOf c' id = msgsOf c id) → expectedLeaves c' l = expectedLeaves c l
  | [], _ => rfl
  | e :: r, h => by
    have ih := expectedLeaves_congr r (fun id hm => h id (List.mem_cons_of_mem _ hm))
    cases e <;> simp only [expectedLeaves, ih]
    rename_i id
    rw [h id (List.mem_cons_self ..)]

theorem isLeafEvent_leafEvent (m : Msg) : isLeafEvent (leafEvent m) = true := by
  cases m <;> rfl

theorem leafEventsOf_cons (m : Msg) (rest : List Msg) :
    leafEventsOf (m :: rest) = (if (selfCall m).isNone then [leafEvent m] else []) ++ leafEventsOf rest := by
  unfold leafEventsOf
  by_cases h : (selfCall m).isNone = true <;> simp [h]

/-- In a world satisfying the ghost invariant, every `executed id` of the log is a stored proposal, and a handler call
leaves its messages alone. -/
theorem msgsOf_stable {w : World} {blk : Block} {snd : Addr} {em : ExecMsg} {s' : State} {out : List Msg}
    (hq : GhostInv w) (he : execute w.ms blk snd em = .ok (s', out)) {id : Nat} (hm : Event.executed id ∈ w.log) :
    msgsOf s'.core id = msgsOf w.ms.core id := by
  obtain ⟨p, hp, _⟩ := hq.executed_of_mem hm
  obtain ⟨p', hp', hf, _⟩ := (execute_later hq.1 he).props id p hp
  simp [msgsOf, hp, hp', (fixedPart_fields hf).2.2.2.2.1]

/-- **One handler call, in log terms**: the expected leaf events grow by exactly the leaf events of the messages the
call returned (the proposal's messages for an Execute, nothing otherwise). -/
theorem expected_call {w : World} {blk : Block} {snd : Addr} {em : ExecMsg} {s' : State} {out : List Msg}
    (hq : GhostInv w) (he : execute w.ms blk snd em = .ok (s', out)) :
    expectedLeaves s'.core (w.log ++ [eventOf w.ms snd em]) = expectedLeaves w.ms.core w.log ++ leafEventsOf out := by
  rw [expectedLeaves_append, expectedLeaves_congr w.log (fun id hm => msgsOf_stable hq he hm)]
  congr 1
  cases em with
  | execute id =>
    obtain ⟨p, hp, hout⟩ := execute_out_eq_msgs he
    obtain ⟨p', hp', hs', _⟩ := execute_sets_executed he
    rw [hp] at hp'; cases hp'
    simp [eventOf, expectedLeaves, msgsOf, hs', hout]
  | propose _ _ _ _ | vote _ _ | close _ =>
    have := only_execute_emits he (by intro id; simp)
    subst this; simp [eventOf, expectedLeaves, leafEventsOf]

theorem count_eventOf_leaf {e : Event} (hleaf : isLeafEvent e = true) (s : State) (snd : Addr) (m : ExecMsg) :
    [eventOf s snd m].count e = 0 :=
  List.count_eq_zero_of_not_mem fun hm => by
    rw [List.mem_singleton.mp hm] at hleaf; cases m <;> cases hleaf

/-- **The dispatch induction for the log.**  Over the dispatch of any message list, depth-first with all nested
handler calls: for every leaf event `e`, if before the dispatch "logged + still to be dispatched here (+ `K` pending in
the enclosing lists) = expected", then after it "logged (+ `K`) = expected". -/
theorem conv_dispatch (blk : Block) (e : Event) (hleaf : isLeafEvent e = true) :
    ∀ fuel w msgs w', GhostInv w → dispatch fuel w blk msgs = .ok w' →
      GhostInv w' ∧ ∀ K, w.log.count e + (leafEventsOf msgs).count e + K = (expectedLeaves w.ms.core w.log).count e →
        w'.log.count e + K = (expectedLeaves w'.ms.core w'.log).count e := by
  intro fuel w msgs w' hq h
  refine dispatch_induction blk
    (M := fun w msgs w' => GhostInv w → GhostInv w' ∧ ∀ K,
      w.log.count e + (leafEventsOf msgs).count e + K = (expectedLeaves w.ms.core w.log).count e →
        w'.log.count e + K = (expectedLeaves w'.ms.core w'.log).count e)
    (fun _ hq => ⟨hq, fun K hk => by simpa [leafEventsOf] using hk⟩) ?_ ?_ fuel w msgs w' h hq
  · -- a leaf message: its event moves from "still to be dispatched" to "logged"
    intro w m rest w1 w' hs hl ih hq
    obtain ⟨hq', hk'⟩ := ih (ghost_leaf hq hl)
    refine ⟨hq', fun K hk => hk' K ?_⟩
    have hnil : expectedLeaves w.ms.core [leafEvent m] = [] := by cases m <;> rfl
    rw [leaf_log hl, (leaf_ms hl).1, expectedLeaves_append, hnil, List.append_nil, List.count_append]
    rw [leafEventsOf_cons, hs, List.count_append] at hk
    simp only [Option.isNone_none, if_true] at hk
    omega
  · -- a self-call: what it returned is expected (`expected_call`) and dispatched before the rest, which is pending meanwhile
    intro w m rest em s' out w1 w' hs he ih1 ih2 hq
    obtain ⟨hq1, hk1⟩ := ih1 (ghost_call hq he)
    obtain ⟨hq', hk'⟩ := ih2 hq1
    refine ⟨hq', fun K hk => hk' K ?_⟩
    rw [leafEventsOf_cons, hs] at hk
    simp only [Option.isNone_some, Bool.false_eq_true, if_false, List.nil_append] at hk
    have := hk1 ((leafEventsOf rest).count e + K) (by
      show (w.log ++ [eventOf w.ms w.self em]).count e + _ + _ = _
      rw [expected_call hq he, List.count_append, List.count_append, count_eventOf_leaf hleaf]
      omega)
    omega

/-- The invariant of the converse: for every leaf event, logged = expected. -/
def ConvInv (w : World) : Prop :=
  GhostInv w ∧ ∀ e, isLeafEvent e = true → w.log.count e = (expectedLeaves w.ms.core w.log).count e

theorem conv_step (fuel : Nat) (w : World) (op : Op) (hq : ConvInv w) : ConvInv (step fuel w op) := by
  refine ⟨ghost_step fuel w op hq.1, fun e hleaf => ?_⟩
  unfold step
  split
  · rename_i snd m _
    split
    · rename_i w' htx
      simp only [tx, Res.bind_ok] at htx
      obtain ⟨⟨s', out⟩, he, hd⟩ := htx
      have := (conv_dispatch op.blk e hleaf fuel _ out w' (ghost_call hq.1 he) hd).2 0 (by
        show (w.log ++ [eventOf w.ms snd m]).count e + _ + _ = _
        rw [expected_call hq.1 he, List.count_append, List.count_append, count_eventOf_leaf hleaf, hq.2 e hleaf]
        omega)
      simpa using this
    · exact hq.2 e hleaf
  · split
    · exact hq.2 e hleaf
    · exact hq.2 e hleaf
  · exact hq.2 e hleaf

theorem reachable_conv {fuel : Nat} {w : World} (hr : Reachable fuel w) : ConvInv w :=
  reachable_world_ind ConvInv
    (fun m s self bank sink hi =>
      ⟨reachable_ghost (fuel := fuel) ⟨m, s, self, bank, sink, [], hi, rfl⟩, fun e _ => by simp [World.init, expectedLeaves]⟩)
    (conv_step fuel) hr

/-- The proposals with an `executed` event in the log, in log order. -/
def executedIds (log : List Event) : List Nat := log.filterMap fun | .executed id => some id | _ => none

theorem expectedLeaves_eq_flatMap (c : Core) (l : List Event) :
    expectedLeaves c l = (executedIds l).flatMap fun id => leafEventsOf (msgsOf c id) := by
  induction l with
  | nil => rfl
  | cons e r ih => cases e <;> simp [expectedLeaves, executedIds, ih] <;> rfl

theorem count_executedIds (log : List Event) (id : Nat) : (executedIds log).count id = log.count (.executed id) := by
  unfold executedIds
  induction log with
  | nil => rfl
  | cons e r ih => cases e <;> simp [List.count_cons, ih]

/-- **C05 converse, over every history: `dispatched_only_by_execute_run`.**  In every reachable world the `sent` /
`called` events of the committed log — every bank send and every external call ever made on behalf of the multisig, at
any nesting depth, in transactions by anybody — are, as a multiset (`List.Perm`), exactly the union over the `executed id`
events of the log of the non-self-call messages stored in proposal `id` (`leafEventsOf (msgsOf …)`, by
`proposal_immutable` / `expiry_le_max` the messages submitted with its Propose); every executed proposal contributes
exactly once (`executedIds_nodup`).  Nothing is dispatched that no executed proposal contains, and nothing an executed
proposal contains is skipped or repeated.  (The order inside one Execute without self-calls is `execute_tx_dispatches_msgs`;
with nesting the events of an inner Execute sit between those of the outer one, which is why this is a multiset
statement.) -/
theorem dispatched_only_by_execute_run {fuel : Nat} {w : World} (hr : Reachable fuel w) :
    (w.log.filter isLeafEvent).Perm ((executedIds w.log).flatMap fun id => leafEventsOf (msgsOf w.ms.core id)) := by
  rw [List.perm_iff_count]
  intro e
  cases hleaf : isLeafEvent e with
  | true => rw [List.count_filter hleaf, ← expectedLeaves_eq_flatMap]; exact (reachable_conv hr).2 e hleaf
  | false =>
    -- neither list holds an event other than `sent` / `called`
    have h1 : e ∉ w.log.filter isLeafEvent := fun hm => by rw [(List.mem_filter.mp hm).2] at hleaf; cases hleaf
    have h2 : e ∉ (executedIds w.log).flatMap fun id => leafEventsOf (msgsOf w.ms.core id) := fun hm => by
      obtain ⟨id, _, hm⟩ := List.mem_flatMap.mp hm
      obtain ⟨m, _, rfl⟩ := List.mem_map.mp hm
      rw [isLeafEvent_leafEvent] at hleaf; cases hleaf
    rw [List.count_eq_zero_of_not_mem h1, List.count_eq_zero_of_not_mem h2]

/-- Each executed proposal occurs once in `executedIds` (at most one `executed id` event per proposal over every history). -/
theorem executedIds_nodup {fuel : Nat} {w : World} (hr : Reachable fuel w) : (executedIds w.log).Nodup := by
  rw [List.nodup_iff_count]
  intro id
  rw [count_executedIds]
  exact (executions_le_one hr id).1

/-- **Traces back.**  Every `sent` / `called` event of the committed log of a reachable world is the event of a
non-self-call message stored in a proposal that has an `executed` event in that log (and is stored Executed). -/
theorem dispatched_traces_back {fuel : Nat} {w : World} (hr : Reachable fuel w) {e : Event} (he : e ∈ w.log)
    (hleaf : isLeafEvent e = true) :
    ∃ id p m, Event.executed id ∈ w.log ∧ w.ms.core.proposals.get? id = some p ∧ p.status = .executed ∧ m ∈ p.msgs ∧
      selfCall m = none ∧ leafEvent m = e := by
  have hmem : e ∈ (executedIds w.log).flatMap fun id => leafEventsOf (msgsOf w.ms.core id) :=
    (dispatched_only_by_execute_run hr).mem_iff.mp (List.mem_filter.mpr ⟨he, hleaf⟩)
  obtain ⟨id, hid, hm⟩ := List.mem_flatMap.mp hmem
  have hex : Event.executed id ∈ w.log := by
    rw [← List.count_pos_iff, ← count_executedIds]; exact List.count_pos_iff.mpr hid
  obtain ⟨p, hp, hx⟩ := (reachable_ghost hr).executed_of_mem hex
  unfold leafEventsOf at hm
  obtain ⟨m, hmf, rfl⟩ := List.mem_map.mp hm
  obtain ⟨hm1, hm2⟩ := List.mem_filter.mp hmf
  simp only [msgsOf, hp] at hm1
  exact ⟨id, p, m, hex, hp, hx, hm1, by simpa using hm2, rfl⟩

/-! ## the observed status only moves forward as time passes -/

/-- C05 "observed over time each proposal's status only moves Open to Passed to Executed or Open to
Rejected" — the passage of time: on every history whose blocks never go back, with the state left
untouched, the status a query reports at a later block is reachable along the forward edges from
the status reported at an earlier block (both at or after the last operation).  In particular it
is constant except at expiry, where Open may turn into Passed or Rejected.  (Across operations the
*stored* status moves along the same edges: `stored_status_edges`.) -/
theorem observed_status_monotone_in_time {fuel : Nat} {w : World} {b b1 b2 : Block} (hr : ReachableAt fuel w b)
    (h1 : blockLe b b1) (h2 : blockLe b1 b2) {id : Nat} {p : Proposal} (hp : w.ms.core.proposals.get? id = some p)
    {st1 st2 : Status} (hq1 : p.currentStatus b1 = .ok st1) (hq2 : p.currentStatus b2 = .ok st2) :
    edge st1 st2 = true :=
  observed_edge_core (reachable_inv hr.reachable).wf (reachable_openOk hr.reachable id p hp b1) (later_refl _) hp hp
    (fun _ _ => ⟨rfl, Or.inl rfl⟩) h2 hq1 hq2

/-! ## the observed status only moves forward — over operations AND time, in one statement -/

/-- In a reachable state every `Proposal` query of an existing proposal answers, at every block (inside
`Inv` the library decision cannot panic: C04 `no_panic`). -/
theorem query_always_answers {fuel : Nat} {w : World} (hr : Reachable fuel w) {id : Nat} {p : Proposal}
    (hp : w.ms.core.proposals.get? id = some p) (blk : Block) : ∃ v, Cw3Fixed.queryProposal w.ms blk id = .ok v := by
  have hprem := premise_of_inv (reachable_inv hr) hp
  obtain ⟨st, hst⟩ := (CwPlus.Props.C04.no_panic (p := p.tally) ⟨hprem.tally_le, hprem.total_u64, hprem.valid⟩ blk).2.2
  have hst' : p.currentStatus blk = .ok st := hst
  simp [Cw3Fixed.queryProposal, Cw3Core.queryProposal, load, hp, viewOf, hst', bind, Except.bind, pure, Except.pure]

/-- C05 "observed over time each proposal's status only moves Open to Passed to Executed or Open to
Rejected" — ONE statement over operations and time.  Take ANY reachable world `w0` (any history after an
accepted instantiation) and query a proposal there at any block `b1`; let any further history follow
(`ReachableFrom`: any operations by anybody — votes, executes, closes, other proposals, re-entrant and
failing dispatches, funding — at blocks `≥ b1` that never go back, last operation at `b`), and query the
same proposal again at any block `b2 ≥ b`.  Then the later answer is reachable from the earlier one along
the forward edges only: equal, Open→Passed, Open→Rejected, Open→Executed (through Passed, by
`execute_ok_iff`), Passed→Executed.  Never backwards, never Passed→Rejected, never Rejected→anything,
never Executed→anything.
(The proposal still exists later and the later query answers: `stored_status_edges`,
`query_always_answers`; the later world is reachable: `Reachable.extend`.)  An Open-stored proposal is
*observed* Passed or Rejected only once it has expired (`reachable_openOk`: a vote that decides early
stores the decision at once — which is also why C04's stability of early decisions under further votes
is not needed here: `C03.passed_justified` / `C03.rejected_justified` use it for the sticky statuses);
after expiry no vote is accepted, so only Execute (iff observed Passed) and Close (iff observed
Rejected) can still change the proposal. -/
theorem observed_status_monotone {fuel : Nat} {w0 w : World} {b1 b b2 : Block} (hr : Reachable fuel w0)
    (hf : ReachableFrom fuel w0 b1 w b) (h2 : blockLe b b2) {id : Nat} {v1 v2 : ProposalView}
    (hq1 : Cw3Fixed.queryProposal w0.ms b1 id = .ok v1) (hq2 : Cw3Fixed.queryProposal w.ms b2 id = .ok v2) :
    v1.status = v2.status ∨
      (v1.status = .open ∧ (v2.status = .passed ∨ v2.status = .rejected ∨ v2.status = .executed)) ∨
      (v1.status = .passed ∧ v2.status = .executed) := by
  obtain ⟨p0, hp0, hs1⟩ := queryProposal_ok hq1
  obtain ⟨p, hp, hs2⟩ := queryProposal_ok hq2
  have hi0 := reachable_inv hr
  have hopen : OpenOk b1 p0 := reachable_openOk hr id p0 hp0 b1
  have hinv := reachableFrom_inv
    (fun b s => blockLe b1 b ∧ Inv s ∧ Later w0.ms.core s.core ∧
      (p0.status = .open → p0.expires.isExpired b1 = true → FrozenAt p0 v1.status id s.core))
    (fun b b2 s hb ⟨h1, h2, h3, h4⟩ => ⟨blockLe_trans h1 hb, h2, h3, h4⟩)
    (fun b s snd m s' out ⟨h1, h2, h3, h4⟩ he =>
      ⟨h1, execute_inv h2 he, later_trans h3 (execute_later h2 he),
        fun ho hexp => frozenAt_step ho hexp hs1 h1 (h4 ho hexp) (execute_coreStep he)⟩)
    (w0 := w0) (b1 := b1)
    ⟨blockLe_refl _, hi0, later_refl _, fun _ _ => ⟨hi0.wf, p0, hp0, rfl, Or.inl rfl⟩⟩ hf
  obtain ⟨_, hi, hlater, hfz⟩ := hinv
  refine (edge_iff_cases _ _).mp (observed_edge_core hi.wf hopen hlater hp0 hp ?_ (blockLe_trans hf.le h2) hs1 hs2)
  intro ho hexp
  obtain ⟨_, p', hp', hfo⟩ := hfz ho hexp
  rw [hp] at hp'; cases hp'
  exact hfo

def exInst : InstMsg :=
  { voters := [(⟨true, "a"⟩, 2), (⟨true, "b"⟩, 1)], threshold := .absoluteCount 3, maxVotingPeriod := .height 10 }
def exState : State := match instantiate exInst with | .ok s => s | .error _ => default
def exBlk : Block := ⟨100, 1000⟩
def exWorld : World := World.init exState "ms" [(("ms", "ucosm"), 3)] true
/-- proposal 1 sends 4 (more than the multisig holds) and passes; proposal 2 calls Execute on itself -/
def exOps : List Op :=
  [⟨exBlk, .exec "a" (.propose "t" "d" [.bank "r" 4 "ucosm"] none)⟩, ⟨exBlk, .exec "b" (.vote 1 .yes)⟩,
   ⟨exBlk, .exec "a" (.propose "t" "d" [.selfExecute 2] none)⟩, ⟨exBlk, .exec "b" (.vote 2 .yes)⟩]

example : instantiate exInst = .ok exState := rfl
/-- both proposals are Passed -/
example : (run 10 exWorld exOps).ms.core.proposals.map (fun e => (e.1, e.2.status)) = [(1, .passed), (2, .passed)] := by decide +kernel
/-- Execute of 1 fails in the dispatch (insufficient funds) and leaves it Passed; after funding it succeeds once -/
example : (tx 10 (run 10 exWorld exOps) exBlk "x" (.execute 1)).isOk = false := by decide +kernel
example : (run 10 exWorld (exOps ++ [⟨exBlk, .exec "x" (.execute 1)⟩])) = run 10 exWorld exOps := by decide +kernel
example : executions (run 10 exWorld (exOps ++ [⟨exBlk, .exec "x" (.execute 1)⟩, ⟨exBlk, .fund 1 "ucosm"⟩,
    ⟨exBlk, .exec "x" (.execute 1)⟩, ⟨exBlk, .exec "y" (.execute 1)⟩])) 1 = 1 := by decide +kernel
/-- the self-executing proposal 2 can never be executed -/
example : (tx 10 (run 10 exWorld exOps) exBlk "x" (.execute 2)).isOk = false := by decide +kernel

/-- non-vacuity of `observed_status_monotone`: `w0` = after proposal 1 passed (last block 100); further
history at later blocks: funding, then a successful Execute -/
def exW0 : World := run 10 exWorld (exOps.take 2)
def exMore : List Op := [⟨⟨101, 1001⟩, .fund 1 "ucosm"⟩, ⟨⟨102, 1002⟩, .exec "x" (.execute 1)⟩]

example : Reachable 10 exW0 := ⟨exInst, exState, "ms", _, true, exOps.take 2, rfl, rfl⟩
example : ReachableFrom 10 exW0 ⟨100, 1001⟩ (run 10 exW0 exMore) ⟨102, 1002⟩ :=
  ReachableFrom.step (w := step 10 exW0 ⟨⟨101, 1001⟩, .fund 1 "ucosm"⟩) ⟨⟨102, 1002⟩, .exec "x" (.execute 1)⟩
    (ReachableFrom.step ⟨⟨101, 1001⟩, .fund 1 "ucosm"⟩ ReachableFrom.refl ⟨by decide +kernel, by decide +kernel⟩) ⟨by decide +kernel, by decide +kernel⟩
/-- observed Passed at block 100 before, Executed at block 500 after -/
example : ((Cw3Fixed.queryProposal exW0.ms ⟨100, 1001⟩ 1).toOption.map (·.status)) = some .passed ∧
    ((Cw3Fixed.queryProposal (run 10 exW0 exMore).ms ⟨500, 5000⟩ 1).toOption.map (·.status)) = some .executed := by decide +kernel

/-- non-vacuity of `execute_tx_dispatches_msgs`: a passed proposal with one bank message and one external call; the
committed Execute logs `executed 1, sent …, called …` -/
example :
    let w := run 10 exWorld
      [⟨exBlk, .exec "a" (.propose "t" "d" [.bank "bob" 2 "ucosm", .other "x"] none)⟩, ⟨exBlk, .exec "b" (.vote 1 .yes)⟩]
    ((tx 10 w exBlk "z" (.execute 1)).toOption.map fun w' => w'.log.drop w.log.length)
      = some [.executed 1, .sent "bob" 2 "ucosm", .called "x"] := by
  decide +kernel

/-- non-vacuity of `dispatch_no_second_execution`: after `exMore` proposal 1 is stored Executed (ghost count 1), the
state satisfies `Inv`, and a further dispatch (an external call) succeeds — without adding an execution -/
example : isExec (run 10 exW0 exMore).ms.core 1 = true ∧ executions (run 10 exW0 exMore) 1 = 1 ∧
    ((dispatch 5 (run 10 exW0 exMore) ⟨103, 1003⟩ [.other "x"]).toOption.map fun w' => executions w' 1) = some 1 := by
  decide +kernel

/-- non-vacuity of `dispatched_only_by_execute_run` / `dispatched_traces_back`, with nesting: proposal 1 =
`[send 1 to bob, Execute 2, send 1 to carl]`, proposal 2 = `[call x]`, both Passed; one Execute of 1 commits and logs
`executed 1, sent bob, executed 2, called x, sent carl` — the leaf events are a permutation (not the concatenation) of
the executed proposals' messages `[sent bob, sent carl] ++ [called x]`. -/
def exNested : World :=
  run 10 exWorld
    [⟨exBlk, .exec "a" (.propose "t" "d" [.bank "bob" 1 "ucosm", .selfExecute 2, .bank "carl" 1 "ucosm"] none)⟩,
     ⟨exBlk, .exec "b" (.vote 1 .yes)⟩,
     ⟨exBlk, .exec "a" (.propose "t" "d" [.other "x"] none)⟩, ⟨exBlk, .exec "b" (.vote 2 .yes)⟩,
     ⟨exBlk, .exec "z" (.execute 1)⟩]

example : Reachable 10 exNested := ⟨exInst, exState, "ms", _, true, _, rfl, rfl⟩
example :
    exNested.log.filter isLeafEvent = [.sent "bob" 1 "ucosm", .called "x", .sent "carl" 1 "ucosm"] ∧
    executedIds exNested.log = [1, 2] ∧
    ((executedIds exNested.log).flatMap fun id => leafEventsOf (msgsOf exNested.ms.core id))
      = [.sent "bob" 1 "ucosm", .sent "carl" 1 "ucosm", .called "x"] := by
  decide +kernel

end CwPlus.Props.C05
