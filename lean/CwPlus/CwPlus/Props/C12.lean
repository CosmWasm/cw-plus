import CwPlus.Lemmas.Ics20
import CwPlus.Lemmas.Ics20Migrate
import CwPlus.Lemmas.Ics20Env
import CwPlus.Lemmas.Ics20TotalSent
import CwPlus.Lemmas.Ics20Ledger
import CwPlus.Lemmas.Ics20Honest
import CwPlus.Props.C18
import CwPlus.Props.C11
/-!
# C12 — cw20-ics20: channel balance tracks vouchers exactly; error acks change nothing

Histories (`runG`) are arbitrary lists of ops — user transfers (native, cw20 `Send`, direct hook
calls), incoming packets with arbitrary fields, acknowledgements / timeouts (at most one per packet in
flight, with the original data: `admissible`), governance ops and migrations — with every payout /
refund sub-call failing or succeeding arbitrarily (`fail` flag, receiver validity, faulty tokens).

## Environment assumptions (`structure EnvAssumptions`, Lemmas/Ics20Env.lean)

* **E1 `hook_only_from_send`** — a real cw20 token contract calls `ExecuteMsg::Receive` only from its own
  `Send`, after crediting the contract; a direct `Receive` never has a real token as sender.
* **E2 `never_calls_itself`** — the ics20 contract is never the sender of a transfer.
* **E3 `native_not_cw20`** — no native denomination has the form `cw20:…`.

The model's `World.exec` refuses transactions violating E1 / E2 (they are no-ops of `runG`);
`outstanding_identity_explicit_env` restates the accounting identity over the unguarded semantics
`runGRaw` with `EnvAssumptions` as an explicit hypothesis.  E3 is what makes the model's structural keys
`(channel, native d | cw20 addr)` faithful to the contract's string keys `(channel, denom string)`:
`storage_keys_faithful` (explicit hypothesis; `render_collision` shows the collision without it).
`success_ack_effects` needs "the receiver is not the contract itself" and has it as the explicit
hypothesis `hrs`.  IBC core's guarantee (one acknowledgement or timeout per sent packet, original
data) is the explicit predicate `admissible` inside `runG`; the `…_all_histories` theorems drop it
(`runU`, Lemmas/Ics20Ledger.lean).  The **honest counterparty** of the property's quantifier is the
explicit model of Lemmas/Ics20Honest.lean (`HEv`, `CpState`, `honestEv`, `HonestFrom`); it is used by
`refund_never_refused`, `refund_refused_iff_gas` and `refund_always_processed_fresh` only.
-/
namespace CwPlus.Props.C12
open CwPlus CwPlus.Ics20

/-- **C12, outstanding_identity**: on every history, for every channel and denomination,
`outstanding = sent − failedOrTimedOut − redeemed` (stated additively).  `sent` starts as whatever is
outstanding in the start state and is re-baselined by a migration (which books in-flight tokens of
the old rules as sent).  The re-baselining makes the identity trivially preserved *at* the migration
step; what the migration really does is `migrate_books_inflight` (outstanding := real holdings,
total_sent grows by the same difference), and `sent_tracks_total_sent` shows that the re-baselined
`sent` is, up to the start offset, the contract's own `total_sent` counter on every history
(`outstanding_identity_total_sent`: the identity with `sent` read off `total_sent`).  For start states
with packets already in flight see `outstanding_identity_inflight`. -/
theorem outstanding_identity (w : World) (ops : List (Block × Op)) (c : String) (d : Denom) :
    let wg := runG (w, Ghost.init w) ops
    outstanding wg.1.st c d + wg.2.failed (c, d) + wg.2.redeemed (c, d) = wg.2.sent (c, d) := by
  intro wg
  exact (runG_ledger ops (ledgerInv_init w)).1 (c, d)

/-- One step of the identity, from any state satisfying it (inductive form). -/
theorem outstanding_identity_step {wg : World × Ghost} (blk : Block) (op : Op) (h : LedgerInv wg) :
    LedgerInv (stepG wg blk op) := stepG_ledger blk op h

/-- **C12, success_ack_iff_paid**: an incoming packet is answered with a success acknowledgement iff
`do_ibc_packet_receive` accepted it and the payout sub-call went through (the final world is the one
after the payout). -/
theorem success_ack_iff_paid {w w' : World} {blk : Block} {p : PacketIn} {rv tv f : Bool} {o : Outcome}
    (h : w.exec blk (.recv p rv tv f) = .ok (w', o)) :
    o.ack = some .success ↔
      ∃ s1 sub, doReceive w.st p tv = .ok (s1, sub) ∧ ({ w with st := s1 } : World).payout sub rv f = some w' := by
  rcases exec_recv_ok h with ⟨⟨e, he⟩, _, ha, _⟩ | ⟨s1, sub, hd, _, hc⟩
  · constructor
    · intro h'; rw [ha] at h'; cases h'
    · rintro ⟨s1, sub, hd, _⟩; rw [he] at hd; cases hd
  · rcases hc with ⟨hp, ha⟩ | ⟨hp, ha, _⟩
    · exact ⟨fun _ => ⟨s1, sub, hd, hp⟩, fun _ => ha⟩
    · constructor
      · intro h'; rw [ha] at h'; cases h'
      · rintro ⟨s1', sub', hd', hp'⟩
        rw [hd] at hd'; cases hd'
        rw [hp] at hp'; cases hp'

/-- **C12, success ⇒ paid in full and balance reduced by it**: with a success acknowledgement the
channel balance of the redeemed denomination dropped by exactly the packet's amount, and exactly that
amount moved from the contract to the receiver (native: bank balance; cw20: token balance). -/
theorem success_ack_effects {w w' : World} {blk : Block} {p : PacketIn} {rv tv f : Bool} {o : Outcome}
    (h : w.exec blk (.recv p rv tv f) = .ok (w', o)) (ha : o.ack = some .success) (hrs : p.receiver ≠ w.self) :
    ∃ amt d, p.amount = some amt ∧ p.voucher = some (p.srcPort, p.srcChan, d) ∧
      amt ≤ outstanding w.st p.destChan d ∧
      outstanding w'.st p.destChan d = outstanding w.st p.destChan d - amt ∧
      (match d with
       | .native dn => w'.bankBal p.receiver dn = w.bankBal p.receiver dn + amt ∧
                       w'.bankBal w.self dn = w.bankBal w.self dn - amt ∧ amt ≤ w.bankBal w.self dn
       | .cw20 t => w'.tokBal t p.receiver = w.tokBal t p.receiver + amt ∧
                    w'.tokBal t w.self = w.tokBal t w.self - amt ∧ amt ≤ w.tokBal t w.self) := by
  obtain ⟨s1, sub, hd, hp⟩ := (success_ack_iff_paid h).mp ha
  obtain ⟨amt, d, ch, hamt, hv, hred, rfl, hto, hsa, hsd, _, _⟩ := doReceive_ok hd
  obtain ⟨cs, hg, hle, _, ho, _⟩ := reduceBalance_ok hred
  refine ⟨amt, d, hamt, hv, by simp [outstanding, hg, hle], ?_, ?_⟩
  · rw [outstanding_eq, outstanding_eq, (payout_frame hp).1]
    simpa using ho (p.destChan, d)
  · have hm := C11.payout_moved hp (by rw [hto]; exact hrs)
    rw [hsd, hto, hsa] at hm
    cases d <;> exact ⟨hm.1, Nat.eq_sub_of_add_eq hm.2.1, Nat.le.intro ((Nat.add_comm ..).trans hm.2.1)⟩

/-- **C12, error_ack_state_unchanged**: whenever the final acknowledgement of an incoming packet is
an error, the world after the transaction is the world before it — channel balances, allow list,
config, admin, every bank and cw20 balance — except for the scratch item `REPLY_ARGS`. -/
theorem error_ack_state_unchanged {w w' : World} {blk : Block} {p : PacketIn} {rv tv f : Bool} {o : Outcome}
    (h : w.exec blk (.recv p rv tv f) = .ok (w', o)) (ha : o.ack = some .error) :
    w' = { w with st := { w.st with replyArgs := w'.st.replyArgs } } := by
  rcases exec_recv_ok h with ⟨_, rfl, _, _⟩ | ⟨s1, sub, hd, _, hc⟩
  · rfl
  · rcases hc with ⟨_, ha'⟩ | ⟨_, _, ra, ch2, hra, hundo, rfl⟩
    · rw [ha] at ha'; cases ha'
    · obtain ⟨amt, d, ch, _, _, hred, rfl, _⟩ := doReceive_ok hd
      simp at hra; subst hra
      have := undoReduce_reduce_eq hred hundo
      subst this
      rfl

/-- **C12, receive_total** (entry point): `ibc_packet_receive` has no error result — in the model it
is a total function returning an acknowledgement; it answers `success` exactly when
`do_ibc_packet_receive` succeeds and `error` otherwise, never touching the state in the latter case. -/
theorem receive_total (s : State) (p : PacketIn) (tv : Bool) :
    (∃ s' sub, doReceive s p tv = .ok (s', sub) ∧ ibcPacketReceive s p tv = (s', .success, some sub)) ∨
    (∃ e, doReceive s p tv = .error e ∧ ibcPacketReceive s p tv = (s, .error, none)) := by
  unfold ibcPacketReceive
  cases hd : doReceive s p tv with
  | ok r => obtain ⟨s', sub⟩ := r; exact Or.inl ⟨s', sub, rfl, rfl⟩
  | error e => exact Or.inr ⟨e, rfl, rfl⟩

/-- **C12, receive_total** (transaction): handling a packet never aborts, whatever the packet and
whether or not the payout sub-call fails (stored balances are `Uint128`). -/
theorem receive_tx_total (w : World) (blk : Block) (p : PacketIn) (rv tv f : Bool)
    (hb : ∀ k, outAt w.st.chan k ≤ U128_MAX) : ∃ w' o, w.exec blk (.recv p rv tv f) = .ok (w', o) := by
  simp only [World.exec, ibcPacketReceive]
  cases hd : doReceive w.st p tv with
  | error e => simp [World.dispatch]
  | ok r =>
    obtain ⟨s1, sub⟩ := r
    simp only [World.dispatch]
    cases hp : ({ w with st := s1 } : World).payout sub rv f with
    | some w2 => simp
    | none =>
      obtain ⟨amt, d, ch, _, _, hred, rfl, _, _, _, hid, _⟩ := doReceive_ok hd
      have hu := undoReduce_reduce hred (hb (p.destChan, d))
      simp [reply, hid, hu]

/-- **C12, transfer_emits_one_packet**: every accepted transfer (native funds, cw20 `Send`, direct
hook) emits exactly one ICS-20 packet on the requested channel carrying the escrowed amount (non-zero,
at most 2^64−1), the denomination, the true sender, the requested receiver and memo, with timeout
`block.time + (requested ∨ default) seconds`, and increases the channel balance by that amount. -/
theorem transfer_emits_one_packet {w w' : World} {blk : Block} {o : Outcome} :
    (∀ snd funds msg, w.exec blk (.transferNative snd funds msg) = .ok (w', o) →
      ∃ d amt, funds = [(d, amt)] ∧ amt ≠ 0 ∧ amt ≤ U64_MAX ∧
        o.sent = [⟨msg.channel, ⟨amt, .native d, msg.remote, snd, msg.memo⟩,
                   blk.time + (msg.timeout.getD w.st.config.defaultTimeout) * 1000000000⟩] ∧
        outstanding w'.st msg.channel (.native d) = outstanding w.st msg.channel (.native d) + amt) ∧
    (∀ snd token amt msg, w.exec blk (.sendCw20 snd token amt msg) = .ok (w', o) →
      ∃ m, msg = some m ∧ amt ≠ 0 ∧ amt ≤ U64_MAX ∧
        o.sent = [⟨m.channel, ⟨amt, .cw20 token, m.remote, snd, m.memo⟩,
                   blk.time + (m.timeout.getD w.st.config.defaultTimeout) * 1000000000⟩] ∧
        outstanding w'.st m.channel (.cw20 token) = outstanding w.st m.channel (.cw20 token) + amt) ∧
    (∀ snd funds sender amt msg, w.exec blk (.hook snd funds sender amt msg) = .ok (w', o) →
      ∃ m, msg = some m ∧ amt ≠ 0 ∧ amt ≤ U64_MAX ∧
        o.sent = [⟨m.channel, ⟨amt, .cw20 snd, m.remote, sender.text, m.memo⟩,
                   blk.time + (m.timeout.getD w.st.config.defaultTimeout) * 1000000000⟩]) := by
  refine ⟨?_, ?_, ?_⟩
  · intro snd funds msg h
    obtain ⟨d, amt, w1, s, out, rfl, _, _, hs, rfl, rfl⟩ := exec_transferNative_ok h
    obtain ⟨ch, hinc, rfl, hne, hle, _, _, rfl, _⟩ := execTransfer_ok hs
    refine ⟨d, amt, rfl, hne, hle, rfl, ?_⟩
    rw [outstanding_eq, outstanding_eq]
    simpa using (increaseBalance_ok hinc).1 (msg.channel, .native d)
  · intro snd token amt msg h
    obtain ⟨w1, m, s, out, _, _, _, rfl, hs, rfl, rfl⟩ := exec_sendCw20_ok h
    obtain ⟨ch, hinc, rfl, hne, hle, _, _, rfl, _⟩ := execTransfer_ok hs
    refine ⟨m, rfl, hne, hle, rfl, ?_⟩
    rw [outstanding_eq, outstanding_eq]
    simpa using (increaseBalance_ok hinc).1 (m.channel, .cw20 token)
  · intro snd funds sender amt msg h
    obtain ⟨m, s, out, _, rfl, hs, rfl, rfl⟩ := exec_hook_ok h
    obtain ⟨ch, hinc, rfl, hne, hle, _, _, rfl, _⟩ := execTransfer_ok hs
    exact ⟨m, rfl, hne, hle, rfl⟩

/-- The packet's timeout timestamp fits `u64` (else the transfer is refused). -/
theorem transfer_timeout_fits {s s' : State} {blk : Block} {msg : TransferMsg} {d : Denom} {amt : Nat} {snd : Addr}
    {out : SendOut} (h : execTransfer s blk msg d amt snd = .ok (s', out)) : out.timeout ≤ U64_MAX := by
  obtain ⟨_, _, _, _, _, _, _, rfl, hto⟩ := execTransfer_ok h
  exact hto

/-- Representation invariant: every stored outstanding balance is a `Uint128`. -/
def Bounded (w : World) : Prop := ∀ k, outAt w.st.chan k ≤ U128_MAX

theorem outAt_set_le {m : ChanMap} {k : Key} {v : ChanState} (hb : ∀ k, outAt m k ≤ U128_MAX)
    (hv : v.outstanding ≤ U128_MAX) : ∀ k', outAt (m.set k v) k' ≤ U128_MAX := by
  intro k'
  rw [outAt_set]
  split
  · exact hv
  · exact hb k'

theorem updateDenoms_bounded {ch : String} {hold : Denom → Option Nat} {es : List ((String × Denom) × ChanState)}
    {m m' : ChanMap} (h : updateDenoms ch hold es m = .ok m') (hb : ∀ k, outAt m k ≤ U128_MAX) :
    ∀ k, outAt m' k ≤ U128_MAX := by
  induction es generalizing m with
  | nil => cases h; exact hb
  | cons e rest ih =>
    obtain ⟨⟨c, d⟩, cs⟩ := e
    obtain ⟨m1, h1, hm1⟩ := updateDenoms_cons h
    rcases hm1 with ⟨_, rfl⟩ | ⟨_, _, _, _, ⟨_, rfl⟩ | ⟨hfit, rfl⟩⟩
    · exact ih h1 hb
    · exact ih h1 hb
    · exact ih h1 (outAt_set_le hb hfit)

theorem migrate_bounded {s s' : State} {gas : Option Nat} {hold : Denom → Option Nat}
    (h : migrate s gas hold = .ok s') (hb : ∀ k, outAt s.chan k ≤ U128_MAX) : ∀ k, outAt s'.chan k ≤ U128_MAX := by
  rcases (migrate_books h).2 with e | ⟨_, ch, _, hm⟩
  · rw [e]; exact hb
  · exact updateDenoms_bounded hm hb

theorem exec_bounded {w w' : World} {blk : Block} {op : Op} {o : Outcome}
    (hb : Bounded w) (h : w.exec blk op = .ok (w', o)) : Bounded w' := by
  have red : ∀ {ch : ChanMap} {c d amt}, reduceBalance w.st.chan c d amt = .ok ch → ∀ k, outAt ch k ≤ U128_MAX := by
    intro ch c d amt hred k
    obtain ⟨cs, _, _, _, ho, _⟩ := reduceBalance_ok hred
    rw [ho k]; have := hb k; split <;> omega
  cases exec_tx h with
  | quiet s' hw hchan _ _ _ _ _ _ => subst hw; exact fun k => hchan ▸ hb k
  | migrate gas s' _ hm hw _ => subst hw; exact migrate_bounded hm hb
  | escrow w1 out ch _ hinc _ _ _ hw _ _ _ _ _ =>
    subst hw
    obtain ⟨ho, _, hle⟩ := increaseBalance_ok hinc
    intro k
    show outAt ch k ≤ U128_MAX
    rw [ho k]
    split
    · next hk => exact hk ▸ hle
    · exact hb k
  | redeem p rv tv f d amt ch sub _ _ hred _ _ hst _ => unfold Bounded; rw [hst]; exact red hred
  | refund chan p sv tv f ch sub _ hred _ _ _ hst => unfold Bounded; rw [hst]; exact red hred
  | acked chan p sv tv f _ hw _ => subst hw; exact hb

/-- Histories without ghosts. -/
def run (w : World) (ops : List (Block × Op)) : World := ops.foldl (fun w o => w.step o.1 o.2) w

theorem run_bounded (w : World) (ops : List (Block × Op)) (hb : Bounded w) : Bounded (run w ops) :=
  run_induction (fun _ _ _ _ _ hb h => exec_bounded hb h) ops hb

/-- **C12, handling a packet never aborts**, on every history: from any state whose balances are
`Uint128` (e.g. a fresh instantiation), after any history, every incoming packet — whatever its
fields, and whether or not the payout sub-call fails — is processed by a successful transaction that
returns an acknowledgement. -/
theorem receive_never_aborts (w : World) (ops : List (Block × Op)) (hb : Bounded w)
    (blk : Block) (p : PacketIn) (rv tv f : Bool) :
    ∃ w' o, (run w ops).exec blk (.recv p rv tv f) = .ok (w', o) ∧ o.ack.isSome := by
  obtain ⟨w', o, h⟩ := receive_tx_total (run w ops) blk p rv tv f (run_bounded w ops hb)
  refine ⟨w', o, h, ?_⟩
  rcases exec_recv_ok h with ⟨_, _, ha, _⟩ | ⟨_, _, _, _, hc⟩
  · simp [ha]
  · rcases hc with ⟨_, ha⟩ | ⟨_, ha, _⟩ <;> simp [ha]

/-- **C12, migration lemma (balance reconciliation)**: `v2::update_balances` on a contract with exactly
one channel (distinct storage keys) sets, for every denomination with an entry on that channel, the
outstanding balance to the contract's real balance of that denomination (which must not be smaller
than the booked one, else the migration fails); entries of other keys are untouched. -/
theorem updateBalances_reconciles {s s' : State} {hold : Denom → Option Nat} {ch : String}
    (hch : s.channels = [ch]) (hnd : (s.chan.map (·.1)).Nodup) (h : updateBalances s hold = .ok s') :
    (∀ d cs, s.chan.get? (ch, d) = some cs →
      ∃ bal, hold d = some bal ∧ outstanding s' ch d = bal ∧ cs.outstanding ≤ bal) ∧
    (∀ c d, c ≠ ch → outstanding s' c d = outstanding s c d) := by
  rcases updateBalances_cases h with ⟨h0, _⟩ | ⟨ch', m, hc, hm, rfl⟩
  · rw [hch] at h0; cases h0
  · rw [hch] at hc; cases hc
    obtain ⟨r1, r2⟩ := updateDenoms_full hnd hm
    constructor
    · intro d cs hg
      obtain ⟨bal, hb, hle, hget⟩ := r1 d cs hg
      exact ⟨bal, hb, by simp [outstanding, hget], hle⟩
    · intro c d hc
      simp only [outstanding]
      rw [r2 (c, d) (Or.inr hc)]

/-- **C12, migration lemma (config rewrite)**: migrating a pre-0.12 layout (`v1::CONFIG` with
`gov_contract`) installs the old `gov_contract` as admin, keeps `default_timeout`, and the default
gas limit is exactly what the migrate message sets (unset if it sets none); the allow list is kept. -/
theorem migrate_v1_config {s s' : State} {gas : Option Nat} {hold : Denom → Option Nat} {gov : Addr}
    (hv : Version.le s.version MIGRATE_VERSION_2 = true) (hg : s.v1gov = some gov)
    (h : migrate s gas hold = .ok s') :
    s'.admin = some gov ∧ s'.v1gov = none ∧ s'.config.defaultTimeout = s.config.defaultTimeout ∧
    s'.config.defaultGasLimit = gas ∧ s'.allow = s.allow := by
  obtain ⟨adm, v1, c0, cfg, m, rfl, hA, hC, _⟩ := migrate_ok h
  rcases hA with ⟨hv', _⟩ | ⟨_, g, hg', rfl, rfl, rfl⟩
  · rw [hv] at hv'; cases hv'
  · rw [hg] at hg'; cases hg'
    rcases hC with ⟨rfl, rfl⟩ | ⟨g', rfl, _, rfl⟩ <;> exact ⟨rfl, rfl, rfl, rfl, rfl⟩

/-! ## The upgrade path: migrating from the pre-0.13.1 rules while tokens are still outstanding -/

/-- **C12, migrate_books_inflight**: a successful `migrate` from a stored version ≤ 0.13.0 (v1 → v2 →
current or v2 → current) of a one-channel contract (distinct storage keys): for every denomination with
an entry on that channel, the real holdings `bal` existed and were at least the booked outstanding
balance, and afterwards `outstanding = bal` (= the real holdings, which `migrate` does not move) and
`total_sent` grew by exactly the same difference `bal − outstanding_before` — the tokens in flight
under the old rules (escrowed, not yet acknowledged) are booked as if they had been added when sent. -/
theorem migrate_books_inflight {w w' : World} {blk : Block} {g : Option Nat} {o : Outcome} {ch : String}
    (hnd : AMap.NodupKeys w.st.chan) (hv : Version.le w.st.version MIGRATE_VERSION_3 = true)
    (hch : w.st.channels = [ch]) (h : w.exec blk (.migrate g) = .ok (w', o))
    {d : Denom} {cs : ChanState} (hg : w.st.chan.get? (ch, d) = some cs) :
    ∃ bal, w.holdings d = some bal ∧ w'.holdings d = some bal ∧ cs.outstanding ≤ bal ∧
      w'.st.chan.get? (ch, d) = some ⟨bal, cs.totalSent + (bal - cs.outstanding)⟩ ∧
      outstanding w'.st ch d = bal ∧
      totAt w'.st.chan (ch, d) = totAt w.st.chan (ch, d) + (bal - outstanding w.st ch d) ∧
      outstanding w'.st ch d = outstanding w.st ch d + (bal - outstanding w.st ch d) := by
  obtain ⟨hm, e2, e3, e4, e5, _⟩ := exec_migrate_frame h
  obtain ⟨r1, _⟩ := migrate_legacy_entry hnd hv hch hm
  obtain ⟨bal, hb, hle, hget⟩ := r1 d cs hg
  refine ⟨bal, hb, by rw [holdings_congr e2 e3 e4 e5 d]; exact hb, hle, hget, ?_, ?_, ?_⟩
  · simp [outstanding, hget]
  · simp [totAt, outstanding, hget, hg]
  · simp [outstanding, hget, hg]; omega

/-- The other keys: entries of a channel other than the migrated one (there are none in a well-formed
state) and absent keys are not touched by the migration. -/
theorem migrate_other_keys {w w' : World} {blk : Block} {g : Option Nat} {o : Outcome} {ch : String}
    (hnd : AMap.NodupKeys w.st.chan) (hv : Version.le w.st.version MIGRATE_VERSION_3 = true)
    (hch : w.st.channels = [ch]) (h : w.exec blk (.migrate g) = .ok (w', o)) (k : Key)
    (hk : k ∉ AMap.keys w.st.chan ∨ k.1 ≠ ch) : w'.st.chan.get? k = w.st.chan.get? k :=
  (migrate_legacy_entry hnd hv hch (exec_migrate_frame h).1).2 k hk

/-- **C12, redeem_after_migrate_ok**: after such a migration every token the contract holds for the
channel is redeemable / refundable as far as the books are concerned: for any amount up to the real
holdings `bal` of a denomination of the channel, the `reduce_channel_balance` step (of an incoming
redemption, an error acknowledgement or a timeout) cannot fail. -/
theorem redeem_after_migrate_ok {w w' : World} {blk : Block} {g : Option Nat} {o : Outcome} {ch : String}
    (hnd : AMap.NodupKeys w.st.chan) (hv : Version.le w.st.version MIGRATE_VERSION_3 = true)
    (hch : w.st.channels = [ch]) (h : w.exec blk (.migrate g) = .ok (w', o))
    {d : Denom} {cs : ChanState} (hg : w.st.chan.get? (ch, d) = some cs)
    {bal amt : Nat} (hb : w'.holdings d = some bal) (hle : amt ≤ bal) :
    ∃ m, reduceBalance w'.st.chan ch d amt = .ok m ∧ outAt m (ch, d) = bal - amt := by
  obtain ⟨bal', _, hb', _, hget, _⟩ := migrate_books_inflight hnd hv hch h hg
  rw [hb] at hb'; cases hb'
  refine ⟨_, reduceBalance_ok_of_le hget hle, ?_⟩
  simp [outAt]

/-- **C12, receive_after_migrate_ok**: a later honest redemption — an incoming packet on the migrated
channel whose voucher denomination carries the packet's source port/channel, for an in-flight amount
up to the holdings, of a payable token — is accepted by `do_ibc_packet_receive` (not refused for
insufficient channel balance): it produces the payout sub-message for the full amount. -/
theorem receive_after_migrate_ok {w w' : World} {blk : Block} {g : Option Nat} {o : Outcome}
    (hnd : AMap.NodupKeys w.st.chan) (hv : Version.le w.st.version MIGRATE_VERSION_3 = true)
    {p : PacketIn} (hch : w.st.channels = [p.destChan]) (h : w.exec blk (.migrate g) = .ok (w', o))
    {d : Denom} {cs : ChanState} (hg : w.st.chan.get? (p.destChan, d) = some cs)
    {bal amt : Nat} (hb : w'.holdings d = some bal) (hle : amt ≤ bal)
    (hamt : p.amount = some amt) (hvch : p.voucher = some (p.srcPort, p.srcChan, d))
    {tv : Bool} {gas : Option Nat} (hgas : checkGasLimit w'.st d tv = .ok gas) :
    ∃ s1, doReceive w'.st p tv = .ok (s1, ⟨p.receiver, amt, d, gas, RECEIVE_ID⟩) ∧
      outstanding s1 p.destChan d = bal - amt := by
  obtain ⟨bal', _, hb', _, hget, _⟩ := migrate_books_inflight hnd hv hch h hg
  rw [hb] at hb'; cases hb'
  refine ⟨_, doReceive_ok_of_entry hget hamt hvch hle hgas, ?_⟩
  simp [outstanding]

/-- **C12, refund_after_migrate_ok**: likewise a later error acknowledgement or timeout of a transfer
that was in flight during the migration (amount up to the holdings, payable token) is accepted by
`on_packet_failure`: the refund sub-message for the full amount is produced. -/
theorem refund_after_migrate_ok {w w' : World} {blk : Block} {g : Option Nat} {o : Outcome} {ch : String}
    (hnd : AMap.NodupKeys w.st.chan) (hv : Version.le w.st.version MIGRATE_VERSION_3 = true)
    (hch : w.st.channels = [ch]) (h : w.exec blk (.migrate g) = .ok (w', o))
    {pk : Packet} {cs : ChanState} (hg : w.st.chan.get? (ch, pk.denom) = some cs)
    {bal : Nat} (hb : w'.holdings pk.denom = some bal) (hle : pk.amount ≤ bal)
    {tv : Bool} {gas : Option Nat} (hgas : checkGasLimit w'.st pk.denom tv = .ok gas) :
    ∃ s1, onPacketFailure w'.st ch (some pk) tv = .ok (s1, ⟨pk.sender, pk.amount, pk.denom, gas, ACK_FAILURE_ID⟩) ∧
      outstanding s1 ch pk.denom = bal - pk.amount := by
  obtain ⟨bal', _, hb', _, hget, _⟩ := migrate_books_inflight hnd hv hch h hg
  rw [hb] at hb'; cases hb'
  refine ⟨_, onPacketFailure_ok_of_entry hget hle hgas, ?_⟩
  simp [outstanding]

/-! ## The re-baselined ledger is the contract's own `total_sent` counter -/

/-- **C12, outstanding_identity with packets in flight at the start**: the identity of
`outstanding_identity` for a start state that already has packets in flight (`fl`: sent by an earlier
history — e.g. under the old code, before a migration — and still awaiting their acknowledgement or
timeout, which `admissible` then lets through once each). -/
theorem outstanding_identity_inflight (w : World) (fl : List (String × Packet)) (ops : List (Block × Op))
    (c : String) (d : Denom) :
    let wg := runG (w, Ghost.initWith w fl) ops
    outstanding wg.1.st c d + wg.2.failed (c, d) + wg.2.redeemed (c, d) = wg.2.sent (c, d) := by
  intro wg
  exact (runG_ledger ops (ledgerInv_initWith w fl)).1 (c, d)

/-- **C12, sent_tracks_total_sent**: on every history from a well-formed state — with migrations anywhere,
and any set `fl` of packets in flight at the start — the ghost ledger `sent` of `outstanding_identity` and
the contract's own counter `total_sent` (reported by `Channel{id}`) move in lock step, for every channel
and denomination: a transfer adds its amount to both, and a migration from ≤ 0.13.0, which re-baselines
`sent`, adds to `total_sent` exactly what it adds to `outstanding` (the in-flight tokens it books).  So
the re-baselining is not an artefact of the ghost: `sent − sent₀ = total_sent − total_sent₀` throughout. -/
theorem sent_tracks_total_sent (w : World) (fl : List (String × Packet)) (ops : List (Block × Op))
    (hwf : WellFormed w.st) (c : String) (d : Denom) :
    let wg := runG (w, Ghost.initWith w fl) ops
    totAt wg.1.st.chan (c, d) + outstanding w.st c d = wg.2.sent (c, d) + totAt w.st.chan (c, d) := by
  intro wg
  have h0 : TotInv (totAt w.st.chan) (outAt w.st.chan) (w, Ghost.initWith w fl) := fun _ => Nat.add_comm ..
  have := runG_totInv ops hwf (ledgerInv_initWith w fl) h0 (c, d)
  rw [outstanding_eq]; exact this

/-- **C12, outstanding_identity in observable terms**: combining the two, on every history (migrations
included) `outstanding + failedOrTimedOut + redeemed = outstanding₀ + (total_sent − total_sent₀)`, stated
additively: the accounting identity with "sent" read off the contract's own `total_sent`. -/
theorem outstanding_identity_total_sent (w : World) (fl : List (String × Packet)) (ops : List (Block × Op))
    (hwf : WellFormed w.st) (c : String) (d : Denom) :
    let wg := runG (w, Ghost.initWith w fl) ops
    outstanding wg.1.st c d + wg.2.failed (c, d) + wg.2.redeemed (c, d) + totAt w.st.chan (c, d)
      = outstanding w.st c d + totAt wg.1.st.chan (c, d) := by
  have h1 := outstanding_identity_inflight w fl ops c d
  have h2 := sent_tracks_total_sent w fl ops hwf c d
  simp only at h1 h2 ⊢
  omega

/-- A freshly instantiated contract has empty books. -/
theorem instantiate_books {m : InstMsg} {s : State} (hi : instantiate m = .ok s) (k : Key) :
    outAt s.chan k = 0 ∧ totAt s.chan k = 0 := by
  rw [instantiate_chan hi]
  exact ⟨rfl, rfl⟩

/-- From a fresh instantiation: `outstanding + failedOrTimedOut + redeemed = total_sent`. -/
theorem outstanding_identity_fresh {m : InstMsg} {s : State} (hi : instantiate m = .ok s) (w : World) (ops : List (Block × Op))
    (c : String) (d : Denom) :
    let wg := runG ({ w with st := s }, Ghost.init { w with st := s }) ops
    outstanding wg.1.st c d + wg.2.failed (c, d) + wg.2.redeemed (c, d) = totAt wg.1.st.chan (c, d) := by
  intro wg
  simpa [Ghost.initWith_nil, outstanding_eq s, instantiate_books hi (c, d)] using
    outstanding_identity_total_sent { w with st := s } [] ops (instantiate_wellFormed hi) c d

/-! ## Error acknowledgements are unobservable -/

/-- `REPLY_ARGS` is not observable through `Channel`, `Config`, `Admin`, `Allowed`, `ListAllowed` or the list of
channel ids (`ListChannels`, `Channel`'s info and `Port` are not among the conjuncts). -/
theorem replyArgs_not_observable (s : State) (r : Option ReplyArgs) :
    (∀ id, queryChannel { s with replyArgs := r } id = queryChannel s id) ∧
    queryConfig { s with replyArgs := r } = queryConfig s ∧
    queryAdmin { s with replyArgs := r } = queryAdmin s ∧
    (∀ c, queryAllowed { s with replyArgs := r } c = queryAllowed s c) ∧
    (∀ a l, queryListAllowed { s with replyArgs := r } a l = queryListAllowed s a l) ∧
    ({ s with replyArgs := r } : State).channels = s.channels :=
  ⟨fun _ => rfl, rfl, rfl, fun _ => rfl, fun _ _ => rfl, rfl⟩

/-- **C12, error_ack_queries_unchanged**: whenever the final acknowledgement of an incoming packet is an
error, what is observable is exactly as before the packet: the results of the queries `Channel{id}`
(balances and total_sent per denomination), `Config`, `Admin`, `Allowed`, `ListAllowed` for every argument,
the list of channel ids (the info records that `ListChannels` returns are covered by
`error_ack_state_unchanged`, not stated here), the contract's real holdings of every denomination and
every bank and cw20 balance of every account; and no payout went out.  (The only storage item that may
differ, `REPLY_ARGS`, is read by no query.) -/
theorem error_ack_queries_unchanged {w w' : World} {blk : Block} {p : PacketIn} {rv tv f : Bool} {o : Outcome}
    (h : w.exec blk (.recv p rv tv f) = .ok (w', o)) (ha : o.ack = some .error) :
    (∀ id, queryChannel w'.st id = queryChannel w.st id) ∧
    w'.st.channels = w.st.channels ∧
    queryConfig w'.st = queryConfig w.st ∧
    queryAdmin w'.st = queryAdmin w.st ∧
    (∀ c, queryAllowed w'.st c = queryAllowed w.st c) ∧
    (∀ a l, queryListAllowed w'.st a l = queryListAllowed w.st a l) ∧
    (∀ d, w'.holdings d = w.holdings d) ∧
    (∀ a d, w'.bankBal a d = w.bankBal a d) ∧
    (∀ t a, w'.tokBal t a = w.tokBal t a) := by
  have e := error_ack_state_unchanged h ha
  generalize w'.st.replyArgs = r at e
  subst e
  exact ⟨fun _ => rfl, rfl, rfl, rfl, fun _ => rfl, fun _ _ => rfl, fun d => by cases d <;> rfl, fun _ _ => rfl, fun _ _ => rfl⟩

/-! ## Explicit environment assumptions -/

/-- **C12, outstanding_identity with explicit environment**: the accounting identity
`outstanding + failedOrTimedOut + redeemed = sent` on every history of the *unguarded* semantics that
satisfies the environment assumptions E1–E3. -/
theorem outstanding_identity_explicit_env (w : World) (ops : List (Block × Op))
    (henv : EnvAssumptions w.self w.tokens ops) (c : String) (d : Denom) :
    let wg := runGRaw (w, Ghost.init w) ops
    outstanding wg.1.st c d + wg.2.failed (c, d) + wg.2.redeemed (c, d) = wg.2.sent (c, d) := by
  intro wg
  have : wg = runG (w, Ghost.init w) ops := runGRaw_eq_runG (w, Ghost.init w) ops henv
  rw [this]
  exact outstanding_identity w ops c d

/-- **C12, storage_keys_faithful** (where E3 is needed): on every history satisfying the environment
assumptions — in particular no native denomination attached to a transfer starts with `cw20:` — from a
well-formed state whose stored native denominations satisfy E3 (e.g. a fresh instantiation), the
books have exactly one entry per *storage* key: two entries under the same channel whose
denominations render to the same string (`Amount::denom()`, what `Channel{id}` reports and what the
contract uses as map key) are the same entry.  Hence every per-`(channel, denomination)` statement
about the model is a statement about the contract's `CHANNEL_STATE[(channel, denom string)]`. -/
theorem storage_keys_faithful (w : World) (ops : List (Block × Op))
    (henv : EnvAssumptions w.self w.tokens ops) (hwf : WellFormed w.st) (hk : KeysFaithful w.st.chan)
    {e e' : Key × ChanState} (he : e ∈ (runRaw w ops).st.chan) (he' : e' ∈ (runRaw w ops).st.chan)
    (hc : e.1.1 = e'.1.1) (hr : e.1.2.render = e'.1.2.render) : e = e' := by
  obtain ⟨h1, h2⟩ := runRaw_keysFaithful w ops henv hwf hk
  exact entries_eq_of_same_storage_key h1.1 h2 he he' hc hr

/-! ## Non-vacuity: concrete histories -/

def w0 : World :=
  { st := { config := ⟨3600, none⟩, admin := some "gov", allow := [("T1", some 500)], channels := ["channel-0"],
            chan := [], versionName := CONTRACT_NAME, version := CONTRACT_VERSION },
    self := "ics20", tokens := ["T1"], faulty := [], bank := [(("alice", "uatom"), 100)], tok := [(("T1", "alice"), 100)] }

def b0 : Block := ⟨1, 1000⟩
def tm : TransferMsg := ⟨"channel-0", "remote-bob", none, some "memo"⟩
def pkt (d : Denom) (amt : Nat) : PacketIn :=
  ⟨"transfer", "channel-10", "channel-0", some amt, some ("transfer", "channel-10", d), "alice", "remote-bob"⟩

/-- send 40 T1, redeem 15 (paid), redeem 10 with a failing payout (error ack, nothing changes),
then the remaining send of 60 uatom fails remotely and is refunded -/
def hist : List (Block × Op) :=
  [(b0, .sendCw20 "alice" "T1" 40 (some tm)),
   (b0, .recv (pkt (.cw20 "T1") 15) true true false),
   (b0, .recv (pkt (.cw20 "T1") 10) false true false),
   (b0, .transferNative "alice" [("uatom", 60)] tm),
   (b0, .ack "channel-0" (some ⟨60, .native "uatom", "remote-bob", "alice", some "memo"⟩) (some false) true true false)]

example : outstanding (runG (w0, Ghost.init w0) hist).1.st "channel-0" (.cw20 "T1") = 25 := by decide +kernel
example : (runG (w0, Ghost.init w0) hist).2.sent ("channel-0", .cw20 "T1") = 40 := by decide +kernel
example : (runG (w0, Ghost.init w0) hist).2.redeemed ("channel-0", .cw20 "T1") = 15 := by decide +kernel
example : (runG (w0, Ghost.init w0) hist).2.failed ("channel-0", .native "uatom") = 60 := by decide +kernel
example : outstanding (runG (w0, Ghost.init w0) hist).1.st "channel-0" (.native "uatom") = 0 := by decide +kernel
example : (runG (w0, Ghost.init w0) hist).1.bankBal "alice" "uatom" = 100 := by decide +kernel
example : (runG (w0, Ghost.init w0) hist).1.tokBal "T1" "alice" = 75 := by decide +kernel
/-- the emitted packet of the first transfer -/
example : ((w0.exec b0 (.sendCw20 "alice" "T1" 40 (some tm))).toOption.map (·.2.sent)) =
    some [⟨"channel-0", ⟨40, .cw20 "T1", "remote-bob", "alice", some "memo"⟩, 1000 + 3600 * 1000000000⟩] := by decide +kernel

/-! ## Non-vacuity: the upgrade path and unobservable error acknowledgements -/

/-- A contract stored by release 0.11.1 (pre-allow-list layout: `gov_contract` inside the config, no `ADMIN`
item, no allow list): one channel; it booked 40 uatom / 10 T1 (acknowledged transfers) and holds 100 uatom /
25 T1 — 60 uatom and 15 T1 are in flight. -/
def wL : World :=
  { st := { config := ⟨3600, none⟩, v1gov := some "gov", admin := none, allow := [], channels := ["channel-0"],
            chan := [(("channel-0", .native "uatom"), ⟨40, 70⟩), (("channel-0", .cw20 "T1"), ⟨10, 10⟩)],
            versionName := CONTRACT_NAME, version := ⟨0, 11, 1, none⟩ },
    self := "ics20", tokens := ["T1"], faulty := [], bank := [(("ics20", "uatom"), 100)],
    tok := [(("T1", "ics20"), 25)] }

/-- the hypotheses of `migrate_books_inflight` / `redeem_after_migrate_ok` hold on `wL` -/
example : AMap.NodupKeys wL.st.chan ∧ Version.le wL.st.version MIGRATE_VERSION_3 = true ∧
    wL.st.channels = ["channel-0"] ∧ (wL.exec b0 (.migrate (some 5000))).isOk = true ∧
    wL.st.chan.get? ("channel-0", .cw20 "T1") = some ⟨10, 10⟩ :=
  ⟨by unfold AMap.NodupKeys; decide, by decide +kernel⟩

/-- after the migration: outstanding = holdings, total_sent grew by the same 60 / 15 -/
example : (wL.step b0 (.migrate (some 5000))).st.chan =
    [(("channel-0", .native "uatom"), ⟨100, 130⟩), (("channel-0", .cw20 "T1"), ⟨25, 25⟩)] := by decide +kernel

/-- migrate, then the in-flight 15 T1 fail remotely and are refunded, and the other 10 T1 plus all 100 uatom
are redeemed by incoming packets: every step succeeds, the books end at zero (T1 is payable through the
default gas limit set by the migration). -/
def histL : List (Block × Op) :=
  [(b0, .migrate (some 5000)),
   (b0, .timeout "channel-0" (some ⟨15, .cw20 "T1", "remote-bob", "alice", none⟩) true true false),
   (b0, .recv (pkt (.cw20 "T1") 10) true true false),
   (b0, .recv (pkt (.native "uatom") 100) true true false)]

example : (run wL histL).st.chan = [(("channel-0", .native "uatom"), ⟨0, 130⟩), (("channel-0", .cw20 "T1"), ⟨0, 25⟩)] ∧
    (run wL histL).tokBal "T1" "alice" = 25 ∧ (run wL histL).bankBal "alice" "uatom" = 100 := by decide +kernel

/-- an error acknowledgement that *does* change storage (`REPLY_ARGS` is written, the payout to an invalid
receiver fails, `reply` restores the balance): ack = error, and the books are the same -/
example : ((run w0 (hist.take 2)).exec b0 (.recv (pkt (.cw20 "T1") 10) false true false)).toOption.map
      (fun r => (r.2.ack, r.1.st.replyArgs, r.1.st.chan == (run w0 (hist.take 2)).st.chan)) =
    some (some .error, some ⟨"channel-0", .cw20 "T1", 10⟩, true) := by decide +kernel

/-- `sent_tracks_total_sent` on the legacy history: the migration books 60 uatom in flight — the ghost
`sent` goes from 40 to 100, the contract's `total_sent` from 70 to 130. -/
example : WellFormed wL.st := ⟨by unfold AMap.NodupKeys; decide, by decide +kernel⟩
/-- the 15 T1 sent under the old code are in flight at the start -/
def flL : List (String × Packet) := [("channel-0", ⟨15, .cw20 "T1", "remote-bob", "alice", none⟩)]
example : (runG (wL, Ghost.initWith wL flL) histL).2.sent ("channel-0", .native "uatom") = 100 ∧
    totAt (runG (wL, Ghost.initWith wL flL) histL).1.st.chan ("channel-0", .native "uatom") = 130 ∧
    (runG (wL, Ghost.initWith wL flL) histL).2.redeemed ("channel-0", .native "uatom") = 100 ∧
    (runG (wL, Ghost.initWith wL flL) histL).2.failed ("channel-0", .cw20 "T1") = 15 ∧
    (runG (wL, Ghost.initWith wL flL) histL).2.sent ("channel-0", .cw20 "T1") = 25 := by decide +kernel

/-- The environment assumptions hold of the demo history, and a state with the keys of `wL` is faithful. -/
example : EnvAssumptions w0.self w0.tokens hist := by
  refine ⟨?_, ⟨?_, ?_⟩, ?_⟩
  · intro blk snd funds sender amt msg hm; simp [hist] at hm
  · intro blk snd funds msg hm
    simp [hist] at hm
    obtain ⟨_, rfl, _⟩ := hm; decide +kernel
  · intro blk snd token amt msg hm
    simp [hist] at hm
    obtain ⟨_, rfl, _⟩ := hm; decide +kernel
  · intro blk snd funds msg hm f hf
    simp [hist] at hm
    obtain ⟨_, _, rfl, _⟩ := hm
    simp at hf; subst hf; exact nativeOk_of_take (by decide +kernel)
example : KeysFaithful wL.st.chan := by
  intro k hk
  simp [wL, AMap.keys] at hk
  rcases hk with rfl | rfl
  · exact nativeOk_of_take (by decide +kernel)
  · trivial

/-! ## All histories (no `admissible` filter); `sent` without re-baselining

`runU` (Lemmas/Ics20Ledger.lean) carries the ghosts over *every* op of a history; its world is `run`. -/

/-- **C12, outstanding_identity on every history** (clause "outstanding = sent − failed/timed-out −
redeemed, always", without the IBC-core assumption `admissible`): also when acknowledgements / timeouts
are forged, repeated or name packets never sent — `failed` then counts every failure the contract
*processed*.  The world of the ghost history is the plain history `run w ops`. -/
theorem outstanding_identity_all_histories (w : World) (ops : List (Block × Op)) (c : String) (d : Denom) :
    (runU (w, Ghost.init w) ops).1 = run w ops ∧
    outstanding (run w ops).st c d + (runU (w, Ghost.init w) ops).2.failed (c, d)
      + (runU (w, Ghost.init w) ops).2.redeemed (c, d) = (runU (w, Ghost.init w) ops).2.sent (c, d) := by
  have e : (runU (w, Ghost.init w) ops).1 = run w ops := runU_fst (w, Ghost.init w) ops
  have h := (runU_ledger ops (ledgerInv_init w)).1 (c, d)
  rw [e] at h
  exact ⟨e, h⟩

/-- **C12, sent_tracks_total_sent on every history**: the lock step of the ghost `sent` with the
contract's own `total_sent` counter, without the `admissible` filter. -/
theorem sent_tracks_total_sent_all_histories (w : World) (ops : List (Block × Op)) (hwf : WellFormed w.st)
    (c : String) (d : Denom) :
    totAt (run w ops).st.chan (c, d) + outstanding w.st c d =
      (runU (w, Ghost.init w) ops).2.sent (c, d) + totAt w.st.chan (c, d) := by
  have h0 : TotInv (totAt w.st.chan) (outAt w.st.chan) (w, Ghost.init w) := fun _ => Nat.add_comm ..
  have := runU_totInv ops hwf (ledgerInv_init w) h0 (c, d)
  rw [runU_fst] at this
  rw [outstanding_eq]; exact this

/-- **C12, `sent` is the sum of the accepted transfers** (clause 1 without the definitional step at a
migration): for a contract whose stored version is newer than 0.13.0, on every history with `migrate` ops
anywhere, `outstanding + failedOrTimedOut + redeemed = outstanding₀ + Σ accepted transfers`, where the sum
(`sentOf`) is read off the transaction outcomes — the packet amount of every accepted transfer on that
channel and denomination. -/
theorem outstanding_identity_sum_of_transfers (w : World) (ops : List (Block × Op))
    (hv : Version.lt MIGRATE_VERSION_3 w.st.version = true) (c : String) (d : Denom) :
    outstanding (run w ops).st c d + (runU (w, Ghost.init w) ops).2.failed (c, d)
      + (runU (w, Ghost.init w) ops).2.redeemed (c, d) = outstanding w.st c d + sentOf w ops (c, d) := by
  obtain ⟨_, h⟩ := outstanding_identity_all_histories w ops c d
  rw [h]
  exact runU_sent_postV3 (wg := (w, Ghost.init w)) ops hv (ledgerInv_init w) (c, d)

/-- **C12, the identity from a fresh instantiation, on every history**:
`outstanding + failedOrTimedOut + redeemed = Σ accepted transfers = total_sent`. -/
theorem outstanding_identity_fresh_all_histories {m : InstMsg} {s : State} (hi : instantiate m = .ok s) (w : World)
    (ops : List (Block × Op)) (c : String) (d : Denom) :
    outstanding (run { w with st := s } ops).st c d + (runU ({ w with st := s }, Ghost.init { w with st := s }) ops).2.failed (c, d)
      + (runU ({ w with st := s }, Ghost.init { w with st := s }) ops).2.redeemed (c, d) = sentOf { w with st := s } ops (c, d) ∧
    totAt (run { w with st := s } ops).st.chan (c, d) = sentOf { w with st := s } ops (c, d) := by
  have h1 := outstanding_identity_sum_of_transfers { w with st := s } ops (instantiate_postV3S hi) c d
  have h2 := sent_tracks_total_sent_all_histories { w with st := s } ops (instantiate_wellFormed hi) c d
  have h3 := (outstanding_identity_all_histories { w with st := s } ops c d).2
  simp only [outstanding_eq s, instantiate_books hi (c, d)] at h1 h2
  omega

/-- **C12, handling a packet never aborts, from a fresh instantiation** (`receive_never_aborts` with
its `Bounded` hypothesis discharged). -/
theorem receive_never_aborts_fresh {m : InstMsg} {s : State} (hi : instantiate m = .ok s) (w : World)
    (ops : List (Block × Op)) (blk : Block) (p : PacketIn) (rv tv f : Bool) :
    ∃ w' o, (run { w with st := s } ops).exec blk (.recv p rv tv f) = .ok (w', o) ∧ o.ack.isSome := by
  apply receive_never_aborts
  intro k
  rw [(instantiate_books hi k).1]
  exact Nat.zero_le _

/-- `sentOf` on the demo history; with a forged second error acknowledgement of the 60 uatom appended, the
forged one is refused by the books (nothing outstanding) and the identity holds with `failed = 60`. -/
example : sentOf w0 hist ("channel-0", .cw20 "T1") = 40 ∧ sentOf w0 hist ("channel-0", .native "uatom") = 60 := by decide +kernel
example : (runU (w0, Ghost.init w0) (hist ++ hist.drop 4)).2.failed ("channel-0", .native "uatom") = 60 ∧
    outstanding (run w0 (hist ++ hist.drop 4)).st "channel-0" (.native "uatom") = 0 := by decide +kernel

/-! ## Packets in flight, and the honest counterparty of the quantifier

`Lemmas/Ics20Honest.lean`: `inflightSum`, `ackedOf` (Σ of the success acknowledgements processed along
`runG`), the annotated histories `List HEv` (our transactions interleaved with the counterparty's
`deliver` events), the counterparty state `CpState` (pending / delivered packets, minted vouchers),
`honestEv` / `HonestFrom` (what an honest counterparty chain and IBC core do) and the invariant `HInv`. -/

/-- **C12, inflight_accounting** (relates the ghost `inflight`, the filter of `admissible`, to the ledgers;
clause "minus those whose send *failed or timed out*"): for a contract at a stored version newer than
0.13.0, on every admissible history (migrations anywhere), per channel and denomination
`failed + ackedOk + Σ in flight = sent − outstanding₀`, i.e. every failure and every success
acknowledgement consumed a distinct earlier send, and therefore
`outstanding + redeemed = outstanding₀ + ackedOk + Σ in flight`: the books are short of the packets in
flight exactly when more vouchers came back than were confirmed. -/
theorem inflight_accounting (w : World) (ops : List (Block × Op))
    (hv : Version.lt MIGRATE_VERSION_3 w.st.version = true) (c : String) (d : Denom) :
    let wg := runG (w, Ghost.init w) ops
    wg.2.failed (c, d) + ackedOf (w, Ghost.init w) ops (c, d) + inflightSum wg.2 (c, d) + outstanding w.st c d
      = wg.2.sent (c, d) ∧
    outstanding wg.1.st c d + wg.2.redeemed (c, d)
      = outstanding w.st c d + ackedOf (w, Ghost.init w) ops (c, d) + inflightSum wg.2 (c, d) := by
  simp only
  have h1 := runG_inflight (wg := (w, Ghost.init w)) ops hv (ledgerInv_init w) (c, d)
  have h2 := (runG_ledger ops (ledgerInv_init w)).1 (c, d)
  have e1 : (w, Ghost.init w).2.sent (c, d) = outAt w.st.chan (c, d) := rfl
  have e2 : (w, Ghost.init w).2.failed (c, d) = 0 := rfl
  have e3 : inflightSum (w, Ghost.init w).2 (c, d) = 0 := rfl
  rw [e1, e2, e3] at h1
  rw [outstanding_eq, outstanding_eq]
  constructor <;> omega

/-- **C12, refund_never_refused (honest counterparty)** — the content of "with an honest counterparty
chain" in the quantifier.  For a contract at a stored version newer than 0.13.0 (e.g. freshly
instantiated), on every annotated history that is honest (`HonestFrom`: success acknowledgements only
for packets the counterparty accepted, error acknowledgements / timeouts only for packets it did not
accept, vouchers come back only as far as they were minted — possibly before the acknowledgement of the
minting transfer is relayed; everything else arbitrary: any transfers, governance, migrations, fault
flags), for every packet `p` still pending on `chan`:

* the world is the plain history of the transactions, and it is an admissible history of `runG`;
* the channel balance covers the packet: `p.amount ≤ outstanding chan p.denom` — the refund is never
  refused for lack of channel balance;
* **exact condition for the refund transaction**: whenever the gas check of the denomination passes
  (`checkGasLimit … = .ok gas`: native, or a cw20 token that validates and is allow-listed or covered by
  a default gas limit), both the timeout and the error acknowledgement of `p` are processed — the
  transaction succeeds and emits the refund sub-message to the original sender for the full amount with
  that gas limit; and if the gas check fails (a token that is neither allowed nor default-covered, or an
  address that does not validate) the transaction is aborted as a whole (`refund_refused_iff_gas`). -/
theorem refund_never_refused (w : World) (hv : Version.lt MIGRATE_VERSION_3 w.st.version = true) (evs : List HEv)
    (hh : HonestFrom (HState.init w) evs) {chan : String} {p : Packet}
    (hm : (chan, p) ∈ (runH (HState.init w) evs).c.pending) :
    (runH (HState.init w) evs).w = run w (opsOf evs) ∧
    ((runH (HState.init w) evs).w, (runH (HState.init w) evs).g) = runG (w, Ghost.init w) (opsOf evs) ∧
    p.amount ≤ outstanding (run w (opsOf evs)).st chan p.denom ∧
    ∀ (blk : Block) (sv tv f : Bool) (gas : Option Nat), checkGasLimit (run w (opsOf evs)).st p.denom tv = .ok gas →
      (∃ w' o, (run w (opsOf evs)).exec blk (.timeout chan (some p) sv tv f) = .ok (w', o) ∧
        o.sub = some ⟨p.sender, p.amount, p.denom, gas, ACK_FAILURE_ID⟩) ∧
      (∃ w' o, (run w (opsOf evs)).exec blk (.ack chan (some p) (some false) sv tv f) = .ok (w', o) ∧
        o.sub = some ⟨p.sender, p.amount, p.denom, gas, ACK_FAILURE_ID⟩) := by
  have hI := runH_inv evs (hinv_init w hv) hh
  have hw : (runH (HState.init w) evs).w = run w (opsOf evs) := runH_w (HState.init w) evs
  obtain ⟨cs, hg, hle⟩ := hinv_pending_covered hI hm
  rw [hw] at hg
  refine ⟨hw, runH_eq_runG evs (hinv_init w hv) hh, by simp [outstanding, hg, hle], ?_⟩
  intro blk sv tv f gas hgas
  have hf := onPacketFailure_ok_of_entry hg hle hgas
  exact ⟨exec_timeout_ok hf blk sv f, exec_ackFail_ok hf blk sv f⟩

/-- **C12, the refund of a pending packet is refused iff the gas check refuses its denomination**
(honest counterparty, stored version newer than 0.13.0): the only way the timeout / error-acknowledgement
transaction of a pending packet can abort is `check_gas_limit` — a cw20 token that is neither on the
allow list nor covered by a default gas limit (or whose address does not validate). -/
theorem refund_refused_iff_gas (w : World) (hv : Version.lt MIGRATE_VERSION_3 w.st.version = true) (evs : List HEv)
    (hh : HonestFrom (HState.init w) evs) {chan : String} {p : Packet}
    (hm : (chan, p) ∈ (runH (HState.init w) evs).c.pending) (blk : Block) (sv tv f : Bool) :
    ((∃ e, (run w (opsOf evs)).exec blk (.timeout chan (some p) sv tv f) = .error e) ↔
      ∃ e, checkGasLimit (run w (opsOf evs)).st p.denom tv = .error e) ∧
    ((∃ e, (run w (opsOf evs)).exec blk (.ack chan (some p) (some false) sv tv f) = .error e) ↔
      ∃ e, checkGasLimit (run w (opsOf evs)).st p.denom tv = .error e) := by
  obtain ⟨_, _, _, hok⟩ := refund_never_refused w hv evs hh hm
  cases hg : checkGasLimit (run w (opsOf evs)).st p.denom tv with
  | ok gas =>
    obtain ⟨⟨w1, o1, h1, _⟩, ⟨w2, o2, h2, _⟩⟩ := hok blk sv tv f gas hg
    constructor <;> constructor
    · rintro ⟨e, he⟩; rw [h1] at he; cases he
    · rintro ⟨e, he⟩; cases he
    · rintro ⟨e, he⟩; rw [h2] at he; cases he
    · rintro ⟨e, he⟩; cases he
  | error e =>
    obtain ⟨h1, h2⟩ := refund_aborts_of_gas_error (chan := chan) hg blk sv f
    exact ⟨⟨fun _ => ⟨e, rfl⟩, fun _ => h1⟩, ⟨fun _ => ⟨e, rfl⟩, fun _ => h2⟩⟩

/-- **C12, honest histories from a fresh instantiation**: `refund_never_refused` with its version
hypothesis discharged by `instantiate`. -/
theorem refund_never_refused_fresh {m : InstMsg} {s : State} (hi : instantiate m = .ok s) (w : World) (evs : List HEv)
    (hh : HonestFrom (HState.init { w with st := s }) evs) {chan : String} {p : Packet}
    (hm : (chan, p) ∈ (runH (HState.init { w with st := s }) evs).c.pending) :
    p.amount ≤ outstanding (run { w with st := s } (opsOf evs)).st chan p.denom :=
  (refund_never_refused { w with st := s } (instantiate_postV3S hi) evs hh hm).2.2.1

/-! ### Non-vacuity: an honest annotated history, and what a dishonest counterparty breaks -/

def pT1 : Packet := ⟨40, .cw20 "T1", "remote-bob", "alice", some "memo"⟩
def pU : Packet := ⟨60, .native "uatom", "remote-bob", "alice", some "memo"⟩

/-- alice sends 40 T1; the counterparty accepts the packet and mints; 15 vouchers come back *before* the
success acknowledgement is relayed; the acknowledgement arrives; alice sends 60 uatom (still pending). -/
def hev : List HEv :=
  [.op b0 (.sendCw20 "alice" "T1" 40 (some tm)),
   .deliver "channel-0" pT1,
   .op b0 (.recv (pkt (.cw20 "T1") 15) true true false),
   .op b0 (.ack "channel-0" (some pT1) (some true) true true false),
   .op b0 (.transferNative "alice" [("uatom", 60)] tm)]

example : HonestFrom (HState.init w0) hev := by
  refine ⟨trivial, ?_, ?_, ?_, trivial, trivial⟩
  · show ("channel-0", pT1) ∈ (_ : List (String × Packet)); decide +kernel
  · intro amt port ch d h1 h2
    cases h1; cases h2; decide +kernel
  · show ("channel-0", pT1) ∈ (_ : List (String × Packet)); decide +kernel

example : ("channel-0", pU) ∈ (runH (HState.init w0) hev).c.pending ∧
    outstanding (runH (HState.init w0) hev).w.st "channel-0" (.native "uatom") = 60 ∧
    outstanding (runH (HState.init w0) hev).w.st "channel-0" (.cw20 "T1") = 25 ∧
    (runH (HState.init w0) hev).c.minted ("channel-0", .cw20 "T1") = 40 ∧
    ackedOf (w0, Ghost.init w0) (opsOf hev) ("channel-0", .cw20 "T1") = 40 ∧
    inflightSum (runG (w0, Ghost.init w0) (opsOf hev)).2 ("channel-0", .native "uatom") = 60 := by decide +kernel

/-- Honesty is needed: if the counterparty lets 40 vouchers "come back" for a packet it never accepted
(`redeemed + 40 > minted = 0`), the contract pays them out, and the timeout of the still pending packet is
then refused for lack of channel balance — the transaction aborts although T1 is allow-listed. -/
example : ¬ HonestFrom (HState.init w0) [.op b0 (.sendCw20 "alice" "T1" 40 (some tm)), .op b0 (.recv (pkt (.cw20 "T1") 40) true true false)] := by
  rintro ⟨_, h, _⟩
  have := h 40 _ _ _ rfl rfl
  revert this; decide +kernel
example : ((run w0 [(b0, .sendCw20 "alice" "T1" 40 (some tm)), (b0, .recv (pkt (.cw20 "T1") 40) true true false)]).exec b0
      (.timeout "channel-0" (some pT1) true true false)).isOk = false ∧
    (checkGasLimit (run w0 [(b0, .sendCw20 "alice" "T1" 40 (some tm)), (b0, .recv (pkt (.cw20 "T1") 40) true true false)]).st
      (.cw20 "T1") true).isOk = true := by decide +kernel

/-! ### Honest counterparty and a contract deployed with the current code: refunds are always processed -/

/-- **C12, refund_always_processed_fresh** (honest counterparty + C18 `in_channel_payable`): for a contract
created by `instantiate` (any allow list, any default gas limit or none), on every honest annotated
history (governance ops and migrations by anybody anywhere), for every packet still pending on a channel,
the timeout and the error acknowledgement of that packet — with the cw20 address of its denomination
validating (`tv = true`; it was `info.sender` of the original `Receive`) — are **processed**: the
transaction succeeds and emits the refund of the full amount to the original sender, with the gas limit
`expectedGas` (the token's allow-list limit, else the default).  Neither the channel balance (honest
counterparty) nor the gas check (the token passed the transfer gate, and the allow list only loosens) can
refuse it.  The refund sub-call itself may still fail; it is then swallowed (`C11.refund_effects_*`). -/
theorem refund_always_processed_fresh {m : InstMsg} {s : State} (hi : instantiate m = .ok s) (w : World) (evs : List HEv)
    (hh : HonestFrom (HState.init { w with st := s }) evs) {chan : String} {p : Packet}
    (hm : (chan, p) ∈ (runH (HState.init { w with st := s }) evs).c.pending) (blk : Block) (sv f : Bool) :
    (∃ w' o, (run { w with st := s } (opsOf evs)).exec blk (.timeout chan (some p) sv true f) = .ok (w', o) ∧
      o.sub = some ⟨p.sender, p.amount, p.denom, C18.expectedGas (run { w with st := s } (opsOf evs)).st p.denom, ACK_FAILURE_ID⟩) ∧
    (∃ w' o, (run { w with st := s } (opsOf evs)).exec blk (.ack chan (some p) (some false) sv true f) = .ok (w', o) ∧
      o.sub = some ⟨p.sender, p.amount, p.denom, C18.expectedGas (run { w with st := s } (opsOf evs)).st p.denom, ACK_FAILURE_ID⟩) := by
  have hv := instantiate_postV3S hi
  obtain ⟨_, _, hle, hok⟩ := refund_never_refused { w with st := s } hv evs hh hm
  have hpos := (runH_inv evs (hinv_init { w with st := s } hv) hh).pending_pos _ hm
  simp only at hpos
  apply hok blk sv true f
  cases hd : p.denom with
  | native dn => rfl
  | cw20 t =>
    rw [hd] at hle
    have hpos' : 0 < outstanding (run { w with st := s } (opsOf evs)).st chan (.cw20 t) := by omega
    exact (C18.in_channel_payable hi w (opsOf evs) chan t (Or.inr hpos')).2

/-- a fresh instantiation and an honest history to which `refund_always_processed_fresh` applies: T1 is
allow-listed, alice's 40 T1 are pending -/
example : ∃ s, instantiate ⟨3600, ⟨true, "gov"⟩, [(⟨true, "T1"⟩, some 500)], none⟩ = .ok s ∧
    HonestFrom (HState.init { w0 with st := s })
      [.op b0 (.connect "channel-0" ICS20_VERSION none false {}), .op b0 (.sendCw20 "alice" "T1" 40 (some tm))] ∧
    ("channel-0", pT1) ∈ (runH (HState.init { w0 with st := s })
      [.op b0 (.connect "channel-0" ICS20_VERSION none false {}), .op b0 (.sendCw20 "alice" "T1" 40 (some tm))]).c.pending :=
  ⟨_, rfl, ⟨trivial, trivial, trivial⟩, by decide +kernel⟩

/-! ## The emitted packet carries what was really escrowed -/

/-- **C12, transfer_escrow_effects** (the balance side of `transfer_emits_one_packet`: "a packet carrying
the *escrowed* amount"): for an accepted transfer the amount in the emitted packet is exactly what moved
into the contract —
* native: the sender's bank balance of that denomination dropped by `amt` (it had at least `amt`), the
  contract's rose by `amt`, every other bank balance and every cw20 balance is unchanged;
* cw20 `Send`: the same for the token balances of that token (a token that exists), every other token
  balance and every bank balance unchanged;
* a direct `Receive` hook call (the caller is not a token contract that exists: E1) moves nothing at all —
  the packet's denomination `cw20:<caller>` is then no real token and has no holdings. -/
theorem transfer_escrow_effects {w w' : World} {blk : Block} {o : Outcome} :
    (∀ snd funds msg, w.exec blk (.transferNative snd funds msg) = .ok (w', o) →
      ∃ d amt out, funds = [(d, amt)] ∧ o.sent = [out] ∧ out.packet.amount = amt ∧ out.packet.denom = .native d ∧
        amt ≤ w.bankBal snd d ∧ w'.bankBal snd d + amt = w.bankBal snd d ∧
        w'.bankBal w.self d = w.bankBal w.self d + amt ∧
        (∀ a x, (a, x) ≠ (snd, d) → (a, x) ≠ (w.self, d) → w'.bankBal a x = w.bankBal a x) ∧ w'.tok = w.tok) ∧
    (∀ snd token amt msg, w.exec blk (.sendCw20 snd token amt msg) = .ok (w', o) →
      ∃ out, o.sent = [out] ∧ out.packet.amount = amt ∧ out.packet.denom = .cw20 token ∧ w.tokens.contains token = true ∧
        amt ≤ w.tokBal token snd ∧ w'.tokBal token snd + amt = w.tokBal token snd ∧
        w'.tokBal token w.self = w.tokBal token w.self + amt ∧
        (∀ t a, (t, a) ≠ (token, snd) → (t, a) ≠ (token, w.self) → w'.tokBal t a = w.tokBal t a) ∧ w'.bank = w.bank) ∧
    (∀ snd funds sender amt msg, w.exec blk (.hook snd funds sender amt msg) = .ok (w', o) →
      ∃ out, o.sent = [out] ∧ out.packet.amount = amt ∧ out.packet.denom = .cw20 snd ∧
        w'.bank = w.bank ∧ w'.tok = w.tok ∧ w.holdings (.cw20 snd) = none) := by
  refine ⟨?_, ?_, ?_⟩
  · intro snd funds msg h
    obtain ⟨d, amt, w1, s, out, rfl, hself, hb, hs, rfl, rfl⟩ := exec_transferNative_ok h
    obtain ⟨ch, _, _, _, _, hd, ha⟩ := execTransfer_escrow hs
    obtain ⟨hle, h2, h3, h4, h5⟩ := bankSend_moved hb hself
    exact ⟨d, amt, out, rfl, rfl, ha, hd, hle, h3, h2, fun a x h1 h2 => h4 a x h2 h1, h5⟩
  · intro snd token amt msg h
    obtain ⟨w1, m, s, out, hself, htoken, hb, rfl, hs, rfl, rfl⟩ := exec_sendCw20_ok h
    obtain ⟨ch, _, _, _, _, hd, ha⟩ := execTransfer_escrow hs
    obtain ⟨hle, h2, h3, h4, h5⟩ := tokSend_moved hb hself
    exact ⟨out, rfl, ha, hd, htoken, hle, h3, h2, fun t a h1 h2 => h4 t a h2 h1, h5⟩
  · intro snd funds sender amt msg h
    obtain ⟨m, s, out, hnt, rfl, hs, rfl, rfl⟩ := exec_hook_ok h
    obtain ⟨ch, _, _, _, _, hd, ha⟩ := execTransfer_escrow hs
    exact ⟨out, rfl, ha, hd, rfl, rfl, by simp only [World.holdings, hnt, Bool.false_eq_true, if_false]⟩

/-- the first transfer of the demo history moves 40 T1 from alice into the contract -/
example : (w0.step b0 (.sendCw20 "alice" "T1" 40 (some tm))).tokBal "T1" "ics20" = 40 ∧
    (w0.step b0 (.sendCw20 "alice" "T1" 40 (some tm))).tokBal "T1" "alice" = 60 := by decide +kernel

/-! ## Frame of a successful redemption -/

/-- **C12, success_ack_frame** (clause 2, "…and the balance reduced by it", with everything else pinned
down): with a success acknowledgement, exactly the packet's amount moved from the contract to the
receiver and every other bank and cw20 balance is unchanged (`C11.Moved`); only the entry of the redeemed
(channel, denomination) changed in the books — every other `outstanding`, and every `total_sent`
including that entry's, is as before; allow list, admin, config, channel list and stored version are
untouched; `REPLY_ARGS` holds the redeemed triple. -/
theorem success_ack_frame {w w' : World} {blk : Block} {p : PacketIn} {rv tv f : Bool} {o : Outcome}
    (h : w.exec blk (.recv p rv tv f) = .ok (w', o)) (ha : o.ack = some .success) (hrs : p.receiver ≠ w.self) :
    ∃ amt d, p.amount = some amt ∧ p.voucher = some (p.srcPort, p.srcChan, d) ∧
      C11.Moved w w' d p.receiver amt ∧
      (∀ k, k ≠ (p.destChan, d) → outAt w'.st.chan k = outAt w.st.chan k) ∧
      (∀ k, totAt w'.st.chan k = totAt w.st.chan k) ∧
      w'.st.allow = w.st.allow ∧ w'.st.admin = w.st.admin ∧ w'.st.config = w.st.config ∧
      w'.st.channels = w.st.channels ∧ w'.st.version = w.st.version ∧
      w'.st.replyArgs = some ⟨p.destChan, d, amt⟩ ∧
      o.sub = some ⟨p.receiver, amt, d, C18.expectedGas w.st d, RECEIVE_ID⟩ := by
  obtain ⟨s1, sub, hd, hp⟩ := (success_ack_iff_paid h).mp ha
  obtain ⟨amt, d, ch, hamt, hv, hred, rfl, hto, hsa, hsd, hid, g, hg, hgas⟩ := doReceive_ok hd
  obtain ⟨cs, _, _, _, ho, ht⟩ := reduceBalance_ok hred
  have hst := (payout_frame hp).1
  have hm := C11.payout_moved hp (by rw [hto]; exact hrs)
  rw [hsd, hto, hsa] at hm
  have hsub : o.sub = some sub := by
    rcases exec_recv_ok h with ⟨⟨e, he⟩, _⟩ | ⟨s1', sub', hd', hsub, _⟩
    · rw [hd] at he; cases he
    · rw [hd] at hd'; cases hd'; exact hsub
  have hsubeq : sub = ⟨p.receiver, amt, d, C18.expectedGas w.st d, RECEIVE_ID⟩ := by
    cases sub
    simp only at hto hsa hsd hid hgas
    rw [hto, hsa, hsd, hid, hgas, (C18.checkGasLimit_spec hg).1]
  refine ⟨amt, d, hamt, hv, ?_, ?_, ?_, ?_, ?_, ?_, ?_, ?_, ?_, by rw [hsub, hsubeq]⟩
  · cases d <;> exact hm
  · intro k hk; rw [hst]; simp only; rw [ho k]; simp [hk]
  · intro k; rw [hst]; exact ht k
  all_goals rw [hst]

example : ∃ w' o, (run w0 (hist.take 1)).exec b0 (.recv (pkt (.cw20 "T1") 15) true true false) = .ok (w', o) ∧
    o.ack = some .success ∧ w'.tokBal "T1" "alice" = 75 := ⟨_, _, rfl, by decide +kernel⟩

/-! ## Exactly which transfers are accepted -/

/-- **C12, transfer_accepted_iff** (the converse of `transfer_emits_one_packet`: the model does not accept
too little): `execute_transfer` accepts iff the amount is non-zero, the channel is registered, the config
has the current layout, the cw20 gate holds (native, or allow-listed, or a default gas limit is set), the
timeout `block.time + (requested ∨ default)·10⁹` fits `u64` (product and sum), the amount fits `u64`, and
neither `outstanding` nor `total_sent` of the key overflows `Uint128`. -/
theorem transfer_accepted_iff (s : State) (blk : Block) (msg : TransferMsg) (d : Denom) (amt : Nat) (snd : Addr) :
    (∃ r, execTransfer s blk msg d amt snd = .ok r) ↔
      amt ≠ 0 ∧ msg.channel ∈ s.channels ∧ s.v1gov = none ∧ transferGate s s.config d = true ∧
      (msg.timeout.getD s.config.defaultTimeout) * 1000000000 ≤ U64_MAX ∧
      blk.time + (msg.timeout.getD s.config.defaultTimeout) * 1000000000 ≤ U64_MAX ∧ amt ≤ U64_MAX ∧
      outAt s.chan (msg.channel, d) + amt ≤ U128_MAX ∧ totAt s.chan (msg.channel, d) + amt ≤ U128_MAX := by
  rw [outAt_eq_getD, totAt_eq_getD]
  cases hv : s.v1gov with
  | some g => simp [execTransfer, loadConfig, hv]
  | none => simp [execTransfer, loadConfig, hv, increaseBalance]

/-- **C12, send_accepted_iff** (transaction level, cw20 `Send` — also the liveness side of C18's gate: the
gate is not stricter than stated): a `Send{contract: ics20, amount, msg}` on a real token is accepted iff
the sender is not the contract itself, the token exists, the sender owns the amount, the hook message
decodes, and `execute_transfer` accepts (`transfer_accepted_iff`). -/
theorem send_accepted_iff (w : World) (blk : Block) (snd token : Addr) (amt : Nat) (msg : Option TransferMsg) :
    (∃ r, w.exec blk (.sendCw20 snd token amt msg) = .ok r) ↔
      snd ≠ w.self ∧ w.tokens.contains token = true ∧ amt ≤ w.tokBal token snd ∧
      ∃ m, msg = some m ∧ ∃ r, execTransfer w.st blk m (.cw20 token) amt snd = .ok r := by
  constructor
  · rintro ⟨⟨w', o⟩, h⟩
    obtain ⟨w1, m, s, out, hself, htoken, hb, rfl, hs, _, _⟩ := exec_sendCw20_ok h
    exact ⟨hself, htoken, (tokSend_spec hb).1, m, rfl, _, hs⟩
  · rintro ⟨hself, htoken, hle, m, rfl, ⟨s', out⟩, hs⟩
    have hb : ∃ w1, w.tokSend token snd w.self amt = some w1 := by
      unfold World.tokSend
      simp [Nat.not_lt.mpr hle]
    obtain ⟨w1, hb⟩ := hb
    have hst := (tokSend_frame hb).1
    refine ⟨({ w1 with st := s' }, { sent := [out] }), ?_⟩
    have htok' : token ∈ w.tokens := by simpa using htoken
    simp only [World.exec]
    simp [check, hself, htok', hb, hst, execReceive, hs, bind, Except.bind, pure, Except.pure]

example : ∃ r, w0.exec b0 (.sendCw20 "alice" "T1" 40 (some tm)) = .ok r :=
  (send_accepted_iff w0 b0 "alice" "T1" 40 (some tm)).mpr
    ⟨by decide +kernel, by decide +kernel, by decide +kernel, tm, rfl,
      (transfer_accepted_iff _ _ _ _ _ _).mpr (by decide +kernel)⟩

/-- **C12, on histories that respect IBC core's guarantee `runG` skips nothing**: if every acknowledgement
/ timeout of the history is `admissible` where it happens (`AdmissibleFrom`: the guarantee as a predicate on
the history rather than as a filter), the ghost history of `outstanding_identity` is the unfiltered one and
its world is the plain history `run w ops` — so `outstanding_identity` speaks about exactly the states the
contract goes through. -/
theorem admissible_history_is_plain (w : World) (ops : List (Block × Op)) (h : AdmissibleFrom (w, Ghost.init w) ops) :
    runG (w, Ghost.init w) ops = runU (w, Ghost.init w) ops ∧ (runG (w, Ghost.init w) ops).1 = run w ops := by
  have e := runG_eq_runU ops h
  exact ⟨e, by rw [e]; exact runU_fst _ _⟩

/-- the demo history respects the guarantee -/
example : AdmissibleFrom (w0, Ghost.init w0) hist := by
  refine ⟨rfl, rfl, rfl, rfl, ?_, trivial⟩
  decide +kernel

end CwPlus.Props.C12
