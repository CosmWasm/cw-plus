import CwPlus.Lemmas.Cw3Flex
import CwPlus.Lemmas.Cw3StatusTotal
import CwPlus.Lemmas.Cw3FlexPool
/-!
# C15 — cw3-flex-multisig proposal deposits

Statement (properties.jsonl): a proposal is created only when exactly the configured deposit is paid; the deposit
is refunded only to the proposer, at most once, only when the proposal is executed or — if
`refund_failed_proposals` is set — when it is closed; executed proposals are always refunded; with refunds
enabled the deposit of every failed proposal is recoverable.

The last clause is FALSE of the code (defect D6, open known finding `C15/flex/deposit-stuck-stored-rejected`):
a proposal whose *stored* status is `Rejected` (voted down before expiry, or created already expired) can
never be closed.  It is proved here for proposals that expire while stored `Open`
(`failed_deposit_recoverable_partial`), and the counterexample is machine-checked (`C15_counterexample`).

Section (7) is the accounting of the deposit *pool* across concurrent proposals at world level: the multisig's
`holdings` of the deposit denomination cover what is `owed` on every history that does not spend them
(`pool_covers_owed_if_unspent`, guards `External`, `NoSpend`, `NoGrant`); the guard is necessary (`pool_guard_necessary`).

Model: `Model/Cw3Flex.lean`; a handler returns `List Out`: `Out.bank` / `Out.cw20Transfer` are the refund
messages, `Out.cw20TransferFrom` takes a cw20 deposit, `Out.msg m` is a message of the proposal itself.
-/
namespace CwPlus.Props.C15
open CwPlus CwPlus.Cw3 CwPlus.Cw3Core CwPlus.Cw3Flex

/-- A message that pays out of the multisig on behalf of the deposit logic (as opposed to a message of a proposal). -/
def isPayout : Out → Bool
  | .bank .. => true
  | .cw20Transfer .. => true
  | _ => false

theorem refundMsg_isPayout (d : Deposit) (a : Addr) : isPayout (refundMsg d a) = true := by
  unfold refundMsg; split <;> rfl

theorem takeDeposit_no_payout (d : Deposit) (a self : Addr) : (takeDeposit d a self).filter isPayout = [] := by
  unfold takeDeposit; split <;> rfl

/-- The payouts among the messages a handler call returns: none, or — `Execute` / `Close` of a proposal that carries a
deposit — exactly the refund of that deposit to its proposer. -/
theorem payouts_cases {s s' : State} {g : Cw4Group.State} {self : Addr} {blk : Block} {snd : Addr}
    {funds : List Coin} {m : ExecMsg} {out : List Out} (h : execute s g self blk snd funds m = .ok (s', out)) :
    out.filter isPayout = [] ∨
    ∃ id p d, (m = .execute id ∨ m = .close id) ∧ s.core.proposals.get? id = some p ∧ p.deposit = some d ∧
      out.filter isPayout = [refundMsg d p.proposer] := by
  cases m with
  | propose t d msgs latest =>
    obtain ⟨_, _, _, _, _, _, _, _, _, rfl⟩ := execute_propose_ok_iff.mp h
    left
    cases s.cfg.deposit with
    | none => rfl
    | some dep => exact takeDeposit_no_payout dep snd self
  | vote id v => obtain ⟨_, _, _, rfl⟩ := execute_vote_ok_iff.mp h; exact .inl rfl
  | execute id =>
    obtain ⟨p, hp, _, msgs, _, _, rfl⟩ := execute_execute_ok_iff.mp h
    have hmsgs : (msgs.map Out.msg).filter isPayout = [] :=
      List.filter_eq_nil_iff.mpr (fun o ho => by obtain ⟨x, _, rfl⟩ := List.mem_map.mp ho; simp [isPayout])
    rw [List.filter_append, hmsgs, List.append_nil]
    cases hd : p.deposit with
    | none => exact .inl rfl
    | some d => exact .inr ⟨id, p, d, .inl rfl, hp, hd, by simp [refundMsg_isPayout]⟩
  | close id =>
    obtain ⟨p, hp, _, _, _, rfl⟩ := execute_close_ok_iff.mp h
    cases hd : p.deposit with
    | none => exact .inl rfl
    | some d =>
      cases hr : d.refundFailed with
      | false => exact .inl (by simp [hr])
      | true => exact .inr ⟨id, p, d, .inr rfl, hp, hd, by simp [hr, refundMsg_isPayout]⟩
  | memberChangedHook => obtain ⟨_, _, rfl⟩ := execute_hook_ok_iff.mp h; exact .inl rfl

/-! ## (1) a proposal is created only with exactly the configured deposit -/

/-- **Clause 1, handler level.**  A successful `Propose`:
* native deposit configured ⇒ the funds sent are exactly one coin `amount denom` of the configured deposit
  (not less, not more, no other coin), nothing is dispatched;
* cw20 deposit configured ⇒ the response is exactly `TransferFrom { owner: proposer, recipient: multisig, amount }`
  on the deposit token (the runtime fails the whole transaction if that transfer fails, see `propose_cw20_tx`);
* no deposit configured ⇒ nothing is dispatched.
The new proposal records the configured deposit and the sender as proposer. -/
theorem propose_takes_exact_deposit {s s' : State} {g : Cw4Group.State} {self : Addr} {blk : Block} {snd : Addr}
    {funds : List Coin} {t d : String} {msgs : List Msg} {latest : Option Expiration} {out : List Out}
    (hi : Inv s) (h : execute s g self blk snd funds (.propose t d msgs latest) = .ok (s', out)) :
    (match s.cfg.deposit with
      | none => out = []
      | some dep =>
        if dep.cw20 then out = [.cw20TransferFrom dep.denom snd self dep.amount]
        else funds = [⟨dep.amount, dep.denom⟩] ∧ out = []) ∧
    ∃ p, s'.core.proposals.get? (s.core.count + 1) = some p ∧ p.deposit = s.cfg.deposit ∧ p.proposer = snd := by
  obtain ⟨hpaid, w, total, c, id, _, _, hp, rfl, rfl⟩ := execute_propose_ok_iff.mp h
  obtain ⟨expires, st, _, _, rfl, _, rfl⟩ := propose_ok hp
  refine ⟨?_, _, AMap.get?_set_eq _ _ _, rfl, rfl⟩
  cases hd : s.cfg.deposit with
  | none => rfl
  | some dep =>
    have hpos := hi.depositPos dep hd
    have hp' := hpaid dep hd
    by_cases hcw : dep.cw20 = true
    · simp [hcw, takeDeposit, hpos]
    · simp only [hcw, if_false, Bool.false_eq_true, takeDeposit, Bool.false_and, and_true]
      unfold checkNativeDepositPaid at hp'
      simp only [hcw, if_false, Bool.false_eq_true] at hp'
      split at hp'
      · cases hp'
      · rename_i c
        simp at hp'
        obtain ⟨_, h2, h3⟩ := hp'
        cases c; simp_all
      · cases hp'

theorem moveFunds_single {bank : AMap (Addr × String) Nat} {frm to : Addr} {amt : Nat} {denom : String} (h : amt ≠ 0) :
    moveFunds bank frm to [⟨amt, denom⟩] = Cw3Fixed.bankSend bank frm to amt denom := by
  have : ([⟨amt, denom⟩] : List Coin).all (fun c => decide (c.amount = 0)) = false := by simp [h]
  simp only [moveFunds, List.isEmpty_cons, Bool.false_eq_true, if_false, this, moveCoins, h]
  cases Cw3Fixed.bankSend bank frm to amt denom <;> rfl

/-- **The committed `Propose` transaction, whole**: the attached funds moved in, the handler ran, and — cw20 deposit —
the deposit token is the world's token contract and its `TransferFrom { owner: proposer, recipient: multisig, amount }`
with the multisig as spender succeeded; native deposit — the funds were exactly the deposit coin.  Nothing else
changed. -/
theorem propose_tx {ext : Ext} {fuel : Nat} {w w' : World} {blk : Block} {snd : Addr} {funds : List Coin}
    {t d : String} {msgs : List Msg} {latest : Option Expiration} {dep : Deposit}
    (hi : Inv w.flex) (hd : w.flex.cfg.deposit = some dep)
    (h : tx ext fuel w blk (.flex snd funds (.propose t d msgs latest)) = .ok w') :
    ∃ b s', moveFunds w.bank snd w.self funds = .ok b ∧
      if dep.cw20 then
        dep.denom = w.tokenAddr ∧
        ∃ t', Cw20.execute w.token blk w.self (.transferFrom ⟨true, snd⟩ ⟨true, w.self⟩ dep.amount) = .ok (t', []) ∧
          w' = { w with bank := b, token := t', flex := s', log := w.log ++ [.proposed (w.flex.core.count + 1) snd] }
      else
        funds = [⟨dep.amount, dep.denom⟩] ∧
          w' = { w with bank := b, flex := s', log := w.log ++ [.proposed (w.flex.core.count + 1) snd] } := by
  simp only [tx, Res.bind_ok] at h
  obtain ⟨b, hb, ⟨s', out⟩, he, hdisp⟩ := h
  refine ⟨b, s', hb, ?_⟩
  have := (propose_takes_exact_deposit hi he).1
  by_cases hc : dep.cw20 = true
  · simp only [hd, hc, if_true] at this ⊢
    subst this
    cases fuel with
    | zero => cases hdisp
    | succ fuel =>
      simp only [dispatch, Res.bind_ok] at hdisp
      obtain ⟨w1, h1, h2⟩ := hdisp
      cases h2
      obtain ⟨htok, t', hex, rfl⟩ := tokenCall_ok_iff.mp h1
      exact ⟨htok, t', hex, rfl⟩
  · simp only [hd, hc, if_false, Bool.false_eq_true] at this ⊢
    obtain ⟨hf, rfl⟩ := this
    rw [dispatch_nil] at hdisp
    cases hdisp
    exact ⟨hf, rfl⟩

/-- **Clause 1, transaction level, native deposit**: the committed `Propose` transaction moved exactly the
deposit coin from the proposer to the multisig (cw-multi-test moves `info.funds` before the handler runs). -/
theorem propose_native_tx {ext : Ext} {fuel : Nat} {w w' : World} {blk : Block} {snd : Addr} {funds : List Coin}
    {t d : String} {msgs : List Msg} {latest : Option Expiration} {dep : Deposit}
    (hi : Inv w.flex) (hd : w.flex.cfg.deposit = some dep) (hn : dep.cw20 = false)
    (h : tx ext fuel w blk (.flex snd funds (.propose t d msgs latest)) = .ok w') :
    ∃ b, Cw3Fixed.bankSend w.bank snd w.self dep.amount dep.denom = .ok b ∧ w'.bank = b := by
  obtain ⟨b, s', hb, hw⟩ := propose_tx hi hd h
  simp only [hn, Bool.false_eq_true, if_false] at hw
  obtain ⟨rfl, rfl⟩ := hw
  rw [moveFunds_single (hi.depositPos dep hd)] at hb
  exact ⟨b, hb, rfl⟩

/-- **Clause 1, transaction level, cw20 deposit**: the `Propose` transaction commits only if the deposit token is
the token contract of the world and its `TransferFrom { owner: proposer, recipient: multisig, amount }` — executed
with the multisig as spender — succeeded; the token state of the new world is the one after that transfer. -/
theorem propose_cw20_tx {ext : Ext} {fuel : Nat} {w w' : World} {blk : Block} {snd : Addr} {funds : List Coin}
    {t d : String} {msgs : List Msg} {latest : Option Expiration} {dep : Deposit}
    (hi : Inv w.flex) (hd : w.flex.cfg.deposit = some dep) (hc : dep.cw20 = true)
    (h : tx ext fuel w blk (.flex snd funds (.propose t d msgs latest)) = .ok w') :
    dep.denom = w.tokenAddr ∧
    ∃ t', Cw20.execute w.token blk w.self (.transferFrom ⟨true, snd⟩ ⟨true, w.self⟩ dep.amount) = .ok (t', []) ∧
      w'.token = t' := by
  obtain ⟨b, s', _, hw⟩ := propose_tx hi hd h
  simp only [hc, if_true] at hw
  obtain ⟨htok, t', hex, rfl⟩ := hw
  exact ⟨htok, t', hex, rfl⟩

/-! ## (2) refunds go to the proposer only, only on Execute / Close -/

/-- **Clause 2 (to whom, when).**  Whatever a handler call returns, every payout message in it is the refund
of the deposit recorded in a proposal, addressed to that proposal's proposer, and the call is `Execute` or
`Close` of that very proposal. -/
theorem refund_only_to_proposer {s s' : State} {g : Cw4Group.State} {self : Addr} {blk : Block} {snd : Addr}
    {funds : List Coin} {m : ExecMsg} {out : List Out} (h : execute s g self blk snd funds m = .ok (s', out))
    (o : Out) (ho : o ∈ out) (hp : isPayout o = true) :
    ∃ id p d, (m = .execute id ∨ m = .close id) ∧ s.core.proposals.get? id = some p ∧ p.deposit = some d ∧
      o = refundMsg d p.proposer := by
  have hmem : o ∈ out.filter isPayout := List.mem_filter.mpr ⟨ho, hp⟩
  rcases payouts_cases h with hnil | ⟨id, p, d, hm, hpp, hd, hone⟩
  · rw [hnil] at hmem; cases hmem
  · rw [hone] at hmem
    exact ⟨id, p, d, hm, hpp, hd, List.mem_singleton.mp hmem⟩

/-! ## (3) at most once -/

/-- Number of successful `Execute` and `Close` handler calls for proposal `id` in the committed history
(top-level or nested in a dispatch) — by `refund_only_to_proposer` the only calls that can emit its refund. -/
def handled (log : List Event) (id : Nat) : Nat := log.count (.executed id) + log.count (.closed id)

/-- The stored status can no longer move (`Executed` or `Rejected`). -/
def isFinal (c : Core) (id : Nat) : Bool :=
  match c.proposals.get? id with
  | some p => p.status == .executed || p.status == .rejected
  | none => false

def GhostInv (w : World) : Prop :=
  Inv w.flex ∧ ∀ id, handled w.log id ≤ 1 ∧ (handled w.log id = 1 → isFinal w.flex.core id = true)

theorem handled_append (log : List Event) (e : Event) (id : Nat) :
    handled (log ++ [e]) id = handled log id + (if e = .executed id ∨ e = .closed id then 1 else 0) := by
  unfold handled
  simp only [List.count_append, List.count_singleton]
  by_cases h1 : e = .executed id
  · subst h1; simp; omega
  · by_cases h2 : e = .closed id
    · subst h2; simp; omega
    · simp [h1, h2]

theorem isFinal_later {c c' : Core} (hl : Later c c') {id : Nat} (h : isFinal c id = true) : isFinal c' id = true := by
  unfold isFinal at h ⊢
  cases hp : c.proposals.get? id with
  | none => simp [hp] at h
  | some p =>
    obtain ⟨p', hp', _, he⟩ := hl.props id p hp
    simp only [hp] at h
    simp only [hp']
    rw [edge_final he (by simpa using h)]
    exact h

/-- A proposal whose current status is `Passed` is stored `Open` or `Passed`. -/
theorem passed_not_final {p : Proposal} {blk : Block} (h : p.currentStatus blk = .ok .passed) :
    p.status ≠ .executed ∧ p.status ≠ .rejected := by
  have := (cs_edge h).1
  simp only [Proposal.tally] at this
  cases hs : p.status <;> simp_all [edge]

/-- `Execute` and `Close` succeed only on a proposal whose stored status is not final … -/
theorem not_final_of_ok {s : State} {g : Cw4Group.State} {self : Addr} {blk : Block} {snd : Addr} {funds : List Coin}
    {m : ExecMsg} {id : Nat} {r : State × List Out} (hm : m = .execute id ∨ m = .close id)
    (h : execute s g self blk snd funds m = .ok r) : isFinal s.core id = false := by
  obtain ⟨s', out⟩ := r
  rcases hm with rfl | rfl
  · obtain ⟨p, hp, hst, _⟩ := execute_execute_ok_iff_proposal.mp h
    have := passed_not_final hst
    simp [isFinal, hp, this.1, this.2]
  · obtain ⟨p, st, hp, h1, h2, _⟩ := execute_close_ok_iff_proposal.mp h
    simp [isFinal, hp, h1, h2]

/-- … and leave it final. -/
theorem final_of_ok {s s' : State} {g : Cw4Group.State} {self : Addr} {blk : Block} {snd : Addr} {funds : List Coin}
    {m : ExecMsg} {id : Nat} {out : List Out} (hm : m = .execute id ∨ m = .close id)
    (h : execute s g self blk snd funds m = .ok (s', out)) : isFinal s'.core id = true := by
  rcases hm with rfl | rfl
  · obtain ⟨p, _, _, _, rfl, _⟩ := execute_execute_ok_iff_proposal.mp h
    simp [isFinal]
  · obtain ⟨p, st, _, _, _, _, _, _, _, rfl, _⟩ := execute_close_ok_iff_proposal.mp h
    simp [isFinal]

/-- `Execute` and `Close` of a proposal whose stored status is final are refused. -/
theorem final_refuses {s : State} {id : Nat} (hf : isFinal s.core id = true) (g : Cw4Group.State) (self : Addr)
    (blk : Block) (snd : Addr) (funds : List Coin) :
    (execute s g self blk snd funds (.execute id)).isOk = false ∧
    (execute s g self blk snd funds (.close id)).isOk = false := by
  constructor
  · cases he : execute s g self blk snd funds (.execute id) with
    | error e => rfl
    | ok r => rw [not_final_of_ok (.inl rfl) he] at hf; cases hf
  · cases he : execute s g self blk snd funds (.close id) with
    | error e => rfl
    | ok r => rw [not_final_of_ok (.inr rfl) he] at hf; cases hf

theorem handled_zero {w : World} (hq : GhostInv w) {id : Nat} (hf : isFinal w.flex.core id = false) :
    handled w.log id = 0 := by
  obtain ⟨hle, hfin⟩ := hq.2 id
  rcases Nat.lt_or_ge (handled w.log id) 1 with h | h
  · omega
  · rw [hfin (by omega)] at hf; cases hf

theorem ghost_flex {w : World} {g : Cw4Group.State} {self : Addr} {blk : Block} {snd : Addr} {funds : List Coin}
    {em : ExecMsg} {s' : State} {out : List Out}
    (hq : GhostInv w) (he : execute w.flex g self blk snd funds em = .ok (s', out)) :
    GhostInv { w with flex := s', log := w.log ++ [eventOf w.flex snd em] } := by
  refine ⟨execute_inv hq.1 he, fun id => ?_⟩
  obtain ⟨hle, hfin⟩ := hq.2 id
  simp only [handled_append, eventOf_executed, eventOf_closed]
  by_cases hm : em = .execute id ∨ em = .close id
  · -- the one call that handles `id`: not final before, so never handled; final now
    rw [if_pos hm, handled_zero hq (not_final_of_ok hm he)]
    exact ⟨Nat.le_refl _, fun _ => final_of_ok hm he⟩
  · rw [if_neg hm]
    exact ⟨hle, fun h => isFinal_later (execute_later hq.1 he) (hfin h)⟩

theorem ghost_group {w : World} (hq : GhostInv w) (g' : Cw4Group.State) (h : Nat) :
    GhostInv { w with group := g', log := w.log ++ [.groupWrite h] } :=
  ⟨hq.1, fun id => by simpa [handled_append] using hq.2 id⟩

theorem ghost_step (ext : Ext) (fuel : Nat) (w : World) (op : Op) (hq : GhostInv w) : GhostInv (step ext fuel w op) :=
  step_inv ext GhostInv fuel w op (fun _ _ _ _ _ _ hq he => ghost_flex hq he) (fun _ _ _ g' _ hq _ => ghost_group hq g' _)
    (fun _ _ hq => hq) (fun _ _ hq => hq) hq

theorem reachable_ghost {ext : Ext} {fuel : Nat} {w : World} (hr : Reachable ext fuel w) : GhostInv w := by
  obtain ⟨m, s, g, t, bank, self, ga, ta, h0, ops, hi, rfl⟩ := hr
  refine run_inv ext GhostInv fuel (ghost_step ext fuel) ops _ ⟨instantiate_inv hi, fun id => ?_⟩
  simp [World.init, handled]

/-- **Clause 3 (at most once).**  In every reachable world, for every proposal, the committed history contains at
most one successful `Execute`-or-`Close` handler call of it (top-level or nested, in any order, Execute and Close
counted together) — hence at most one refund of its deposit: never two Executes, never two Closes, never both. -/
theorem refund_at_most_once {ext : Ext} {fuel : Nat} {w : World} (hr : Reachable ext fuel w) (id : Nat) :
    handled w.log id ≤ 1 :=
  ((reachable_ghost hr).2 id).1

/-- After the one refunding call the proposal is final: every further `Execute` or `Close` of it is refused. -/
theorem handled_then_refused {ext : Ext} {fuel : Nat} {w : World} (hr : Reachable ext fuel w) {id : Nat}
    (h1 : handled w.log id = 1) (g : Cw4Group.State) (self : Addr) (blk : Block) (snd : Addr) (funds : List Coin) :
    (execute w.flex g self blk snd funds (.execute id)).isOk = false ∧
    (execute w.flex g self blk snd funds (.close id)).isOk = false :=
  final_refuses (((reachable_ghost hr).2 id).2 h1) g self blk snd funds

/-! ## (4) executed proposals are always refunded; no refund when disabled -/

/-- **Clause 4.**  A successful `Execute` of a proposal that carries a deposit returns the refund to the proposer
first, followed by exactly the proposal's messages, in order ("Unconditionally refund here"), and the proposal is
stored `Executed`; the runtime commits the transaction only if the refund was actually paid (any failing
dispatched message aborts the transaction, `tx`). -/
theorem executed_always_refunded {s s' : State} {g : Cw4Group.State} {self : Addr} {blk : Block} {snd : Addr}
    {funds : List Coin} {id : Nat} {out : List Out} {p : Proposal} {d : Deposit}
    (h : execute s g self blk snd funds (.execute id) = .ok (s', out))
    (hp : s.core.proposals.get? id = some p) (hd : p.deposit = some d) :
    out = refundMsg d p.proposer :: p.msgs.map Out.msg ∧
    ∃ p', s'.core.proposals.get? id = some p' ∧ p'.status = .executed := by
  obtain ⟨p0, hp0, _, _, rfl, rfl⟩ := execute_execute_ok_iff_proposal.mp h
  cases hp.symm.trans hp0
  exact ⟨by simp [hd], _, AMap.get?_set_eq _ _ _, rfl⟩

/-- **Clause 5 (no refund when disabled).**  `Close` of a proposal whose deposit has
`refund_failed_proposals = false` (or that has no deposit) returns no message at all; and no handler other than
`Execute` and `Close` ever returns a payout. -/
theorem no_refund_when_disabled {s s' : State} {g : Cw4Group.State} {self : Addr} {blk : Block} {snd : Addr}
    {funds : List Coin} {m : ExecMsg} {out : List Out}
    (h : execute s g self blk snd funds m = .ok (s', out)) :
    (∀ id p, m = .close id → s.core.proposals.get? id = some p →
        (p.deposit = none ∨ ∃ d, p.deposit = some d ∧ d.refundFailed = false) → out = []) ∧
    ((∀ id, m ≠ .execute id) → (∀ id, m ≠ .close id) → ∀ o ∈ out, isPayout o = false) := by
  constructor
  · intro id p hm hp hd
    subst hm
    obtain ⟨p0, hp0, _, _, _, rfl⟩ := execute_close_ok_iff.mp h
    cases hp.symm.trans hp0
    rcases hd with hd | ⟨d, hd, hr⟩ <;> simp [*]
  · intro h1 h2 o ho
    cases hpo : isPayout o with
    | false => rfl
    | true =>
      obtain ⟨id, _, _, hm, _⟩ := refund_only_to_proposer h o ho hpo
      rcases hm with hm | hm
      · exact absurd hm (h1 id)
      · exact absurd hm (h2 id)

/-! ## (6) recoverability of the deposit of failed proposals -/

/-- **Clause 6, partial** (guard: the proposal is still stored `Open` when it expires).  With refunds enabled, a
proposal that is stored `Open`, has expired and did not pass can be closed by anyone, and `Close` returns exactly
the refund of its deposit to its proposer. -/
theorem failed_deposit_recoverable_partial {s : State} {g : Cw4Group.State} {self : Addr} {blk : Block} {snd : Addr}
    {funds : List Coin} {id : Nat} {p : Proposal} {d : Deposit} {st : Status}
    (hp : s.core.proposals.get? id = some p) (hopen : p.status = .open)
    (hexp : p.expires.isExpired blk = true) (hcs : p.currentStatus blk = .ok st) (hnp : st ≠ .passed)
    (hd : p.deposit = some d) (hr : d.refundFailed = true) :
    ∃ s', execute s g self blk snd funds (.close id) = .ok (s', [refundMsg d p.proposer]) := by
  refine ⟨_, execute_close_ok_iff_proposal.mpr ⟨p, st, hp, by simp [hopen], by simp [hopen], by simp [hopen], hcs, hnp, hexp, rfl, ?_⟩⟩
  simp [hd, hr]

/-- **Clause 6 for reachable worlds, without the `current_status` hypothesis.**  In every reachable world, with
refunds enabled, the deposit of a proposal that is stored `Open`, has expired and whose tally fits `u64` (always the
case outside the same-block finding D3: `C06Flex.flex_tally_le_total`) is recoverable at once, one way or the other:
either `Close` — by anyone, with any funds — returns exactly the refund to the proposer, or the proposal is Passed at
that block and `Execute` by any authorised sender returns the refund first, followed by the proposal's messages.
(`current_status` cannot fail here: `reachable_statusInv`.) -/
theorem failed_deposit_recoverable_reachable {ext : Ext} {fuel : Nat} {w : World} (hr : Reachable ext fuel w)
    {id : Nat} {p : Proposal} {d : Deposit} {blk : Block}
    (hp : w.flex.core.proposals.get? id = some p) (hopen : p.status = .open)
    (hexp : p.expires.isExpired blk = true) (hfit : p.Fits) (hd : p.deposit = some d) (hrf : d.refundFailed = true)
    (g : Cw4Group.State) (self : Addr) (funds : List Coin) :
    (∀ snd, ∃ s', execute w.flex g self blk snd funds (.close id) = .ok (s', [refundMsg d p.proposer])) ∨
    (p.currentStatus blk = .ok .passed ∧ ∀ snd, authorize w.flex.cfg g snd = true →
      ∃ s', execute w.flex g self blk snd funds (.execute id) = .ok (s', refundMsg d p.proposer :: p.msgs.map Out.msg)) := by
  obtain ⟨st, hcs⟩ := reachable_statusInv hr id p hp hfit blk
  by_cases hst : st = .passed
  · subst hst
    right
    refine ⟨hcs, fun snd ha => ?_⟩
    exact ⟨_, execute_execute_ok_iff_proposal.mpr ⟨p, hp, hcs, ha, rfl, by simp [hd]⟩⟩
  · left
    intro snd
    exact failed_deposit_recoverable_partial hp hopen hexp hcs hst hd hrf

/-! ## (6') the exact extent of D6: a proposal stored `Rejected` and not yet handled is stuck for ever -/

/-- A proposal stored `Rejected` admits neither `Execute` nor `Close`, whoever calls, at any block. -/
theorem rejected_refuses {s : State} {id : Nat} {p : Proposal} (hp : s.core.proposals.get? id = some p)
    (hs : p.status = .rejected) (g : Cw4Group.State) (self : Addr) (blk : Block) (snd : Addr) (funds : List Coin) :
    (execute s g self blk snd funds (.execute id)).isOk = false ∧
    (execute s g self blk snd funds (.close id)).isOk = false :=
  final_refuses (by simp [isFinal, hp, hs]) g self blk snd funds

/-- World invariant behind `stored_rejected_never_refunded`. -/
def StuckInv (id : Nat) (w : World) : Prop :=
  Inv w.flex ∧ (∃ p, w.flex.core.proposals.get? id = some p ∧ p.status = .rejected) ∧ handled w.log id = 0

theorem stuck_flex {id : Nat} {w : World} {g : Cw4Group.State} {self : Addr} {blk : Block} {snd : Addr} {funds : List Coin}
    {em : ExecMsg} {s' : State} {out : List Out}
    (hq : StuckInv id w) (he : execute w.flex g self blk snd funds em = .ok (s', out)) :
    StuckInv id { w with flex := s', log := w.log ++ [eventOf w.flex snd em] } := by
  obtain ⟨hi, ⟨p, hp, hs⟩, h0⟩ := hq
  refine ⟨execute_inv hi he, ?_, ?_⟩
  · obtain ⟨p', hp', _, hedge⟩ := (execute_later hi he).props id p hp
    exact ⟨p', hp', (edge_final hedge (.inr hs)).trans hs⟩
  · have hno : ¬ (em = .execute id ∨ em = .close id) := fun hm => by
      have := not_final_of_ok hm he
      simp [isFinal, hp, hs] at this
    simp only [handled_append, h0, eventOf_executed, eventOf_closed, if_neg hno]

/-- **D6 as a theorem: the stuck set is exactly "stored `Rejected` and never handled".**  In every reachable world, a
proposal that is stored `Rejected` and has no `Execute`/`Close` in the committed history (so its deposit was never
refunded — `refund_only_to_proposer`) stays that way over EVERY continuation of the history — any transactions on the
multisig, the group, the token, nested dispatches, any blocks: the count of handled calls stays 0, the proposal stays
stored `Rejected`, and in the resulting world `Execute` and `Close` of it are refused for every sender, group state,
funds and block.  With `refund_failed_proposals = true` this is the open known finding; together with
`failed_deposit_recoverable_reachable` (stored `Open` at expiry ⇒ recoverable) it characterises which failed proposals
lose their deposit: those voted down (or created expired-and-rejected) BEFORE they expire. -/
theorem stored_rejected_never_refunded {ext : Ext} {fuel : Nat} {w : World} (hr : Reachable ext fuel w) {id : Nat}
    {p : Proposal} (hp : w.flex.core.proposals.get? id = some p) (hs : p.status = .rejected)
    (h0 : handled w.log id = 0) (ops : List Op) :
    handled (run ext fuel w ops).log id = 0 ∧
    (∃ p', (run ext fuel w ops).flex.core.proposals.get? id = some p' ∧ p'.status = .rejected ∧ p'.deposit = p.deposit ∧
      p'.proposer = p.proposer) ∧
    ∀ g self blk snd funds,
      (execute (run ext fuel w ops).flex g self blk snd funds (.execute id)).isOk = false ∧
      (execute (run ext fuel w ops).flex g self blk snd funds (.close id)).isOk = false := by
  have hq : StuckInv id (run ext fuel w ops) := by
    refine run_inv ext (StuckInv id) fuel ?_ ops w ⟨reachable_inv hr, ⟨p, hp, hs⟩, h0⟩
    intro w op hq
    refine step_inv ext (StuckInv id) fuel w op (fun _ _ _ _ _ _ hq he => stuck_flex hq he) ?_
      (fun w b h => h) (fun w t h => h) hq
    intro w snd m g' outs hq _
    exact ⟨hq.1, hq.2.1, by simpa [handled_append] using hq.2.2⟩
  obtain ⟨_, ⟨p', hp', hs'⟩, h0'⟩ := hq
  obtain ⟨p'', hp'', hf, _⟩ := (run_later ext fuel ops (reachable_inv hr)).props id p hp
  rw [hp'] at hp''; cases hp''
  refine ⟨h0', ⟨p', hp', hs', ?_, ?_⟩, fun g self blk snd funds => rejected_refuses hp' hs' g self blk snd funds⟩
  · exact (fixedPart_fields hf).2.2.2.2.2.2.2.2
  · exact (fixedPart_fields hf).2.2.2.2.2.2.2.1

/-! ## (2'/4') the refund at transaction level: the transfer to the proposer happened in the committed transaction -/

/-- Dispatching a native refund message: the bank send from the multisig to the depositor succeeded, then the rest is
dispatched. -/
theorem dispatch_refund_native {ext : Ext} {fuel : Nat} {w w' : World} {blk : Block} {d : Deposit} {a : Addr}
    {rest : List Out} (hn : d.cw20 = false) (h : dispatch ext fuel w blk (refundMsg d a :: rest) = .ok w') :
    ∃ fuel' b, fuel = fuel' + 1 ∧ Cw3Fixed.bankSend w.bank w.self a d.amount d.denom = .ok b ∧
      dispatch ext fuel' { w with bank := b } blk rest = .ok w' := by
  cases fuel with
  | zero => simp [dispatch] at h
  | succ fuel =>
    simp only [refundMsg, hn, Bool.false_eq_true, if_false, dispatch, Res.bind_ok] at h
    obtain ⟨w1, ⟨b, hb, hw1⟩, h2⟩ := h
    simp at hw1; subst hw1
    exact ⟨fuel, b, rfl, hb, h2⟩

/-- Dispatching a cw20 refund message: the deposit token is the token contract of the world and its
`Transfer { recipient: depositor, amount }` sent by the multisig succeeded, then the rest is dispatched. -/
theorem dispatch_refund_cw20 {ext : Ext} {fuel : Nat} {w w' : World} {blk : Block} {d : Deposit} {a : Addr}
    {rest : List Out} (hc : d.cw20 = true) (h : dispatch ext fuel w blk (refundMsg d a :: rest) = .ok w') :
    ∃ fuel' t, fuel = fuel' + 1 ∧ d.denom = w.tokenAddr ∧
      Cw20.execute w.token blk w.self (.transfer ⟨true, a⟩ d.amount) = .ok (t, []) ∧
      dispatch ext fuel' { w with token := t } blk rest = .ok w' := by
  cases fuel with
  | zero => simp [dispatch] at h
  | succ fuel =>
    simp only [refundMsg, hc, if_true, dispatch, Res.bind_ok] at h
    obtain ⟨w1, h1, h2⟩ := h
    obtain ⟨htok, t', hex, rfl⟩ := tokenCall_ok_iff.mp h1
    exact ⟨fuel, t', rfl, htok, hex, h2⟩

/-- **Executed ⇒ refunded, transaction level, native deposit** (mirror of `propose_native_tx`).  A committed `Execute`
transaction of a proposal with a native deposit: after the attached funds moved, the multisig paid exactly the
deposit coin to the proposer (the bank send succeeded — otherwise the whole transaction would have failed), and only
then the proposal's own messages were dispatched, in the world with that payment made. -/
theorem execute_native_tx {ext : Ext} {fuel : Nat} {w w' : World} {blk : Block} {snd : Addr} {funds : List Coin}
    {id : Nat} {p : Proposal} {d : Deposit}
    (hp : w.flex.core.proposals.get? id = some p) (hd : p.deposit = some d) (hn : d.cw20 = false)
    (h : tx ext fuel w blk (.flex snd funds (.execute id)) = .ok w') :
    ∃ b0 b1 s' fuel', moveFunds w.bank snd w.self funds = .ok b0 ∧
      Cw3Fixed.bankSend b0 w.self p.proposer d.amount d.denom = .ok b1 ∧ fuel = fuel' + 1 ∧
      dispatch ext fuel' { w with bank := b1, flex := s', log := w.log ++ [.executed id] } blk (p.msgs.map Out.msg) = .ok w' := by
  simp only [tx, Res.bind_ok] at h
  obtain ⟨b0, hb0, ⟨s', out⟩, he, hdisp⟩ := h
  obtain ⟨hout, _⟩ := executed_always_refunded he hp hd
  subst hout
  obtain ⟨fuel', b1, hf, hb1, hrest⟩ := dispatch_refund_native hn hdisp
  exact ⟨b0, b1, s', fuel', hb0, hb1, hf, hrest⟩

/-- **Executed ⇒ refunded, transaction level, cw20 deposit.**  A committed `Execute` transaction of a proposal with a
cw20 deposit: the deposit token is the world's token contract, its `Transfer { recipient: proposer, amount }` sent by
the multisig succeeded, and only then the proposal's messages were dispatched. -/
theorem execute_cw20_tx {ext : Ext} {fuel : Nat} {w w' : World} {blk : Block} {snd : Addr} {funds : List Coin}
    {id : Nat} {p : Proposal} {d : Deposit}
    (hp : w.flex.core.proposals.get? id = some p) (hd : p.deposit = some d) (hc : d.cw20 = true)
    (h : tx ext fuel w blk (.flex snd funds (.execute id)) = .ok w') :
    d.denom = w.tokenAddr ∧
    ∃ b0 t s' fuel', moveFunds w.bank snd w.self funds = .ok b0 ∧
      Cw20.execute w.token blk w.self (.transfer ⟨true, p.proposer⟩ d.amount) = .ok (t, []) ∧ fuel = fuel' + 1 ∧
      dispatch ext fuel' { w with bank := b0, token := t, flex := s', log := w.log ++ [.executed id] } blk
        (p.msgs.map Out.msg) = .ok w' := by
  simp only [tx, Res.bind_ok] at h
  obtain ⟨b0, hb0, ⟨s', out⟩, he, hdisp⟩ := h
  obtain ⟨hout, _⟩ := executed_always_refunded he hp hd
  subst hout
  obtain ⟨fuel', t, hf, htok, hex, hrest⟩ := dispatch_refund_cw20 hc hdisp
  exact ⟨htok, b0, t, s', fuel', hb0, hex, hf, hrest⟩

/-- **Closed with refunds enabled ⇒ refunded, transaction level.**  A committed `Close` transaction of a proposal whose
deposit has `refund_failed_proposals = true`: the refund to the proposer — bank send of the deposit coin, resp. the
token's `Transfer` — succeeded, and nothing else was dispatched: the new world differs from the old one only by the
attached funds, that payment, the proposal's stored status and the ghost log. -/
theorem close_refund_tx {ext : Ext} {fuel : Nat} {w w' : World} {blk : Block} {snd : Addr} {funds : List Coin}
    {id : Nat} {p : Proposal} {d : Deposit}
    (hp : w.flex.core.proposals.get? id = some p) (hd : p.deposit = some d) (hrf : d.refundFailed = true)
    (h : tx ext fuel w blk (.flex snd funds (.close id)) = .ok w') :
    ∃ b0 s', moveFunds w.bank snd w.self funds = .ok b0 ∧
      if d.cw20 then
        d.denom = w.tokenAddr ∧ ∃ t, Cw20.execute w.token blk w.self (.transfer ⟨true, p.proposer⟩ d.amount) = .ok (t, []) ∧
          w' = { w with bank := b0, token := t, flex := s', log := w.log ++ [.closed id] }
      else
        ∃ b1, Cw3Fixed.bankSend b0 w.self p.proposer d.amount d.denom = .ok b1 ∧
          w' = { w with bank := b1, flex := s', log := w.log ++ [.closed id] } := by
  simp only [tx, Res.bind_ok] at h
  obtain ⟨b0, hb0, ⟨s', out⟩, he, hdisp⟩ := h
  obtain ⟨p1, hp1, _, _, _, rfl⟩ := execute_close_ok_iff.mp he
  cases hp.symm.trans hp1
  simp only [hd, hrf, if_true] at hdisp
  refine ⟨b0, s', hb0, ?_⟩
  by_cases hc : d.cw20 = true
  · simp only [hc, if_true]
    obtain ⟨fuel', t, _, htok, hex, hrest⟩ := dispatch_refund_cw20 hc hdisp
    refine ⟨htok, t, hex, ?_⟩
    rw [dispatch_nil] at hrest; cases hrest; rfl
  · have hn : d.cw20 = false := by simpa using hc
    simp only [hn, Bool.false_eq_true, if_false]
    obtain ⟨fuel', b1, _, hb1, hrest⟩ := dispatch_refund_native hn hdisp
    refine ⟨b1, hb1, ?_⟩
    rw [dispatch_nil] at hrest; cases hrest; rfl

/-- **At most one refund message per handler call**: whatever a handler returns contains at most one payout. With
`refund_at_most_once` (at most one `Execute`-or-`Close` per proposal per history) and `refund_only_to_proposer` (only
those calls pay out, and only that proposal's refund) this is literally "at most one refund message per proposal per
history". -/
theorem payouts_le_one {s s' : State} {g : Cw4Group.State} {self : Addr} {blk : Block} {snd : Addr}
    {funds : List Coin} {m : ExecMsg} {out : List Out} (h : execute s g self blk snd funds m = .ok (s', out)) :
    (out.filter isPayout).length ≤ 1 := by
  rcases payouts_cases h with hnil | ⟨_, _, _, _, _, _, hone⟩
  · rw [hnil]; exact Nat.zero_le 1
  · rw [hone]; exact Nat.le_refl 1

/-! ## the unguarded clause 6 is false: D6 -/

namespace Cex

def group0 : Cw4Group.State :=
  match Cw4Group.instantiate ⟨some ⟨true, "adm"⟩, [(⟨true, "a"⟩, 1), (⟨true, "b"⟩, 2), (⟨true, "c"⟩, 2)]⟩ 5 with
  | .ok g => g
  | .error _ => Cw4Group.State.empty

def token0 : Cw20.State :=
  { supply := 0, mint := none, balances := [], allow := [], allowSp := [], version := ⟨"crates.io:cw20-base", 2, 0, 0, none⟩ }

def inst : InstMsg :=
  { group := ⟨true, "grp"⟩, threshold := .absoluteCount 3, maxVotingPeriod := .height 5, executor := none,
    deposit := some ⟨5, "ucosm", false, true, true⟩ }

def flex0 : State := match instantiate inst (some group0) with | .ok s => s | .error _ => default

def world0 : World := World.init flex0 group0 token0 [(("a", "ucosm"), 20)] "ms" "grp" "tok" 5

def noExt : Ext := fun _ => none

/-- `a` proposes (paying 5ucosm), `b` and `c` vote it down in block 10, well before its expiry at height 15. -/
def ops : List Op :=
  [⟨⟨10, 0⟩, .flex "a" [⟨5, "ucosm"⟩] (.propose "t" "d" [] none)⟩,
   ⟨⟨10, 0⟩, .flex "b" [] (.vote 1 .no)⟩,
   ⟨⟨10, 0⟩, .flex "c" [] (.vote 1 .no)⟩]

def final : World := run noExt 10 world0 ops

end Cex

/-- Non-vacuity of the counterexample's setup. -/
example : instantiate Cex.inst (some Cex.group0) = .ok Cex.flex0 := rfl

example : Reachable Cex.noExt 10 Cex.final :=
  ⟨Cex.inst, Cex.flex0, Cex.group0, Cex.token0, _, "ms", "grp", "tok", 5, Cex.ops, rfl, rfl⟩

/-- **D6, machine-checked.**  Refunds are enabled; proposal 1 was voted down before its expiry, so it is *stored*
`Rejected`; its deposit (5ucosm) sits in the multisig and was never refunded.  After expiry (block 20) `Close` is
refused (and so is `Execute`): the deposit of this failed proposal is not recoverable — the unguarded clause 6
of C15 is false of the code. -/
theorem C15_counterexample :
    ((Cex.final.flex.core.proposals.get? 1).map fun p => (p.status, p.deposit.map (·.refundFailed), p.expires.isExpired ⟨20, 0⟩))
        = some (.rejected, some true, true) ∧
    handled Cex.final.log 1 = 0 ∧
    balance Cex.final "ms" "ucosm" = 5 ∧ balance Cex.final "a" "ucosm" = 15 ∧
    (tx Cex.noExt 10 Cex.final ⟨20, 0⟩ (.flex "x" [] (.close 1))).isOk = false ∧
    (tx Cex.noExt 10 Cex.final ⟨20, 0⟩ (.flex "x" [] (.execute 1))).isOk = false := by
  decide +kernel

/-- Non-vacuity of `failed_deposit_recoverable_partial`: the same proposal with a single `no` vote is still stored
`Open` at expiry, and `Close` then returns the refund to the proposer `a`. -/
example :
    ((Cw3Flex.execute (run Cex.noExt 10 Cex.world0 (Cex.ops.take 2)).flex Cex.group0 "ms" ⟨20, 0⟩ "x" [] (.close 1)).toOption.map (·.2))
      = some [Out.bank "a" 5 "ucosm"] := by
  decide +kernel

/-- Non-vacuity of `stored_rejected_never_refunded`: `Cex.final` is reachable, proposal 1 is stored `Rejected` and was
never handled — so by the theorem no continuation ever refunds it. -/
example : Reachable Cex.noExt 10 Cex.final ∧
    ((Cex.final.flex.core.proposals.get? 1).map (·.status)) = some .rejected ∧ handled Cex.final.log 1 = 0 :=
  ⟨⟨Cex.inst, Cex.flex0, Cex.group0, Cex.token0, _, "ms", "grp", "tok", 5, Cex.ops, rfl, rfl⟩, by decide +kernel⟩

/-- Non-vacuity of `failed_deposit_recoverable_reachable` and `close_refund_tx` (native): after a single `no` vote the
proposal is stored `Open`, fits `u64`, expires at height 15; the `Close` transaction at block 20 commits and pays the
5ucosm back to `a`. -/
example :
    let w := run Cex.noExt 10 Cex.world0 (Cex.ops.take 2)
    ((w.flex.core.proposals.get? 1).map fun p => (p.status, p.expires.isExpired ⟨20, 0⟩, p.votes)) = some (.open, true, ⟨1, 2, 0, 0⟩) ∧
    ((tx Cex.noExt 10 w ⟨20, 0⟩ (.flex "x" [] (.close 1))).toOption.map fun w' => (balance w' "a" "ucosm", balance w' "ms" "ucosm"))
      = some (20, 0) := by
  decide +kernel

namespace Cex20

/-- a cw20 deposit token in which `a` holds 20 -/
def token0 : Cw20.State :=
  { supply := 20, mint := none, balances := [("a", 20)], allow := [], allowSp := [], version := ⟨"crates.io:cw20-base", 2, 0, 0, none⟩ }

/-- deposit: 5 units of the cw20 token at `tok`, refunds of failed proposals enabled -/
def inst : InstMsg :=
  { group := ⟨true, "grp"⟩, threshold := .absoluteCount 3, maxVotingPeriod := .height 5, executor := none,
    deposit := some ⟨5, "tok", true, true, true⟩ }

def flex0 : State := match instantiate inst (some Cex.group0) with | .ok s => s | .error _ => default

def world0 : World := World.init flex0 Cex.group0 token0 [] "ms" "grp" "tok" 5

/-- `a` grants the multisig an allowance of 5, proposes (the deposit is pulled by `TransferFrom`), `b` votes yes
(1 + 2 = 3: Passed), an outsider executes (the deposit goes back by `Transfer`). -/
def ops : List Op :=
  [⟨⟨10, 0⟩, .token "a" (.increaseAllowance ⟨true, "ms"⟩ 5 none)⟩,
   ⟨⟨10, 0⟩, .flex "a" [] (.propose "t" "d" [] none)⟩,
   ⟨⟨11, 0⟩, .flex "b" [] (.vote 1 .yes)⟩,
   ⟨⟨12, 0⟩, .flex "x" [] (.execute 1)⟩]

/-- the same deposit with `refund_failed_proposals = false` -/
def instNoRefund : InstMsg := { inst with deposit := some ⟨5, "tok", true, false, true⟩ }
def flexNoRefund : State := match instantiate instNoRefund (some Cex.group0) with | .ok s => s | .error _ => default
def worldNoRefund : World := World.init flexNoRefund Cex.group0 token0 [] "ms" "grp" "tok" 5

end Cex20

example : instantiate Cex20.inst (some Cex.group0) = .ok Cex20.flex0 := rfl
example : instantiate Cex20.instNoRefund (some Cex.group0) = .ok Cex20.flexNoRefund := rfl

/-- **Non-vacuity for cw20 deposits** (`propose_cw20_tx`, `execute_cw20_tx`): the hypotheses are satisfiable — the
configured deposit is a cw20 one, the `Propose` transaction commits and moves 5 tokens from `a` to the multisig, the
`Execute` transaction commits and moves them back. -/
example :
    let w1 := run Cex.noExt 10 Cex20.world0 (Cex20.ops.take 1)
    let w2 := run Cex.noExt 10 Cex20.world0 (Cex20.ops.take 2)
    let w3 := run Cex.noExt 10 Cex20.world0 (Cex20.ops.take 3)
    let w4 := run Cex.noExt 10 Cex20.world0 Cex20.ops
    (w1.flex.cfg.deposit.map (·.cw20)) = some true ∧
    (tx Cex.noExt 10 w1 ⟨10, 0⟩ (.flex "a" [] (.propose "t" "d" [] none))).isOk = true ∧
    (w2.token.balances.get? "a", w2.token.balances.get? "ms") = (some 15, some 5) ∧
    ((w3.flex.core.proposals.get? 1).map fun p => (p.status, p.deposit.map (·.cw20))) = some (.passed, some true) ∧
    (tx Cex.noExt 10 w3 ⟨12, 0⟩ (.flex "x" [] (.execute 1))).isOk = true ∧
    (w4.token.balances.get? "a", w4.token.balances.get? "ms") = (some 20, some 0) ∧ handled w4.log 1 = 1 := by
  decide +kernel

/-- Without the allowance the cw20 `Propose` transaction fails as a whole (the handler succeeds, the dispatched
`TransferFrom` does not). -/
example : (tx Cex.noExt 10 Cex20.world0 ⟨10, 0⟩ (.flex "a" [] (.propose "t" "d" [] none))).isOk = false ∧
    (Cw3Flex.execute Cex20.world0.flex Cex20.world0.group "ms" ⟨10, 0⟩ "a" [] (.propose "t" "d" [] none)).isOk = true := by
  decide +kernel

/-- **Non-vacuity for `refund_failed_proposals = false`** (`no_refund_when_disabled`): the proposal expires stored
`Open`, `Close` commits, returns no message, and the 5 tokens stay with the multisig. -/
example :
    let w := run Cex.noExt 10 Cex20.worldNoRefund (Cex20.ops.take 2)
    ((w.flex.core.proposals.get? 1).map fun p => (p.status, p.deposit.map (·.refundFailed))) = some (.open, some false) ∧
    ((Cw3Flex.execute w.flex w.group "ms" ⟨20, 0⟩ "x" [] (.close 1)).toOption.map (·.2)) = some [] ∧
    ((tx Cex.noExt 10 w ⟨20, 0⟩ (.flex "x" [] (.close 1))).toOption.map fun w' =>
      (w'.token.balances.get? "a", w'.token.balances.get? "ms")) = some (some 15, some 5) := by
  decide +kernel

/-- Non-vacuity of `execute_native_tx`: `a` proposes with the native deposit, `b` votes yes (1 + 2 ≥ 3: Passed), an
outsider's `Execute` transaction commits and the 5ucosm are back with `a`. -/
example :
    let w := run Cex.noExt 10 Cex.world0
      [⟨⟨10, 0⟩, .flex "a" [⟨5, "ucosm"⟩] (.propose "t" "d" [] none)⟩, ⟨⟨10, 0⟩, .flex "b" [] (.vote 1 .yes)⟩]
    ((w.flex.core.proposals.get? 1).map fun p => (p.status, p.deposit.map (·.cw20))) = some (.passed, some false) ∧
    (balance w "a" "ucosm", balance w "ms" "ucosm") = (15, 5) ∧
    ((tx Cex.noExt 10 w ⟨11, 0⟩ (.flex "x" [] (.execute 1))).toOption.map fun w' =>
      (balance w' "a" "ucosm", balance w' "ms" "ucosm", handled w'.log 1)) = some (20, 0, 1) := by
  decide +kernel

/-! ## (7) the deposit pool across concurrent proposals, at world level

Ghost quantities, all read off the world (`w.bank`, `w.token`, the ghost log and the proposal map):

* `holdings dep w` — what the multisig holds of the deposit denomination (native: its bank balance of `dep.denom`;
  cw20: its balance in the world's token contract),
* `unreturned w` — the proposals whose deposit was taken and not returned: created (`1..count`) and with no
  `Execute`/`Close` in the committed history (`handled w.log id = 0`; by `refund_only_to_proposer` only those calls
  ever return a deposit),
* `owed w` — Σ of the recorded deposits of the `unreturned` proposals (this includes the proposals stuck by D6:
  their deposit sits in the pool too, so the statement below is the stronger one).
-/

/-- What the multisig holds of the deposit denomination. -/
def holdings (dep : Deposit) (w : World) : Nat :=
  if dep.cw20 then Cw20.bal w.token w.self else balance w w.self dep.denom

/-- The proposals whose deposit was taken and never returned: ids `1..count` without `Execute`/`Close` in the log. -/
def unreturned (w : World) : List Nat := (List.range' 1 w.flex.core.count).filter (fun id => handled w.log id == 0)

/-- The deposit amount recorded in proposal `id` (0 when there is none). -/
def depositOf (c : Core) (id : Nat) : Nat :=
  match c.proposals.get? id with
  | some p => (p.deposit.map (·.amount)).getD 0
  | none => 0

/-- **Σ of the deposits still owed**: over the proposals whose deposit was taken and not returned. -/
def owed (w : World) : Nat := ((unreturned w).map (depositOf w.flex.core)).sum

/-- Number of ids `1..n` without `Execute`/`Close` in the log (recursive form of `(unreturned w).length`). -/
def pend (log : List Event) : Nat → Nat
  | 0 => 0
  | n + 1 => pend log n + (if handled log (n + 1) = 0 then 1 else 0)

theorem pend_congr {log log' : List Event} : ∀ n, (∀ id, 1 ≤ id → id ≤ n → handled log' id = handled log id) →
    pend log' n = pend log n
  | 0, _ => rfl
  | n + 1, h => by
    simp only [pend]
    rw [pend_congr n (fun id h1 h2 => h id h1 (by omega)), h (n + 1) (by omega) (Nat.le_refl _)]

/-- One id in range goes from "never handled" to "handled", all others keep their count: one proposal less pending. -/
theorem pend_mark {log log' : List Event} {id0 : Nat} (h0 : handled log id0 = 0) (h1 : handled log' id0 ≠ 0)
    (hrest : ∀ id, id ≠ id0 → handled log' id = handled log id) :
    ∀ n, 1 ≤ id0 → id0 ≤ n → pend log n = pend log' n + 1
  | 0, h, h' => by omega
  | n + 1, h, h' => by
    simp only [pend]
    by_cases e : id0 = n + 1
    · subst e
      rw [pend_congr n (fun id _ h2 => hrest id (by omega))]
      simp [h0, h1]
    · rw [pend_mark h0 h1 hrest n h (by omega), hrest (n + 1) (fun x => e x.symm)]
      omega

theorem sum_filter_range (log : List Event) (f : Nat → Nat) (a : Nat) :
    ∀ n, (∀ id, 1 ≤ id → id ≤ n → f id = a) →
      (((List.range' 1 n).filter (fun id => handled log id == 0)).map f).sum = a * pend log n
  | 0, _ => by simp [pend]
  | n + 1, h => by
    rw [List.range'_1_concat, Nat.add_comm 1 n, List.filter_append, List.map_append, List.sum_append,
      sum_filter_range log f a n (fun id h1 h2 => h id h1 (by omega))]
    simp only [pend]
    by_cases e : handled log (n + 1) = 0
    · simp [e, h (n + 1) (by omega) (Nat.le_refl _), Nat.mul_add]
    · simp [e]

/-- Under `Inv` every stored proposal carries the configured deposit, so Σ owed = amount × number of pending ids. -/
theorem owed_eq {dep : Deposit} {w : World} (hi : Inv w.flex) (hd : w.flex.cfg.deposit = some dep) :
    owed w = dep.amount * pend w.log w.flex.core.count := by
  unfold owed unreturned
  refine sum_filter_range w.log _ dep.amount _ (fun id h1 h2 => ?_)
  have := (hi.wf.ids id).mpr ⟨h1, h2⟩
  cases hp : w.flex.core.proposals.get? id with
  | none => rw [hp] at this; cases this
  | some p => simp [depositOf, hp, hi.propDeposit id p hp, hd]

theorem unreturned_length (w : World) : (unreturned w).length = pend w.log w.flex.core.count := by
  have := sum_filter_range w.log (fun _ => 1) 1 w.flex.core.count (fun _ _ _ => rfl)
  rw [List.map_const', List.sum_replicate_nat, Nat.mul_one, Nat.one_mul] at this
  exact this

/-- `dep.amount ×` the number of proposals whose deposit was taken and not returned (`= owed w`, `owed_eq`). -/
def due (dep : Deposit) (w : World) : Nat := dep.amount * pend w.log w.flex.core.count

/-- A proposal message that spends the deposit denomination out of the multisig.  In the message language of the model
(`Cw3Core.Msg`: bank send, calls back into the multisig, group update, failing call) only a `BankMsg::Send` of the
native deposit denom does; no message of the language reaches the cw20 token, so with a cw20 deposit nothing spends. -/
def spends (dep : Deposit) : Msg → Bool
  | .bank _ _ denom => !dep.cw20 && denom == dep.denom
  | _ => false

/-- Some proposal that was executed in the committed history carries a message spending the deposit denomination. -/
def Dirty (dep : Deposit) (w : World) : Prop :=
  ∃ id p, Event.executed id ∈ w.log ∧ w.flex.core.proposals.get? id = some p ∧ ∃ m ∈ p.msgs, spends dep m = true

/-- **The guard of `pool_covers_owed_if_unspent`**, stated on the executed proposals only: no proposal with an
`executed` event in the committed history has a message that spends the deposit denomination. -/
def NoSpend (dep : Deposit) (w : World) : Prop :=
  ∀ id p, Event.executed id ∈ w.log → w.flex.core.proposals.get? id = some p → ∀ m ∈ p.msgs, spends dep m = false

theorem not_dirty_of_noSpend {dep : Deposit} {w : World} (h : NoSpend dep w) : ¬ Dirty dep w := by
  rintro ⟨id, p, h1, h2, m, hm, hs⟩
  rw [h id p h1 h2 m hm] at hs; cases hs

/-- What dispatching one returned message may take out of the pool. -/
def outDebit (dep : Deposit) : Out → Nat
  | .bank _ amt denom => if dep.cw20 = false ∧ denom = dep.denom then amt else 0
  | .cw20Transfer _ _ amt => if dep.cw20 = true then amt else 0
  | _ => 0

/-- What dispatching one returned message brings into the pool (`TransferFrom` to the multisig itself). -/
def outCredit (dep : Deposit) (self : Addr) : Out → Nat
  | .cw20TransferFrom _ _ to amt => if dep.cw20 = true ∧ to = self then amt else 0
  | _ => 0

def debits (dep : Deposit) (outs : List Out) : Nat := (outs.map (outDebit dep)).sum
def credits (dep : Deposit) (self : Addr) (outs : List Out) : Nat := (outs.map (outCredit dep self)).sum
def cleanOuts (dep : Deposit) (outs : List Out) : Prop := ∀ m, Out.msg m ∈ outs → spends dep m = false

@[simp] theorem debits_nil (dep : Deposit) : debits dep [] = 0 := rfl
@[simp] theorem credits_nil (dep : Deposit) (self : Addr) : credits dep self [] = 0 := rfl
@[simp] theorem debits_cons (dep : Deposit) (o : Out) (r : List Out) : debits dep (o :: r) = outDebit dep o + debits dep r := by
  simp [debits]
@[simp] theorem credits_cons (dep : Deposit) (self : Addr) (o : Out) (r : List Out) :
    credits dep self (o :: r) = outCredit dep self o + credits dep self r := by
  simp [credits]
theorem cleanOuts_nil (dep : Deposit) : cleanOuts dep [] := by intro m h; cases h
theorem cleanOuts_tail {dep : Deposit} {o : Out} {r : List Out} (h : cleanOuts dep (o :: r)) : cleanOuts dep r :=
  fun m hm => h m (List.mem_cons_of_mem _ hm)

theorem debits_msgs (dep : Deposit) (msgs : List Msg) : debits dep (msgs.map Out.msg) = 0 := by
  induction msgs with
  | nil => rfl
  | cons m r ih => simp [outDebit, ih]

theorem credits_hooks (dep : Deposit) (self : Addr) (outs : List Cw4Group.Out) :
    credits dep self (outs.map fun o => Out.groupHook o.hook) = 0 := by
  induction outs with
  | nil => rfl
  | cons m r ih => simp [outCredit, ih]

theorem debits_hooks (dep : Deposit) (outs : List Cw4Group.Out) : debits dep (outs.map fun o => Out.groupHook o.hook) = 0 := by
  induction outs with
  | nil => rfl
  | cons m r ih => simp [outDebit, ih]

theorem cleanOuts_hooks (dep : Deposit) (outs : List Cw4Group.Out) : cleanOuts dep (outs.map fun o => Out.groupHook o.hook) := by
  intro m hm; simp at hm

theorem outDebit_refund (dep : Deposit) (a : Addr) : outDebit dep (refundMsg dep a) = dep.amount := by
  unfold refundMsg
  cases h : dep.cw20 <;> simp [outDebit, h]

/-- The part of the world invariant that does not mention balances: the ghost invariant of clause 3, the configured
deposit, and — for a cw20 deposit — the multisig has granted no allowance on the token. -/
structure PoolGood (dep : Deposit) (w : World) : Prop where
  ghost : GhostInv w
  cfg : w.flex.cfg.deposit = some dep
  grant : dep.cw20 = true → NoGrant w.token w.self

theorem handled_fresh {w : World} (hq : GhostInv w) {id : Nat} (hid : w.flex.core.count < id) : handled w.log id = 0 :=
  handled_zero hq (by simp [isFinal, hq.1.wf.fresh hid])

theorem dirty_flex {dep : Deposit} {w : World} {g : Cw4Group.State} {self : Addr} {blk : Block} {snd : Addr}
    {funds : List Coin} {em : ExecMsg} {s' : State} {out : List Out} (hi : Inv w.flex)
    (he : execute w.flex g self blk snd funds em = .ok (s', out)) (hd : Dirty dep w) :
    Dirty dep { w with flex := s', log := w.log ++ [eventOf w.flex snd em] } := by
  obtain ⟨id, p, h1, h2, m, hm, hs⟩ := hd
  obtain ⟨p', hp', hf, _⟩ := (execute_later hi he).props id p h2
  have hmsgs : p'.msgs = p.msgs := by have := congrArg Proposal.msgs hf; exact this
  exact ⟨id, p', List.mem_append_left _ h1, hp', m, hmsgs ▸ hm, hs⟩

/-- Logging an event that is neither an `Execute` nor a `Close` leaves the pending proposals as they are. -/
theorem pend_snoc {log : List Event} {e : Event} (he : ∀ id, ¬ (e = .executed id ∨ e = .closed id)) (n : Nat) :
    pend (log ++ [e]) n = pend log n :=
  pend_congr n (fun id _ _ => by rw [handled_append, if_neg (he id), Nat.add_zero])

/-- Logging the `Execute` or `Close` of a proposal in range that was never handled takes it out of the pending ones. -/
theorem pend_snoc_handled {log : List Event} {e : Event} {id0 n : Nat} (he : e = .executed id0 ∨ e = .closed id0)
    (h0 : handled log id0 = 0) (h1 : 1 ≤ id0) (h2 : id0 ≤ n) : pend log n = pend (log ++ [e]) n + 1 := by
  refine pend_mark h0 (by rw [handled_append, if_pos he]; omega) (fun id hne => ?_) n h1 h2
  rw [handled_append, if_neg, Nat.add_zero]
  rcases he with rfl | rfl <;> simp [Ne.symm hne]

theorem credits_msgs (dep : Deposit) (self : Addr) (msgs : List Msg) : credits dep self (msgs.map Out.msg) = 0 := by
  induction msgs with
  | nil => rfl
  | cons m r ih => simp [outCredit, ih]

theorem outCredit_refund (dep : Deposit) (self a : Addr) : outCredit dep self (refundMsg dep a) = 0 := by
  unfold refundMsg; split <;> rfl

/-- `Execute` / `Close` of a stored proposal, in ledger terms: it was pending, it no longer is, and it carries the
configured deposit. -/
theorem due_handled {dep : Deposit} {w : World} {g : Cw4Group.State} {self : Addr} {blk : Block} {snd : Addr}
    {funds : List Coin} {em : ExecMsg} {s' : State} {out : List Out} {id : Nat} {p : Proposal} (hg : PoolGood dep w)
    (hm : em = .execute id ∨ em = .close id) (he : execute w.flex g self blk snd funds em = .ok (s', out))
    (hp : w.flex.core.proposals.get? id = some p) (hcount : s'.core.count = w.flex.core.count) :
    due dep w = due dep { w with flex := s', log := w.log ++ [eventOf w.flex snd em] } + dep.amount ∧
      p.deposit = some dep := by
  have hi := hg.ghost.1
  have hrange := (hi.wf.ids id).mp (by rw [hp]; rfl)
  have hev := hm.imp (eventOf_executed w.flex snd em id).mpr (eventOf_closed w.flex snd em id).mpr
  refine ⟨?_, by rw [hi.propDeposit id p hp, hg.cfg]⟩
  simp only [due, hcount]
  rw [pend_snoc_handled hev (handled_zero hg.ghost (not_final_of_ok hm he)) hrange.1 hrange.2, Nat.mul_add, Nat.mul_one]

/-- **The ledger of one handler call.**  What is owed after the call plus what the returned messages will take out of
the pool is at most what was owed before plus what they will bring in plus the native funds attached; and the returned
messages contain no spending proposal message unless the call executed a proposal that has one. -/
theorem ledger_flex {dep : Deposit} {w : World} {blk : Block} {snd : Addr} {funds : List Coin} {em : ExecMsg}
    {s' : State} {out : List Out} (hg : PoolGood dep w)
    (he : execute w.flex w.group w.self blk snd funds em = .ok (s', out)) :
    (cleanOuts dep out ∨ Dirty dep { w with flex := s', log := w.log ++ [eventOf w.flex snd em] }) ∧
    due dep { w with flex := s', log := w.log ++ [eventOf w.flex snd em] } + debits dep out ≤
      due dep w + credits dep w.self out + (if dep.cw20 then 0 else fundsOf dep.denom funds) := by
  have hi := hg.ghost.1
  cases em with
  | propose t d msgs latest =>
    have hx := (propose_takes_exact_deposit hi he).1
    have hcount : s'.core.count = w.flex.core.count + 1 := by
      obtain ⟨_, _, _, c, id, _, _, hp, rfl, _⟩ := execute_propose_ok_iff.mp he
      obtain ⟨_, _, _, _, rfl, _, rfl⟩ := propose_ok hp
      rfl
    have hdue : due dep { w with flex := s', log := w.log ++ [eventOf w.flex snd (.propose t d msgs latest)] } =
        due dep w + dep.amount := by
      simp only [due, hcount]
      rw [pend_snoc (by simp [eventOf]), pend, if_pos (handled_fresh hg.ghost (Nat.lt_succ_self _)), Nat.mul_add, Nat.mul_one]
    rw [hdue]
    simp only [hg.cfg] at hx
    by_cases hcw : dep.cw20 = true
    · simp only [hcw, if_true] at hx ⊢
      rw [hx]
      exact ⟨.inl (fun m hm => by simp at hm), by simp [outDebit, outCredit, hcw]⟩
    · have hcw' : dep.cw20 = false := by simpa using hcw
      simp only [hcw', Bool.false_eq_true, if_false] at hx ⊢
      obtain ⟨rfl, hout⟩ := hx
      rw [hout]
      exact ⟨.inl (cleanOuts_nil dep), by simp [fundsOf]⟩
  | vote id v =>
    obtain ⟨c, hv, rfl, rfl⟩ := execute_vote_ok_iff.mp he
    obtain ⟨_, _, _, _, _, _, _, _, _, _, _, _, rfl⟩ := vote_ok hv
    refine ⟨.inl (cleanOuts_nil dep), ?_⟩
    simp only [due]
    rw [pend_snoc (by simp [eventOf])]
    simp
  | execute id =>
    obtain ⟨p, hp, _, _, hs', hout⟩ := execute_execute_ok_iff_proposal.mp he
    obtain ⟨hdue, hdep⟩ := due_handled hg (.inl rfl) he hp (by rw [hs'])
    rw [hdue, hout, hdep]
    refine ⟨?_, by simp [outDebit_refund, outCredit_refund, debits_msgs, credits_msgs]⟩
    by_cases hsp : ∃ m ∈ p.msgs, spends dep m = true
    · obtain ⟨m, hm, hs⟩ := hsp
      exact .inr ⟨id, { p with status := .executed }, by simp [eventOf], by rw [hs']; exact AMap.get?_set_eq _ _ _, m, hm, hs⟩
    · left
      intro m hm
      rcases List.mem_cons.mp hm with hm | hm
      · unfold refundMsg at hm; split at hm <;> cases hm
      · obtain ⟨m', hm', e⟩ := List.mem_map.mp hm
        cases e
        exact Bool.eq_false_iff.mpr (fun hs => hsp ⟨m, hm', hs⟩)
  | close id =>
    obtain ⟨p, _, hp, _, _, _, _, _, _, hs', hout⟩ := execute_close_ok_iff_proposal.mp he
    obtain ⟨hdue, hdep⟩ := due_handled hg (.inr rfl) he hp (by rw [hs'])
    rw [hdue, hout, hdep]
    simp only
    split
    · refine ⟨.inl (fun m hm => ?_), by simp [outDebit_refund, outCredit_refund]⟩
      rw [List.mem_singleton] at hm
      unfold refundMsg at hm; split at hm <;> cases hm
    · exact ⟨.inl (cleanOuts_nil dep), by simp only [debits_nil, credits_nil]; omega⟩
  | memberChangedHook =>
    obtain ⟨_, rfl, rfl⟩ := execute_hook_ok_iff.mp he
    refine ⟨.inl (cleanOuts_nil dep), ?_⟩
    simp only [due]
    rw [pend_snoc (by simp [eventOf])]
    simp

/-- **One handler call, in pool terms.**  Whatever the call, with `info.funds` already credited to the multisig: either
an executed proposal spends the deposit denomination, or the returned messages contain no spending proposal message and
the pool — counting the `TransferFrom` still to be dispatched as incoming and the refunds still to be dispatched as
outgoing — still covers what is owed after the call. -/
theorem pool_flex {dep : Deposit} {w : World} {blk : Block} {snd : Addr} {funds : List Coin} {em : ExecMsg}
    {s' : State} {out : List Out} (hg : PoolGood dep w)
    (he : execute w.flex w.group w.self blk snd funds em = .ok (s', out)) :
    PoolGood dep { w with flex := s', log := w.log ++ [eventOf w.flex snd em] } ∧
    ∀ C K, (Dirty dep w ∨ due dep w + K + (if dep.cw20 then 0 else fundsOf dep.denom funds) ≤ holdings dep w + C) →
      Dirty dep { w with flex := s', log := w.log ++ [eventOf w.flex snd em] } ∨
      (cleanOuts dep out ∧
        due dep { w with flex := s', log := w.log ++ [eventOf w.flex snd em] } + debits dep out + K ≤
          holdings dep w + credits dep w.self out + C) := by
  refine ⟨⟨ghost_flex hg.ghost he, by rw [← hg.cfg]; exact congrArg Config.deposit (execute_cases he).1, hg.grant⟩,
    fun C K hpre => ?_⟩
  obtain ⟨hc, hle⟩ := ledger_flex hg he
  rcases hpre with hdirty | hpre
  · exact .inl (dirty_flex hg.ghost.1 he hdirty)
  · rcases hc with hc | hd
    · exact .inr ⟨hc, by omega⟩
    · exact .inl hd

/-- The inequality carried through a dispatch: owed + outgoing still to be dispatched (+ `K`) ≤ holdings + incoming
still to be dispatched (+ `C`). -/
def Covered (dep : Deposit) (w : World) (outs : List Out) (C K : Nat) : Prop :=
  due dep w + debits dep outs + K ≤ holdings dep w + credits dep w.self outs + C

/-- **The pool ledger of a dispatch** of `outs` from `w` to `w'`: what the pool gained is at least what the messages were
to bring in, less what they were to take out, corrected by the change of what is owed. -/
def Ledger (dep : Deposit) (w : World) (outs : List Out) (w' : World) : Prop :=
  holdings dep w + credits dep w.self outs + due dep w' ≤ holdings dep w' + due dep w + debits dep outs

/-- What the dispatch of `outs` from `w` to `w'` carries: the balance-free invariant, the multisig's address, "an
executed proposal spends the deposit denomination", and — for a list without spending proposal message — the ledger,
unless an executed proposal spends the deposit denomination. -/
def PoolCarried (dep : Deposit) (w : World) (outs : List Out) (w' : World) : Prop :=
  PoolGood dep w' ∧ w'.self = w.self ∧ (Dirty dep w → Dirty dep w') ∧
    (cleanOuts dep outs → Dirty dep w' ∨ Ledger dep w outs w')

theorem PoolCarried.nil {dep : Deposit} {w : World} (hg : PoolGood dep w) : PoolCarried dep w [] w :=
  ⟨hg, rfl, id, fun _ => .inr (Nat.le_refl _)⟩

/-- The first message, then the rest: the ledgers add up. -/
theorem PoolCarried.cons {dep : Deposit} {w w1 w' : World} {o : Out} {rest : List Out}
    (h1 : PoolCarried dep w [o] w1) (h2 : PoolGood dep w1 → PoolCarried dep w1 rest w') :
    PoolCarried dep w (o :: rest) w' := by
  obtain ⟨hg1, hs1, hd1, hl1⟩ := h1
  obtain ⟨hg', hs', hd', hl'⟩ := h2 hg1
  refine ⟨hg', hs'.trans hs1, fun h => hd' (hd1 h), fun hc => ?_⟩
  rcases hl1 (fun m hm => hc m (List.mem_cons.mpr (.inl (List.mem_singleton.mp hm)))) with h | hl1
  · exact .inl (hd' h)
  · rcases hl' (cleanOuts_tail hc) with h | hl2
    · exact .inl h
    · right
      simp only [Ledger, debits_cons, credits_cons, debits_nil, credits_nil, hs1] at hl1 hl2 ⊢
      omega

/-- A leaf of the dispatch (bank send / token call): multisig state, log and address unchanged, and — the message not
being a spending proposal message — the pool moved by no more than its debit resp. by at least its credit. -/
theorem PoolCarried.leaf {dep : Deposit} {w w1 : World} {o : Out} (hg1 : PoolGood dep w1)
    (hf : w1.flex = w.flex) (hl : w1.log = w.log) (hs : w1.self = w.self)
    (hh : cleanOuts dep [o] → holdings dep w + outCredit dep w.self o ≤ holdings dep w1 + outDebit dep o) :
    PoolCarried dep w [o] w1 := by
  refine ⟨hg1, hs, fun ⟨id, p, h1, h2, h3⟩ => ⟨id, p, hl ▸ h1, hf ▸ h2, h3⟩, fun hc => .inr ?_⟩
  have := hh hc
  simp only [Ledger, debits_cons, credits_cons, debits_nil, credits_nil, due, hf, hl]
  omega

/-- A handler call (funds already moved in) followed by the dispatch of what it returned: the ledger of the whole. -/
theorem carried_call {dep : Deposit} {w w1 : World} {blk : Block} {snd : Addr} {funds : List Coin} {em : ExecMsg}
    {s' : State} {out : List Out} (hg : PoolGood dep w)
    (he : execute w.flex w.group w.self blk snd funds em = .ok (s', out))
    (ih : PoolGood dep { w with flex := s', log := w.log ++ [eventOf w.flex snd em] } →
      PoolCarried dep { w with flex := s', log := w.log ++ [eventOf w.flex snd em] } out w1) :
    PoolGood dep w1 ∧ w1.self = w.self ∧ (Dirty dep w → Dirty dep w1) ∧
      (Dirty dep w1 ∨ holdings dep w + due dep w1 ≤
        holdings dep w1 + due dep w + (if dep.cw20 then 0 else fundsOf dep.denom funds)) := by
  obtain ⟨hg1, hs1, hdd, hsl⟩ := ih (pool_flex hg he).1
  refine ⟨hg1, hs1, fun h => hdd (dirty_flex hg.ghost.1 he h), ?_⟩
  obtain ⟨hc, hle⟩ := ledger_flex hg he
  rcases hc with hc | h
  · refine (hsl hc).imp id (fun hl => ?_)
    have hh : holdings dep { w with flex := s', log := w.log ++ [eventOf w.flex snd em] } = holdings dep w := rfl
    simp only [Ledger, hh] at hl
    omega
  · exact .inl (hdd h)

/-- A group call followed by the dispatch of the hooks it returned: the pool and what is owed are untouched. -/
theorem carried_group {dep : Deposit} {w w1 : World} {h : Nat} {g' : Cw4Group.State} {outs : List Cw4Group.Out}
    (hg : PoolGood dep w)
    (ih : PoolGood dep { w with group := g', log := w.log ++ [.groupWrite h] } →
      PoolCarried dep { w with group := g', log := w.log ++ [.groupWrite h] } (outs.map fun o => Out.groupHook o.hook) w1) :
    PoolGood dep w1 ∧ w1.self = w.self ∧ (Dirty dep w → Dirty dep w1) ∧
      (Dirty dep w1 ∨ holdings dep w + due dep w1 ≤ holdings dep w1 + due dep w) := by
  obtain ⟨hg1, hs1, hdd, hsl⟩ := ih ⟨ghost_group hg.ghost g' h, hg.cfg, hg.grant⟩
  refine ⟨hg1, hs1, fun ⟨id, p, h1, h2, h3⟩ => hdd ⟨id, p, List.mem_append_left _ h1, h2, h3⟩, ?_⟩
  refine (hsl (cleanOuts_hooks dep outs)).imp id (fun hl => ?_)
  have hdue : due dep { w with group := g', log := w.log ++ [.groupWrite h] } = due dep w :=
    congrArg (dep.amount * ·) (pend_snoc (by simp) _)
  have hh : holdings dep { w with group := g', log := w.log ++ [.groupWrite h] } = holdings dep w := rfl
  simp only [Ledger, credits_hooks, debits_hooks, hdue, hh] at hl
  omega

/-- **The dispatch induction for the pool.**  Over the dispatch of any list of returned messages, depth-first with all
nested handler calls, `PoolCarried` holds from the world before to the world after. -/
theorem pool_carried (ext : Ext) (dep : Deposit) (blk : Block) :
    ∀ fuel w outs w', dispatch ext fuel w blk outs = .ok w' → PoolGood dep w → PoolCarried dep w outs w' := by
  refine dispatch_induction ext blk (M := fun w outs w' => PoolGood dep w → PoolCarried dep w outs w')
    (fun w hg => .nil hg) ?_ ?_ ?_ ?_
  · intro w o rest snd em s' out w1 w' ho he h1 h2 hg
    obtain ⟨hg1, hs1, hdd, hl⟩ := carried_call hg he h1
    refine .cons ⟨hg1, hs1, hdd, fun _ => hl.imp id (fun hl => ?_)⟩ h2
    have hz : outDebit dep o = 0 ∧ outCredit dep w.self o = 0 := by
      rcases ho with ⟨m, rfl, _, _⟩ | ⟨rfl, _, _⟩ <;> exact ⟨rfl, rfl⟩
    simp only [Ledger, debits_cons, credits_cons, debits_nil, credits_nil, hz.1, hz.2, fundsOf_nil, ite_self] at hl ⊢
    omega
  · intro w o rest to amt denom b w' ho hb h2 hg
    have hgb : PoolGood dep { w with bank := b } := ⟨hg.ghost, hg.cfg, hg.grant⟩
    refine .cons (.leaf hgb rfl rfl rfl (fun hc => ?_)) h2
    unfold holdings
    split
    · -- cw20 deposit: the pool is the token balance, which a bank send leaves alone
      rcases ho with rfl | rfl <;> simp [outCredit]
    · rename_i hcw
      have := bankSend_from hb dep.denom
      rcases ho with rfl | rfl
      · simpa [outDebit, outCredit, hcw, balance] using this
      · -- a bank message of a proposal in a clean list is not of the deposit denomination
        have hsp := hc (.bank to amt denom) (List.mem_singleton.mpr rfl)
        have hne : ¬ denom = dep.denom := fun e => by simp [spends, hcw, e] at hsp
        simpa [outDebit, outCredit, balance, hne] using this
  · intro w o rest tok m w1 w' ho hc h2 hg
    obtain ⟨_, t', hex, rfl⟩ := tokenCall_ok_iff.mp hc
    have h : PoolCarried dep w [o] { w with token := t' } := by
      rcases ho with ⟨to, amt, rfl, rfl⟩ | ⟨owner, to, amt, rfl, rfl⟩
      · obtain ⟨hal, _, hb⟩ := cw20_transfer_self hex
        refine .leaf ⟨hg.ghost, hg.cfg, fun hc sp => by rw [hal]; exact hg.grant hc sp⟩ rfl rfl rfl (fun _ => ?_)
        unfold holdings outDebit outCredit
        split
        · simp; exact hb
        · simp [balance]
      · by_cases hcw : dep.cw20 = true
        · obtain ⟨_, hn', hb⟩ := cw20_transferFrom_self hex (hg.grant hcw)
          refine .leaf ⟨hg.ghost, hg.cfg, fun _ => hn'⟩ rfl rfl rfl (fun _ => ?_)
          simp only [holdings, hcw, if_true, outDebit, outCredit, true_and, Nat.add_zero]
          rw [hb]; exact Nat.le_refl _
        · refine .leaf ⟨hg.ghost, hg.cfg, fun h => absurd h hcw⟩ rfl rfl rfl (fun _ => ?_)
          simp [holdings, hcw, outDebit, outCredit, balance]
    exact .cons h h2
  · intro w rest tag add remove g' outs w1 w' _ _ h1 h2 hg
    obtain ⟨hg1, hs1, hdd, hl⟩ := carried_group hg h1
    refine .cons ⟨hg1, hs1, hdd, fun _ => hl.imp id (fun hl => ?_)⟩ h2
    simp only [Ledger, debits_cons, credits_cons, debits_nil, credits_nil, outDebit, outCredit] at hl ⊢
    omega

/-- **The dedicated dispatch induction** (the generic `dispatch_inv` quantifies over arbitrary bank and token changes
and cannot carry a statement about balances).  Over the dispatch of any list of returned messages, depth-first with all
nested handler calls: the balance-free invariant is kept, the multisig's address is kept, "an executed proposal spends
the deposit denomination" is kept, and — when the list contains no spending proposal message — the inequality
"owed + outgoing still to be dispatched ≤ holdings + incoming still to be dispatched" is carried from the start to the
end, unless an executed proposal spends the deposit denomination. -/
theorem pool_dispatch (ext : Ext) (dep : Deposit) (blk : Block) :
    ∀ fuel w outs w', PoolGood dep w → dispatch ext fuel w blk outs = .ok w' →
      PoolGood dep w' ∧ w'.self = w.self ∧ (Dirty dep w → Dirty dep w') ∧
      ∀ C K, cleanOuts dep outs → Covered dep w outs C K → Dirty dep w' ∨ Covered dep w' [] C K := by
  intro fuel w outs w' hg h
  obtain ⟨hg', hs', hd', hl'⟩ := pool_carried ext dep blk fuel w outs w' h hg
  refine ⟨hg', hs', hd', fun C K hc hcov => (hl' hc).imp id (fun hl => ?_)⟩
  simp only [Covered, Ledger, debits_nil, credits_nil] at hcov hl ⊢
  omega

/-- Who signed the transaction. -/
def Action.sender : Action → Addr
  | .flex snd _ _ => snd
  | .group snd _ => snd
  | .token snd _ => snd

/-- **Environment guard**: no transaction of the history is signed by the multisig's own address.  (A contract address
has no key: the multisig acts only through the messages its handlers return, which the runtime dispatches — those are
covered, at any nesting depth.) -/
def External (self : Addr) (ops : List Op) : Prop := ∀ op ∈ ops, Action.sender op.act ≠ self

instance (self : Addr) (ops : List Op) : Decidable (External self ops) := by unfold External; infer_instance

/-- The world invariant of the pool accounting: the balance-free part, and — unless an executed proposal spends the
deposit denomination — holdings ≥ owed. -/
def PoolInv (dep : Deposit) (self : Addr) (w : World) : Prop :=
  w.self = self ∧ PoolGood dep w ∧ (Dirty dep w ∨ due dep w ≤ holdings dep w)

theorem pool_tx {ext : Ext} {fuel : Nat} {dep : Deposit} {self : Addr} {w w' : World} {blk : Block} {act : Action}
    (hq : PoolInv dep self w) (hext : Action.sender act ≠ self) (h : tx ext fuel w blk act = .ok w') :
    PoolInv dep self w' := by
  obtain ⟨hself, hg, hcov⟩ := hq
  cases act with
  | flex snd funds m =>
    simp only [tx, Res.bind_ok] at h
    obtain ⟨b, hb, ⟨s', out⟩, he, hd⟩ := h
    have hne : snd ≠ w.self := by rw [hself]; exact hext
    have hgb : PoolGood dep { w with bank := b } := ⟨hg.ghost, hg.cfg, hg.grant⟩
    have hhold : holdings dep { w with bank := b } =
        holdings dep w + (if dep.cw20 then 0 else fundsOf dep.denom funds) := by
      unfold holdings
      split
      · rfl
      · simpa [balance] using moveFunds_get_to hb hne dep.denom
    obtain ⟨hg', hs', hdd, hl⟩ := carried_call hgb he (pool_carried ext dep blk fuel _ out w' hd)
    refine ⟨hs'.trans hself, hg', hcov.elim (fun h => .inl (hdd h)) (fun hle => hl.imp id (fun hl => ?_))⟩
    have hdue : due dep { w with bank := b } = due dep w := rfl
    rw [hhold, hdue] at hl
    omega
  | group snd m =>
    simp only [tx, Res.bind_ok] at h
    obtain ⟨⟨g', outs⟩, _, hd⟩ := h
    obtain ⟨hg', hs', hdd, hl⟩ := carried_group hg (pool_carried ext dep blk fuel _ _ w' hd)
    exact ⟨hs'.trans hself, hg', hcov.elim (fun h => .inl (hdd h)) (fun hle => hl.imp id (fun hl => by omega))⟩
  | token snd m =>
    simp [tx] at h
    obtain ⟨t, out, hex, _, rfl⟩ := h
    have hne : snd ≠ w.self := by rw [hself]; exact hext
    -- an outsider's call leaves the multisig without allowance granted and with at least its balance
    have hh : holdings dep w ≤ holdings dep { w with token := t } := by
      unfold holdings
      split
      · rename_i hcw; exact (cw20_external hex hne (hg.grant hcw)).2
      · exact Nat.le_refl _
    exact ⟨hself, ⟨hg.ghost, hg.cfg, fun hcw => (cw20_external hex hne (hg.grant hcw)).1⟩,
      hcov.imp id (fun hle => Nat.le_trans hle hh)⟩

theorem pool_run {ext : Ext} {fuel : Nat} {dep : Deposit} {self : Addr} :
    ∀ (ops : List Op) (w : World), PoolInv dep self w → External self ops → PoolInv dep self (run ext fuel w ops)
  | [], w, hq, _ => hq
  | op :: rest, w, hq, hext => by
    rw [run_cons]
    refine pool_run rest _ ?_ (fun o ho => hext o (List.mem_cons_of_mem _ ho))
    unfold step
    split
    · rename_i w' htx; exact pool_tx hq (hext op (List.mem_cons_self ..)) htx
    · exact hq

/-- The pool invariant holds right after instantiation: nothing is owed yet. -/
theorem pool_init {m : InstMsg} {s : State} {g : Cw4Group.State} {t : Cw20.State} {bank : AMap (Addr × String) Nat}
    {self ga ta : Addr} {h0 : Nat} {dep : Deposit} (hi : instantiate m (some g) = .ok s) (hd : s.cfg.deposit = some dep)
    (hgr : dep.cw20 = true → NoGrant t self) : PoolInv dep self (World.init s g t bank self ga ta h0) := by
  refine ⟨rfl, ⟨⟨instantiate_inv hi, fun id => by simp [World.init, handled]⟩, hd, hgr⟩, Or.inr ?_⟩
  simp [due, World.init, instantiate_core hi, Core.empty, pend]

/-- **C15, pool clause (b): the deposit pool covers what is owed, over every history that does not spend it.**
Start from any accepted instantiation with a configured deposit `dep`, on top of any group, any token state in which
the multisig has granted no allowance (needed for a cw20 deposit only), any bank.  Run ANY history of transactions on
the multisig, the group and the token — any senders other than the multisig's own address (`External`), any funds, any
blocks, any number of concurrent proposals, nested self-calls and group updates dispatched by executed proposals.  If in
the resulting world no *executed* proposal carries a message that spends the deposit denomination out of the multisig
(`NoSpend`: no `BankMsg::Send` of the native deposit denom; the model's message language has no message that reaches the
cw20 token, so for a cw20 deposit the guard is vacuous), then the multisig's holdings of the deposit denomination are at
least the Σ of the deposits taken and not yet returned (`owed`: all proposals never Executed/Closed — including those
stuck by D6). -/
theorem pool_covers_owed_if_unspent {ext : Ext} {fuel : Nat} {m : InstMsg} {s : State} {g : Cw4Group.State}
    {t : Cw20.State} {bank : AMap (Addr × String) Nat} {self ga ta : Addr} {h0 : Nat} {dep : Deposit} {ops : List Op}
    (hi : instantiate m (some g) = .ok s) (hd : s.cfg.deposit = some dep)
    (hgr : dep.cw20 = true → NoGrant t self) (hext : External self ops)
    (hns : NoSpend dep (run ext fuel (World.init s g t bank self ga ta h0) ops)) :
    owed (run ext fuel (World.init s g t bank self ga ta h0) ops) ≤
      holdings dep (run ext fuel (World.init s g t bank self ga ta h0) ops) := by
  obtain ⟨_, hg, hcov⟩ : PoolInv dep self (run ext fuel (World.init s g t bank self ga ta h0) ops) :=
    pool_run ops _ (pool_init hi hd hgr) hext
  rw [owed_eq hg.ghost.1 hg.cfg]
  exact hcov.resolve_left (not_dirty_of_noSpend hns)

/-- A decidable form of the guard `NoSpend` (for concrete worlds). -/
def noSpendB (dep : Deposit) (w : World) : Bool :=
  w.flex.core.proposals.all fun e => !(w.log.contains (.executed e.1)) || e.2.msgs.all fun m => !(spends dep m)

theorem noSpend_of_check {dep : Deposit} {w : World} (h : noSpendB dep w = true) : NoSpend dep w := by
  intro id p h1 h2 m hm
  have hmem := AMap.get?_some_mem h2
  have := (List.all_eq_true.mp h) (id, p) hmem
  simp only [Bool.or_eq_true, Bool.not_eq_true', List.contains_eq_mem, decide_eq_false_iff_not, List.all_eq_true] at this
  rcases this with h | h
  · exact absurd h1 h
  · exact h m hm

/-! ### (a) what a Propose / Close / Execute transaction moves, exactly -/

/-- **C15, pool clause (a), taking: a committed `Propose` moves exactly the configured deposit from the proposer into
the multisig, and nothing else of that denomination.**  Sender other than the multisig itself.
* native deposit: the whole bank ledger of the new world is the old one with `amount` of `denom` moved from the
  proposer to the multisig — every other `(account, denom)` entry is unchanged — and the token is untouched;
* cw20 deposit: the whole balance ledger of the token is the old one with `amount` moved from the proposer to the
  multisig (the dispatched `TransferFrom`) — every other account unchanged.
In both cases the multisig's holdings of the deposit denomination grow by exactly `amount`. -/
theorem deposits_taken_exact {ext : Ext} {fuel : Nat} {w w' : World} {blk : Block} {snd : Addr} {funds : List Coin}
    {t d : String} {msgs : List Msg} {latest : Option Expiration} {dep : Deposit}
    (hi : Inv w.flex) (hd : w.flex.cfg.deposit = some dep) (hne : snd ≠ w.self)
    (h : tx ext fuel w blk (.flex snd funds (.propose t d msgs latest)) = .ok w') :
    holdings dep w' = holdings dep w + dep.amount ∧ w'.self = w.self ∧
    (dep.cw20 = false →
      w'.token = w.token ∧ dep.amount ≤ balance w snd dep.denom ∧
      ∀ a dn, balance w' a dn =
        if dn = dep.denom then
          (if a = w.self then balance w a dn + dep.amount else if a = snd then balance w a dn - dep.amount else balance w a dn)
        else balance w a dn) ∧
    (dep.cw20 = true →
      dep.amount ≤ Cw20.bal w.token snd ∧
      ∀ a, Cw20.bal w'.token a =
        if a = w.self then Cw20.bal w.token a + dep.amount else if a = snd then Cw20.bal w.token a - dep.amount
        else Cw20.bal w.token a) := by
  have hne' : ¬ w.self = snd := fun e => hne e.symm
  obtain ⟨b, s', hb, hw⟩ := propose_tx hi hd h
  by_cases hcw : dep.cw20 = true
  · simp only [hcw, if_true] at hw
    obtain ⟨_, t', hex, rfl⟩ := hw
    obtain ⟨_, _, s1, b1, b2, hded, h1, h2, rfl, _⟩ := Cw20.execTransferFrom_ok hex
    have hbal : ∀ a, (b2.get? a).getD 0 =
        if a = w.self then Cw20.bal w.token a + dep.amount else if a = snd then Cw20.bal w.token a - dep.amount
        else Cw20.bal w.token a := by
      intro a
      rw [(Cw20.move_get h1 h2 a).2]
      by_cases e1 : a = w.self
      · subst e1; simp [hne', Cw20.bal]
      · by_cases e2 : a = snd
        · subst e2; simp [e1, Cw20.bal]
        · simp [e1, e2, Cw20.bal]
    refine ⟨?_, rfl, fun hf => absurd hcw (by simp [hf]), fun _ => ⟨(Cw20.move_get h1 h2 snd).1, hbal⟩⟩
    simp only [holdings, hcw, if_true, Cw20.bal]
    rw [hbal w.self]; simp [Cw20.bal]
  · have hcw' : dep.cw20 = false := by simpa using hcw
    simp only [hcw', Bool.false_eq_true, if_false] at hw
    obtain ⟨rfl, rfl⟩ := hw
    rw [moveFunds_single (hi.depositPos dep hd)] at hb
    have hbal : ∀ a dn, (b.get? (a, dn)).getD 0 =
        if dn = dep.denom then
          (if a = w.self then balance w a dn + dep.amount else if a = snd then balance w a dn - dep.amount else balance w a dn)
        else balance w a dn := by
      intro a dn
      rw [(bankSend_get hb a dn).2.2]
      by_cases e0 : dn = dep.denom
      · subst e0
        by_cases e1 : a = w.self
        · subst e1; simp [hne', balance]
        · by_cases e2 : a = snd
          · subst e2; simp [e1, balance]
          · simp [e1, e2, balance]
      · simp [e0, balance]
    refine ⟨?_, rfl, fun _ => ⟨rfl, (bankSend_get hb snd dep.denom).2.1, hbal⟩, fun hf => absurd hf hcw⟩
    simp only [holdings, hcw', Bool.false_eq_true, if_false, balance]
    rw [hbal w.self dep.denom]; simp [balance]

/-- A covered bank send by `a` to somebody else takes exactly the amount out of `a`'s holding of that denom. -/
theorem bankSend_self_sub {bank b : AMap (Addr × String) Nat} {a to : Addr} {amt : Nat} {denom : String}
    (h : Cw3Fixed.bankSend bank a to amt denom = .ok b) (hne : to ≠ a) :
    (b.get? (a, denom)).getD 0 + amt = (bank.get? (a, denom)).getD 0 := by
  obtain ⟨_, hle, hg⟩ := bankSend_get h a denom
  rw [hg, if_pos rfl, if_neg (fun e : a = to => hne e.symm), if_pos rfl]; omega

/-- A `Transfer` sent by `a` to somebody else takes exactly the amount out of `a`'s balance. -/
theorem cw20_transfer_self_sub {t t' : Cw20.State} {blk : Block} {a to : Addr} {amt : Nat} {out : List Cw20.Out}
    (h : Cw20.execute t blk a (.transfer ⟨true, to⟩ amt) = .ok (t', out)) (hne : to ≠ a) :
    Cw20.bal t' a + amt = Cw20.bal t a := by
  obtain ⟨_, b1, b2, h1, h2, rfl, _⟩ := Cw20.execTransfer_ok h
  obtain ⟨hle, hg⟩ := Cw20.move_get h1 h2 a
  simp only [Cw20.bal, hg]
  rw [if_neg (fun e : a = to => hne e.symm), if_pos trivial]; omega

/-- **C15, pool clause (a), returning by `Close`.**  A committed `Close` of a proposal whose deposit has
`refund_failed_proposals = true`, sent by somebody other than the multisig, refund addressed to somebody other than the
multisig: the pool shrinks by exactly the deposit (after the attached funds, if any, were added) — the transaction is
exactly `close_refund_tx`: one transfer to the proposer and nothing else; by `refund_at_most_once` it happens at most
once per proposal. -/
theorem deposits_returned_exact_close {ext : Ext} {fuel : Nat} {w w' : World} {blk : Block} {snd : Addr}
    {funds : List Coin} {id : Nat} {p : Proposal} {dep : Deposit}
    (hp : w.flex.core.proposals.get? id = some p) (hd : p.deposit = some dep) (hrf : dep.refundFailed = true)
    (hne : snd ≠ w.self) (hpr : p.proposer ≠ w.self)
    (h : tx ext fuel w blk (.flex snd funds (.close id)) = .ok w') :
    holdings dep w' + dep.amount = holdings dep w + (if dep.cw20 then 0 else fundsOf dep.denom funds) := by
  obtain ⟨b0, s', hb0, hrest⟩ := close_refund_tx hp hd hrf h
  by_cases hcw : dep.cw20 = true
  · simp only [hcw, if_true] at hrest
    obtain ⟨_, t, hex, rfl⟩ := hrest
    simpa [holdings, hcw] using cw20_transfer_self_sub hex hpr
  · have hcw' : dep.cw20 = false := by simpa using hcw
    simp only [hcw', Bool.false_eq_true, if_false] at hrest
    obtain ⟨b1, hb1, rfl⟩ := hrest
    have := bankSend_self_sub hb1 hpr
    have hf := moveFunds_get_to hb0 hne dep.denom
    simp only [holdings, hcw', Bool.false_eq_true, if_false, balance]
    omega

/-- **C15, pool clause (a), returning by `Execute`.**  A committed `Execute` of a proposal with a deposit: right after
the refund step — before any of the proposal's own messages is dispatched — the pool has shrunk by exactly the deposit
(after the attached funds were added); the rest of the transaction is the dispatch of the proposal's messages from that
world. -/
theorem deposits_returned_exact_execute {ext : Ext} {fuel : Nat} {w w' : World} {blk : Block} {snd : Addr}
    {funds : List Coin} {id : Nat} {p : Proposal} {dep : Deposit}
    (hp : w.flex.core.proposals.get? id = some p) (hd : p.deposit = some dep)
    (hne : snd ≠ w.self) (hpr : p.proposer ≠ w.self)
    (h : tx ext fuel w blk (.flex snd funds (.execute id)) = .ok w') :
    ∃ wmid fuel', wmid.self = w.self ∧ wmid.log = w.log ++ [.executed id] ∧
      holdings dep wmid + dep.amount = holdings dep w + (if dep.cw20 then 0 else fundsOf dep.denom funds) ∧
      dispatch ext fuel' wmid blk (p.msgs.map Out.msg) = .ok w' := by
  by_cases hcw : dep.cw20 = true
  · obtain ⟨_, b0, t, s', fuel', hb0, hex, _, hdisp⟩ := execute_cw20_tx hp hd hcw h
    refine ⟨{ w with bank := b0, token := t, flex := s', log := w.log ++ [.executed id] }, fuel', rfl, rfl, ?_, hdisp⟩
    simpa [holdings, hcw] using cw20_transfer_self_sub hex hpr
  · have hcw' : dep.cw20 = false := by simpa using hcw
    obtain ⟨b0, b1, s', fuel', hb0, hb1, _, hdisp⟩ := execute_native_tx hp hd hcw' h
    refine ⟨{ w with bank := b1, flex := s', log := w.log ++ [.executed id] }, fuel', rfl, rfl, ?_, hdisp⟩
    have := bankSend_self_sub hb1 hpr
    have hf := moveFunds_get_to hb0 hne dep.denom
    simp only [holdings, hcw', Bool.false_eq_true, if_false, balance]
    omega

/-! ### (c) under the guard the refund cannot fail for lack of funds -/

theorem bankSend_isOk {bank : AMap (Addr × String) Nat} {frm to : Addr} {amt : Nat} {denom : String}
    (h0 : amt ≠ 0) (hle : amt ≤ (bank.get? (frm, denom)).getD 0)
    (hcap : (bank.get? (to, denom)).getD 0 + amt ≤ U128_MAX) :
    ∃ b, Cw3Fixed.bankSend bank frm to amt denom = .ok b := by
  simp [Cw3Fixed.bankSend, h0, hle, AMap.room_after_debit bank (frm, denom) (to, denom) hcap]

theorem cw20_transfer_isOk {t : Cw20.State} {blk : Block} {frm to : Addr} {amt : Nat}
    (hle : amt ≤ Cw20.bal t frm) (hcap : Cw20.bal t to + amt ≤ U128_MAX) :
    ∃ t', Cw20.execute t blk frm (.transfer ⟨true, to⟩ amt) = .ok (t', []) := by
  simp only [Cw20.bal] at hle hcap
  simp [Cw20.execute, Cw20.execTransfer, Cw20.debit, Cw20.credit, hle, AMap.room_after_debit t.balances frm to hcap]

theorem mem_unreturned {w : World} {id : Nat} :
    id ∈ unreturned w ↔ (1 ≤ id ∧ id ≤ w.flex.core.count) ∧ handled w.log id = 0 := by
  simp [unreturned, List.mem_range'_1]; omega

/-- A created proposal that was never handled accounts for one deposit in what is due: logging its `Execute` would
leave one pending proposal less. -/
theorem amount_le_due (dep : Deposit) {w : World} {id : Nat} (h0 : handled w.log id = 0) (h1 : 1 ≤ id)
    (h2 : id ≤ w.flex.core.count) : dep.amount ≤ due dep w := by
  have := pend_snoc_handled (e := .executed id) (.inl rfl) h0 h1 h2
  exact Nat.le_trans (Nat.le_of_eq (Nat.mul_one _).symm) (Nat.mul_le_mul_left _ (by omega))

/-- **C15, pool clause (c): under the guard a refund never fails for lack of funds.**  Same setting as
`pool_covers_owed_if_unspent`.  In the resulting world, for every proposal whose deposit is still owed (never
Executed/Closed), the multisig holds at least one deposit of the deposit denomination; hence the transfer that the
refund message of `Execute`/`Close` dispatches passes its debit check and succeeds whenever the recipient can receive
(its balance plus the amount fits `Uint128` — the only other way the bank send / the token's `Transfer` can fail):
* native: `BankMsg::Send { to, amount denom }` from the multisig succeeds,
* cw20: the token's `Transfer { recipient: to, amount }` sent by the multisig succeeds. -/
theorem refund_never_fails_for_lack_of_funds_guarded {ext : Ext} {fuel : Nat} {m : InstMsg} {s : State}
    {g : Cw4Group.State} {t : Cw20.State} {bank : AMap (Addr × String) Nat} {self ga ta : Addr} {h0 : Nat}
    {dep : Deposit} {ops : List Op}
    (hi : instantiate m (some g) = .ok s) (hd : s.cfg.deposit = some dep)
    (hgr : dep.cw20 = true → NoGrant t self) (hext : External self ops)
    (hns : NoSpend dep (run ext fuel (World.init s g t bank self ga ta h0) ops))
    {id : Nat} (hid : id ∈ unreturned (run ext fuel (World.init s g t bank self ga ta h0) ops)) :
    let w := run ext fuel (World.init s g t bank self ga ta h0) ops
    dep.amount ≤ holdings dep w ∧
    (dep.cw20 = false → ∀ to, balance w to dep.denom + dep.amount ≤ U128_MAX →
      ∃ b, Cw3Fixed.bankSend w.bank w.self to dep.amount dep.denom = .ok b) ∧
    (dep.cw20 = true → ∀ to blk, Cw20.bal w.token to + dep.amount ≤ U128_MAX →
      ∃ t', Cw20.execute w.token blk w.self (.transfer ⟨true, to⟩ dep.amount) = .ok (t', [])) := by
  intro w
  obtain ⟨_, hg, hcov⟩ : PoolInv dep self w := pool_run ops _ (pool_init hi hd hgr) hext
  obtain ⟨hr, hh⟩ := mem_unreturned.mp hid
  have hle : dep.amount ≤ holdings dep w :=
    Nat.le_trans (amount_le_due dep hh hr.1 hr.2) (hcov.resolve_left (not_dirty_of_noSpend hns))
  have hpos0 := hg.ghost.1.depositPos dep hg.cfg
  refine ⟨hle, fun hcw to hcap => ?_, fun hcw to blk hcap => ?_⟩
  · simp only [holdings, hcw, Bool.false_eq_true, if_false, balance] at hle
    exact bankSend_isOk hpos0 hle hcap
  · simp only [holdings, hcw, if_true] at hle
    exact cw20_transfer_isOk hle hcap

/-- **Clause (c) at transaction level: under the guard a `Close` that the handler accepts commits.**  In a world that
satisfies the pool invariant and in which no executed proposal spends the deposit denomination, if the `Close` handler
returns `Ok` (no funds attached), the recipient of the refund can receive it, there is fuel for one message, and — cw20
deposit — the deposit token is the world's token contract, then the whole transaction succeeds: the refund dispatch
cannot fail.  (Compare `pool_guard_necessary`: without the guard the handler returns `Ok` and the transaction fails.) -/
theorem close_tx_commits_guarded {ext : Ext} {fuel : Nat} {dep : Deposit} {self : Addr} {w : World} {blk : Block}
    {snd : Addr} {id : Nat} {p : Proposal} {s' : State} {out : List Out}
    (hq : PoolInv dep self w) (hns : NoSpend dep w)
    (hp : w.flex.core.proposals.get? id = some p)
    (he : execute w.flex w.group w.self blk snd [] (.close id) = .ok (s', out))
    (hcapN : dep.cw20 = false → balance w p.proposer dep.denom + dep.amount ≤ U128_MAX)
    (hcapT : dep.cw20 = true → dep.denom = w.tokenAddr ∧ Cw20.bal w.token p.proposer + dep.amount ≤ U128_MAX) :
    (tx ext (fuel + 1) w blk (.flex snd [] (.close id))).isOk = true := by
  obtain ⟨_, hg, hcov⟩ := hq
  have hi := hg.ghost.1
  obtain ⟨p0, _, hp0, _, _, _, _, _, _, _, hout⟩ := execute_close_ok_iff_proposal.mp he
  cases hp.symm.trans hp0
  have hrange := (hi.wf.ids id).mp (by rw [hp]; rfl)
  have hle : dep.amount ≤ holdings dep w :=
    Nat.le_trans (amount_le_due dep (handled_zero hg.ghost (not_final_of_ok (.inr rfl) he)) hrange.1 hrange.2)
      (hcov.resolve_left (not_dirty_of_noSpend hns))
  have hdep : p.deposit = some dep := by rw [hi.propDeposit id p hp, hg.cfg]
  have hpos0 := hi.depositPos dep hg.cfg
  simp only [tx, moveFunds, List.isEmpty_nil, if_true, he]
  subst hout
  simp only [hdep]
  show (dispatch ext (fuel + 1) _ blk _).isOk = true
  split
  · -- the refund is dispatched
    by_cases hcw : dep.cw20 = true
    · obtain ⟨htok, hcap⟩ := hcapT hcw
      simp only [holdings, hcw, if_true] at hle
      obtain ⟨t', ht'⟩ := cw20_transfer_isOk (blk := blk) hle hcap
      simp [refundMsg, hcw, dispatch, dispatch_nil, tokenCall, htok, ht', bind, Except.bind, check, pure, Except.pure, Res.isOk]
    · have hcw' : dep.cw20 = false := by simpa using hcw
      simp only [holdings, hcw', Bool.false_eq_true, if_false, balance] at hle
      obtain ⟨b, hb⟩ := bankSend_isOk hpos0 hle (hcapN hcw')
      simp [refundMsg, hcw', dispatch, dispatch_nil, hb, bind, Except.bind, pure, Except.pure, Res.isOk]
  · simp [dispatch, Res.isOk]

/-! ### (d) the guard is necessary; non-vacuity -/

namespace CexPool

/-- The configured deposit of `Cex.inst`: 5ucosm, native, refunds of failed proposals enabled. -/
def dep : Deposit := ⟨5, "ucosm", false, true⟩

/-- `a` and `b` hold 20ucosm each, the multisig holds 3uatom and no ucosm. -/
def world0 : World :=
  World.init Cex.flex0 Cex.group0 Cex.token0 [(("a", "ucosm"), 20), (("b", "ucosm"), 20), (("ms", "uatom"), 3)] "ms" "grp" "tok" 5

/-- Two concurrent deposit-paying proposals; proposal 1 — which pays 5ucosm of the treasury to `x` — passes and is
executed (its own deposit is refunded first, then the other proposal's deposit leaves with the payment). -/
def opsSpend : List Op :=
  [⟨⟨10, 0⟩, .flex "a" [⟨5, "ucosm"⟩] (.propose "t" "d" [.bank "x" 5 "ucosm"] none)⟩,
   ⟨⟨10, 0⟩, .flex "b" [⟨5, "ucosm"⟩] (.propose "t" "d" [] none)⟩,
   ⟨⟨11, 0⟩, .flex "b" [] (.vote 1 .yes)⟩,
   ⟨⟨12, 0⟩, .flex "x" [] (.execute 1)⟩]

/-- The same history, but proposal 1 pays 3uatom (not the deposit denomination). -/
def opsClean : List Op :=
  [⟨⟨10, 0⟩, .flex "a" [⟨5, "ucosm"⟩] (.propose "t" "d" [.bank "x" 3 "uatom"] none)⟩,
   ⟨⟨10, 0⟩, .flex "b" [⟨5, "ucosm"⟩] (.propose "t" "d" [] none)⟩,
   ⟨⟨11, 0⟩, .flex "b" [] (.vote 1 .yes)⟩,
   ⟨⟨12, 0⟩, .flex "x" [] (.execute 1)⟩]

def wSpend : World := run Cex.noExt 10 world0 opsSpend
def wClean : World := run Cex.noExt 10 world0 opsClean

end CexPool

example : Cex.flex0.cfg.deposit = some CexPool.dep := by decide

/-- **C15, pool clause (d): the guard `NoSpend` is necessary — machine-checked.**  (The scenario of
`corpus/C15/close_when_treasury_short.ops`.)  Every transaction is sent by an outsider (`External`); proposal 1 spends
5ucosm of the treasury and is executed, so the guard fails; afterwards the multisig holds 0ucosm while the 5ucosm
deposit of proposal 2 is still owed.  Proposal 2 expires stored `Open`; at block 20 the `Close` *handler* returns `Ok`
with the refund message, but the *transaction* fails (the bank send is not covered) and the world is rolled back: the
proposal stays closable and its deposit stays unrecoverable as long as the treasury is short.  Only a `Close` that
brings the missing 5ucosm itself goes through. -/
theorem pool_guard_necessary :
    External "ms" CexPool.opsSpend ∧ noSpendB CexPool.dep CexPool.wSpend = false ∧
    unreturned CexPool.wSpend = [2] ∧ owed CexPool.wSpend = 5 ∧ holdings CexPool.dep CexPool.wSpend = 0 ∧
    ((execute CexPool.wSpend.flex CexPool.wSpend.group "ms" ⟨20, 0⟩ "x" [] (.close 2)).toOption.map (·.2))
      = some [Out.bank "b" 5 "ucosm"] ∧
    (tx Cex.noExt 10 CexPool.wSpend ⟨20, 0⟩ (.flex "x" [] (.close 2))).isOk = false ∧
    (step Cex.noExt 10 CexPool.wSpend ⟨⟨20, 0⟩, .flex "x" [] (.close 2)⟩).flex.core = CexPool.wSpend.flex.core ∧
    ((tx Cex.noExt 10 CexPool.wSpend ⟨20, 0⟩ (.flex "x" [⟨5, "ucosm"⟩] (.close 2))).toOption.map fun w' =>
      (balance w' "b" "ucosm", balance w' "ms" "ucosm")) = some (20, 0) := by
  decide +kernel

/-- The counterexample really is a case of `Dirty`: the executed proposal 1 carries a spending message. -/
example : Dirty CexPool.dep CexPool.wSpend :=
  ⟨1, ⟨"t", "d", 10, .atHeight 15, [.bank "x" 5 "ucosm"], .executed, .absoluteCount 3, 5, ⟨3, 0, 0, 0⟩, "a", some CexPool.dep⟩,
    by decide, by decide, _, List.mem_cons_self .., rfl⟩

/-- **Non-vacuity of `pool_covers_owed_if_unspent` and `refund_never_fails_for_lack_of_funds_guarded`** (native
deposit): the hypotheses hold on a history with two concurrent deposit-paying proposals one of which is executed and
pays out another denom; proposal 2's deposit is still owed, and the theorems give `5 = owed ≤ holdings = 5`, and that
the refund to `b` cannot fail. -/
example :
    owed CexPool.wClean ≤ holdings CexPool.dep CexPool.wClean ∧
    (unreturned CexPool.wClean, owed CexPool.wClean, holdings CexPool.dep CexPool.wClean, handled CexPool.wClean.log 1)
      = ([2], 5, 5, 1) ∧
    ∃ b, Cw3Fixed.bankSend CexPool.wClean.bank CexPool.wClean.self "b" 5 "ucosm" = .ok b := by
  have hns : NoSpend CexPool.dep CexPool.wClean := noSpend_of_check (by decide)
  exact ⟨pool_covers_owed_if_unspent (m := Cex.inst) (g := Cex.group0) rfl (by decide) (by intro h; cases h) (by decide) hns,
    by decide,
    (refund_never_fails_for_lack_of_funds_guarded (m := Cex.inst) (g := Cex.group0) rfl (by decide) (by intro h; cases h)
      (by decide) hns (id := 2) (by decide)).2.1 rfl "b" (by decide)⟩

/-- Non-vacuity of `close_tx_commits_guarded`, `deposits_taken_exact`, `deposits_returned_exact_close`: in the clean
world the `Close` of the expired proposal 2 commits and returns the 5ucosm to `b`. -/
example :
    ((tx Cex.noExt 10 CexPool.wClean ⟨20, 0⟩ (.flex "x" [] (.close 2))).toOption.map fun w' =>
      (balance w' "b" "ucosm", holdings CexPool.dep w', owed w')) = some (20, 0, 0) := by
  decide +kernel

/-- **Non-vacuity for a cw20 deposit** (`pool_covers_owed_if_unspent` with `dep.cw20 = true`): the token starts with no
allowance at all (so the multisig has granted none), `a` grants the multisig an allowance and proposes; the deposit
pulled by `TransferFrom` is owed and covered. -/
example :
    let w := run Cex.noExt 10 Cex20.world0 (Cex20.ops.take 2)
    owed w ≤ holdings ⟨5, "tok", true, true⟩ w ∧ (owed w, holdings ⟨5, "tok", true, true⟩ w) = (5, 5) :=
  ⟨pool_covers_owed_if_unspent (ext := Cex.noExt) (fuel := 10) (m := Cex20.inst) (g := Cex.group0)
      (dep := ⟨5, "tok", true, true⟩) (ops := Cex20.ops.take 2) (self := "ms") (t := Cex20.token0) rfl (by decide)
      (fun _ sp => rfl) (by decide) (noSpend_of_check (by decide)),
   by decide⟩

/-! ### the two environment guards are used: what happens without them -/

namespace CexGuards

/-- a group in which the multisig's own address `ms` is a member -/
def groupSelf : Cw4Group.State :=
  match Cw4Group.instantiate ⟨some ⟨true, "adm"⟩, [(⟨true, "ms"⟩, 1), (⟨true, "b"⟩, 2), (⟨true, "c"⟩, 2)]⟩ 5 with
  | .ok g => g
  | .error _ => Cw4Group.State.empty

def flexSelf : State := match instantiate Cex.inst (some groupSelf) with | .ok s => s | .error _ => default

/-- the multisig holds 5ucosm of its own -/
def worldSelf : World := World.init flexSelf groupSelf Cex.token0 [(("ms", "ucosm"), 5)] "ms" "grp" "tok" 5

/-- two Propose transactions *signed by the multisig's own address*, each "paying" the deposit from `ms` to `ms` -/
def opsSelf : List Op :=
  [⟨⟨10, 0⟩, .flex "ms" [⟨5, "ucosm"⟩] (.propose "t" "d" [] none)⟩,
   ⟨⟨10, 0⟩, .flex "ms" [⟨5, "ucosm"⟩] (.propose "t" "d" [] none)⟩]

/-- a cw20 token in which `a` holds 20 and the multisig has granted `x` an allowance of 5 -/
def tokenGrant : Cw20.State :=
  { supply := 20, mint := none, balances := [("a", 20)], allow := [(("ms", "x"), ⟨5, .never⟩)],
    allowSp := [(("x", "ms"), ⟨5, .never⟩)], version := ⟨"crates.io:cw20-base", 2, 0, 0, none⟩ }

def worldGrant : World := World.init Cex20.flex0 Cex.group0 tokenGrant [] "ms" "grp" "tok" 5

/-- `a` pays the cw20 deposit; then `x` uses the allowance the multisig had granted and pulls the 5 tokens out -/
def opsGrant : List Op :=
  [⟨⟨10, 0⟩, .token "a" (.increaseAllowance ⟨true, "ms"⟩ 5 none)⟩,
   ⟨⟨10, 0⟩, .flex "a" [] (.propose "t" "d" [] none)⟩,
   ⟨⟨11, 0⟩, .token "x" (.transferFrom ⟨true, "ms"⟩ ⟨true, "x"⟩ 5)⟩]

end CexGuards

/-- **The guard `External` is used** (machine-checked): if transactions could be signed by the multisig's own address,
two Proposes "paying" the deposit from the multisig to itself leave 10ucosm owed against holdings of 5 — with no
proposal executed at all (`NoSpend` holds). -/
example : External "ms" CexGuards.opsSelf = False ∧
    noSpendB CexPool.dep (run Cex.noExt 10 CexGuards.worldSelf CexGuards.opsSelf) = true ∧
    owed (run Cex.noExt 10 CexGuards.worldSelf CexGuards.opsSelf) = 10 ∧
    holdings CexPool.dep (run Cex.noExt 10 CexGuards.worldSelf CexGuards.opsSelf) = 5 := by
  refine ⟨by simp [External, CexGuards.opsSelf, Action.sender], by decide +kernel⟩

/-- **The guard "the multisig has granted no allowance" is used** (cw20 deposit, machine-checked): with an allowance
granted by the multisig in the initial token state, an outsider pulls the deposit out by `TransferFrom`; every sender is
external and nothing was executed, yet 5 tokens are owed against holdings of 0. -/
example : External "ms" CexGuards.opsGrant ∧ ¬ NoGrant CexGuards.tokenGrant "ms" ∧
    noSpendB ⟨5, "tok", true, true⟩ (run Cex.noExt 10 CexGuards.worldGrant CexGuards.opsGrant) = true ∧
    owed (run Cex.noExt 10 CexGuards.worldGrant CexGuards.opsGrant) = 5 ∧
    holdings ⟨5, "tok", true, true⟩ (run Cex.noExt 10 CexGuards.worldGrant CexGuards.opsGrant) = 0 := by
  refine ⟨by decide, fun h => ?_, by decide +kernel⟩
  have := h "x"
  simp [CexGuards.tokenGrant, AMap.get?] at this

end CwPlus.Props.C15
