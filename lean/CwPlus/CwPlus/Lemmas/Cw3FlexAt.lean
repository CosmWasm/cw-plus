import CwPlus.Lemmas.Cw3Flex
import CwPlus.Lemmas.Cw3Status
/-!
# cw3-flex: histories with non-decreasing blocks, block-indexed invariants

`ReachableAt ext fuel w b`: `w` is reached from an accepted instantiation by a history (transactions on the multisig,
its group and the deposit token) whose blocks (height and time) never go back, `b` being the block of the last
transaction; `ReachableFrom ext fuel w0 b1 w b`: from `w0` by a further such history starting at or after `b1`.
Block-indexed predicates on the multisig state that are monotone in the block and preserved by every handler call hold
along such histories.
-/
namespace CwPlus.Cw3Flex
open CwPlus CwPlus.Cw3 CwPlus.Cw3Core CwPlus.Props

/-- Worlds reached by a history whose blocks never go back; the last argument is the block of the last
transaction (any block for the freshly instantiated world). -/
inductive ReachableAt (ext : Ext) (fuel : Nat) : World → Block → Prop
  | init {m : InstMsg} {s : State} (g : Cw4Group.State) (t : Cw20.State) (bank : AMap (Addr × String) Nat)
      (self groupAddr tokenAddr : Addr) (h0 : Nat) (b : Block) :
      instantiate m (some g) = .ok s → ReachableAt ext fuel (World.init s g t bank self groupAddr tokenAddr h0) b
  | step {w : World} {b : Block} (op : Op) : ReachableAt ext fuel w b → C04.later b op.blk →
      ReachableAt ext fuel (step ext fuel w op) op.blk

theorem ReachableAt.reachable {ext : Ext} {fuel : Nat} {w : World} {b : Block} (h : ReachableAt ext fuel w b) :
    Reachable ext fuel w := by
  induction h with
  | init g t bank self ga ta h0 b hi => exact ⟨_, _, g, t, bank, self, ga, ta, h0, [], hi, rfl⟩
  | step op _ _ ih => exact reachable_run ih [op]

/-- `w` is reached from `w0` by a further history whose first block is at or after `b1` and whose blocks
never go back; the last argument is the block of the last transaction (`b1` if there is none). -/
inductive ReachableFrom (ext : Ext) (fuel : Nat) (w0 : World) (b1 : Block) : World → Block → Prop
  | refl : ReachableFrom ext fuel w0 b1 w0 b1
  | step {w : World} {b : Block} (op : Op) : ReachableFrom ext fuel w0 b1 w b → C04.later b op.blk →
      ReachableFrom ext fuel w0 b1 (step ext fuel w op) op.blk

theorem ReachableFrom.le {ext : Ext} {fuel : Nat} {w0 w : World} {b1 b : Block} (h : ReachableFrom ext fuel w0 b1 w b) :
    C04.later b1 b := by
  induction h with
  | refl => exact later_refl_blk _
  | step op _ hb ih => exact later_trans_blk ih hb

theorem Reachable.extend {ext : Ext} {fuel : Nat} {w0 w : World} {b1 b : Block} (hr : Reachable ext fuel w0)
    (hf : ReachableFrom ext fuel w0 b1 w b) : Reachable ext fuel w := by
  induction hf with
  | refl => exact hr
  | step op _ _ ih => exact reachable_run ih [op]

/-- One transaction at a block at or after `b`, for a block-indexed predicate on the multisig state that is monotone
in the block and kept by every handler call. -/
theorem step_state_at {P : Block → State → Prop}
    (hmono : ∀ b b2 s, C04.later b b2 → P b s → P b2 s)
    (hstep : ∀ b s g self snd funds m s' out, P b s → execute s g self b snd funds m = .ok (s', out) → P b s')
    (ext : Ext) (fuel : Nat) {w : World} {b : Block} (op : Op) (hb : C04.later b op.blk) (hq : P b w.flex) :
    P op.blk (step ext fuel w op).flex :=
  step_inv ext (fun w => P op.blk w.flex) fuel w op
    (fun w snd funds em s' out hq he => hstep op.blk w.flex w.group w.self snd funds em s' out hq he)
    (fun _ _ _ _ _ hq _ => hq) (fun _ _ hq => hq) (fun _ _ hq => hq) (hmono _ _ _ hb hq)

theorem reachableFrom_inv (P : Block → State → Prop)
    (hmono : ∀ b b2 s, C04.later b b2 → P b s → P b2 s)
    (hstep : ∀ b s g self snd funds m s' out, P b s → execute s g self b snd funds m = .ok (s', out) → P b s')
    {ext : Ext} {fuel : Nat} {w0 w : World} {b1 b : Block} (h0 : P b1 w0.flex) (hf : ReachableFrom ext fuel w0 b1 w b) :
    P b w.flex := by
  induction hf with
  | refl => exact h0
  | step op _ hb ih => exact step_state_at hmono hstep ext fuel op hb ih

theorem reachableAt_inv (P : Block → State → Prop)
    (hmono : ∀ b b2 s, C04.later b b2 → P b s → P b2 s)
    (hstep : ∀ b s g self snd funds m s' out, P b s → execute s g self b snd funds m = .ok (s', out) → P b s')
    (hinit : ∀ m g s b, instantiate m (some g) = .ok s → P b s)
    {ext : Ext} {fuel : Nat} {w : World} {b : Block} (h : ReachableAt ext fuel w b) : P b w.flex := by
  induction h with
  | init g t bank self ga ta h0 b hi => exact hinit _ g _ b hi
  | step op _ hb ih => exact step_state_at hmono hstep ext fuel op hb ih

/-- In every reachable world (any history, blocks in any order) a proposal stored Open and not expired at a
block is reported Open at that block. -/
theorem reachable_openOk {ext : Ext} {fuel : Nat} {w : World} (hr : Reachable ext fuel w) :
    AllP (fun _ p => ∀ b, OpenOk b p) w.flex.core :=
  (reachable_state_inv (P := fun s => AllP (fun _ p => ∀ b, OpenOk b p) s.core)
    (fun hi => instantiate_core hi ▸ allP_empty _)
    (fun hi ha he => allP_step hi.wf (fun _ _ _ hold hs => openOk_all_step hold hs) ha (execute_coreStep he)) hr).2

end CwPlus.Cw3Flex
