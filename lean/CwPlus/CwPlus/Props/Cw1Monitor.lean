import CwPlus.Driver.Cw1
import CwPlus.Props.C07
import CwPlus.Props.C08
/-!
# cw1 monitors compute the theorems' predicates

`Driver/Cw1.lean` re-implements, for its monitors, the coverage predicate of C07 (`coverMsg` / `coverAll`) and the
coin bookkeeping of C08 (`sentCoins`, `balOf`).  The lemmas below show that these executable copies are the
predicates the theorems of `Props/C07.lean` / `Props/C08.lean` are about, so that "the monitor recomputes coverage
from the implementation's observation" means "it evaluates `C07.coveredFrom`".
-/
namespace CwPlus.Props.Cw1Monitor
open CwPlus
open CwPlus.Cw1Whitelist (AddrArg CosmosMsg StakingKind DistrKind)
open CwPlus.Cw1Subkeys (Allowance Permissions)
open CwPlus.Driver.Cw1 (coverMsg coverAll)

/-- One message: the monitor's `coverMsg` is `C07.covers`, with the allowance left as it was when uncovered. -/
theorem coverMsg_eq_covers (blk : Block) (perm : Option Permissions) (al : Option Allowance) (m : CosmosMsg) :
    coverMsg blk perm al m = match C07.covers perm blk al m with
      | some al' => (al', true)
      | none => (al, false) := by
  have flag : ∀ b : Bool, (al, b) = match (if b = true then some al else none : Option (Option Allowance)) with
      | some al' => (al', true)
      | none => (al, false) := fun b => by cases b <;> rfl
  cases m with
  | bankSend to cs =>
    simp only [coverMsg, C07.covers]
    cases al with
    | none => rfl
    | some a =>
      dsimp only
      cases a.expires.isExpired blk
      · cases a.balance.subCoins cs <;> rfl
      · rfl
  | staking k p =>
    cases perm with
    | none => rfl
    | some q => exact flag (C07.stakingFlag k q)
  | distribution k p =>
    cases perm with
    | none => rfl
    | some q => exact flag (C07.distrFlag k q)
  | _ => rfl

/-- C07, monitor link: the verdict of the monitor's `coverAll` on a message list is exactly `C07.coveredFrom`, the
predicate of `C07.Sk.execute_ok_iff`. -/
theorem coverAll_eq_coveredFrom (blk : Block) (perm : Option Permissions) (al : Option Allowance) (ms : List CosmosMsg) :
    (coverAll blk perm al ms).2 = C07.coveredFrom perm blk al ms := by
  induction ms generalizing al with
  | nil => rfl
  | cons m rest ih =>
    simp only [coverAll, C07.coveredFrom, coverMsg_eq_covers]
    cases C07.covers perm blk al m with
    | none => rfl
    | some al' => simp only [if_true]; exact ih al'

/-- On a covered list the allowance `coverAll` returns is the one the model's loop leaves behind: for every
denomination it is the old one minus everything the bank sends of the list sent (`C08.covers_total` threaded). -/
theorem coverAll_remaining {blk : Block} {perm : Option Permissions} {al : Option Allowance} {ms : List CosmosMsg}
    (h : (coverAll blk perm al ms).2 = true) (d : String) :
    NativeBalance.total (C08.balOf (coverAll blk perm al ms).1) d + C08.sent ms d = NativeBalance.total (C08.balOf al) d := by
  induction ms generalizing al with
  | nil => simp [coverAll, C08.sent, C08.sentCoins]
  | cons m rest ih =>
    simp only [coverAll, coverMsg_eq_covers] at h ⊢
    cases hc : C07.covers perm blk al m with
    | none => rw [hc] at h; simp at h
    | some al' =>
      rw [hc] at h
      simp only [if_true] at h ⊢
      have e1 := (C08.covers_total hc).1 d
      have e2 := ih h
      rw [C08.sent_cons]
      omega

/-- The monitor's `sentCoins` is the one of C08. -/
theorem sentCoins_eq (ms : List CosmosMsg) : Driver.Cw1.sentCoins ms = C08.sentCoins ms := by
  induction ms with
  | nil => rfl
  | cons m rest ih =>
    simp only [Driver.Cw1.sentCoins, List.flatMap_cons, C08.sentCoins] at ih ⊢
    rw [ih]
    cases m <;> rfl

/-- The monitor's `balOf` is the one of C08. -/
theorem balOf_eq (m : AMap String Allowance) (k : String) : Driver.Cw1.balOf m k = C08.balOf (AMap.get? m k) := by
  simp only [Driver.Cw1.balOf, C08.balOf]
  cases AMap.get? m k <;> rfl

example : (coverAll C07.blk50 (C07.exState.permissions.get? "sub") (C07.exState.allowances.get? "sub")
    [.bankSend "x" [("ua", 4)], .staking .delegate "v", .bankSend "y" [("ua", 6), ("ub", 1)]]).2 = true := by decide +kernel
example : (coverAll C07.blk50 (C07.exState.permissions.get? "sub") (C07.exState.allowances.get? "sub")
    [.bankSend "x" [("ua", 4)], .bankSend "y" [("ua", 7)]]).2 = false := by decide +kernel

end CwPlus.Props.Cw1Monitor
