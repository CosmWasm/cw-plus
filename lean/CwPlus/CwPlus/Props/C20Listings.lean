import CwPlus.Props.C20
import CwPlus.Lemmas.Cw3FixedAt
import CwPlus.Lemmas.Cw4GroupNodup
import CwPlus.Lemmas.Cw1SubkeysNodup
import CwPlus.Lemmas.Cw3FixedNodup
import CwPlus.Lemmas.Cw3FlexNodup
import CwPlus.Lemmas.Cw4StakeNodup
import CwPlus.Lemmas.Ics20Nodup
import CwPlus.Lemmas.Cw3StatusTotal
import CwPlus.Props.C06Flex
/-!
# C20 — the 13 listings outside cw20-base

`Props/C20.lean` states the generic pagination theorems (proved in `Lemmas/Paginate.lean`) and instantiates them for
the three listings of cw20-base.  This file instantiates them for the other 13 paginated listings of the suite, as
the models define them:

| contract            | listing (model function)                                   | key, order            | cursor            |
|---------------------|-------------------------------------------------------------|-----------------------|-------------------|
| cw1-subkeys         | `AllAllowances` (`Cw1Subkeys.queryAllAllowances`)           | spender, ascending    | raw string; expired entries filtered before `take` |
| cw1-subkeys         | `AllPermissions` (`Cw1Subkeys.queryAllPermissions`)         | spender, ascending    | raw string        |
| cw3-fixed-multisig  | `ListProposals` (`Cw3Fixed.listProposals`)                  | id, ascending         | id                |
| cw3-fixed-multisig  | `ReverseProposals` (`Cw3Fixed.reverseProposals`)            | id, descending        | id (`start_before`) |
| cw3-fixed-multisig  | `ListVotes` (`Cw3Fixed.listVotes`)                          | voter, ascending      | raw string        |
| cw3-fixed-multisig  | `ListVoters` (`Cw3Fixed.listVoters`)                        | voter, ascending      | raw string        |
| cw3-flex-multisig   | `ListProposals`, `ReverseProposals` (`Cw3Flex.…`)           | as cw3-fixed          | id                |
| cw3-flex-multisig   | `ListVotes` (`Cw3Flex.listVotes`)                           | voter, ascending      | validated (`maybe_addr`) |
| cw3-flex-multisig   | `ListVoters` (`Cw3Flex.listVoters` = the group's `ListMembers`) | member, ascending | validated         |
| cw4-group           | `ListMembers` (`Cw4Group.queryListMembers`)                 | member, ascending     | validated         |
| cw4-stake           | `ListMembers` (`Cw4Stake.queryListMembers`)                 | member, ascending     | validated         |
| cw20-ics20          | `ListAllowed` (`Ics20.queryListAllowed`)                    | token, ascending      | validated         |

Every one of them is, as a function of the cursor, a page of the sorted entries of a map
(`Paginate.fetchLoop_listing`: the client loop `fetchLoop q key c fuel` of `Base/Paginate.lean` — request a page,
continue from the key of the last returned item — started at any cursor `c : Option κ` returns
`afterCursor lt (sortedEntries lt m) c`: the whole listing for `c = none`, the entries strictly beyond `k` for
`c = some k`, whether `k` is a key of an earlier page, a key removed since, or any other value).  Per listing:

* `<listing>_eq` where the query is not literally a `page`: the query as `if guard then .ok (page …) else .error _`
  (cursor validation), as `pageFiltered …` (`AllAllowances`), as `.ok ((page …).map view)` under `StatusTotal`
  (`viewAll`);
* (a) in the docstrings, `<listing>_page_len`: every page has at most `effLimit limit = min (limit or 10) 30` items,
  together with the exact set of inputs the query rejects;
* (b) in the docstrings, `<listing>_loop` where a second listing or an example uses it: completeness, from any
  cursor, for a state whose underlying map has no duplicate keys;
* (b), `<listing>_complete_after`: completeness, from any cursor, in every *reachable* state (any accepted
  instantiation, any history), using the `NodupKeys` invariants of `Lemmas/*Nodup.lean`, `Cw3Core.WF`, `Cw3Fixed.Inv`.

For a validated cursor the client wraps the returned address as an argument that validates (`⟨true, addr⟩`): it is
an address the contract itself stored and returned.

Two peculiarities of the models (both are what the Rust code does):

* `ListProposals` / `ReverseProposals` map `current_status` over the page (`viewAll`) and the whole query fails
  when that fails for one listed proposal.  For cw3-fixed this never happens in a reachable state
  (`fixed_status_total`, from `Cw3Fixed.Inv` and `C04.no_panic`).  For cw3-flex the recorded total weight of a
  proposal need not bound its tally (finding D3 of C06), so the flex theorems carry the hypothesis
  `StatusTotal core blk` (every stored proposal has a status at the query block).  `flex_status_total` discharges
  it in every reachable flex world in which the four tally counters of every proposal together fit `u64`
  (`TallyFits`; the handlers store only records they could evaluate, and such a record has a status at every
  block: `Cw3.cs_stable`); `tally_overflow_no_status` shows the one way it can fail otherwise.
* cw3-flex reads its voters from the group contract of its world; `Cw3Flex.Reachable` starts from an arbitrary
  group state, so `flex_listVoters_complete_after` additionally assumes that the initial group state is itself
  reachable from an accepted `Cw4Group.instantiate`.

`Lemmas/Cw3FixedAt.lean` is imported for `premise_of_inv`, which with `C04.no_panic` gives `fixed_status_total`;
`Props/C06Flex.lean` for its history invariant `TotalInv` (ballots are snapshot weights), from which `TallyFits` is
had along flex histories, and for the D3 world of the examples.
-/
namespace CwPlus.Props.C20Listings
open CwPlus CwPlus.Paginate CwPlus.Props.C20

@[simp] theorem okItems_ok {α : Type} (l : List α) : okItems (.ok l : Res (List α)) = l := rfl
@[simp] theorem okItems_error {α : Type} (e : String) : okItems (.error e : Res (List α)) = [] := rfl

theorem guarded_page_len {κ ν : Type} {lt : κ → κ → Bool} {xs : List (κ × ν)} {c : Option κ} {limit : Option Nat}
    {r : Res (List (κ × ν))} {g : Bool} {e : String}
    (h : r = if g = true then .ok (page lt xs c limit) else .error e) :
    (okItems r).length ≤ effLimit limit ∧ r.isOk = g := by
  subst h
  cases g
  · exact ⟨Nat.zero_le _, rfl⟩
  · exact ⟨page_length_le _ _ _ _, rfl⟩

/-- With an absent or validating cursor the query is a page of the sorted current members; an invalid
cursor is rejected (`maybe_addr`). -/
theorem group_listMembers_eq (s : Cw4Group.State) (after : Option Cw4Group.AddrArg) (limit : Option Nat) :
    Cw4Group.queryListMembers s after limit =
      if after.all (·.valid) = true then
        .ok (page strLt (sortedEntries strLt s.members.cur) (after.map (·.text)) limit)
      else .error "addr" := by
  cases after with
  | none => rfl
  | some a => obtain ⟨v, t⟩ := a; cases v <;> rfl

/-- (a) A page of `ListMembers` has at most `min (limit or 10) 30` items; the query is rejected exactly
when a cursor is given that does not validate. -/
theorem group_listMembers_page_len (s : Cw4Group.State) (after : Option Cw4Group.AddrArg) (limit : Option Nat) :
    (okItems (Cw4Group.queryListMembers s after limit)).length ≤ effLimit limit ∧
    (Cw4Group.queryListMembers s after limit).isOk = after.all (·.valid) :=
  guarded_page_len (group_listMembers_eq s after limit)

/-- (b) state level: if the current members are distinct, the client loop started at any cursor returns all
members beyond it, ascending. -/
theorem group_listMembers_loop {s : Cw4Group.State} (hs : AMap.NodupKeys s.members.cur) (limit : Option Nat)
    (hl : limit ≠ some 0) (c : Option String) {fuel : Nat} (hf : s.members.cur.length + 1 ≤ fuel) :
    fetchLoop (fun c => okItems (Cw4Group.queryListMembers s (c.map (⟨true, ·⟩)) limit)) (·.1) c fuel
      = afterCursor strLt (sortedEntries strLt s.members.cur) c :=
  fetchLoop_listing_id strictTotal_strLt hs hl (fun c => by cases c <;> rfl) c hf

/-- (b) `ListMembers` of cw4-group is complete in every reachable state: after any accepted instantiation and
any history of calls, for every limit ≠ 0 and every cursor, the loop returns every current member beyond the
cursor exactly once in address order. -/
theorem group_listMembers_complete_after {m : Cw4Group.InstMsg} {h0 : Nat} {s0 : Cw4Group.State}
    (hi : Cw4Group.instantiate m h0 = .ok s0) (ops : List Cw4Group.Op) (limit : Option Nat) (hl : limit ≠ some 0)
    (c : Option String) {fuel : Nat} (hf : (Cw4Group.run s0 ops).members.cur.length + 1 ≤ fuel) :
    fetchLoop (fun c => okItems (Cw4Group.queryListMembers (Cw4Group.run s0 ops) (c.map (⟨true, ·⟩)) limit))
        (·.1) c fuel
      = afterCursor strLt (sortedEntries strLt (Cw4Group.run s0 ops).members.cur) c :=
  group_listMembers_loop (Cw4Group.run_nodup ops (Cw4Group.instantiate_nodup hi)) limit hl c hf

theorem stake_listMembers_eq (s : Cw4Stake.State) (after : Option Cw4Stake.AddrArg) (limit : Option Nat) :
    Cw4Stake.queryListMembers s after limit =
      if after.all (·.valid) = true then
        .ok (page strLt (sortedEntries strLt s.members.cur) (after.map (·.text)) limit)
      else .error "addr" := by
  cases after with
  | none => rfl
  | some a => obtain ⟨v, t⟩ := a; cases v <;> rfl

/-- (a) page bound; rejected exactly when the cursor does not validate. -/
theorem stake_listMembers_page_len (s : Cw4Stake.State) (after : Option Cw4Stake.AddrArg) (limit : Option Nat) :
    (okItems (Cw4Stake.queryListMembers s after limit)).length ≤ effLimit limit ∧
    (Cw4Stake.queryListMembers s after limit).isOk = after.all (·.valid) :=
  guarded_page_len (stake_listMembers_eq s after limit)

theorem stake_listMembers_loop {s : Cw4Stake.State} (hs : AMap.NodupKeys s.members.cur) (limit : Option Nat)
    (hl : limit ≠ some 0) (c : Option String) {fuel : Nat} (hf : s.members.cur.length + 1 ≤ fuel) :
    fetchLoop (fun c => okItems (Cw4Stake.queryListMembers s (c.map (⟨true, ·⟩)) limit)) (·.1) c fuel
      = afterCursor strLt (sortedEntries strLt s.members.cur) c :=
  fetchLoop_listing_id strictTotal_strLt hs hl (fun c => by cases c <;> rfl) c hf

/-- (b) `ListMembers` of cw4-stake is complete, from any cursor, in every reachable world: any accepted
instantiation, any initial balances and hook environment, any history of transactions. -/
theorem stake_listMembers_complete_after {m : Cw4Stake.InstMsg} {s0 : Cw4Stake.State}
    (hi : Cw4Stake.instantiate m = .ok s0) (bal : AMap Addr Nat) (accepting : List Addr)
    (ops : List (Block × Cw4Stake.Op)) (limit : Option Nat) (hl : limit ≠ some 0) (c : Option String) {fuel : Nat}
    (hf : (Cw4Stake.run (Cw4Stake.World.init s0 bal accepting) ops).st.members.cur.length + 1 ≤ fuel) :
    fetchLoop (fun c => okItems (Cw4Stake.queryListMembers
        (Cw4Stake.run (Cw4Stake.World.init s0 bal accepting) ops).st (c.map (⟨true, ·⟩)) limit)) (·.1) c fuel
      = afterCursor strLt (sortedEntries strLt (Cw4Stake.run (Cw4Stake.World.init s0 bal accepting) ops).st.members.cur)
          c :=
  stake_listMembers_loop
    (Cw4Stake.run_nodup (w := Cw4Stake.World.init s0 bal accepting) (Cw4Stake.instantiate_nodup hi) ops) limit hl c hf

/-- The whole listing (no cursor), as `Props/C09Stake.lean` uses it. -/
theorem stake_listMembers_complete {m : Cw4Stake.InstMsg} {s0 : Cw4Stake.State} (hi : Cw4Stake.instantiate m = .ok s0)
    (bal : AMap Addr Nat) (accepting : List Addr) (ops : List (Block × Cw4Stake.Op)) (limit : Option Nat)
    (hl : limit ≠ some 0) {fuel : Nat}
    (hf : (Cw4Stake.run (Cw4Stake.World.init s0 bal accepting) ops).st.members.cur.length + 1 ≤ fuel) :
    fetchLoop (fun c => okItems (Cw4Stake.queryListMembers
        (Cw4Stake.run (Cw4Stake.World.init s0 bal accepting) ops).st (c.map (⟨true, ·⟩)) limit)) (·.1) none fuel
      = sortedEntries strLt (Cw4Stake.run (Cw4Stake.World.init s0 bal accepting) ops).st.members.cur :=
  stake_listMembers_complete_after hi bal accepting ops limit hl none hf

/-- Histories of the subkeys contract: any list of (block, sender, message); failed calls roll back. -/
def subkeysRun (s : Cw1Subkeys.State) (ops : List (Block × Addr × Cw1Subkeys.Msg)) : Cw1Subkeys.State :=
  ops.foldl (fun s op => Cw1Subkeys.step s op.1 op.2.1 op.2.2) s

/-- The filter of `AllAllowances`: entries that are not expired at the query block. -/
def live (blk : Block) (p : Addr × Cw1Subkeys.Allowance) : Bool := !p.2.expires.isExpired blk

/-- `AllAllowances` is `range(after).filter(not expired).take(limit)`. -/
theorem subkeys_allAllowances_eq (s : Cw1Subkeys.State) (blk : Block) (after : Option String) (limit : Option Nat) :
    Cw1Subkeys.queryAllAllowances s blk after limit
      = pageFiltered strLt (live blk) (sortedEntries strLt s.allowances) after limit :=
  (pageFiltered_eq strLt (live blk) _ after limit).symm

/-- (a) A page of `AllAllowances` has at most `min (limit or 10) 30` items — expired entries do not count,
they are dropped before `take`; the raw cursor is never rejected (the query is total) and no expired entry is shown. -/
theorem subkeys_allAllowances_page_len (s : Cw1Subkeys.State) (blk : Block) (after : Option String)
    (limit : Option Nat) :
    (Cw1Subkeys.queryAllAllowances s blk after limit).length ≤ effLimit limit ∧
    ∀ x ∈ Cw1Subkeys.queryAllAllowances s blk after limit, x.2.expires.isExpired blk = false := by
  refine ⟨page_length_le _ _ _ _, ?_⟩
  intro x hx
  have := (page_sublist strLt _ after limit).subset hx
  simpa using (List.mem_filter.mp this).2

theorem subkeys_allAllowances_loop {s : Cw1Subkeys.State} (hs : AMap.NodupKeys s.allowances) (blk : Block)
    (limit : Option Nat) (hl : limit ≠ some 0) (c : Option String) {fuel : Nat} (hf : s.allowances.length + 1 ≤ fuel) :
    fetchLoop (fun c => Cw1Subkeys.queryAllAllowances s blk c limit) (·.1) c fuel
      = afterCursor strLt ((sortedEntries strLt s.allowances).filter (live blk)) c :=
  (fetchLoop_listing_filtered strictTotal_strLt hs (live blk) hl (f := id) (key := (·.1))
    (fun c => by rw [List.map_id]; exact subkeys_allAllowances_eq s blk c limit) (fun _ => rfl) c hf).trans
    (List.map_id _)

/-- (b) `AllAllowances` is complete in every reachable state: from any cursor the loop returns exactly the
allowances beyond it that are not expired at the query block, each once, ascending by spender. -/
theorem subkeys_allAllowances_complete_after {m : Cw1Subkeys.InstMsg} {s0 : Cw1Subkeys.State}
    (hi : Cw1Subkeys.instantiate m = .ok s0) (ops : List (Block × Addr × Cw1Subkeys.Msg)) (blk : Block)
    (limit : Option Nat) (hl : limit ≠ some 0) (c : Option String) {fuel : Nat}
    (hf : (subkeysRun s0 ops).allowances.length + 1 ≤ fuel) :
    fetchLoop (fun c => Cw1Subkeys.queryAllAllowances (subkeysRun s0 ops) blk c limit) (·.1) c fuel
      = afterCursor strLt ((sortedEntries strLt (subkeysRun s0 ops).allowances).filter (live blk)) c :=
  subkeys_allAllowances_loop (Cw1Subkeys.run_nodup ops (Cw1Subkeys.instantiate_nodup hi)).allowances blk limit hl c hf

/-- (a) A page of `AllPermissions` has at most `min (limit or 10) 30` items; the query is total (raw cursor). -/
theorem subkeys_allPermissions_page_len (s : Cw1Subkeys.State) (after : Option String) (limit : Option Nat) :
    (Cw1Subkeys.queryAllPermissions s after limit).length ≤ effLimit limit :=
  page_length_le _ _ _ _

/-- (b) `AllPermissions` is complete, from any cursor, in every reachable state. -/
theorem subkeys_allPermissions_complete_after {m : Cw1Subkeys.InstMsg} {s0 : Cw1Subkeys.State}
    (hi : Cw1Subkeys.instantiate m = .ok s0) (ops : List (Block × Addr × Cw1Subkeys.Msg))
    (limit : Option Nat) (hl : limit ≠ some 0) (c : Option String) {fuel : Nat}
    (hf : (subkeysRun s0 ops).permissions.length + 1 ≤ fuel) :
    fetchLoop (fun c => Cw1Subkeys.queryAllPermissions (subkeysRun s0 ops) c limit) (·.1) c fuel
      = afterCursor strLt (sortedEntries strLt (subkeysRun s0 ops).permissions) c :=
  fetchLoop_listing_id strictTotal_strLt (Cw1Subkeys.run_nodup ops (Cw1Subkeys.instantiate_nodup hi)).permissions hl
    (fun _ => rfl) c hf

/-- Histories of the ics20 world: any list of (block, transaction); failed transactions roll back. -/
def ics20Run (w : Ics20.World) (ops : List (Block × Ics20.Op)) : Ics20.World :=
  ops.foldl (fun w o => w.step o.1 o.2) w

theorem ics20_listAllowed_eq (s : Ics20.State) (after : Option Ics20.AddrArg) (limit : Option Nat) :
    Ics20.queryListAllowed s after limit =
      if after.all (·.valid) = true then
        .ok (page strLt (sortedEntries strLt s.allow) (after.map (·.text)) limit)
      else .error "addr" := by
  cases after with
  | none => rfl
  | some a => obtain ⟨v, t⟩ := a; cases v <;> rfl

/-- (a) page bound; rejected exactly when the cursor does not validate. -/
theorem ics20_listAllowed_page_len (s : Ics20.State) (after : Option Ics20.AddrArg) (limit : Option Nat) :
    (okItems (Ics20.queryListAllowed s after limit)).length ≤ effLimit limit ∧
    (Ics20.queryListAllowed s after limit).isOk = after.all (·.valid) :=
  guarded_page_len (ics20_listAllowed_eq s after limit)

theorem ics20_listAllowed_loop {s : Ics20.State} (hs : AMap.NodupKeys s.allow) (limit : Option Nat)
    (hl : limit ≠ some 0) (c : Option String) {fuel : Nat} (hf : s.allow.length + 1 ≤ fuel) :
    fetchLoop (fun c => okItems (Ics20.queryListAllowed s (c.map (⟨true, ·⟩)) limit)) (·.1) c fuel
      = afterCursor strLt (sortedEntries strLt s.allow) c :=
  fetchLoop_listing_id strictTotal_strLt hs hl (fun c => by cases c <;> rfl) c hf

/-- (b) `ListAllowed` is complete, from any cursor, in every reachable world: the contract state comes from an
accepted instantiation, the rest of the world (balances, tokens) is arbitrary, then any history of transactions
(transfers, IBC callbacks, `Allow`, `UpdateAdmin`, `migrate`). -/
theorem ics20_listAllowed_complete_after {m : Ics20.InstMsg} {w0 : Ics20.World} (hi : Ics20.instantiate m = .ok w0.st)
    (ops : List (Block × Ics20.Op)) (limit : Option Nat) (hl : limit ≠ some 0) (c : Option String) {fuel : Nat}
    (hf : (ics20Run w0 ops).st.allow.length + 1 ≤ fuel) :
    fetchLoop (fun c => okItems (Ics20.queryListAllowed (ics20Run w0 ops).st (c.map (⟨true, ·⟩)) limit)) (·.1) c fuel
      = afterCursor strLt (sortedEntries strLt (ics20Run w0 ops).st.allow) c :=
  ics20_listAllowed_loop (Ics20.run_nodup ops (Ics20.instantiate_nodup hi)) limit hl c hf

/-- Every stored proposal has a status at block `blk` (`current_status` does not fail). -/
def StatusTotal (c : Cw3Core.Core) (blk : Block) : Prop :=
  ∀ id p, c.proposals.get? id = some p → ∃ st, p.currentStatus blk = .ok st

theorem viewAll_len (blk : Block) (l : List (Nat × Cw3Core.Proposal)) :
    (okItems (Cw3Core.viewAll blk l)).length ≤ l.length ∧
    ((Cw3Core.viewAll blk l).isOk = true ↔ ∀ x ∈ l, ∃ st, x.2.currentStatus blk = .ok st) := by
  cases h : Cw3Core.viewAll blk l with
  | ok vs =>
    exact ⟨Nat.le_of_eq (Cw3Core.viewAll_length h), fun _ => (Cw3Core.viewAll_ok_all h).1, fun _ => rfl⟩
  | error e =>
    refine ⟨Nat.zero_le _, fun hok => (by cases hok), fun hall => ?_⟩
    rw [Cw3Core.viewAll_eq_map hall] at h; cases h

/-- `ListProposals` succeeds exactly when every proposal on the page has a status at the query block, and then
shows one view per entry of the page (in particular at most `min (limit or 10) 30`). -/
theorem core_listProposals_page_len (c : Cw3Core.Core) (blk : Block) (after limit : Option Nat) :
    (okItems (Cw3Core.listProposals c blk after limit)).length ≤ effLimit limit ∧
    ((Cw3Core.listProposals c blk after limit).isOk = true ↔
      ∀ x ∈ page natLt (sortedEntries natLt c.proposals) after limit, ∃ st, x.2.currentStatus blk = .ok st) :=
  ⟨Nat.le_trans (viewAll_len blk _).1 (page_length_le _ _ _ _), (viewAll_len blk _).2⟩

theorem core_reverseProposals_page_len (c : Cw3Core.Core) (blk : Block) (before limit : Option Nat) :
    (okItems (Cw3Core.reverseProposals c blk before limit)).length ≤ effLimit limit ∧
    ((Cw3Core.reverseProposals c blk before limit).isOk = true ↔
      ∀ x ∈ Cw3Core.pageDesc natLt (sortedEntries natLt c.proposals) before limit,
        ∃ st, x.2.currentStatus blk = .ok st) :=
  ⟨Nat.le_trans (viewAll_len blk _).1 (Cw3Core.pageDesc_length_le _ _ _ _), (viewAll_len blk _).2⟩

theorem core_viewAll {c : Cw3Core.Core} {blk : Block} (hn : AMap.NodupKeys c.proposals) (hv : StatusTotal c blk)
    {l : List (Nat × Cw3Core.Proposal)} (hl : ∀ x ∈ l, x ∈ c.proposals) :
    Cw3Core.viewAll blk l = .ok (l.map (Cw3Core.viewD blk)) :=
  Cw3Core.viewAll_eq_map fun x hx => hv x.1 x.2 ((AMap.get?_eq_some_iff hn).mpr (hl x hx))

theorem core_listProposals_eq {c : Cw3Core.Core} {blk : Block} (hn : AMap.NodupKeys c.proposals)
    (hv : StatusTotal c blk) (after limit : Option Nat) :
    Cw3Core.listProposals c blk after limit
      = .ok ((page natLt (sortedEntries natLt c.proposals) after limit).map (Cw3Core.viewD blk)) :=
  core_viewAll hn hv fun _ hx => mem_sortedEntries.mp ((page_sublist natLt _ after limit).subset hx)

theorem core_reverseProposals_eq {c : Cw3Core.Core} {blk : Block} (hn : AMap.NodupKeys c.proposals)
    (hv : StatusTotal c blk) (before limit : Option Nat) :
    Cw3Core.reverseProposals c blk before limit
      = .ok ((pageDesc natLt (sortedEntriesDesc natLt c.proposals) before limit).map (Cw3Core.viewD blk)) := by
  unfold Cw3Core.reverseProposals
  rw [Cw3Core.pageDesc_eq strictTotal_natLt hn]
  exact core_viewAll hn hv fun _ hx => mem_sortedEntries.mp ((page_sublist _ _ before limit).subset hx)

theorem core_proposal_listings_total {c : Cw3Core.Core} {blk : Block} (hn : AMap.NodupKeys c.proposals)
    (hv : StatusTotal c blk) (cur limit : Option Nat) :
    (Cw3Core.listProposals c blk cur limit).isOk = true ∧ (Cw3Core.reverseProposals c blk cur limit).isOk = true := by
  rw [core_listProposals_eq hn hv, core_reverseProposals_eq hn hv]
  exact ⟨rfl, rfl⟩

/-- Completeness of `ListProposals` (state level): the loop (cursor = id of the last view) started at any
`start_after = cur` returns exactly the views of the stored proposals with id above `cur`, ascending. -/
theorem core_listProposals_loop {c : Cw3Core.Core} {blk : Block} (hn : AMap.NodupKeys c.proposals)
    (hv : StatusTotal c blk) (limit : Option Nat) (hl : limit ≠ some 0) (cur : Option Nat) {fuel : Nat}
    (hf : c.proposals.length + 1 ≤ fuel) :
    Cw3Core.viewAll blk (afterCursor natLt (sortedEntries natLt c.proposals) cur)
      = .ok (fetchLoop (fun cur => okItems (Cw3Core.listProposals c blk cur limit)) (·.id) cur fuel) := by
  rw [fetchLoop_listing strictTotal_natLt hn hl (f := Cw3Core.viewD blk) (key := (·.id))
    (fun cur => by rw [core_listProposals_eq hn hv]; rfl) (fun _ => rfl) cur hf]
  exact core_viewAll hn hv fun _ hx => mem_sortedEntries.mp ((afterCursor_sublist _ _ cur).subset hx)

/-- Completeness of `ReverseProposals` (state level): the loop started at any `start_before = cur` returns
exactly the views of the stored proposals with id below `cur`, descending. -/
theorem core_reverseProposals_loop {c : Cw3Core.Core} {blk : Block} (hn : AMap.NodupKeys c.proposals)
    (hv : StatusTotal c blk) (limit : Option Nat) (hl : limit ≠ some 0) (cur : Option Nat) {fuel : Nat}
    (hf : c.proposals.length + 1 ≤ fuel) :
    Cw3Core.viewAll blk (afterCursor (fun a b => natLt b a) (sortedEntries natLt c.proposals).reverse cur)
      = .ok (fetchLoop (fun cur => okItems (Cw3Core.reverseProposals c blk cur limit)) (·.id) cur fuel) := by
  rw [← sortedEntriesDesc_eq_reverse hn strictTotal_natLt,
    fetchLoop_listing strictTotal_natLt.flip hn hl (f := Cw3Core.viewD blk) (key := (·.id))
      (q := fun cur => okItems (Cw3Core.reverseProposals c blk cur limit))
      (fun cur => by rw [core_reverseProposals_eq hn hv]; rfl) (fun _ => rfl) cur hf]
  exact core_viewAll hn hv fun _ hx => mem_sortedEntries.mp ((afterCursor_sublist _ _ cur).subset hx)

/-- In a reachable world of cw3-fixed `current_status` never fails: the tally of every proposal is bounded by
its total weight, which is the configured `u64` total, and the threshold passed `validate` (C04 `no_panic`). -/
theorem fixed_status_total {fuel : Nat} {w : Cw3Fixed.World} (hr : Cw3Fixed.Reachable fuel w) (blk : Block) :
    StatusTotal w.ms.core blk := by
  intro id p hp
  -- the premise of C04 does not mention the status
  have h := Cw3Fixed.premise_of_inv (Cw3Fixed.reachable_inv hr) hp
  exact (C04.no_panic (p := p.tally) ⟨h.tally_le, h.total_u64, h.valid⟩ blk).2.2

/-- (a) `ListProposals`: page bound, and the exact rejection condition (a listed proposal without status). -/
theorem fixed_listProposals_page_len (s : Cw3Fixed.State) (blk : Block) (after limit : Option Nat) :
    (okItems (Cw3Fixed.listProposals s blk after limit)).length ≤ effLimit limit ∧
    ((Cw3Fixed.listProposals s blk after limit).isOk = true ↔
      ∀ x ∈ page natLt (sortedEntries natLt s.core.proposals) after limit, ∃ st, x.2.currentStatus blk = .ok st) :=
  core_listProposals_page_len s.core blk after limit

/-- (a) `ReverseProposals`: page bound and rejection condition. -/
theorem fixed_reverseProposals_page_len (s : Cw3Fixed.State) (blk : Block) (before limit : Option Nat) :
    (okItems (Cw3Fixed.reverseProposals s blk before limit)).length ≤ effLimit limit ∧
    ((Cw3Fixed.reverseProposals s blk before limit).isOk = true ↔
      ∀ x ∈ Cw3Core.pageDesc natLt (sortedEntries natLt s.core.proposals) before limit,
        ∃ st, x.2.currentStatus blk = .ok st) :=
  core_reverseProposals_page_len s.core blk before limit

/-- In a reachable world neither proposal listing ever fails, for any cursor, limit and query block. -/
theorem fixed_proposal_listings_total {fuel : Nat} {w : Cw3Fixed.World} (hr : Cw3Fixed.Reachable fuel w) (blk : Block)
    (cur limit : Option Nat) :
    (Cw3Fixed.listProposals w.ms blk cur limit).isOk = true ∧ (Cw3Fixed.reverseProposals w.ms blk cur limit).isOk = true :=
  core_proposal_listings_total (Cw3Fixed.reachable_nodup hr) (fixed_status_total hr blk) cur limit

/-- (b) `ListProposals` of cw3-fixed is complete in every reachable world, at every query block, from any cursor:
the loop returns the views of all proposals beyond it, ascending by id, each once. -/
theorem fixed_listProposals_complete_after {fuel : Nat} {w : Cw3Fixed.World} (hr : Cw3Fixed.Reachable fuel w)
    (blk : Block) (limit : Option Nat) (hl : limit ≠ some 0) (cur : Option Nat) {n : Nat}
    (hf : w.ms.core.proposals.length + 1 ≤ n) :
    Cw3Core.viewAll blk (afterCursor natLt (sortedEntries natLt w.ms.core.proposals) cur)
      = .ok (fetchLoop (fun cur => okItems (Cw3Fixed.listProposals w.ms blk cur limit)) (·.id) cur n) :=
  core_listProposals_loop (Cw3Fixed.reachable_nodup hr) (fixed_status_total hr blk) limit hl cur hf

/-- (b) `ReverseProposals` of cw3-fixed, from any `start_before`: all proposals below it, descending by id. -/
theorem fixed_reverseProposals_complete_after {fuel : Nat} {w : Cw3Fixed.World} (hr : Cw3Fixed.Reachable fuel w)
    (blk : Block) (limit : Option Nat) (hl : limit ≠ some 0) (cur : Option Nat) {n : Nat}
    (hf : w.ms.core.proposals.length + 1 ≤ n) :
    Cw3Core.viewAll blk (afterCursor (fun a b => natLt b a) (sortedEntries natLt w.ms.core.proposals).reverse cur)
      = .ok (fetchLoop (fun cur => okItems (Cw3Fixed.reverseProposals w.ms blk cur limit)) (·.id) cur n) :=
  core_reverseProposals_loop (Cw3Fixed.reachable_nodup hr) (fixed_status_total hr blk) limit hl cur hf

/-- (a) `ListVotes`: page bound; total (raw cursor, unknown proposal ids list nothing). -/
theorem fixed_listVotes_page_len (s : Cw3Fixed.State) (id : Nat) (after : Option String) (limit : Option Nat) :
    (Cw3Fixed.listVotes s id after limit).length ≤ effLimit limit :=
  page_length_le _ _ _ _

/-- (b) `ListVotes` of cw3-fixed is complete, from any cursor, in every reachable world, for every proposal id. -/
theorem fixed_listVotes_complete_after {fuel : Nat} {w : Cw3Fixed.World} (hr : Cw3Fixed.Reachable fuel w) (id : Nat)
    (limit : Option Nat) (hl : limit ≠ some 0) (cur : Option String) {n : Nat}
    (hf : (Cw3Core.ballotsOf w.ms.core id).length + 1 ≤ n) :
    fetchLoop (fun cur => Cw3Fixed.listVotes w.ms id cur limit) (·.1) cur n
      = afterCursor strLt (sortedEntries strLt (Cw3Core.ballotsOf w.ms.core id)) cur :=
  fetchLoop_listing_id strictTotal_strLt ((Cw3Fixed.reachable_inv hr).wf.nodup id) hl (fun _ => rfl) cur hf

/-- (a) `ListVoters`: page bound; total (raw cursor). -/
theorem fixed_listVoters_page_len (s : Cw3Fixed.State) (after : Option String) (limit : Option Nat) :
    (Cw3Fixed.listVoters s after limit).length ≤ effLimit limit :=
  page_length_le _ _ _ _

/-- (b) `ListVoters` of cw3-fixed is complete, from any cursor, in every reachable world. -/
theorem fixed_listVoters_complete_after {fuel : Nat} {w : Cw3Fixed.World} (hr : Cw3Fixed.Reachable fuel w)
    (limit : Option Nat) (hl : limit ≠ some 0) (cur : Option String) {n : Nat} (hf : w.ms.voters.length + 1 ≤ n) :
    fetchLoop (fun cur => Cw3Fixed.listVoters w.ms cur limit) (·.1) cur n
      = afterCursor strLt (sortedEntries strLt w.ms.voters) cur :=
  fetchLoop_listing_id strictTotal_strLt (Cw3Fixed.reachable_inv hr).votersNodup hl (fun _ => rfl) cur hf

/-- (a) `ListProposals`: page bound, and the exact rejection condition (a listed proposal without status). -/
theorem flex_listProposals_page_len (s : Cw3Flex.State) (blk : Block) (after limit : Option Nat) :
    (okItems (Cw3Flex.listProposals s blk after limit)).length ≤ effLimit limit ∧
    ((Cw3Flex.listProposals s blk after limit).isOk = true ↔
      ∀ x ∈ page natLt (sortedEntries natLt s.core.proposals) after limit, ∃ st, x.2.currentStatus blk = .ok st) :=
  core_listProposals_page_len s.core blk after limit

/-- (a) `ReverseProposals`: page bound and rejection condition. -/
theorem flex_reverseProposals_page_len (s : Cw3Flex.State) (blk : Block) (before limit : Option Nat) :
    (okItems (Cw3Flex.reverseProposals s blk before limit)).length ≤ effLimit limit ∧
    ((Cw3Flex.reverseProposals s blk before limit).isOk = true ↔
      ∀ x ∈ Cw3Core.pageDesc natLt (sortedEntries natLt s.core.proposals) before limit,
        ∃ st, x.2.currentStatus blk = .ok st) :=
  core_reverseProposals_page_len s.core blk before limit

/-- (b) `ListProposals` of cw3-flex is complete, from any cursor, in every reachable world at every query block at
which every stored proposal has a status (`StatusTotal`; see the header: unlike cw3-fixed this is not an invariant
of the flex model because of D3). -/
theorem flex_listProposals_complete_after {ext : Cw3Flex.Ext} {fuel : Nat} {w : Cw3Flex.World}
    (hr : Cw3Flex.Reachable ext fuel w) (blk : Block) (hv : StatusTotal w.flex.core blk)
    (limit : Option Nat) (hl : limit ≠ some 0) (cur : Option Nat) {n : Nat}
    (hf : w.flex.core.proposals.length + 1 ≤ n) :
    Cw3Core.viewAll blk (afterCursor natLt (sortedEntries natLt w.flex.core.proposals) cur)
      = .ok (fetchLoop (fun cur => okItems (Cw3Flex.listProposals w.flex blk cur limit)) (·.id) cur n) :=
  core_listProposals_loop (Cw3Flex.reachable_nodup hr) hv limit hl cur hf

/-- (b) `ReverseProposals` of cw3-flex, same hypothesis, from any `start_before`: descending by id. -/
theorem flex_reverseProposals_complete_after {ext : Cw3Flex.Ext} {fuel : Nat} {w : Cw3Flex.World}
    (hr : Cw3Flex.Reachable ext fuel w) (blk : Block) (hv : StatusTotal w.flex.core blk)
    (limit : Option Nat) (hl : limit ≠ some 0) (cur : Option Nat) {n : Nat}
    (hf : w.flex.core.proposals.length + 1 ≤ n) :
    Cw3Core.viewAll blk (afterCursor (fun a b => natLt b a) (sortedEntries natLt w.flex.core.proposals).reverse cur)
      = .ok (fetchLoop (fun cur => okItems (Cw3Flex.reverseProposals w.flex blk cur limit)) (·.id) cur n) :=
  core_reverseProposals_loop (Cw3Flex.reachable_nodup hr) hv limit hl cur hf

/-- The four tally counters of every stored proposal together fit `u64`. -/
def TallyFits (c : Cw3Core.Core) : Prop := ∀ id p, c.proposals.get? id = some p → p.Fits

/-- In a reachable cw3-flex world whose tallies fit `u64`, every stored proposal has a status at every block —
whatever the group did (the recorded total need not bound the tally): the handlers evaluate `current_status` on
the record they store, and a record that could be evaluated once can be evaluated at every block. -/
theorem flex_status_total {ext : Cw3Flex.Ext} {fuel : Nat} {w : Cw3Flex.World} (hr : Cw3Flex.Reachable ext fuel w)
    (hfit : TallyFits w.flex.core) (blk : Block) : StatusTotal w.flex.core blk :=
  fun id p hp => Cw3Flex.reachable_statusInv hr id p hp (hfit id p hp) blk

theorem flex_proposal_listings_total {ext : Cw3Flex.Ext} {fuel : Nat} {w : Cw3Flex.World}
    (hr : Cw3Flex.Reachable ext fuel w) (hfit : TallyFits w.flex.core) (blk : Block) (cur limit : Option Nat) :
    (Cw3Flex.listProposals w.flex blk cur limit).isOk = true ∧ (Cw3Flex.reverseProposals w.flex blk cur limit).isOk = true :=
  core_proposal_listings_total (Cw3Flex.reachable_nodup hr) (flex_status_total hr hfit blk) cur limit

attribute [local instance] C04.decEqRes in
/-- The proviso `TallyFits` cannot be dropped from `cs_stable`: a quorum proposal without Yes weight whose
`Votes::total()` overflows is Open before its expiry and has no status afterwards. -/
theorem tally_overflow_no_status :
    Cw3.currentStatus ⟨.open, .thresholdQuorum Cw3.DEC_ONE Cw3.DEC_ONE, 1, ⟨0, 0, 1, U64_MAX⟩, .atHeight 10⟩ ⟨5, 0⟩
      = .ok .open ∧
    (Cw3.currentStatus ⟨.open, .thresholdQuorum Cw3.DEC_ONE Cw3.DEC_ONE, 1, ⟨0, 0, 1, U64_MAX⟩, .atHeight 10⟩
      ⟨10, 0⟩).isOk = false := by
  decide

/-- cw3-flex validates the `ListVotes` cursor (`maybe_addr`), unlike cw3-fixed. -/
theorem flex_listVotes_eq (s : Cw3Flex.State) (id : Nat) (after : Option Cw3Core.AddrArg) (limit : Option Nat) :
    Cw3Flex.listVotes s id after limit =
      if after.all (·.valid) = true then
        .ok (page strLt (sortedEntries strLt (Cw3Core.ballotsOf s.core id)) (after.map (·.text)) limit)
      else .error "addr" := by
  cases after with
  | none => rfl
  | some a => obtain ⟨v, t⟩ := a; cases v <;> rfl

/-- (a) `ListVotes`: page bound; rejected exactly when the cursor does not validate. -/
theorem flex_listVotes_page_len (s : Cw3Flex.State) (id : Nat) (after : Option Cw3Core.AddrArg) (limit : Option Nat) :
    (okItems (Cw3Flex.listVotes s id after limit)).length ≤ effLimit limit ∧
    (Cw3Flex.listVotes s id after limit).isOk = after.all (·.valid) :=
  guarded_page_len (flex_listVotes_eq s id after limit)

/-- (b) `ListVotes` of cw3-flex is complete, from any cursor, in every reachable world, for every proposal id. -/
theorem flex_listVotes_complete_after {ext : Cw3Flex.Ext} {fuel : Nat} {w : Cw3Flex.World}
    (hr : Cw3Flex.Reachable ext fuel w) (id : Nat) (limit : Option Nat) (hl : limit ≠ some 0) (cur : Option String)
    {n : Nat} (hf : (Cw3Core.ballotsOf w.flex.core id).length + 1 ≤ n) :
    fetchLoop (fun cur => okItems (Cw3Flex.listVotes w.flex id (cur.map (⟨true, ·⟩)) limit)) (·.1) cur n
      = afterCursor strLt (sortedEntries strLt (Cw3Core.ballotsOf w.flex.core id)) cur :=
  fetchLoop_listing_id strictTotal_strLt ((Cw3Flex.reachable_inv hr).wf.nodup id) hl
    (fun c => by cases c <;> rfl) cur hf

/-- (a) `ListVoters` of cw3-flex is the group's `ListMembers`: page bound; rejected exactly when the cursor
does not validate. -/
theorem flex_listVoters_page_len (g : Cw4Group.State) (after : Option Cw4Group.AddrArg) (limit : Option Nat) :
    (okItems (Cw3Flex.listVoters g after limit)).length ≤ effLimit limit ∧
    (Cw3Flex.listVoters g after limit).isOk = after.all (·.valid) :=
  group_listMembers_page_len g after limit

/-- (b) `ListVoters` of cw3-flex (the group's `ListMembers`) is complete, from any cursor, in every world whose
group contract was instantiated (any accepted `Cw4Group.instantiate`, any history `gops` of group calls before the
multisig is set up) and then went through any history `ops` of the world — transactions on the multisig, on the
group (also through executed proposals that call `UpdateMembers`) and on the token.  Holds for any multisig
state `s`. -/
theorem flex_listVoters_complete_after {gm : Cw4Group.InstMsg} {h0 : Nat} {g0 : Cw4Group.State}
    (hg : Cw4Group.instantiate gm h0 = .ok g0) (gops : List Cw4Group.Op) (s : Cw3Flex.State) (t : Cw20.State)
    (bank : AMap (Addr × String) Nat) (self groupAddr tokenAddr : Addr) (hh : Nat) (ext : Cw3Flex.Ext) (fuel : Nat)
    (ops : List Cw3Flex.Op) (limit : Option Nat) (hl : limit ≠ some 0) (cur : Option String) {n : Nat}
    (hf : (Cw3Flex.run ext fuel (Cw3Flex.World.init s (Cw4Group.run g0 gops) t bank self groupAddr tokenAddr hh)
      ops).group.members.cur.length + 1 ≤ n) :
    fetchLoop (fun cur => okItems (Cw3Flex.listVoters
        (Cw3Flex.run ext fuel (Cw3Flex.World.init s (Cw4Group.run g0 gops) t bank self groupAddr tokenAddr hh) ops).group
        (cur.map (⟨true, ·⟩)) limit)) (·.1) cur n
      = afterCursor strLt (sortedEntries strLt
        (Cw3Flex.run ext fuel (Cw3Flex.World.init s (Cw4Group.run g0 gops) t bank self groupAddr tokenAddr hh)
          ops).group.members.cur) cur :=
  group_listMembers_loop
    (Cw3Flex.run_group_nodup ext fuel ops _ (Cw4Group.run_nodup gops (Cw4Group.instantiate_nodup hg))) limit hl cur hf

/-- **C20 for the 13 listings outside cw20-base.**  Take any reachable state of each of the six contracts
(any accepted instantiation, any history; the flex world stands on a group contract that was itself instantiated
and went through any history), any limit other than 0 (absent, 1, …, above 30), any query block `blk`, any
proposal id.  For every listing the client loop "request a page, continue from the key of the last returned item"
returns every current item exactly once in key order: the sorted entries of the underlying map — reversed for
`ReverseProposals`, restricted to the unexpired entries for the subkeys `AllAllowances`.  (`length + 1` requests
suffice; the `…_complete_after` theorems give the same for every larger number.)  The only hypothesis that is not
reachability is `StatusTotal` for the two proposal listings of cw3-flex (see the header); `flex_status_total`
derives it from `TallyFits` (the tally of every stored proposal fits `u64`). -/
theorem all_listings_complete
    -- cw1-subkeys
    {skm : Cw1Subkeys.InstMsg} {sk0 : Cw1Subkeys.State} (hsk : Cw1Subkeys.instantiate skm = .ok sk0)
    (skops : List (Block × Addr × Cw1Subkeys.Msg))
    -- cw3-fixed
    {xfuel : Nat} {wx : Cw3Fixed.World} (hfx : Cw3Fixed.Reachable xfuel wx)
    -- cw4-group, and cw3-flex on top of it
    {gm : Cw4Group.InstMsg} {h0 : Nat} {g0 : Cw4Group.State} (hg : Cw4Group.instantiate gm h0 = .ok g0)
    (gops : List Cw4Group.Op)
    {fm : Cw3Flex.InstMsg} {fs : Cw3Flex.State} (hfi : Cw3Flex.instantiate fm (some (Cw4Group.run g0 gops)) = .ok fs)
    (t : Cw20.State) (bank : AMap (Addr × String) Nat) (self groupAddr tokenAddr : Addr) (hh : Nat)
    (ext : Cw3Flex.Ext) (ffuel : Nat) (fops : List Cw3Flex.Op)
    -- cw4-stake
    {sm : Cw4Stake.InstMsg} {ss0 : Cw4Stake.State} (hst : Cw4Stake.instantiate sm = .ok ss0)
    (bal : AMap Addr Nat) (accepting : List Addr) (sops : List (Block × Cw4Stake.Op))
    -- cw20-ics20
    {im : Ics20.InstMsg} {iw0 : Ics20.World} (hic : Ics20.instantiate im = .ok iw0.st) (iops : List (Block × Ics20.Op))
    -- query parameters
    (blk : Block) (id : Nat) (limit : Option Nat) (hl : limit ≠ some 0)
    (hv : StatusTotal (Cw3Flex.run ext ffuel
      (Cw3Flex.World.init fs (Cw4Group.run g0 gops) t bank self groupAddr tokenAddr hh) fops).flex.core blk) :
    let sk := subkeysRun sk0 skops
    let g := Cw4Group.run g0 gops
    let wf := Cw3Flex.run ext ffuel (Cw3Flex.World.init fs g t bank self groupAddr tokenAddr hh) fops
    let ws := Cw4Stake.run (Cw4Stake.World.init ss0 bal accepting) sops
    let wi := ics20Run iw0 iops
    -- 1, 2: cw1-subkeys
    (fetchLoop (fun c => Cw1Subkeys.queryAllAllowances sk blk c limit) (·.1) none (sk.allowances.length + 1)
        = (sortedEntries strLt sk.allowances).filter (live blk)) ∧
    (fetchLoop (fun c => Cw1Subkeys.queryAllPermissions sk c limit) (·.1) none (sk.permissions.length + 1)
        = sortedEntries strLt sk.permissions) ∧
    -- 3 - 6: cw3-fixed
    (Cw3Core.viewAll blk (sortedEntries natLt wx.ms.core.proposals)
        = .ok (fetchLoop (fun c => okItems (Cw3Fixed.listProposals wx.ms blk c limit)) (·.id) none
            (wx.ms.core.proposals.length + 1))) ∧
    (Cw3Core.viewAll blk (sortedEntries natLt wx.ms.core.proposals).reverse
        = .ok (fetchLoop (fun c => okItems (Cw3Fixed.reverseProposals wx.ms blk c limit)) (·.id) none
            (wx.ms.core.proposals.length + 1))) ∧
    (fetchLoop (fun c => Cw3Fixed.listVotes wx.ms id c limit) (·.1) none ((Cw3Core.ballotsOf wx.ms.core id).length + 1)
        = sortedEntries strLt (Cw3Core.ballotsOf wx.ms.core id)) ∧
    (fetchLoop (fun c => Cw3Fixed.listVoters wx.ms c limit) (·.1) none (wx.ms.voters.length + 1)
        = sortedEntries strLt wx.ms.voters) ∧
    -- 7 - 10: cw3-flex
    (Cw3Core.viewAll blk (sortedEntries natLt wf.flex.core.proposals)
        = .ok (fetchLoop (fun c => okItems (Cw3Flex.listProposals wf.flex blk c limit)) (·.id) none
            (wf.flex.core.proposals.length + 1))) ∧
    (Cw3Core.viewAll blk (sortedEntries natLt wf.flex.core.proposals).reverse
        = .ok (fetchLoop (fun c => okItems (Cw3Flex.reverseProposals wf.flex blk c limit)) (·.id) none
            (wf.flex.core.proposals.length + 1))) ∧
    (fetchLoop (fun c => okItems (Cw3Flex.listVotes wf.flex id (c.map (⟨true, ·⟩)) limit)) (·.1) none
          ((Cw3Core.ballotsOf wf.flex.core id).length + 1)
        = sortedEntries strLt (Cw3Core.ballotsOf wf.flex.core id)) ∧
    (fetchLoop (fun c => okItems (Cw3Flex.listVoters wf.group (c.map (⟨true, ·⟩)) limit)) (·.1) none
          (wf.group.members.cur.length + 1)
        = sortedEntries strLt wf.group.members.cur) ∧
    -- 11: cw4-group
    (fetchLoop (fun c => okItems (Cw4Group.queryListMembers g (c.map (⟨true, ·⟩)) limit)) (·.1) none
          (g.members.cur.length + 1)
        = sortedEntries strLt g.members.cur) ∧
    -- 12: cw4-stake
    (fetchLoop (fun c => okItems (Cw4Stake.queryListMembers ws.st (c.map (⟨true, ·⟩)) limit)) (·.1) none
          (ws.st.members.cur.length + 1)
        = sortedEntries strLt ws.st.members.cur) ∧
    -- 13: cw20-ics20
    (fetchLoop (fun c => okItems (Ics20.queryListAllowed wi.st (c.map (⟨true, ·⟩)) limit)) (·.1) none
          (wi.st.allow.length + 1)
        = sortedEntries strLt wi.st.allow) := by
  intro sk g wf ws wi
  have hrf : Cw3Flex.Reachable ext ffuel wf :=
    ⟨fm, fs, g, t, bank, self, groupAddr, tokenAddr, hh, fops, hfi, rfl⟩
  exact ⟨subkeys_allAllowances_complete_after hsk skops blk limit hl none (Nat.le_refl _),
    subkeys_allPermissions_complete_after hsk skops limit hl none (Nat.le_refl _),
    fixed_listProposals_complete_after hfx blk limit hl none (Nat.le_refl _),
    fixed_reverseProposals_complete_after hfx blk limit hl none (Nat.le_refl _),
    fixed_listVotes_complete_after hfx id limit hl none (Nat.le_refl _),
    fixed_listVoters_complete_after hfx limit hl none (Nat.le_refl _),
    flex_listProposals_complete_after hrf blk hv limit hl none (Nat.le_refl _),
    flex_reverseProposals_complete_after hrf blk hv limit hl none (Nat.le_refl _),
    flex_listVotes_complete_after hrf id limit hl none (Nat.le_refl _),
    flex_listVoters_complete_after hg gops fs t bank self groupAddr tokenAddr hh ext ffuel fops limit hl none
      (Nat.le_refl _),
    group_listMembers_complete_after hg gops limit hl none (Nat.le_refl _),
    stake_listMembers_complete_after hst bal accepting sops limit hl none (Nat.le_refl _),
    ics20_listAllowed_complete_after hic iops limit hl none (Nat.le_refl _)⟩

/-- **C20 "every cursor", the 13 listings outside cw20-base together.**  Same reachable states and hypotheses
as `all_listings_complete`; in addition an arbitrary string cursor `cs` (for the address-keyed listings; where the
contract validates the cursor the loop hands it over as one that validates, `⟨true, cs⟩`) and an arbitrary numeric
cursor `cn` (for the proposal listings).  For every listing the client loop *started at that cursor* returns exactly
the current items strictly beyond it, in key order, each once. -/
theorem all_listings_complete_after
    {skm : Cw1Subkeys.InstMsg} {sk0 : Cw1Subkeys.State} (hsk : Cw1Subkeys.instantiate skm = .ok sk0)
    (skops : List (Block × Addr × Cw1Subkeys.Msg))
    {xfuel : Nat} {wx : Cw3Fixed.World} (hfx : Cw3Fixed.Reachable xfuel wx)
    {gm : Cw4Group.InstMsg} {h0 : Nat} {g0 : Cw4Group.State} (hg : Cw4Group.instantiate gm h0 = .ok g0)
    (gops : List Cw4Group.Op)
    {fm : Cw3Flex.InstMsg} {fs : Cw3Flex.State} (hfi : Cw3Flex.instantiate fm (some (Cw4Group.run g0 gops)) = .ok fs)
    (t : Cw20.State) (bank : AMap (Addr × String) Nat) (self groupAddr tokenAddr : Addr) (hh : Nat)
    (ext : Cw3Flex.Ext) (ffuel : Nat) (fops : List Cw3Flex.Op)
    {sm : Cw4Stake.InstMsg} {ss0 : Cw4Stake.State} (hst : Cw4Stake.instantiate sm = .ok ss0)
    (bal : AMap Addr Nat) (accepting : List Addr) (sops : List (Block × Cw4Stake.Op))
    {im : Ics20.InstMsg} {iw0 : Ics20.World} (hic : Ics20.instantiate im = .ok iw0.st) (iops : List (Block × Ics20.Op))
    (blk : Block) (id : Nat) (limit : Option Nat) (hl : limit ≠ some 0) (cs : String) (cn : Nat)
    (hv : StatusTotal (Cw3Flex.run ext ffuel
      (Cw3Flex.World.init fs (Cw4Group.run g0 gops) t bank self groupAddr tokenAddr hh) fops).flex.core blk) :
    let sk := subkeysRun sk0 skops
    let g := Cw4Group.run g0 gops
    let wf := Cw3Flex.run ext ffuel (Cw3Flex.World.init fs g t bank self groupAddr tokenAddr hh) fops
    let ws := Cw4Stake.run (Cw4Stake.World.init ss0 bal accepting) sops
    let wi := ics20Run iw0 iops
    let above : {ν : Type} → Addr × ν → Bool := fun x => strLt cs x.1
    (fetchLoop (fun c => Cw1Subkeys.queryAllAllowances sk blk c limit) (·.1) (some cs) (sk.allowances.length + 1)
        = ((sortedEntries strLt sk.allowances).filter (live blk)).filter above) ∧
    (fetchLoop (fun c => Cw1Subkeys.queryAllPermissions sk c limit) (·.1) (some cs) (sk.permissions.length + 1)
        = (sortedEntries strLt sk.permissions).filter above) ∧
    (Cw3Core.viewAll blk ((sortedEntries natLt wx.ms.core.proposals).filter (fun x => natLt cn x.1))
        = .ok (fetchLoop (fun c => okItems (Cw3Fixed.listProposals wx.ms blk c limit)) (·.id) (some cn)
            (wx.ms.core.proposals.length + 1))) ∧
    (Cw3Core.viewAll blk ((sortedEntries natLt wx.ms.core.proposals).reverse.filter (fun x => natLt x.1 cn))
        = .ok (fetchLoop (fun c => okItems (Cw3Fixed.reverseProposals wx.ms blk c limit)) (·.id) (some cn)
            (wx.ms.core.proposals.length + 1))) ∧
    (fetchLoop (fun c => Cw3Fixed.listVotes wx.ms id c limit) (·.1) (some cs) ((Cw3Core.ballotsOf wx.ms.core id).length + 1)
        = (sortedEntries strLt (Cw3Core.ballotsOf wx.ms.core id)).filter above) ∧
    (fetchLoop (fun c => Cw3Fixed.listVoters wx.ms c limit) (·.1) (some cs) (wx.ms.voters.length + 1)
        = (sortedEntries strLt wx.ms.voters).filter above) ∧
    (Cw3Core.viewAll blk ((sortedEntries natLt wf.flex.core.proposals).filter (fun x => natLt cn x.1))
        = .ok (fetchLoop (fun c => okItems (Cw3Flex.listProposals wf.flex blk c limit)) (·.id) (some cn)
            (wf.flex.core.proposals.length + 1))) ∧
    (Cw3Core.viewAll blk ((sortedEntries natLt wf.flex.core.proposals).reverse.filter (fun x => natLt x.1 cn))
        = .ok (fetchLoop (fun c => okItems (Cw3Flex.reverseProposals wf.flex blk c limit)) (·.id) (some cn)
            (wf.flex.core.proposals.length + 1))) ∧
    (fetchLoop (fun c => okItems (Cw3Flex.listVotes wf.flex id (c.map (⟨true, ·⟩)) limit)) (·.1) (some cs)
          ((Cw3Core.ballotsOf wf.flex.core id).length + 1)
        = (sortedEntries strLt (Cw3Core.ballotsOf wf.flex.core id)).filter above) ∧
    (fetchLoop (fun c => okItems (Cw3Flex.listVoters wf.group (c.map (⟨true, ·⟩)) limit)) (·.1) (some cs)
          (wf.group.members.cur.length + 1)
        = (sortedEntries strLt wf.group.members.cur).filter above) ∧
    (fetchLoop (fun c => okItems (Cw4Group.queryListMembers g (c.map (⟨true, ·⟩)) limit)) (·.1) (some cs)
          (g.members.cur.length + 1)
        = (sortedEntries strLt g.members.cur).filter above) ∧
    (fetchLoop (fun c => okItems (Cw4Stake.queryListMembers ws.st (c.map (⟨true, ·⟩)) limit)) (·.1) (some cs)
          (ws.st.members.cur.length + 1)
        = (sortedEntries strLt ws.st.members.cur).filter above) ∧
    (fetchLoop (fun c => okItems (Ics20.queryListAllowed wi.st (c.map (⟨true, ·⟩)) limit)) (·.1) (some cs)
          (wi.st.allow.length + 1)
        = (sortedEntries strLt wi.st.allow).filter above) := by
  intro sk g wf ws wi above
  have hrf : Cw3Flex.Reachable ext ffuel wf :=
    ⟨fm, fs, g, t, bank, self, groupAddr, tokenAddr, hh, fops, hfi, rfl⟩
  exact ⟨subkeys_allAllowances_complete_after hsk skops blk limit hl (some cs) (Nat.le_refl _),
    subkeys_allPermissions_complete_after hsk skops limit hl (some cs) (Nat.le_refl _),
    fixed_listProposals_complete_after hfx blk limit hl (some cn) (Nat.le_refl _),
    fixed_reverseProposals_complete_after hfx blk limit hl (some cn) (Nat.le_refl _),
    fixed_listVotes_complete_after hfx id limit hl (some cs) (Nat.le_refl _),
    fixed_listVoters_complete_after hfx limit hl (some cs) (Nat.le_refl _),
    flex_listProposals_complete_after hrf blk hv limit hl (some cn) (Nat.le_refl _),
    flex_reverseProposals_complete_after hrf blk hv limit hl (some cn) (Nat.le_refl _),
    flex_listVotes_complete_after hrf id limit hl (some cs) (Nat.le_refl _),
    flex_listVoters_complete_after hg gops fs t bank self groupAddr tokenAddr hh ext ffuel fops limit hl (some cs)
      (Nat.le_refl _),
    group_listMembers_complete_after hg gops limit hl (some cs) (Nat.le_refl _),
    stake_listMembers_complete_after hst bal accepting sops limit hl (some cs) (Nat.le_refl _),
    ics20_listAllowed_complete_after hic iops limit hl (some cs) (Nat.le_refl _)⟩

/-- **Page bounds of the 13 listings**, for every state (reachable or not), cursor and limit: no page has more
than `effLimit limit = min (limit or 10) 30` items (a rejected query shows none). -/
theorem all_listings_page_len (sk : Cw1Subkeys.State) (fx : Cw3Fixed.State) (fl : Cw3Flex.State)
    (g : Cw4Group.State) (st : Cw4Stake.State) (ic : Ics20.State) (blk : Block) (id : Nat)
    (cs : Option String) (cn : Option Nat) (cg : Option Cw4Group.AddrArg) (c3 : Option Cw3Core.AddrArg)
    (c4 : Option Cw4Stake.AddrArg) (ci : Option Ics20.AddrArg) (limit : Option Nat) :
    (Cw1Subkeys.queryAllAllowances sk blk cs limit).length ≤ effLimit limit ∧
    (Cw1Subkeys.queryAllPermissions sk cs limit).length ≤ effLimit limit ∧
    (okItems (Cw3Fixed.listProposals fx blk cn limit)).length ≤ effLimit limit ∧
    (okItems (Cw3Fixed.reverseProposals fx blk cn limit)).length ≤ effLimit limit ∧
    (Cw3Fixed.listVotes fx id cs limit).length ≤ effLimit limit ∧
    (Cw3Fixed.listVoters fx cs limit).length ≤ effLimit limit ∧
    (okItems (Cw3Flex.listProposals fl blk cn limit)).length ≤ effLimit limit ∧
    (okItems (Cw3Flex.reverseProposals fl blk cn limit)).length ≤ effLimit limit ∧
    (okItems (Cw3Flex.listVotes fl id c3 limit)).length ≤ effLimit limit ∧
    (okItems (Cw3Flex.listVoters g cg limit)).length ≤ effLimit limit ∧
    (okItems (Cw4Group.queryListMembers g cg limit)).length ≤ effLimit limit ∧
    (okItems (Cw4Stake.queryListMembers st c4 limit)).length ≤ effLimit limit ∧
    (okItems (Ics20.queryListAllowed ic ci limit)).length ≤ effLimit limit ∧
    effLimit limit ≤ 30 ∧ effLimit none = 10 :=
  ⟨(subkeys_allAllowances_page_len sk blk cs limit).1, subkeys_allPermissions_page_len sk cs limit,
   (fixed_listProposals_page_len fx blk cn limit).1, (fixed_reverseProposals_page_len fx blk cn limit).1,
   fixed_listVotes_page_len fx id cs limit, fixed_listVoters_page_len fx cs limit,
   (flex_listProposals_page_len fl blk cn limit).1, (flex_reverseProposals_page_len fl blk cn limit).1,
   (flex_listVotes_page_len fl id c3 limit).1, (flex_listVoters_page_len g cg limit).1,
   (group_listMembers_page_len g cg limit).1, (stake_listMembers_page_len st c4 limit).1,
   (ics20_listAllowed_page_len ic ci limit).1, effLimit_le_max limit, effLimit_none⟩

/-! ## cw3-flex: `TallyFits` and `StatusTotal` from the snapshot weights (no tally hypothesis)

`flex_status_total` needs `TallyFits` (the four counters of every stored proposal together fit `u64`).  Here it is
*derived* for worlds reached by a history at non-decreasing block heights, on top of a group whose total is the sum
of its member weights (cw4-group's own invariant, C09): every voter's ballot carries the voter's snapshot weight at
the proposal's start height (C06 `ballots_are_snapshot`), the voters of one proposal are distinct, and the snapshot
weights of distinct addresses at one height add up to at most the group total of that height, which is a `u64`.
The only ballot that is not a snapshot weight is the proposer's own (defect D3: `Propose` reads the *current*
weight), so the theorems carry, per proposal, the hypothesis that the proposer's recorded ballot does not exceed
the proposer's snapshot weight at the start height — exactly what C06's `proposer_and_total_are_snapshot_partial`
establishes under its guard "no group write earlier in the proposal's own block" and what
`later_changes_irrelevant` preserves.  Without it the statement is false of the code (D3 lets the proposer's
same-block weight exceed its snapshot weight, so the counters can exceed `u64` together). -/

open CwPlus.Snapshot in
/-- The lookups of distinct keys in a map without repeated keys add up to at most the sum of the map. -/
theorem sum_lookups_le_sum : ∀ (l : List Addr) (m : AMap Addr Nat), l.Nodup → AMap.NodupKeys m →
    (l.map (fun a => (m.get? a).getD 0)).sum ≤ AMap.sum m :=
  fun l m hl _ => AMap.sum_get?_le_sum m l hl

open CwPlus.Snapshot in
/-- At every height, the snapshot weights of any distinct addresses together fit `u64`. -/
def SnapSum (m : SnapMap Addr Nat) : Prop :=
  ∀ (h : Nat) (l : List Addr), l.Nodup → (l.map (fun a => (m.atHeight a h).getD 0)).sum ≤ U64_MAX

open CwPlus.Snapshot in
theorem snapSum_empty : SnapSum (SnapMap.empty : SnapMap Addr Nat) := by
  intro h l _
  -- every at-height answer of the empty map is `none`
  have : l.map (fun a => ((SnapMap.empty : SnapMap Addr Nat).atHeight a h).getD 0) = List.replicate l.length 0 :=
    (List.map_congr_left fun _ _ => rfl).trans (List.map_const' ..)
  rw [this, List.sum_replicate_nat, Nat.mul_zero]
  exact Nat.zero_le _

open CwPlus.Snapshot in
/-- One block of writes at a height not below the changelog keeps `SnapSum`, provided the resulting current map
has a sum that fits `u64`: earlier-or-equal heights see the old answers, later heights the new current values. -/
theorem snapSum_sameBlock {m m' : SnapMap Addr Nat} {hw : Nat} (hs : SnapMap.SameBlock m m' hw) (hle : m.LogLe hw)
    (hsum : SnapSum m) (hfit : AMap.sum m'.cur ≤ U64_MAX) : SnapSum m' := by
  intro h l hl
  by_cases hh : h ≤ hw
  · simp only [hs.atHeight_le hle _ hh]
    exact hsum h l hl
  · simp only [SnapMap.atHeight_of_logLe (hs.logLe hle (Nat.le_refl _)) (Nat.lt_of_not_le hh)]
    exact Nat.le_trans (AMap.sum_get?_le_sum m'.cur l hl) hfit

/-- A successful cw4-group call at a height not below the changelog keeps `SnapSum` (uses the group's own
invariant C09: total = Σ member weights, fits `u64`). -/
theorem snapSum_execute {g g' : Cw4Group.State} {hw : Nat} {snd : Addr} {m : Cw4Group.Msg} {outs : List Cw4Group.Out}
    (hg : Cw4Group.execute g hw snd m = .ok (g', outs)) (hi : C09.Inv g) (hle : g.members.LogLe hw)
    (hs : SnapSum g.members) : SnapSum g'.members :=
  snapSum_sameBlock (C09.execute_sameBlock hg).1 hle hs (C09.execute_inv hi hg).2.2

/-- The hypotheses on the group are satisfiable: a freshly instantiated group has `SnapSum`, its own invariant,
and changelogs bounded by its instantiation height. -/
theorem group_instantiate_snapSum {msg : Cw4Group.InstMsg} {h0 : Nat} {g0 : Cw4Group.State}
    (hi : Cw4Group.instantiate msg h0 = .ok g0) :
    C09.Inv g0 ∧ SnapSum g0.members ∧ g0.members.LogLe h0 ∧ g0.total.LogLe h0 := by
  obtain ⟨hm, ht, _, _⟩ := C09.instantiate_snapshots hi
  have hinv := C09.instantiate_inv hi
  exact ⟨hinv, snapSum_sameBlock (C09.instantiate_sameBlock hi).1 (Snapshot.SnapMap.logLe_empty h0) snapSum_empty
    hinv.2.2, hm, ht⟩

/-- … and so has every group state reached from it by calls at non-decreasing heights `≥ h0`, with changelogs
bounded by the height of the last call (or `h0`). -/
theorem group_run_snapSum (ops : List Cw4Group.Op) : ∀ (g : Cw4Group.State) (B : Nat), C09.Inv g →
    SnapSum g.members → g.members.LogLe B → g.total.LogLe B → (∀ op ∈ ops, B ≤ op.height) → Cw4Group.Ordered ops →
    ∃ B', C09.Inv (Cw4Group.run g ops) ∧ SnapSum (Cw4Group.run g ops).members ∧
      (Cw4Group.run g ops).members.LogLe B' ∧ (Cw4Group.run g ops).total.LogLe B' ∧ B ≤ B' ∧
      ∀ op ∈ ops, op.height ≤ B' := by
  induction ops with
  | nil => intro g B hi hs hm ht _ _; exact ⟨B, hi, hs, hm, ht, Nat.le_refl _, by simp⟩
  | cons op rest ih =>
    intro g B hi hs hm ht hge hord
    have hp := List.pairwise_cons.mp hord
    have hB := hge op (by simp)
    have hsb := C09.stepOp_sameBlock g op
    have hi' := C09.stepOp_inv op hi
    obtain ⟨B', h1, h2, h3, h4, h5, h6⟩ := ih (Cw4Group.stepOp g op) op.height hi'
      (snapSum_sameBlock hsb.1 (hm.mono hB) hs hi'.2.2)
      (hsb.1.logLe (hm.mono hB) (Nat.le_refl _)) (hsb.2.logLe (ht.mono hB) (Nat.le_refl _)) hp.1 hp.2
    exact ⟨B', h1, h2, h3, h4, Nat.le_trans hB h5, List.forall_mem_cons.mpr ⟨h5, h6⟩⟩

/-- If every voter's ballot other than the proposer's is the voter's snapshot weight at the start height
(`C06Flex.SnapInv`), the snapshot weights of distinct addresses fit `u64` together (`SnapSum`), and the proposer's
recorded ballot does not exceed the proposer's snapshot weight either, the tally of a stored proposal fits `u64`. -/
theorem tally_fits {w : Cw3Flex.World} {H : Nat} (hsnap : C06Flex.SnapInv w H) (hsum : SnapSum w.group.members)
    {id : Nat} {p : Cw3Core.Proposal} (hp : w.flex.core.proposals.get? id = some p)
    (hprop : ∀ b, (Cw3Core.ballotsOf w.flex.core id).get? p.proposer = some b →
      b.weight ≤ (Cw3Flex.memberAt w.group p.proposer p.startHeight).getD 0) : p.Fits := by
  have hwf := hsnap.inv.wf
  have hn := hwf.nodup id
  have hb := Cw3Core.weightSum_le_keys (fun a => (w.group.members.atHeight a p.startHeight).getD 0)
    (Cw3Core.ballotsOf w.flex.core id) fun a b hm => by
      have hg := (AMap.get?_eq_some_iff hn).mpr hm
      by_cases e : a = p.proposer
      · subst e; exact hprop b hg
      · exact Nat.le_of_eq (congrArg (·.getD 0) (hsnap.ballot id p a b hp hg e).1).symm
  have hs := hsum p.startHeight (AMap.keys (Cw3Core.ballotsOf w.flex.core id)) hn
  have ht := hwf.tally id p hp
  have he := Cw3Core.weightSum_eq (Cw3Core.ballotsOf w.flex.core id)
  unfold Cw3Core.Proposal.Fits
  rw [ht]
  simp only [Cw3Core.tallyOf]
  omega

/-! ### The invariant over histories, and the guard stated on the history

The committed ghost log of a world (`World.log`) records every handler call of every committed transaction in
order, nested dispatches included: `.proposed id snd` for a successful `Propose`, `.groupWrite h` for a successful
group call in block `h` (the instantiation of the group counts as a write in block `H0`).  `GoodFor log id h` says:
before the `Propose` that created proposal `id`, the log has no group write of block `h`.  For `h` the proposal's
start height this is the guard of C06 (`proposer_and_total_are_snapshot_partial`), and `Cw3Flex.CleanStart` in
decidable form: under it C06's history invariant `C06Flex.TotalInv` makes the proposer's ballot the proposer's snapshot
weight — hence, with `tally_fits`, `TallyFits` and `StatusTotal`. -/

/-- In `log`, no group write of block `h` precedes the `Propose` that created proposal `id`. -/
def GoodFor (log : List Cw3Flex.Event) (id h : Nat) : Prop :=
  ∀ pre post snd, log = pre ++ Cw3Flex.Event.proposed id snd :: post → Cw3Flex.Event.groupWrite h ∉ pre

theorem cleanStart_of_goodFor (id h : Nat) : ∀ log, GoodFor log id h → Cw3Flex.CleanStart log id h := by
  intro log
  induction log using List.rev_induction with
  | nil => exact fun _ => Cw3Flex.cleanStart_nil id h
  | snoc log ev ih =>
    intro hg
    refine (Cw3Flex.cleanStart_snoc log ev id h).mpr
      ⟨fun hev => ?_, ih fun pre post snd hl => hg pre (post ++ [ev]) snd (by rw [hl]; simp)⟩
    cases ev with
    | proposed id' snd =>
      have : id' = id := by simpa [Cw3Flex.Event.isProposed] using hev
      exact hg log [] snd (by rw [this])
    | _ => cases hev

/-- What is carried along a history at non-decreasing heights: C06's `TotalInv` (the voters'
ballots are snapshot weights, and so is the proposer's under the guard; the group's own invariant; changelogs bounded
by `H`) and `SnapSum` of the group. -/
def FitsInv (w : Cw3Flex.World) (H : Nat) : Prop := C06Flex.TotalInv w H ∧ SnapSum w.group.members

theorem fitsInv_step (ext : Cw3Flex.Ext) (fuel : Nat) (w : Cw3Flex.World) (H : Nat) (op : Cw3Flex.Op)
    (hq : FitsInv w H) (hH : H ≤ op.blk.height) : FitsInv (Cw3Flex.step ext fuel w op) op.blk.height := by
  refine ⟨C06Flex.total_step ext fuel op hq.1 hH, ?_⟩
  -- `SnapSum` speaks of the group alone: only group calls matter, and they come at the height of the block
  exact (Cw3Flex.step_inv ext
    (fun w => C09.Inv w.group ∧ w.group.members.LogLe op.blk.height ∧ SnapSum w.group.members) fuel w op
    (fun _ _ _ _ _ _ hq _ => hq)
    (fun w snd m g' outs hq hg => ⟨C09.execute_inv hq.1 hg,
      (C09.execute_sameBlock hg).1.logLe hq.2.1 (Nat.le_refl _), snapSum_execute hg hq.1 hq.2.1 hq.2.2⟩)
    (fun _ _ hq => hq) (fun _ _ hq => hq) ⟨hq.1.grp, hq.1.snap.membersLe.mono hH, hq.2⟩).2.2

theorem fitsInv_run {ext : Cw3Flex.Ext} {fuel : Nat} {m : Cw3Flex.InstMsg} {s : Cw3Flex.State} {g : Cw4Group.State}
    (t : Cw20.State) (bank : AMap (Addr × String) Nat) (self ga ta : Addr) {H0 : Nat}
    (hi : Cw3Flex.instantiate m (some g) = .ok s) (hgi : C09.Inv g) (hgs : SnapSum g.members)
    (hgm : g.members.LogLe H0) (hgt : g.total.LogLe H0)
    (ops : List Cw3Flex.Op) (hge : ∀ op ∈ ops, H0 ≤ op.blk.height) (hord : C06Flex.Ordered ops) :
    ∃ H', FitsInv (Cw3Flex.run ext fuel (Cw3Flex.World.init s g t bank self ga ta H0) ops) H' :=
  C06Flex.run_ordered_inv ext fuel (fitsInv_step ext fuel) ops _ H0
    ⟨C06Flex.total_init t bank self ga ta hi hgi hgm hgt, hgs⟩ hge hord

/-- **`TallyFits` derived (partial: per proposal, under the proposer-snapshot guard).**  Instantiate the multisig on
a group with its own invariant, `SnapSum` and changelogs bounded by `H0` (e.g. any group reached from an accepted
`Cw4Group.instantiate` by calls at non-decreasing heights: `group_instantiate_snapSum`, `group_run_snapSum`), run any
history of transactions (multisig, group, token; nested dispatches included) at non-decreasing block heights `≥ H0`.
Then every stored proposal whose proposer's recorded ballot is at most the proposer's snapshot weight at the start
height — in particular every proposal created in a block without an earlier group write
(`C06Flex.proposer_and_total_are_snapshot_partial`) — has a tally that fits `u64`, and hence a status at every block.
The missing part (proposals created right after a same-block group update, D3) is false of the code. -/
theorem flex_tally_fits_partial {ext : Cw3Flex.Ext} {fuel : Nat} {m : Cw3Flex.InstMsg} {s : Cw3Flex.State}
    {g : Cw4Group.State} {t : Cw20.State} {bank : AMap (Addr × String) Nat} {self ga ta : Addr} {H0 : Nat}
    (hi : Cw3Flex.instantiate m (some g) = .ok s) (hgi : C09.Inv g) (hgs : SnapSum g.members)
    (hgm : g.members.LogLe H0) (hgt : g.total.LogLe H0)
    (ops : List Cw3Flex.Op) (hge : ∀ op ∈ ops, H0 ≤ op.blk.height) (hord : C06Flex.Ordered ops)
    {id : Nat} {p : Cw3Core.Proposal} :
    let w := Cw3Flex.run ext fuel (Cw3Flex.World.init s g t bank self ga ta H0) ops
    w.flex.core.proposals.get? id = some p →
    (∀ b, (Cw3Core.ballotsOf w.flex.core id).get? p.proposer = some b →
      b.weight ≤ (Cw3Flex.memberAt w.group p.proposer p.startHeight).getD 0) →
    p.Fits ∧ ∀ blk, ∃ st, p.currentStatus blk = .ok st := by
  intro w hp hprop
  obtain ⟨H', hq, hsum⟩ := fitsInv_run t bank self ga ta hi hgi hgs hgm hgt ops hge hord
  have hfit := tally_fits hq.snap hsum hp hprop
  have hr : Cw3Flex.Reachable ext fuel w := ⟨m, s, g, t, bank, self, ga, ta, H0, ops, hi, rfl⟩
  exact ⟨hfit, Cw3Flex.reachable_statusInv hr id p hp hfit⟩

/-- **`StatusTotal` for the flex proposal listings without a tally hypothesis (partial).**  In the worlds of
`flex_tally_fits_partial`, if *every* stored proposal satisfies the proposer-snapshot guard, every stored proposal
has a status at every block, so `ListProposals` / `ReverseProposals` never fail and are complete from the start
and from every cursor (`flex_listProposals_complete_after`, `flex_reverseProposals_complete_after`). -/
theorem flex_status_total_partial {ext : Cw3Flex.Ext} {fuel : Nat} {m : Cw3Flex.InstMsg} {s : Cw3Flex.State}
    {g : Cw4Group.State} {t : Cw20.State} {bank : AMap (Addr × String) Nat} {self ga ta : Addr} {H0 : Nat}
    (hi : Cw3Flex.instantiate m (some g) = .ok s) (hgi : C09.Inv g) (hgs : SnapSum g.members)
    (hgm : g.members.LogLe H0) (hgt : g.total.LogLe H0)
    (ops : List Cw3Flex.Op) (hge : ∀ op ∈ ops, H0 ≤ op.blk.height) (hord : C06Flex.Ordered ops)
    (hguard : ∀ id p b,
      (Cw3Flex.run ext fuel (Cw3Flex.World.init s g t bank self ga ta H0) ops).flex.core.proposals.get? id = some p →
      (Cw3Core.ballotsOf (Cw3Flex.run ext fuel (Cw3Flex.World.init s g t bank self ga ta H0) ops).flex.core id).get?
        p.proposer = some b →
      b.weight ≤ (Cw3Flex.memberAt (Cw3Flex.run ext fuel (Cw3Flex.World.init s g t bank self ga ta H0) ops).group
        p.proposer p.startHeight).getD 0)
    (blk : Block) (cur limit : Option Nat) :
    let w := Cw3Flex.run ext fuel (Cw3Flex.World.init s g t bank self ga ta H0) ops
    TallyFits w.flex.core ∧ StatusTotal w.flex.core blk ∧
    (Cw3Flex.listProposals w.flex blk cur limit).isOk = true ∧ (Cw3Flex.reverseProposals w.flex blk cur limit).isOk = true := by
  intro w
  have hfits : TallyFits w.flex.core := fun id p hp =>
    (flex_tally_fits_partial hi hgi hgs hgm hgt ops hge hord hp (fun b hb => hguard id p b hp hb)).1
  have hr : Cw3Flex.Reachable ext fuel w := ⟨m, s, g, t, bank, self, ga, ta, H0, ops, hi, rfl⟩
  exact ⟨hfits, flex_status_total hr hfits blk, flex_proposal_listings_total hr hfits blk cur limit⟩

/-- **C06 for the proposer over whole histories, and `StatusTotal` under the history-level guard (partial).**
Instantiate the multisig on a group as in `flex_tally_fits_partial`, run any history of transactions at
non-decreasing block heights `≥ H0`.  For every stored proposal whose `Propose` was not preceded, in the committed
history (nested dispatches included), by a group write of the proposal's own block (`GoodFor`):
* the proposer's ballot carries the weight the group — in its final state — reports for the proposer at the
  proposal's start height (the statement `C06Flex.proposer_and_total_are_snapshot_partial` makes for one call);
* the tally fits `u64` and the proposal has a status at every block.
If every stored proposal satisfies the guard, `ListProposals` and `ReverseProposals` never fail (`StatusTotal`), for
every cursor, limit and query block.  Proposals created right after a same-block group update are excluded: for them
the statement is false of the code (D3, `C06Flex.C06_flex_counterexample`). -/
theorem flex_status_total_guarded {ext : Cw3Flex.Ext} {fuel : Nat} {m : Cw3Flex.InstMsg} {s : Cw3Flex.State}
    {g : Cw4Group.State} {t : Cw20.State} {bank : AMap (Addr × String) Nat} {self ga ta : Addr} {H0 : Nat}
    (hi : Cw3Flex.instantiate m (some g) = .ok s) (hgi : C09.Inv g) (hgs : SnapSum g.members)
    (hgm : g.members.LogLe H0) (hgt : g.total.LogLe H0)
    (ops : List Cw3Flex.Op) (hge : ∀ op ∈ ops, H0 ≤ op.blk.height) (hord : C06Flex.Ordered ops) :
    let w := Cw3Flex.run ext fuel (Cw3Flex.World.init s g t bank self ga ta H0) ops
    (∀ id p, w.flex.core.proposals.get? id = some p → GoodFor w.log id p.startHeight →
      (∀ b, (Cw3Core.ballotsOf w.flex.core id).get? p.proposer = some b →
        Cw3Flex.memberAt w.group p.proposer p.startHeight = some b.weight)
      ∧ p.Fits ∧ ∀ blk, ∃ st, p.currentStatus blk = .ok st)
    ∧ ((∀ id p, w.flex.core.proposals.get? id = some p → GoodFor w.log id p.startHeight) →
        TallyFits w.flex.core ∧ ∀ blk cur limit, StatusTotal w.flex.core blk ∧
          (Cw3Flex.listProposals w.flex blk cur limit).isOk = true ∧
          (Cw3Flex.reverseProposals w.flex blk cur limit).isOk = true) := by
  intro w
  obtain ⟨H', hq, _⟩ := fitsInv_run t bank self ga ta hi hgi hgs hgm hgt ops hge hord
  have key : ∀ id p, w.flex.core.proposals.get? id = some p → GoodFor w.log id p.startHeight →
      (∀ b, (Cw3Core.ballotsOf w.flex.core id).get? p.proposer = some b →
        Cw3Flex.memberAt w.group p.proposer p.startHeight = some b.weight)
      ∧ p.Fits ∧ ∀ blk, ∃ st, p.currentStatus blk = .ok st := by
    intro id p hp hgood
    have hsnap := fun b hb => hq.propBallot id p b hp (cleanStart_of_goodFor _ _ _ hgood) hb
    exact ⟨hsnap, flex_tally_fits_partial hi hgi hgs hgm hgt ops hge hord hp
      fun b hb => by rw [hsnap b hb]; exact Nat.le_refl _⟩
  refine ⟨key, fun hall => ?_⟩
  have hr : Cw3Flex.Reachable ext fuel w := ⟨m, s, g, t, bank, self, ga, ta, H0, ops, hi, rfl⟩
  have hfits : TallyFits w.flex.core := fun id p hp => (key id p hp (hall id p hp)).2.1
  exact ⟨hfits, fun blk cur limit => ⟨flex_status_total hr hfits blk, flex_proposal_listings_total hr hfits blk cur limit⟩⟩

/-! ## Non-vacuity: a concrete state per contract where the hypotheses hold, with concrete pages -/

/-- The sorted listing of a concrete map, from any sorted permutation of it (`mergeSort` does not reduce
in the kernel). -/
theorem sortedEntries_eq {κ ν : Type} [DecidableEq κ] {lt : κ → κ → Bool} (ht : StrictTotal lt) {m l : AMap κ ν}
    (hm : AMap.NodupKeys m) (hl : Sorted lt l) (hp : m.Perm l) : sortedEntries lt m = l :=
  Sorted.eq_of_perm ht (sortedEntries_sorted hm ht) hl ((sortedEntries_perm _ _).trans hp)

/-- cw4-group: three members stored in the order `b, a, c`. -/
def gEx : Cw4Group.State :=
  { admin := some "adm", hooks := [], members := { cur := [("b", 2), ("a", 1), ("c", 3)], log := [] },
    total := { cur := some 6, log := [] } }

theorem gEx_nodup : AMap.NodupKeys gEx.members.cur := by unfold AMap.NodupKeys AMap.keys; decide +kernel
theorem gEx_sorted : sortedEntries strLt gEx.members.cur = [("a", 1), ("b", 2), ("c", 3)] :=
  sortedEntries_eq strictTotal_strLt gEx_nodup (by unfold Sorted; decide +kernel) (by decide +kernel)

example : Cw4Group.queryListMembers gEx (some ⟨true, "a"⟩) (some 1) = .ok [("b", 2)] := by
  rw [group_listMembers_eq, gEx_sorted]; rfl
example : Cw4Group.queryListMembers gEx (some ⟨false, "a"⟩) (some 1) = .error "addr" := by
  rw [group_listMembers_eq]; rfl
example : fetchLoop (fun c => okItems (Cw4Group.queryListMembers gEx (c.map (⟨true, ·⟩)) (some 2))) (·.1) none 4
    = [("a", 1), ("b", 2), ("c", 3)] :=
  (group_listMembers_loop gEx_nodup (some 2) (by decide +kernel) none (by decide +kernel)).trans gEx_sorted
/-- the same state is reachable: instantiate with `b, a`, then the admin adds `c` -/
example : (Cw4Group.instantiate ⟨some ⟨true, "adm"⟩, [(⟨true, "b"⟩, 2), (⟨true, "a"⟩, 1)]⟩ 1).map
      (fun s => (Cw4Group.run s [⟨2, "adm", .updateMembers [] [(⟨true, "c"⟩, 3)]⟩]).members.cur)
    = .ok [("a", 1), ("b", 2), ("c", 3)] := by
  rfl
/-- cw3-flex `ListVoters` reads the same group state -/
example : Cw3Flex.listVoters gEx (some ⟨true, "b"⟩) none = .ok [("c", 3)] := by
  show Cw4Group.queryListMembers gEx _ _ = _
  rw [group_listMembers_eq, gEx_sorted]; rfl

/-- cw4-stake: the same members. -/
def stEx : Cw4Stake.State :=
  { cfg := ⟨.native "ustake", 1, 1, .height 10⟩, admin := none, hooks := [], stake := [], claims := [],
    members := { cur := [("b", 2), ("a", 1), ("c", 3)], log := [] }, total := 6 }

theorem stEx_nodup : AMap.NodupKeys stEx.members.cur := by unfold AMap.NodupKeys AMap.keys; decide +kernel
theorem stEx_sorted : sortedEntries strLt stEx.members.cur = [("a", 1), ("b", 2), ("c", 3)] :=
  sortedEntries_eq strictTotal_strLt stEx_nodup (by unfold Sorted; decide +kernel) (by decide +kernel)
example : Cw4Stake.queryListMembers stEx none (some 2) = .ok [("a", 1), ("b", 2)] := by
  rw [stake_listMembers_eq, stEx_sorted]; rfl
example : Cw4Stake.queryListMembers stEx (some ⟨false, "zz"⟩) none = .error "addr" := by
  rw [stake_listMembers_eq]; rfl
example : fetchLoop (fun c => okItems (Cw4Stake.queryListMembers stEx (c.map (⟨true, ·⟩)) (some 1))) (·.1) none 4
    = [("a", 1), ("b", 2), ("c", 3)] :=
  (stake_listMembers_loop stEx_nodup (some 1) (by decide +kernel) none (by decide +kernel)).trans stEx_sorted

/-- cw1-subkeys: three allowances; the one of `b` expired at height 5. -/
def skEx : Cw1Subkeys.State :=
  { cfg := ⟨["admin"], true⟩,
    allowances := [("c", ⟨[("ua", 3)], .never⟩), ("b", ⟨[("ua", 2)], .atHeight 5⟩), ("a", ⟨[("ua", 1)], .never⟩)],
    permissions := [("b", ⟨true, false, false, false⟩), ("a", ⟨false, true, false, false⟩)] }

theorem skEx_nodup : Cw1Subkeys.NodupInv skEx :=
  ⟨by unfold AMap.NodupKeys AMap.keys; decide +kernel, by unfold AMap.NodupKeys AMap.keys; decide +kernel⟩
theorem skEx_sorted : sortedEntries strLt skEx.allowances
    = [("a", ⟨[("ua", 1)], .never⟩), ("b", ⟨[("ua", 2)], .atHeight 5⟩), ("c", ⟨[("ua", 3)], .never⟩)] :=
  sortedEntries_eq strictTotal_strLt skEx_nodup.allowances (by unfold Sorted; decide +kernel) (by decide +kernel)
/-- at height 10 the page of two skips the expired `b` and still holds two items: filter before `take` -/
example : Cw1Subkeys.queryAllAllowances skEx ⟨10, 0⟩ none (some 2)
    = [("a", ⟨[("ua", 1)], .never⟩), ("c", ⟨[("ua", 3)], .never⟩)] := by
  simp only [Cw1Subkeys.queryAllAllowances, skEx_sorted]; decide +kernel
example : Cw1Subkeys.queryAllAllowances skEx ⟨4, 0⟩ none (some 2)
    = [("a", ⟨[("ua", 1)], .never⟩), ("b", ⟨[("ua", 2)], .atHeight 5⟩)] := by
  simp only [Cw1Subkeys.queryAllAllowances, skEx_sorted]; decide +kernel
example : fetchLoop (fun c => Cw1Subkeys.queryAllAllowances skEx ⟨10, 0⟩ c (some 1)) (·.1) none 4
    = [("a", ⟨[("ua", 1)], .never⟩), ("c", ⟨[("ua", 3)], .never⟩)] := by
  rw [subkeys_allAllowances_loop skEx_nodup.allowances ⟨10, 0⟩ (some 1) (by decide +kernel) none (by decide +kernel), skEx_sorted]
  decide +kernel
example : Cw1Subkeys.queryAllPermissions skEx (some "a") none = [("b", ⟨true, false, false, false⟩)] := by
  have h : sortedEntries strLt skEx.permissions
      = [("a", ⟨false, true, false, false⟩), ("b", ⟨true, false, false, false⟩)] :=
    sortedEntries_eq strictTotal_strLt skEx_nodup.permissions (by unfold Sorted; decide +kernel) (by decide +kernel)
  simp only [Cw1Subkeys.queryAllPermissions, h]; decide +kernel

/-- cw20-ics20: two allowed tokens. -/
def icEx : Ics20.State :=
  { config := ⟨60, none⟩, admin := some "gov", allow := [("tokb", some 5), ("toka", none)], channels := [],
    chan := [], versionName := Ics20.CONTRACT_NAME, version := Ics20.CONTRACT_VERSION }

theorem icEx_nodup : AMap.NodupKeys icEx.allow := by unfold AMap.NodupKeys AMap.keys; decide +kernel
theorem icEx_sorted : sortedEntries strLt icEx.allow = [("toka", none), ("tokb", some 5)] :=
  sortedEntries_eq strictTotal_strLt icEx_nodup (by unfold Sorted; decide +kernel) (by decide +kernel)
example : Ics20.queryListAllowed icEx (some ⟨true, "toka"⟩) none = .ok [("tokb", some 5)] := by
  rw [ics20_listAllowed_eq, icEx_sorted]; rfl
example : Ics20.queryListAllowed icEx (some ⟨false, "toka"⟩) none = .error "addr" := by
  rw [ics20_listAllowed_eq]; rfl
example : fetchLoop (fun c => okItems (Ics20.queryListAllowed icEx (c.map (⟨true, ·⟩)) none)) (·.1) none 3
    = [("toka", none), ("tokb", some 5)] :=
  (ics20_listAllowed_loop icEx_nodup none (by decide +kernel) none (by decide +kernel)).trans icEx_sorted

/-- cw3 core (used by both multisigs): proposal 2 stored before proposal 1, both no longer open; two ballots on 1. -/
def prEx (st : Cw3.Status) : Cw3Core.Proposal :=
  { title := "t", description := "d", startHeight := 1, expires := .atHeight 100, msgs := [], status := st,
    threshold := .absoluteCount 2, totalWeight := 3, votes := ⟨2, 0, 0, 0⟩, proposer := "a", deposit := none }

def cEx : Cw3Core.Core :=
  { count := 2, proposals := [(2, prEx .rejected), (1, prEx .executed)],
    ballots := [(1, [("b", ⟨1, .yes⟩), ("a", ⟨1, .yes⟩)])] }

theorem cEx_nodup : AMap.NodupKeys cEx.proposals := by unfold AMap.NodupKeys AMap.keys; decide +kernel
theorem cEx_sorted : sortedEntries natLt cEx.proposals = [(1, prEx .executed), (2, prEx .rejected)] :=
  sortedEntries_eq strictTotal_natLt cEx_nodup (by unfold Sorted; decide +kernel) (by decide +kernel)
theorem cEx_status (blk : Block) : StatusTotal cEx blk := by
  intro id p hp
  have hm := AMap.get?_some_mem hp
  simp only [cEx, List.mem_cons, Prod.mk.injEq, List.not_mem_nil, or_false] at hm
  rcases hm with ⟨_, rfl⟩ | ⟨_, rfl⟩ <;> exact ⟨_, rfl⟩

example : Cw3Core.listProposals cEx ⟨7, 0⟩ (some 1) none = .ok [Cw3Core.viewD ⟨7, 0⟩ (2, prEx .rejected)] := by
  rw [core_listProposals_eq cEx_nodup (cEx_status _), cEx_sorted]; rfl
example : Cw3Core.reverseProposals cEx ⟨7, 0⟩ (some 2) none = .ok [Cw3Core.viewD ⟨7, 0⟩ (1, prEx .executed)] := by
  rw [core_reverseProposals_eq cEx_nodup (cEx_status _),
    sortedEntriesDesc_eq_reverse cEx_nodup strictTotal_natLt, cEx_sorted]; rfl
example : fetchLoop (fun c => okItems (Cw3Core.reverseProposals cEx ⟨7, 0⟩ c (some 1))) (·.id) none 3
    = [Cw3Core.viewD ⟨7, 0⟩ (2, prEx .rejected), Cw3Core.viewD ⟨7, 0⟩ (1, prEx .executed)] := by
  have h := core_reverseProposals_loop cEx_nodup (cEx_status ⟨7, 0⟩) (some 1) (by decide +kernel) none (fuel := 3) (by decide +kernel)
  rw [cEx_sorted] at h
  exact (Except.ok.inj h).symm

/-- the ballots of proposal 1, as listed by cw3-fixed (raw cursor) and cw3-flex (validated cursor) -/
theorem cEx_ballots : sortedEntries strLt (Cw3Core.ballotsOf cEx 1) = [("a", ⟨1, .yes⟩), ("b", ⟨1, .yes⟩)] :=
  sortedEntries_eq strictTotal_strLt (by unfold AMap.NodupKeys AMap.keys; decide +kernel) (by unfold Sorted; decide +kernel) (by decide +kernel)
example : Cw3Fixed.listVotes ⟨⟨.absoluteCount 2, 3, .height 100⟩, [("b", 1), ("a", 2)], cEx⟩ 1 (some "a") none
    = [("b", ⟨1, .yes⟩)] := by
  simp only [Cw3Fixed.listVotes, Cw3Core.listVotes, cEx_ballots]; decide +kernel
example : Cw3Flex.listVotes ⟨⟨.absoluteCount 2, .height 100, "grp", none, none⟩, cEx⟩ 1 (some ⟨true, "a"⟩) none
    = .ok [("b", ⟨1, .yes⟩)] := by
  rw [flex_listVotes_eq]; simp only [cEx_ballots]; rfl
example : Cw3Flex.listVotes ⟨⟨.absoluteCount 2, .height 100, "grp", none, none⟩, cEx⟩ 1 (some ⟨false, "a"⟩) none
    = .error "addr" := by
  rw [flex_listVotes_eq]; rfl
example : Cw3Fixed.listVoters ⟨⟨.absoluteCount 2, 3, .height 100⟩, [("b", 1), ("a", 2)], cEx⟩ none (some 1)
    = [("a", 2)] := by
  have h : sortedEntries strLt ([("b", 1), ("a", 2)] : AMap Addr Nat) = [("a", 2), ("b", 1)] :=
    sortedEntries_eq strictTotal_strLt (by unfold AMap.NodupKeys AMap.keys; decide +kernel) (by unfold Sorted; decide +kernel) (by decide +kernel)
  simp only [Cw3Fixed.listVoters, h]; decide +kernel

/-- `StatusTotal` is a real restriction outside reachable cw3-fixed states: a stored open proposal whose abstain
weight exceeds its recorded total makes `current_status`, hence both proposal listings, fail. -/
def cBad : Cw3Core.Core :=
  { count := 1,
    proposals := [(1, { prEx .open with threshold := .absolutePercentage Cw3.DEC_ONE, totalWeight := 1, votes := ⟨1, 0, 2, 0⟩ })],
    ballots := [] }
example : (Cw3Core.listProposals cBad ⟨7, 0⟩ none none).isOk = false := by
  have h : sortedEntries natLt cBad.proposals = cBad.proposals :=
    sortedEntries_of_sorted strictTotal_natLt (by unfold Sorted; decide +kernel)
  simp only [Cw3Core.listProposals, h]; decide +kernel


/-! ### Non-vacuity of the any-cursor theorems: loops started in the middle, at a key and between keys -/

example : fetchLoop (fun c => okItems (Cw4Group.queryListMembers gEx (c.map (⟨true, ·⟩)) (some 1))) (·.1) (some "a") 4
    = [("b", 2), ("c", 3)] := by
  rw [group_listMembers_loop gEx_nodup (some 1) (by decide +kernel) (some "a") (by decide +kernel), gEx_sorted]; decide +kernel
example : fetchLoop (fun c => okItems (Cw4Stake.queryListMembers stEx (c.map (⟨true, ·⟩)) none)) (·.1) (some "aa") 4
    = [("b", 2), ("c", 3)] := by
  rw [stake_listMembers_loop stEx_nodup none (by decide +kernel) (some "aa") (by decide +kernel), stEx_sorted]; decide +kernel
/-- filtered listing from the cursor "a" at height 10: the expired `b` is skipped, `c` remains -/
example : fetchLoop (fun c => Cw1Subkeys.queryAllAllowances skEx ⟨10, 0⟩ c (some 1)) (·.1) (some "a") 4
    = [("c", ⟨[("ua", 3)], .never⟩)] := by
  rw [subkeys_allAllowances_loop skEx_nodup.allowances ⟨10, 0⟩ (some 1) (by decide +kernel) (some "a") (by decide +kernel), skEx_sorted]
  decide +kernel
example : fetchLoop (fun c => okItems (Ics20.queryListAllowed icEx (c.map (⟨true, ·⟩)) (some 1))) (·.1) (some "toka") 3
    = [("tokb", some 5)] := by
  rw [ics20_listAllowed_loop icEx_nodup (some 1) (by decide +kernel) (some "toka") (by decide +kernel), icEx_sorted]; decide +kernel
/-- proposals: ascending from id 1, descending from `start_before = 2` -/
example : fetchLoop (fun c => okItems (Cw3Core.listProposals cEx ⟨7, 0⟩ c (some 1))) (·.id) (some 1) 3
    = [Cw3Core.viewD ⟨7, 0⟩ (2, prEx .rejected)] := by
  have h := core_listProposals_loop cEx_nodup (cEx_status ⟨7, 0⟩) (some 1) (by decide +kernel) (some 1) (fuel := 3) (by decide +kernel)
  rw [cEx_sorted] at h
  exact (Except.ok.inj h).symm
example : fetchLoop (fun c => okItems (Cw3Core.reverseProposals cEx ⟨7, 0⟩ c (some 1))) (·.id) (some 2) 3
    = [Cw3Core.viewD ⟨7, 0⟩ (1, prEx .executed)] := by
  have h := core_reverseProposals_loop cEx_nodup (cEx_status ⟨7, 0⟩) (some 1) (by decide +kernel) (some 2) (fuel := 3) (by decide +kernel)
  rw [cEx_sorted] at h
  exact (Except.ok.inj h).symm


/-! ### Non-vacuity of `flex_tally_fits_partial` / `flex_status_total_partial`

The D3 world of `Props/C06Flex.lean` (group `a:1, b:4` instantiated at height 5, multisig on top), with the
`Propose` one block *after* the group update (so the guard holds): update in block 10, `a` proposes in block 11
(weight 3 = its snapshot weight at 11), `b` votes in block 12. -/

def flexOps : List Cw3Flex.Op :=
  [⟨⟨10, 0⟩, .group "adm" (.updateMembers [] [(⟨true, "a"⟩, 3)])⟩,
   ⟨⟨11, 0⟩, .flex "a" [] (.propose "t" "d" [] none)⟩,
   ⟨⟨12, 0⟩, .flex "b" [] (.vote 1 .no)⟩]

def flexFinal : Cw3Flex.World := Cw3Flex.run C06Flex.Cex.noExt 10 C06Flex.Cex.world0 flexOps

theorem flexGroup0_ok : Cw4Group.instantiate ⟨some ⟨true, "adm"⟩, [(⟨true, "a"⟩, 1), (⟨true, "b"⟩, 4)]⟩ 5
    = .ok C06Flex.Cex.group0 := rfl

example : C06Flex.Ordered flexOps ∧ ∀ op ∈ flexOps, 5 ≤ op.blk.height := by unfold C06Flex.Ordered; decide +kernel

/-- the proposal exists, both ballots are recorded, and the proposer's ballot (3) is its snapshot weight at 11 -/
example : ((flexFinal.flex.core.proposals.get? 1).map fun p => (p.startHeight, p.proposer, p.votes.yes, p.votes.no))
      = some (11, "a", 3, 4)
    ∧ ((Cw3Core.ballotsOf flexFinal.flex.core 1).get? "a").map (·.weight) = some 3
    ∧ Cw3Flex.memberAt flexFinal.group "a" 11 = some 3 := by decide +kernel

/-- the only stored proposal: id 1, proposed by `a` in block 11 -/
theorem flexFinal_proposal {id : Nat} {p : Cw3Core.Proposal} (hp : flexFinal.flex.core.proposals.get? id = some p) :
    id = 1 ∧ p.proposer = "a" ∧ p.startHeight = 11 := by
  have hall : flexFinal.flex.core.proposals.map (fun x => (x.1, x.2.proposer, x.2.startHeight)) = [(1, "a", 11)] := by
    decide +kernel
  have := List.mem_map_of_mem (f := fun x => (x.1, x.2.proposer, x.2.startHeight)) (AMap.get?_some_mem hp)
  rw [hall] at this
  simpa using this

example : ∃ p, flexFinal.flex.core.proposals.get? 1 = some p ∧ p.Fits ∧ ∀ blk, ∃ st, p.currentStatus blk = .ok st := by
  obtain ⟨h1, h2, h3, h4⟩ := group_instantiate_snapSum flexGroup0_ok
  obtain ⟨p, hp⟩ := Option.isSome_iff_exists.mp (by decide : (flexFinal.flex.core.proposals.get? 1).isSome = true)
  obtain ⟨_, hpr, hst⟩ := flexFinal_proposal hp
  refine ⟨p, hp, ?_⟩
  refine flex_tally_fits_partial (m := C06Flex.Cex.inst) (s := C06Flex.Cex.flex0) (g := C06Flex.Cex.group0)
    (t := C06Flex.Cex.token0) (bank := []) (self := "ms") (ga := "grp") (ta := "tok") (H0 := 5) (ext := C06Flex.Cex.noExt)
    (fuel := 10) rfl h1 h2 h3 h4 flexOps (by decide) (by unfold C06Flex.Ordered; decide) (id := 1) hp ?_
  intro b hb
  rw [hpr, hst]
  rw [hpr] at hb
  have hb' : (Cw3Core.ballotsOf flexFinal.flex.core 1).get? "a" = some ⟨3, .yes⟩ := by decide
  rw [Option.some.inj (hb.symm.trans hb')]
  exact (by decide : 3 ≤ (Cw3Flex.memberAt flexFinal.group "a" 11).getD 0)


/-- `flex_status_total_guarded` on the same history: the committed log is
`[groupWrite 5, groupWrite 10, proposed 1 a, voted 1 b]`; the proposal started in block 11, and no group write of
block 11 precedes its `Propose` — the guard holds for every stored proposal, so both proposal listings are total. -/
example : flexFinal.log = [.groupWrite 5, .groupWrite 10, .proposed 1 "a", .voted 1 "b"] := by decide +kernel

example : ∀ blk cur limit, (Cw3Flex.listProposals flexFinal.flex blk cur limit).isOk = true ∧
    (Cw3Flex.reverseProposals flexFinal.flex blk cur limit).isOk = true := by
  obtain ⟨h1, h2, h3, h4⟩ := group_instantiate_snapSum flexGroup0_ok
  have hall : ∀ id p, flexFinal.flex.core.proposals.get? id = some p → GoodFor flexFinal.log id p.startHeight := by
    intro id p hp
    obtain ⟨rfl, _, hst⟩ := flexFinal_proposal hp
    rw [hst]
    intro pre post snd hlog hmem
    have : Cw3Flex.Event.groupWrite 11 ∈ flexFinal.log := by rw [hlog]; exact List.mem_append_left _ hmem
    revert this; decide +kernel
  have := (flex_status_total_guarded (m := C06Flex.Cex.inst) (s := C06Flex.Cex.flex0) (g := C06Flex.Cex.group0)
    (t := C06Flex.Cex.token0) (bank := []) (self := "ms") (ga := "grp") (ta := "tok") (H0 := 5) (ext := C06Flex.Cex.noExt)
    (fuel := 10) rfl h1 h2 h3 h4 flexOps (by decide +kernel) (by unfold C06Flex.Ordered; decide +kernel)).2 hall
  intro blk cur limit
  exact (this.2 blk cur limit).2

/-- In the D3 history of C06 (group update and `Propose` in the same block 10) the guard fails for proposal 1:
`groupWrite 10` precedes `proposed 1 a`. -/
example : ¬ GoodFor C06Flex.Cex.final.log 1 10 := by
  intro h
  have hlog : C06Flex.Cex.final.log = [.groupWrite 5, .groupWrite 10, .proposed 1 "a", .voted 1 "b"] := by decide +kernel
  exact h [.groupWrite 5, .groupWrite 10] [.voted 1 "b"] "a" hlog (by simp)

end CwPlus.Props.C20Listings
