import CwPlus.Lemmas.RawStore
import CwPlus.Model.Cw4Raw
/-!
# Reading the raw image of a cw4 state, section by section

`InNs ns k`: the key `k` lies in the key space of the map namespace `ns`.  Every section of `encode` lies in one
namespace (or is a single item); keys of different namespaces differ (`Lemmas/RawStore.lean`), so a read of a
published key only ever sees its own section: every other section `Avoids` the key (one lemma per section and
published key), and `get?` / `count` of an image are those of the one section in between (`get?_of_avoids`,
`count_of_avoids`).  `InNs`, `count` and `Avoids` are defined here; `Props/C09Raw.lean` states its theorems with
them.  Core only.
-/
namespace CwPlus.RawStore

/-- `k` is a key of the `Map` with namespace `ns` (any key parts). -/
def InNs (ns k : Bytes) : Prop := ∃ ps last, k = mapKey ns ps last

theorem inNs_mapKey (ns : Bytes) (ps : List Bytes) (last : Bytes) : InNs ns (mapKey ns ps last) := ⟨ps, last, rfl⟩

theorem not_inNs_mapKey {ns ns' : Bytes} (h1 : ns.length ≤ 0xFFFF) (h2 : ns'.length ≤ 0xFFFF) (hne : ns ≠ ns')
    (ps : List Bytes) (last : Bytes) : ¬ InNs ns (mapKey ns' ps last) := by
  rintro ⟨qs, l, h⟩
  exact hne (mapKey_ns_inj h2 h1 h).1.symm

theorem not_inNs_itemKey {ns ins : Bytes} (h : ¬ lp ns <+: ins) : ¬ InNs ns (itemKey ins) := by
  rintro ⟨ps, l, hk⟩
  apply h
  rw [mapKey_eq] at hk
  exact ⟨nsKey ps l, hk.symm⟩

/-! ## The cw4 namespaces

Finite facts about the twelve namespace strings; `decide +kernel` leaves the evaluation of the UTF-8 bytes to the
kernel alone. -/

theorem ns_len_ok : ∀ ns ∈ NS.maps, ns.length ≤ 0xFFFF := by decide +kernel

theorem ns_maps_nodup : NS.maps.Nodup := by decide +kernel

theorem ns_items_nodup : NS.items.Nodup := by decide +kernel

theorem ns_items_vs_maps : ∀ ins ∈ NS.items, ∀ ns ∈ NS.maps, ¬ lp ns <+: ins := by decide +kernel

/-- `cw4::member_key(addr)` is the key cw-storage-plus uses for `MEMBERS` (the `as u8` of the namespace length
loses nothing: the namespace has 7 bytes). -/
theorem memberKey_eq_primary (addr : String) : memberKey addr = membersPrimaryKey addr := by
  have h : NS.members.length = 7 := by decide +kernel
  simp [memberKey, membersPrimaryKey, mapKey, nsKey, lp, len2, h]

theorem membersPrimaryKey_inj {a b : String} (h : membersPrimaryKey a = membersPrimaryKey b) : a = b := by
  have := (mapKey_ns_inj (by decide +kernel) (by decide +kernel) h).2
  simp [nsKey] at this
  exact strBytes_inj this

theorem stakeKey_inj {a b : String} (h : stakeKey a = stakeKey b) : a = b := by
  have := (mapKey_ns_inj (by decide +kernel) (by decide +kernel) h).2
  simp [nsKey] at this
  exact strBytes_inj this

theorem claimsKey_inj {a b : String} (h : claimsKey a = claimsKey b) : a = b := by
  have := (mapKey_ns_inj (by decide +kernel) (by decide +kernel) h).2
  simp [nsKey] at this
  exact strBytes_inj this

end CwPlus.RawStore

namespace CwPlus.Cw4Raw
open CwPlus CwPlus.Snapshot CwPlus.RawStore

theorem encodeMembers_inNs (m : SnapMap Addr Nat) : ∀ e ∈ encodeMembers m, InNs NS.members e.1 := by
  intro e he
  simp [encodeMembers] at he
  obtain ⟨a, w, _, rfl⟩ := he
  exact inNs_mapKey _ _ _

theorem encodeMembersLog_inNs (m : SnapMap Addr Nat) : ∀ e ∈ encodeMembersLog m, InNs NS.membersChangelog e.1 := by
  intro e he
  simp [encodeMembersLog] at he
  obtain ⟨a, l, _, h, o, _, rfl⟩ := he
  exact inNs_mapKey _ _ _

theorem encodeTotalLog_inNs (l : Log Nat) : ∀ e ∈ encodeTotalLog l, InNs NS.totalChangelog e.1 := by
  intro e he
  simp [encodeTotalLog] at he
  obtain ⟨h, o, _, rfl⟩ := he
  exact inNs_mapKey _ _ _

theorem encodeHooks_keys (hooks : List Addr) : ∀ e ∈ encodeHooks hooks, e.1 = itemKey NS.hooks := by
  intro e he
  unfold encodeHooks at he
  split at he
  · simp at he
  · simp at he; subst he; rfl

theorem get?_encodeMembers (m : SnapMap Addr Nat) (a : Addr) :
    get? (encodeMembers m) (membersPrimaryKey a) = (m.get? a).map fun w => Val.bytes (natDigits w) :=
  get?_map_inj membersPrimaryKey (fun w => Val.bytes (natDigits w)) (fun _ _ h => membersPrimaryKey_inj h) m.cur a

/-- The number of entries of a store under one key. -/
def count (st : Store) (k : Bytes) : Nat := (st.filter fun e => e.1 = k).length

theorem count_append (a b : Store) (k : Bytes) : count (a ++ b) k = count a k + count b k := by
  simp [count, List.filter_append]

theorem count_eq_zero {st : Store} {k : Bytes} (h : ∀ e ∈ st, e.1 ≠ k) : count st k = 0 := by
  simp only [count, List.length_eq_zero_iff, List.filter_eq_nil_iff]
  intro e he
  simpa using h e he

theorem count_map_inj {κ ν : Type} [DecidableEq κ] (f : κ → Bytes) (g : ν → Val) (hf : ∀ a b, f a = f b → a = b)
    {m : AMap κ ν} (hn : AMap.NodupKeys m) (a : κ) : count (m.map fun p => (f p.1, g p.2)) (f a) ≤ 1 := by
  induction m with
  | nil => exact Nat.zero_le _
  | cons p rest ih =>
    obtain ⟨hnot, hn'⟩ := List.nodup_cons.mp hn
    rw [List.map_cons, ← List.singleton_append, count_append]
    by_cases h : p.1 = a
    · -- the other entries have other keys
      rw [count_eq_zero (st := rest.map _) fun e he heq => by
        obtain ⟨q, hq, rfl⟩ := List.mem_map.mp he
        have hq1 : q.1 = p.1 := (hf _ _ heq).trans h.symm
        exact hnot (List.mem_map.mpr ⟨q, hq, hq1⟩)]
      exact List.length_filter_le _ [_]
    · rw [count_eq_zero (st := [_]) fun e he heq => by
        rw [List.mem_singleton.mp he] at heq; exact h (hf _ _ heq)]
      simpa using ih hn'

theorem count_encodeMembers (m : SnapMap Addr Nat) (hn : AMap.NodupKeys m.cur) (addr : String) :
    count (encodeMembers m) (membersPrimaryKey addr) ≤ 1 :=
  count_map_inj membersPrimaryKey (fun w => Val.bytes (natDigits w)) (fun _ _ => membersPrimaryKey_inj) hn addr

/-! ## Sections that hold no entry under a key -/

/-- No entry of the section lies under the key. -/
def Avoids (st : Store) (k : Bytes) : Prop := ∀ e ∈ st, e.1 ≠ k

theorem avoids_append {a b : Store} {k : Bytes} : Avoids (a ++ b) k ↔ Avoids a k ∧ Avoids b k := by
  simp only [Avoids, List.mem_append]
  exact ⟨fun h => ⟨fun e he => h e (Or.inl he), fun e he => h e (Or.inr he)⟩, fun h e he => he.elim (h.1 e) (h.2 e)⟩

theorem get?_of_avoids {pre mid post : Store} {k : Bytes} (h1 : Avoids pre k) (h2 : Avoids post k) :
    get? (pre ++ mid ++ post) k = get? mid k := by
  rw [get?_append, get?_append, get?_eq_none h1, get?_eq_none h2, Option.none_or, Option.or_none]

theorem count_of_avoids {pre mid post : Store} {k : Bytes} (h1 : Avoids pre k) (h2 : Avoids post k) :
    count (pre ++ mid ++ post) k = count mid k := by
  rw [count_append, count_append, count_eq_zero h1, count_eq_zero h2, Nat.zero_add, Nat.add_zero]

theorem avoids_memberKey_of_inNs {st : Store} {ns : Bytes} (hs : ∀ e ∈ st, InNs ns e.1) (hns : ns ∈ NS.maps)
    (hne : ns ≠ NS.members) (addr : String) : Avoids st (memberKey addr) := fun e he heq => by
  rw [memberKey_eq_primary] at heq
  exact not_inNs_mapKey (ns_len_ok ns hns) (by decide +kernel) hne _ _ (heq ▸ hs e he)

theorem avoids_memberKey_of_items {st : Store} (hs : ∀ e ∈ st, e.1 ∈ NS.items) (addr : String) :
    Avoids st (memberKey addr) := fun e he heq => by
  rw [memberKey_eq_primary] at heq
  exact not_inNs_itemKey (ns_items_vs_maps e.1 (hs e he) NS.members (by decide +kernel)) ⟨_, _, heq⟩

theorem avoids_totalKey_of_inNs {st : Store} {ns : Bytes} (hs : ∀ e ∈ st, InNs ns e.1) (hns : ns ∈ NS.maps) :
    Avoids st totalKey := fun e he heq =>
  not_inNs_itemKey (ns := ns) (ins := NS.total) (ns_items_vs_maps NS.total (by decide +kernel) ns hns)
    (show InNs ns totalKey from heq ▸ hs e he)

/-! ### Each section of the images, against the two published keys -/

theorem hooks_avoid_memberKey (hooks : List Addr) (addr : String) : Avoids (encodeHooks hooks) (memberKey addr) :=
  avoids_memberKey_of_items (fun e he => encodeHooks_keys _ e he ▸ (by decide +kernel : itemKey NS.hooks ∈ NS.items)) addr

theorem hooks_avoid_totalKey (hooks : List Addr) : Avoids (encodeHooks hooks) totalKey := fun e he heq => by
  rw [encodeHooks_keys _ e he] at heq
  exact absurd heq (by decide +kernel)

theorem totalLog_avoid_memberKey (l : Log Nat) (addr : String) : Avoids (encodeTotalLog l) (memberKey addr) :=
  avoids_memberKey_of_inNs (encodeTotalLog_inNs l) (by decide +kernel) (by decide +kernel) addr

theorem membersLog_avoid_memberKey (m : SnapMap Addr Nat) (addr : String) :
    Avoids (encodeMembersLog m) (memberKey addr) :=
  avoids_memberKey_of_inNs (encodeMembersLog_inNs m) (by decide +kernel) (by decide +kernel) addr

theorem totalLog_avoid_totalKey (l : Log Nat) : Avoids (encodeTotalLog l) totalKey :=
  avoids_totalKey_of_inNs (encodeTotalLog_inNs l) (by decide +kernel)

theorem members_avoid_totalKey (m : SnapMap Addr Nat) : Avoids (encodeMembers m) totalKey :=
  avoids_totalKey_of_inNs (encodeMembers_inNs m) (by decide +kernel)

theorem membersLog_avoid_totalKey (m : SnapMap Addr Nat) : Avoids (encodeMembersLog m) totalKey :=
  avoids_totalKey_of_inNs (encodeMembersLog_inNs m) (by decide +kernel)

end CwPlus.Cw4Raw

namespace CwPlus.Cw4Group
open CwPlus CwPlus.RawStore CwPlus.Cw4Raw

theorem total_avoid_memberKey (s : State) (addr : String) : Avoids (encodeTotal s) (memberKey addr) :=
  avoids_memberKey_of_items (fun e he => by
    unfold encodeTotal at he
    split at he
    · rw [List.mem_singleton.mp he]; exact (by decide +kernel : totalKey ∈ NS.items)
    · cases he) addr

end CwPlus.Cw4Group

namespace CwPlus.Cw4Stake
open CwPlus CwPlus.RawStore CwPlus.Cw4Raw

theorem encodeStake_inNs (m : AMap Addr Nat) : ∀ e ∈ encodeStake m, InNs NS.stake e.1 := by
  intro e he
  simp [encodeStake] at he
  obtain ⟨a, w, _, rfl⟩ := he
  exact inNs_mapKey _ _ _

theorem encodeClaims_inNs (m : AMap Addr (List Claim)) : ∀ e ∈ encodeClaims m, InNs NS.claims e.1 := by
  intro e he
  simp [encodeClaims] at he
  obtain ⟨a, w, _, rfl⟩ := he
  exact inNs_mapKey _ _ _

theorem stake_avoid_memberKey (m : AMap Addr Nat) (addr : String) : Avoids (encodeStake m) (memberKey addr) :=
  avoids_memberKey_of_inNs (encodeStake_inNs m) (by decide +kernel) (by decide +kernel) addr

theorem claims_avoid_memberKey (m : AMap Addr (List Claim)) (addr : String) :
    Avoids (encodeClaims m) (memberKey addr) :=
  avoids_memberKey_of_inNs (encodeClaims_inNs m) (by decide +kernel) (by decide +kernel) addr

theorem stake_avoid_totalKey (m : AMap Addr Nat) : Avoids (encodeStake m) totalKey :=
  avoids_totalKey_of_inNs (encodeStake_inNs m) (by decide +kernel)

theorem claims_avoid_totalKey (m : AMap Addr (List Claim)) : Avoids (encodeClaims m) totalKey :=
  avoids_totalKey_of_inNs (encodeClaims_inNs m) (by decide +kernel)

end CwPlus.Cw4Stake
