import CwPlus.Base.Json
/-!
`strBytes` of a string literal, in the form the kernel can evaluate in linear time.  A file of its own: the files of
directed inputs (`Props/Ics20WireExamples.lean`, `Props/MsgWireDecodeExamples.lean`) only evaluate, and import this
without the rest of `Lemmas/Json.lean`.
-/
namespace CwPlus.Json

/-- The kernel reads a literal as `String.ofList cs`.  Unfolding `strBytes` on it runs `List.toByteArray`,
which pushes byte by byte onto an array that the kernel represents as a list: quadratic in the length.
Rewriting with this equation before evaluating (`rw [strBytes_ofList]; decide +kernel`) avoids that. -/
theorem strBytes_ofList (cs : List Char) : strBytes (String.ofList cs) = cs.flatMap String.utf8EncodeChar := by
  simp [strBytes, String.toUTF8, String.ofList, List.utf8Encode]

end CwPlus.Json
