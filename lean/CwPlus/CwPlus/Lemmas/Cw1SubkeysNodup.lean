import CwPlus.Lemmas.Cw1
/-!
# cw1-subkeys: `ALLOWANCES` and `PERMISSIONS` never hold a key twice

`NodupInv` is established by `instantiate` (both maps empty) and preserved by every handler
(`execute_nodup`), hence by every history (`run_nodup`).  Hypothesis of the `AllAllowances` /
`AllPermissions` completeness theorems of C20.  Core only.
-/
namespace CwPlus.Cw1Subkeys
open CwPlus
open CwPlus.Cw1Whitelist (AddrArg CosmosMsg)

structure NodupInv (s : State) : Prop where
  allowances : AMap.NodupKeys s.allowances
  permissions : AMap.NodupKeys s.permissions

theorem instantiate_nodup {m : InstMsg} {s : State} (h : instantiate m = .ok s) : NodupInv s := by
  simp [instantiate] at h
  obtain ⟨c, _, rfl⟩ := h
  constructor <;> simp [AMap.NodupKeys, AMap.keys]

theorem execute_nodup {s s' : State} {blk : Block} {snd : Addr} {msg : Msg} {out : List CosmosMsg}
    (hi : NodupInv s) (h : execute s blk snd msg = .ok (s', out)) : NodupInv s' := by
  cases msg with
  | execute msgs =>
    rcases (execute_execute_ok_iff.mp h).1 with ⟨_, rfl⟩ | ⟨_, h1⟩
    · exact hi
    · refine checkMsgs_invariant h1 hi fun s1 s2 m h1 hm => ?_
      rcases checkMsg_state hm with rfl | ⟨a, rfl⟩
      · exact h1
      · exact ⟨AMap.nodup_set h1.allowances, h1.permissions⟩
  | freeze => obtain ⟨c, _, rfl⟩ := execute_freeze_ok_iff.mp h; exact ⟨hi.allowances, hi.permissions⟩
  | updateAdmins l => obtain ⟨c, _, rfl⟩ := execute_updateAdmins_ok_iff.mp h; exact ⟨hi.allowances, hi.permissions⟩
  | increaseAllowance sp c e =>
    obtain ⟨_, _, _, a, _, rfl, _⟩ := execute_increase_ok_iff.mp h
    exact ⟨AMap.nodup_set hi.allowances, hi.permissions⟩
  | decreaseAllowance sp c e =>
    obtain ⟨_, _, _, a, _, rfl, _⟩ := execute_decrease_ok_iff.mp h
    refine ⟨?_, hi.permissions⟩
    show AMap.NodupKeys (if _ then _ else _)
    split
    · exact AMap.nodup_erase hi.allowances
    · exact AMap.nodup_set hi.allowances
  | setPermissions sp p =>
    obtain ⟨_, _, _, rfl, _⟩ := execute_setPermissions_ok_iff.mp h
    exact ⟨hi.allowances, AMap.nodup_set hi.permissions⟩

theorem step_nodup {s : State} (blk : Block) (snd : Addr) (msg : Msg) (hi : NodupInv s) :
    NodupInv (step s blk snd msg) := by
  unfold step
  split
  · rename_i s' out h; exact execute_nodup hi h
  · exact hi

theorem run_nodup (ops : List (Block × Addr × Msg)) {s : State} (hi : NodupInv s) :
    NodupInv (ops.foldl (fun s op => step s op.1 op.2.1 op.2.2) s) :=
  foldl_invariant NodupInv (fun _ hs op _ => step_nodup op.1 op.2.1 op.2.2 hs) hi

end CwPlus.Cw1Subkeys
