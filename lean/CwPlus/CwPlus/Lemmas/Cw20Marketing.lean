import CwPlus.Model.Cw20
/-!
# cw20: the marketing / logo handlers

Exact characterisations of a successful `UpdateMarketing` / `UploadLogo`, and their frame (the two cases of
`Cw20.execute_frame`): such a call returns the old state with (at most) the `marketing` and `logo` fields
replaced, and emits no message.
-/
namespace CwPlus.Cw20
open CwPlus

theorem updAddr_ok_iff {old : Option Addr} {m : Option AddrArg} :
    (∃ addr, updAddr old m = .ok addr) ↔ ∀ a, m = some a → isBlank a.text = false → a.valid = true := by
  cases m with
  | none => simp [updAddr]
  | some a => cases hb : isBlank a.text <;> simp [updAddr, hb]

theorem execUpdateMarketing_ok_iff {s : State} {snd : Addr} {p d : Option String} {m : Option AddrArg}
    {r : State × List Out} :
    execUpdateMarketing s snd p d m = .ok r ↔
      ∃ mi addr, s.marketing = some mi ∧ mi.marketing = some snd ∧ updAddr mi.marketing m = .ok addr ∧
        r = ({ s with marketing :=
                if (updText mi.project p).isNone && (updText mi.description d).isNone && addr.isNone && mi.logo.isNone
                then none else some ⟨updText mi.project p, updText mi.description d, addr, mi.logo⟩ }, []) := by
  unfold execUpdateMarketing
  cases s.marketing with
  | none => simp
  | some mi =>
    obtain ⟨pr, de, mk, lg⟩ := mi
    cases mk with
    | none => simp
    | some owner =>
      simp only [Res.bind_ok, check_ok, decide_eq_true_eq, exists_const, Option.some.injEq]
      constructor
      · rintro ⟨rfl, addr, ha, h⟩
        refine ⟨_, addr, rfl, rfl, ha, ?_⟩
        by_cases hc : ((updText pr p).isNone && (updText de d).isNone && addr.isNone && lg.isNone) = true
        · rw [if_pos hc] at h ⊢; exact (Except.ok.inj h).symm
        · rw [if_neg hc] at h ⊢; exact (Except.ok.inj h).symm
      · rintro ⟨_, addr, rfl, hs, ha, rfl⟩
        refine ⟨Option.some.inj hs, addr, ha, ?_⟩
        split <;> rfl

theorem execUploadLogo_ok_iff {s : State} {snd : Addr} {l : Logo} {r : State × List Out} :
    execUploadLogo s snd l = .ok r ↔
      ∃ mi, s.marketing = some mi ∧ verifyLogo l = .ok () ∧ mi.marketing = some snd ∧
        r = ({ s with logo := some l, marketing := some { mi with logo := some (logoInfoOf l) } }, []) := by
  unfold execUploadLogo
  cases s.marketing with
  | none => simp
  | some mi =>
    obtain ⟨pr, de, mk, lg⟩ := mi
    cases mk with
    | none => simp
    | some owner =>
      simp
      exact ⟨fun ⟨⟨_, h1⟩, h2, h3⟩ => ⟨h1, h2, h3.symm⟩, fun ⟨h1, h2, h3⟩ => ⟨⟨_, h1⟩, h2, h3.symm⟩⟩

theorem execUpdateMarketing_frame {s s' : State} {snd : Addr} {p d : Option String} {m : Option AddrArg}
    {out : List Out} (h : execUpdateMarketing s snd p d m = .ok (s', out)) :
    ∃ mk, s' = { s with marketing := mk } ∧ out = [] := by
  obtain ⟨mi, addr, _, _, _, hr⟩ := execUpdateMarketing_ok_iff.mp h
  cases hr
  exact ⟨_, rfl, rfl⟩

theorem execUploadLogo_frame {s s' : State} {snd : Addr} {l : Logo} {out : List Out}
    (h : execUploadLogo s snd l = .ok (s', out)) :
    ∃ mk, s' = { s with marketing := mk, logo := some l } ∧ out = [] := by
  obtain ⟨mi, _, _, _, hr⟩ := execUploadLogo_ok_iff.mp h
  cases hr
  exact ⟨_, rfl, rfl⟩

/-- Both marketing handlers as one statement about `execute`. -/
theorem marketing_frame {s s' : State} {blk : Block} {snd : Addr} {msg : Msg} {out : List Out}
    (hm : (match msg with | .updateMarketing .. => true | .uploadLogo _ => true | _ => false) = true)
    (h : execute s blk snd msg = .ok (s', out)) :
    ∃ mk lg, s' = { s with marketing := mk, logo := lg } ∧ out = [] := by
  cases msg <;> simp at hm
  · obtain ⟨mk, rfl, rfl⟩ := execUpdateMarketing_frame h
    exact ⟨mk, s.logo, rfl, rfl⟩
  · obtain ⟨mk, rfl, rfl⟩ := execUploadLogo_frame h
    exact ⟨mk, _, rfl, rfl⟩

end CwPlus.Cw20
