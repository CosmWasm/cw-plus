import CwPlus.Lemmas.Cw4Stake
import CwPlus.Lemmas.Snapshot
/-!
# C10 — cw4-stake: stakes are fully backed, weight follows stake, exit only after the delay

All theorems are about the model `CwPlus.Cw4Stake` (contract + funds world).  `tx` is one atomic
transaction, `run` a finite history of `(block, transaction)` pairs with failed transactions rolled
back; nothing is assumed about the blocks (they need not even be monotone for these clauses).
The specification of every transaction kind, and the predicates in which it is stated and which the theorems
below use (`Deposited`, `Unbonded`, `Claimed`, `um`, `TotalRoom`, `outs`), are in `Lemmas/Cw4Stake.lean`.
-/
namespace CwPlus.Props.C10
open CwPlus CwPlus.Cw4Stake CwPlus.Snapshot

/-- Σ of all recorded stakes. -/
def stakeTotal (s : State) : Nat := AMap.sum s.stake
/-- Σ of all unreleased claims. -/
def claimsTotal (s : State) : Nat := claimTotal s.claims

/-- The books are backed: the contract's holdings in the stake token are exactly the recorded stakes
plus the unreleased claims plus what was sent to it without bonding. -/
def Backed (w : World) : Prop := w.held = stakeTotal w.st + claimsTotal w.st + w.extra

def Op.isDonate : Op → Bool
  | .donate _ _ => true
  | _ => false

/-! ## backing -/

/-- Stake tokens the transaction `op` bonds for `a`. -/
def bonded (op : Op) (a : Addr) : Nat :=
  match op with
  | .bond snd coins => if snd = a then (coins.map (·.2)).sum else 0
  | .send snd _ amt _ => if snd = a then amt else 0
  | _ => 0

/-- Stake tokens the transaction `op` unbonds for `a`. -/
def unbonded (op : Op) (a : Addr) : Nat :=
  match op with
  | .unbond snd amt => if snd = a then amt else 0
  | _ => 0

theorem tx_deposited {w w' : World} {blk : Block} {op : Op} {out : List Out} (h : tx w blk op = .ok (w', out))
    (hd : Op.isDeposit op = true) :
    ∃ amt, Deposited w w' blk.height (Op.sender op) amt out ∧ ∀ a, bonded op a = if Op.sender op = a then amt else 0 := by
  cases op with
  | bond snd coins =>
    obtain ⟨d, amt, _, rfl, _, hd⟩ := tx_bond_ok h
    exact ⟨amt, hd, fun a => rfl⟩
  | send snd token amt ok => exact ⟨amt, (tx_send_ok h).2.2, fun a => rfl⟩
  | receive _ _ _ _ | updateAdmin _ _ | addHook _ _ | removeHook _ _ | unbond _ _ | claim _ | donate _ _ => cases hd

theorem books_um (s : State) (h : Nat) (a : Addr) (new : Option Nat) :
    stakeTotal (um s h a new).1 = stakeTotal s ∧ claimsTotal (um s h a new).1 = claimsTotal s := by
  obtain ⟨_, _, _, hs, hc⟩ := um_frame s h a new
  exact ⟨congrArg AMap.sum hs, congrArg claimTotal hc⟩

theorem deposited_books {w w' : World} {h : Nat} {snd : Addr} {amt : Nat} {out : List Out}
    (hd : Deposited w w' h snd amt out) :
    stakeTotal w'.st = stakeTotal w.st + amt ∧ claimsTotal w'.st = claimsTotal w.st ∧
    w'.held = w.held + amt ∧ w'.extra = w.extra := by
  obtain ⟨new, _, _, _, hu, _, hh, _, he, _⟩ := hd
  have hs : stakeTotal (bondState w.st snd amt) + stakeOf w.st snd = stakeTotal w.st + (stakeOf w.st snd + amt) :=
    AMap.sum_set w.st.stake snd _
  rw [(um_pair hu).1, (books_um _ _ _ _).1, (books_um _ _ _ _).2]
  exact ⟨by omega, rfl, hh, he⟩

theorem unbonded_books {w w' : World} {blk : Block} {snd : Addr} {amt : Nat} {out : List Out}
    (hd : Unbonded w w' blk snd amt out) :
    stakeTotal w'.st + amt = stakeTotal w.st ∧ claimsTotal w'.st = claimsTotal w.st + amt ∧
    w'.held = w.held ∧ w'.extra = w.extra := by
  obtain ⟨new, hle, _, hu, _, hh, _, he, _⟩ := hd
  have hs : stakeTotal (unbondState w.st blk snd amt) + stakeOf w.st snd = stakeTotal w.st + (stakeOf w.st snd - amt) :=
    AMap.sum_set w.st.stake snd _
  have hc : claimsTotal (unbondState w.st blk snd amt) + amountSum (claimsOf w.st snd)
      = claimsTotal w.st + amountSum (claimsOf w.st snd ++ [⟨amt, w.st.cfg.period.after blk⟩]) :=
    claimTotal_set w.st.claims snd _
  rw [amountSum_append] at hc
  simp only [amountSum, List.map_cons, List.map_nil, List.sum_cons, List.sum_nil] at hc
  rw [(um_pair hu).1, (books_um _ _ _ _).1, (books_um _ _ _ _).2]
  exact ⟨by omega, by omega, hh, he⟩

theorem claimed_books {w w' : World} {blk : Block} {snd : Addr} {out : List Out} (hd : Claimed w w' blk snd out) :
    stakeTotal w'.st = stakeTotal w.st ∧
    claimsTotal w'.st + amountSum (matured blk (claimsOf w.st snd)) = claimsTotal w.st ∧
    w'.held + amountSum (matured blk (claimsOf w.st snd)) = w.held ∧ w'.extra = w.extra := by
  obtain ⟨_, hle, _, hst, hh, _, he, _⟩ := hd
  have hc : claimsTotal { w.st with claims := w.st.claims.set snd (waiting blk (claimsOf w.st snd)) }
      + amountSum (claimsOf w.st snd) = claimsTotal w.st + amountSum (waiting blk (claimsOf w.st snd)) :=
    claimTotal_set w.st.claims snd _
  have := amountSum_matured_waiting blk (claimsOf w.st snd)
  rw [hst]
  exact ⟨rfl, by omega, by omega, he⟩

theorem backing_tx {w w' : World} {blk : Block} {op : Op} {out : List Out}
    (hi : Backed w) (h : tx w blk op = .ok (w', out)) : Backed w' := by
  unfold Backed at *
  -- in each case: substitute what the transaction did to the four figures, then compare
  cases op with
  | bond _ _ | send _ _ _ _ =>
    obtain ⟨_, hd, _⟩ := tx_deposited h rfl
    obtain ⟨a, b, c, e⟩ := deposited_books hd
    rw [a, b, c, e, hi]; omega
  | unbond snd amt =>
    obtain ⟨a, b, c, e⟩ := unbonded_books (tx_unbond_ok h)
    rw [b, c, e, hi, ← a]; omega
  | claim snd =>
    obtain ⟨a, b, c, e⟩ := claimed_books (tx_claim_ok h)
    rw [← b, ← c] at hi
    rw [a, e]; omega
  | donate snd amt =>
    obtain ⟨_, _, rfl⟩ := tx_donate_ok h
    show w.held + amt = stakeTotal w.st + claimsTotal w.st + (w.extra + amt)
    rw [hi]; omega
  | receive _ _ _ _ | updateAdmin _ _ | addHook _ _ | removeHook _ _ =>
    obtain ⟨_, _, _, _, rfl⟩ := tx_quiet_ok h rfl; exact hi

/-- A contract instantiated while already holding `e` stake tokens (sent to its address beforehand or
attached to the instantiation): those tokens are plain transfers. -/
def initFunded (st : State) (e : Nat) (bal : AMap Addr Nat) (acc : List Addr) : World :=
  { st := st, held := e, bal := bal, extra := e, accepting := acc }

/-- `World.init st bal acc` is `initFunded st 0 bal acc`. -/
theorem backing_init {m : InstMsg} {st : State} (h : instantiate m = .ok st) (e : Nat) (bal : AMap Addr Nat)
    (acc : List Addr) : Backed (initFunded st e bal acc) := by
  obtain ⟨adm, rfl⟩ := instantiate_ok h
  simp [Backed, initFunded, stakeTotal, claimsTotal]

/-- **C10 `backing`**: after any accepted instantiation and any finite history of transactions (bond,
cw20 send, forged receive, unbond, claim, admin/hook operations, plain transfers to the contract; any
senders, amounts, blocks; failed ones rolled back) the contract holds exactly
Σ stakes + Σ unreleased claims + the plain transfers it received. -/
theorem backing {m : InstMsg} {st : State} (h : instantiate m = .ok st) (bal : AMap Addr Nat) (acc : List Addr)
    (ops : List (Block × Op)) : Backed (run (World.init st bal acc) ops) :=
  run_inv Backed (fun _ _ _ _ _ hi ht => backing_tx hi ht) (backing_init h 0 bal acc) ops

/-- **C10 `backing`, lower bound**: holdings ≥ Σ stakes + Σ unreleased claims, always. -/
theorem backing_ge {m : InstMsg} {st : State} (h : instantiate m = .ok st) (bal : AMap Addr Nat) (acc : List Addr)
    (ops : List (Block × Op)) :
    stakeTotal (run (World.init st bal acc) ops).st + claimsTotal (run (World.init st bal acc) ops).st
      ≤ (run (World.init st bal acc) ops).held := by
  have := backing h bal acc ops
  unfold Backed at this
  omega

theorem extra_tx {w w' : World} {blk : Block} {op : Op} {out : List Out}
    (h : tx w blk op = .ok (w', out)) (hn : Op.isDonate op = false) : w'.extra = w.extra := by
  cases op with
  | bond _ _ | send _ _ _ _ => obtain ⟨_, hd, _⟩ := tx_deposited h rfl; exact (deposited_books hd).2.2.2
  | unbond snd amt => exact (unbonded_books (tx_unbond_ok h)).2.2.2
  | claim snd => exact (claimed_books (tx_claim_ok h)).2.2.2
  | donate snd amt => cases hn
  | receive _ _ _ _ | updateAdmin _ _ | addHook _ _ | removeHook _ _ => obtain ⟨_, _, _, _, rfl⟩ := tx_quiet_ok h rfl; rfl

/-- **C10 `backing`, exact form**: when the contract is funded only by bonding (no plain transfer in
the history) its holdings are *exactly* Σ stakes + Σ unreleased claims. -/
theorem backing_exact {m : InstMsg} {st : State} (h : instantiate m = .ok st) (bal : AMap Addr Nat) (acc : List Addr)
    (ops : List (Block × Op)) (hno : ∀ o ∈ ops, Op.isDonate o.2 = false) :
    (run (World.init st bal acc) ops).held =
      stakeTotal (run (World.init st bal acc) ops).st + claimsTotal (run (World.init st bal acc) ops).st := by
  have hb := backing h bal acc ops
  have he : (run (World.init st bal acc) ops).extra = 0 := by
    refine foldl_invariant (fun w : World => w.extra = 0) (fun w h0 o ho => ?_) rfl
    unfold step
    split
    · rename_i w' out ht
      rw [extra_tx ht (hno o ho)]; exact h0
    · exact h0
  unfold Backed at hb
  omega

/-- The payout of a claim can never fail for lack of funds: whatever matured is covered by the holdings. -/
theorem claim_covered {w : World} (hi : Backed w) (blk : Block) (snd : Addr) :
    amountSum (matured blk (claimsOf w.st snd)) ≤ w.held := by
  unfold Backed at hi
  have h1 := amountSum_matured_waiting blk (claimsOf w.st snd)
  -- emptying the claims of `snd` lowers the total by exactly their amount
  have h2 : claimTotal (w.st.claims.set snd []) + amountSum (claimsOf w.st snd) = claimsTotal w.st + 0 :=
    claimTotal_set w.st.claims snd []
  omega

/-- **C10, the paying direction of `claim_pays_matured_once`**: in a backed world whose holdings fit
`u128`, a `Claim` by an address with a positive amount of matured claims always succeeds — the payout
can fail neither for lack of funds nor by overflow — so the matured claims *are* paid. -/
theorem claim_succeeds {w : World} (hi : Backed w) (hfit : w.held ≤ U128_MAX) (blk : Block) (snd : Addr)
    (hdue : 0 < amountSum (matured blk (claimsOf w.st snd))) :
    ∃ w' out, tx w blk (.claim snd) = .ok (w', out) := by
  have hcov := claim_covered hi blk snd
  have h1 : amountSum (matured blk (claimsOf w.st snd)) ≤ U128_MAX := by omega
  have h2 : amountSum (matured blk (claimsOf w.st snd)) ≠ 0 := by omega
  obtain ⟨w', hw'⟩ := deliver_payout_isOk
    { w with st := { w.st with claims := w.st.claims.set snd (waiting blk (claimsOf w.st snd)) } } snd _ h2 hcov
  refine ⟨w', [payout w.st.cfg.denom snd (amountSum (matured blk (claimsOf w.st snd)))], ?_⟩
  simp only [tx, execute, execClaim, finish]
  simp only [check, h1, h2, decide_true, if_true, ne_eq, not_false_eq_true, bind, Except.bind, pure, Except.pure]
  simp only at hw'
  rw [hw']

/-! ## stake_frame -/

/-- **C10 `stake_frame`**: a successful transaction changes the stake of `a` by exactly what `a`
itself bonded (`Bond` with funds / cw20 `Send`) or unbonded in it — nothing else ever moves a stake:
not another user's transaction, not a claim, not an admin operation, not a plain transfer. -/
theorem stake_frame {w w' : World} {blk : Block} {op : Op} {out : List Out}
    (h : tx w blk op = .ok (w', out)) (a : Addr) :
    stakeOf w'.st a + unbonded op a = stakeOf w.st a + bonded op a ∧ unbonded op a ≤ stakeOf w.st a := by
  cases op with
  | bond _ _ | send _ _ _ _ =>
    obtain ⟨amt, ⟨new, _, _, _, hu, _⟩, hb⟩ := tx_deposited h rfl
    rw [(um_pair hu).1, stakeOf_um, hb]
    exact ⟨AMap.getD_set_add w.st.stake _ a amt, Nat.zero_le _⟩
  | unbond snd amt =>
    obtain ⟨new, hle, _, hu, _⟩ := tx_unbond_ok h
    rw [(um_pair hu).1, stakeOf_um]
    exact AMap.getD_set_sub w.st.stake snd a hle
  | claim snd =>
    obtain ⟨_, _, _, hst, _⟩ := tx_claim_ok h
    simp [bonded, unbonded, stakeOf, hst]
  | donate snd amt => obtain ⟨_, _, rfl⟩ := tx_donate_ok h; simp [bonded, unbonded, stakeOf]
  | receive _ _ _ _ | updateAdmin _ _ | addHook _ _ | removeHook _ _ =>
    obtain ⟨_, _, _, _, rfl⟩ := tx_quiet_ok h rfl; simp [bonded, unbonded, stakeOf]

theorem flows_of_not_sender {op : Op} {a : Addr} (h : Op.sender op ≠ a) : bonded op a = 0 ∧ unbonded op a = 0 := by
  cases op <;> simp_all [bonded, unbonded, Op.sender]

/-- **C10 `stake_frame`, histories**: over any history in which `a` signs no transaction, the stake of
`a` does not change. -/
theorem stake_frame_run (a : Addr) (w : World) (ops : List (Block × Op)) (hs : ∀ o ∈ ops, Op.sender o.2 ≠ a) :
    stakeOf (run w ops).st a = stakeOf w.st a := by
  refine foldl_invariant (fun w' : World => stakeOf w'.st a = stakeOf w.st a) (fun w1 h1 o ho => ?_) rfl
  rcases step_cases w1 o.1 o.2 with ⟨w', out, ht, hst, _, _⟩ | ⟨hst, _, _⟩ <;> rw [hst]
  · have := (stake_frame ht a).1
    have := flows_of_not_sender (hs o ho)
    omega
  · exact h1

/-! ## only_configured_token -/

/-- **C10 `only_configured_token`**: a bond succeeds only with exactly one coin of the configured
native denom (native configuration) or through a cw20 `Send` of the configured cw20 token carrying the
`Bond {}` payload (cw20 configuration); a `Receive` forged by an account never succeeds. -/
theorem only_configured_token {w w' : World} {blk : Block} {op : Op} {out : List Out}
    (h : tx w blk op = .ok (w', out)) :
    (∀ snd coins, op = .bond snd coins → ∃ d amt, w.st.cfg.denom = .native d ∧ coins = [(d, amt)] ∧ amt ≠ 0) ∧
    (∀ snd token amt ok, op = .send snd token amt ok → w.st.cfg.denom = .cw20 token ∧ ok = true) ∧
    (∀ snd sender amt ok, op ≠ .receive snd sender amt ok) := by
  refine ⟨?_, ?_, ?_⟩
  · rintro snd coins rfl
    obtain ⟨d, amt, hd, hc, hz, _⟩ := tx_bond_ok h
    exact ⟨d, amt, hd, hc, hz⟩
  · rintro snd token amt ok rfl
    obtain ⟨hd, hok, _⟩ := tx_send_ok h
    exact ⟨hd, hok⟩
  · rintro snd sender amt ok rfl
    exact tx_receive_not_ok h

theorem cfg_tx {w w' : World} {blk : Block} {op : Op} {out : List Out}
    (h : tx w blk op = .ok (w', out)) : w'.st.cfg = w.st.cfg := by
  cases hk : Op.isStaking op with
  | true =>
    obtain ⟨_, _, _, _, _, _, hu, _⟩ := (tx_staking h).1 hk
    rw [(um_pair hu).1, (um_frame _ _ _ _).1]
  | false => exact ((tx_staking h).2 hk).1

theorem cfg_run (w : World) (ops : List (Block × Op)) : (run w ops).st.cfg = w.st.cfg :=
  run_inv (fun x => x.st.cfg = w.st.cfg) (fun _ _ _ _ _ hi ht => (cfg_tx ht).trans hi) rfl ops

/-! ## claim_pays_matured_once -/

theorem claims_frame {w w' : World} {blk : Block} {op : Op} {out : List Out}
    (h : tx w blk op = .ok (w', out)) (a : Addr) :
    claimsOf w'.st a =
      (match op with
       | .unbond snd amt => if snd = a then claimsOf w.st a ++ [⟨amt, w.st.cfg.period.after blk⟩] else claimsOf w.st a
       | .claim snd => if snd = a then waiting blk (claimsOf w.st a) else claimsOf w.st a
       | _ => claimsOf w.st a) := by
  cases op with
  | bond _ _ | send _ _ _ _ =>
    obtain ⟨_, ⟨new, _, _, _, hu, _⟩, _⟩ := tx_deposited h rfl
    simp only [claimsOf]; rw [(um_pair hu).1, (um_frame _ _ _ _).2.2.2.2]; rfl
  | unbond snd amt =>
    obtain ⟨new, _, _, hu, _⟩ := tx_unbond_ok h
    unfold claimsOf; rw [(um_pair hu).1, (um_frame _ _ _ _).2.2.2.2]
    simp only [unbondState]; rw [AMap.get?_set]
    by_cases e : snd = a
    · subst e; simp [claimsOf]
    · simp [e]
  | claim snd =>
    obtain ⟨_, _, _, hst, _⟩ := tx_claim_ok h
    unfold claimsOf; rw [hst, AMap.get?_set]
    by_cases e : snd = a
    · subst e; simp [claimsOf]
    · simp [e]
  | donate snd amt => obtain ⟨_, _, rfl⟩ := tx_donate_ok h; rfl
  | receive _ _ _ _ | updateAdmin _ _ | addHook _ _ | removeHook _ _ => obtain ⟨_, _, _, _, rfl⟩ := tx_quiet_ok h rfl; rfl

/-- **C10 `claim_pays_matured_once`**: a successful `Claim` by `snd` at block `blk` emits exactly one
message paying `snd` the sum of *all* its claims that are expired at `blk` (a positive amount, in the
configured token), removes exactly those claims, moves exactly that amount from the contract's holdings
to `snd`, leaves everybody else's claims alone — and a second `Claim` in the same block fails. -/
theorem claim_pays_matured_once {w w' : World} {blk : Block} {snd : Addr} {out : List Out}
    (h : tx w blk (.claim snd) = .ok (w', out)) :
    0 < amountSum (matured blk (claimsOf w.st snd)) ∧
    out = [payout w.st.cfg.denom snd (amountSum (matured blk (claimsOf w.st snd)))] ∧
    claimsOf w'.st snd = waiting blk (claimsOf w.st snd) ∧
    (∀ a, a ≠ snd → claimsOf w'.st a = claimsOf w.st a) ∧
    balOf w' snd = balOf w snd + amountSum (matured blk (claimsOf w.st snd)) ∧
    w'.held + amountSum (matured blk (claimsOf w.st snd)) = w.held ∧
    (∀ r, tx w' blk (.claim snd) ≠ .ok r) := by
  obtain ⟨hne, hle, ho, _, hh, hb, _, _⟩ := tx_claim_ok h
  have hc : claimsOf w'.st snd = waiting blk (claimsOf w.st snd) := (claims_frame h snd).trans (if_pos rfl)
  refine ⟨by omega, ho, hc, fun a ha => (claims_frame h a).trans (if_neg (Ne.symm ha)), ?_, by omega, ?_⟩
  · simp [balOf, hb]
  · rintro ⟨w'', out''⟩ h2
    obtain ⟨hne2, _⟩ := tx_claim_ok h2
    rw [hc, matured_waiting] at hne2
    exact hne2 rfl

/-! ## claim_not_early -/

/-- `(period.after b).is_expired(blk)` means that the whole unbonding period has passed since `b`. -/
theorem after_isExpired (d : Duration) (b blk : Block) :
    (d.after b).isExpired blk = true ↔
      (match d with
       | .height n => b.height + n ≤ blk.height
       | .time secs => b.time + secs * 1000000000 ≤ blk.time) := by
  cases d <;> simp [Duration.after, Expiration.isExpired]

/-- **C10 `claim_not_early` (creation)**: a successful `Unbond { tokens }` at block `blk` appends to the
sender's claims exactly one claim of `tokens` releasing at `unbonding_period.after(blk)`; other users'
claims are untouched. -/
theorem unbond_creates_claim {w w' : World} {blk : Block} {snd : Addr} {amt : Nat} {out : List Out}
    (h : tx w blk (.unbond snd amt) = .ok (w', out)) :
    claimsOf w'.st snd = claimsOf w.st snd ++ [⟨amt, w.st.cfg.period.after blk⟩] ∧
    (∀ a, a ≠ snd → claimsOf w'.st a = claimsOf w.st a) :=
  ⟨(claims_frame h snd).trans (if_pos rfl), fun a ha => (claims_frame h a).trans (if_neg (Ne.symm ha))⟩

/-- **C10 `claim_not_early` (payment)**: every claim that a successful `Claim` at block `blk` removes
(= pays) is expired at `blk`; claims that are not yet expired stay. -/
theorem claim_not_early {w w' : World} {blk : Block} {snd : Addr} {out : List Out}
    (h : tx w blk (.claim snd) = .ok (w', out)) (c : Claim) (hc : c ∈ claimsOf w.st snd) :
    (c ∉ claimsOf w'.st snd → c.releaseAt.isExpired blk = true) ∧
    (c.releaseAt.isExpired blk = false → c ∈ claimsOf w'.st snd) := by
  -- `c` is among the claims that stay iff it is not expired
  rw [(claim_pays_matured_once h).2.2.1]
  simp only [waiting, List.mem_filter, hc, true_and]
  cases c.releaseAt.isExpired blk <;> simp

/-! ## member_iff_min_bond, weight_is_quotient -/

/-- The membership table is exactly what `calc_weight` says about the current stakes. -/
def WeightInv (s : State) : Prop :=
  1 ≤ s.cfg.minBond ∧ ∀ a, calcWeight s.cfg (stakeOf s a) = .ok (weightOf s a)

theorem weightInv_um {s : State} {h : Nat} {snd : Addr} {st : Nat} {new : Option Nat} (stake' : AMap Addr Nat)
    (hi : WeightInv s) (hst : ∀ a, (stake'.get? a).getD 0 = if snd = a then st else stakeOf s a)
    (hc : calcWeight s.cfg st = .ok new) (claims' : AMap Addr (List Claim)) :
    WeightInv (um { s with stake := stake', claims := claims' } h snd new).1 := by
  obtain ⟨h1, h2⟩ := hi
  obtain ⟨ecfg, _, _, es, _⟩ := um_frame { s with stake := stake', claims := claims' } h snd new
  refine ⟨by rw [ecfg]; exact h1, ?_⟩
  intro a
  unfold weightOf stakeOf
  rw [um_get?, ecfg, es]
  simp only
  rw [hst a]
  split
  · exact hc
  · exact h2 a

theorem weightInv_tx {w w' : World} {blk : Block} {op : Op} {out : List Out}
    (hi : WeightInv w.st) (h : tx w blk op = .ok (w', out)) : WeightInv w'.st := by
  cases hk : Op.isStaking op with
  | true =>
    obtain ⟨stake', claims', _, new, hst, hc, hu, _⟩ := (tx_staking h).1 hk
    rw [(um_pair hu).1]
    exact weightInv_um stake' hi hst hc claims'
  | false =>
    obtain ⟨hcfg, hm, _, hs, _⟩ := (tx_staking h).2 hk
    unfold WeightInv weightOf stakeOf
    rw [hcfg, hm, hs]
    exact hi

theorem weightInv_init {m : InstMsg} {st : State} (h : instantiate m = .ok st) : WeightInv st := by
  obtain ⟨adm, rfl⟩ := instantiate_ok h
  refine ⟨by simp; omega, ?_⟩
  intro a
  have : ¬ (max m.minBond 1 = 0) := by omega
  simp [calcWeight, stakeOf, weightOf, SnapMap.get?, this]

theorem weightInv_run {m : InstMsg} {st : State} (h : instantiate m = .ok st) (bal : AMap Addr Nat) (acc : List Addr)
    (ops : List (Block × Op)) : WeightInv (run (World.init st bal acc) ops).st :=
  run_inv (fun w => WeightInv w.st) (fun _ _ _ _ _ hi ht => weightInv_tx hi ht) (weightInv_init h) ops

/-- The stored `min_bond` is `max(min_bond, 1)` of the instantiation message. -/
theorem min_bond_at_least_one {m : InstMsg} {st : State} (h : instantiate m = .ok st) :
    st.cfg.minBond = max m.minBond 1 := by
  obtain ⟨adm, rfl⟩ := instantiate_ok h
  rfl

/-- **C10 `member_iff_min_bond`**: after any history, an address is reported as a member exactly when
its stake is at least the (stored) minimum bond. -/
theorem member_iff_min_bond {m : InstMsg} {st : State} (h : instantiate m = .ok st) (bal : AMap Addr Nat)
    (acc : List Addr) (ops : List (Block × Op)) (a : Addr) :
    (weightOf (run (World.init st bal acc) ops).st a).isSome = true ↔
      (run (World.init st bal acc) ops).st.cfg.minBond ≤ stakeOf (run (World.init st bal acc) ops).st a := by
  obtain ⟨_, h2⟩ := weightInv_run h bal acc ops
  obtain ⟨e, _⟩ := calcWeight_ok (h2 a)
  rw [e]
  split
  · simp; omega
  · simp; omega

/-- **C10 `weight_is_quotient`**: after any history, whenever an address is reported as a member its
weight is exactly `stake / tokens_per_weight` (integer quotient of the *current* stake — never stale,
never wrapped: it fits `u64`), and `tokens_per_weight` is not zero. -/
theorem weight_is_quotient {m : InstMsg} {st : State} (h : instantiate m = .ok st) (bal : AMap Addr Nat)
    (acc : List Addr) (ops : List (Block × Op)) (a : Addr) (wt : Nat)
    (hw : weightOf (run (World.init st bal acc) ops).st a = some wt) :
    wt = stakeOf (run (World.init st bal acc) ops).st a / (run (World.init st bal acc) ops).st.cfg.tokensPerWeight ∧
    wt ≤ U64_MAX ∧ (run (World.init st bal acc) ops).st.cfg.tokensPerWeight ≠ 0 := by
  obtain ⟨_, h2⟩ := weightInv_run h bal acc ops
  obtain ⟨e, hb⟩ := calcWeight_ok (h2 a)
  rw [hw] at e
  split at e
  · simp at e
  · rename_i hge
    simp at e
    obtain ⟨h3, h4⟩ := hb (by omega)
    exact ⟨e, by omega, h3⟩

/-- A stake whose quotient does not fit `u64` can never be recorded: the bond fails (D4 fix). -/
theorem no_wrap {w w' : World} {blk : Block} {op : Op} {out : List Out}
    (hi : WeightInv w.st) (h : tx w blk op = .ok (w', out)) (a : Addr)
    (hm : w'.st.cfg.minBond ≤ stakeOf w'.st a) :
    stakeOf w'.st a / w'.st.cfg.tokensPerWeight ≤ U64_MAX := by
  obtain ⟨_, h2⟩ := weightInv_tx hi h
  exact ((calcWeight_ok (h2 a)).2 hm).2

/-! ## Non-vacuity: concrete histories -/

def cfgMsg : InstMsg := ⟨.native "ustake", 10, 0, .height 5, some ⟨true, "admin"⟩⟩
def blk0 : Block := ⟨100, 1000⟩
def blk9 : Block := ⟨109, 1900⟩

def stOf (m : InstMsg) : State :=
  match instantiate m with
  | .ok st => st
  | .error _ => default

/-- alice bonds 57, unbonds 20 (claim releasing at height 105), tries to claim at once, bob sends 3
tokens to the contract, alice claims at height 109 and gets 20 back; her second claim fails. -/
def demoOps : List (Block × Op) :=
  [(blk0, .bond "alice" [("ustake", 57)]), (blk0, .unbond "alice" 20), (blk0, .claim "alice"),
   (blk0, .donate "bob" 3), (blk9, .claim "alice"), (blk9, .claim "alice")]

def demoWorld : World := run (World.init (stOf cfgMsg) [("alice", 100), ("bob", 5)] []) demoOps

example : (instantiate cfgMsg).isOk = true := by decide +kernel
example : stakeOf demoWorld.st "alice" = 37 ∧ weightOf demoWorld.st "alice" = some 3 ∧
    claimsOf demoWorld.st "alice" = [] ∧ balOf demoWorld "alice" = 63 ∧ demoWorld.held = 40 ∧
    demoWorld.extra = 3 ∧ demoWorld.st.cfg.minBond = 1 := by decide +kernel
/-- the early claim (same block as the unbond) fails -/
example : (tx (run (World.init (stOf cfgMsg) [("alice", 100)] []) (demoOps.take 2)) blk0 (.claim "alice")).isOk = false := by
  decide +kernel
/-- D4 witness on the model: stake 2^64+5 with tokens_per_weight = 1 is refused, 2^64−1 is accepted -/
example :
    let w := World.init (stOf ⟨.native "ustake", 1, 0, .height 5, none⟩) [("alice", 18446744073709551621)] []
    (tx w blk0 (.bond "alice" [("ustake", 18446744073709551621)])).isOk = false ∧
    (tx w blk0 (.bond "alice" [("ustake", 18446744073709551615)])).isOk = true := by
  decide +kernel


/-! ## A liveness quirk of `update_membership`: `total + new − old` is evaluated left to right

`TOTAL.update(|t| t + new − old)` computes `total + new` first, in `u64` with overflow checks.  While a
member's old weight is still part of the total, `total + new` counts that member twice, so the
intermediate sum can exceed `u64::MAX` although the final value `total − old + new` fits.  The
transaction then panics and is rolled back: a *partial* unbond (or a further bond) by a very large
staker can be refused.  Nothing is recorded wrongly — this is **not a violation of C10** (stakes stay
backed, weights stay exact quotients, nobody's stake changes; the staker can still exit by unbonding
down below `min_bond`, which makes `new = 0`) — it is a liveness quirk, documented here precisely. -/

/-- **`update_total_ok_of_room`** (the general positive statement): when the new weight is computable
(`calc_weight` succeeds), the member's old weight is part of the total (always true after an
instantiation: C09 `total_eq_sum_members` / `no_underflow`) and there is room for the intermediate sum,
`total + new ≤ u64::MAX`, then `update_membership` — hence the update of the total — cannot fail, and
its result is the closed form `um`. -/
theorem update_total_ok_of_room {s : State} {h : Nat} {a : Addr} {ns : Nat} {new : Option Nat}
    (hc : calcWeight s.cfg ns = .ok new) (hpart : (s.members.get? a).getD 0 ≤ s.total)
    (hroom : s.total + new.getD 0 ≤ U64_MAX) :
    updateMembership s h a ns = .ok (um s h a new) := by
  unfold updateMembership um
  simp only [hc, bind, Except.bind]
  by_cases hn : new = s.members.get? a
  · simp [hn, pure, Except.pure]
  · have h2 : (s.members.get? a).getD 0 ≤ s.total + new.getD 0 := by omega
    simp [hn, addU64, subU64, hroom, h2, pure, Except.pure]

/-- The converse: when the weight changes and the intermediate sum does not fit, `update_membership`
fails with the `u64` overflow — whatever the final value would have been. -/
theorem update_total_overflow_of_no_room {s : State} {h : Nat} {a : Addr} {ns : Nat} {new : Option Nat}
    (hc : calcWeight s.cfg ns = .ok new) (hne : new ≠ s.members.get? a)
    (hno : U64_MAX < s.total + new.getD 0) :
    updateMembership s h a ns = .error "overflow.u64" := by
  unfold updateMembership
  have : ¬ (s.total + new.getD 0 ≤ U64_MAX) := by omega
  simp [hc, bind, Except.bind, hne, addU64, this]

/-- tokens_per_weight = 1, min_bond = 1, no admin -/
def bigCfg : InstMsg := ⟨.native "ustake", 1, 0, .height 5, none⟩
/-- alice owns 2^64 − 1 stake tokens -/
def bigWorld : World := World.init (stOf bigCfg) [("alice", 18446744073709551615)] []
/-- … and has bonded them all: weight = total = 2^64 − 1 -/
def bigBonded : World := step bigWorld blk0 (.bond "alice" [("ustake", 18446744073709551615)])

/-- **`unbond_may_overflow_total`** (concrete instance on the model): with `tokens_per_weight = 1` a bond
of 2^64 − 1 is accepted (weight and total 2^64 − 1); then `unbond 4` — new weight 2^64 − 5, final total
2^64 − 5, both representable — is refused with the `u64` overflow tag because `total + new = 2^65 − 6`
is computed first; the state is unchanged by the failed transaction, and unbonding everything (new
weight 0) still works. -/
theorem unbond_may_overflow_total :
    (tx bigWorld blk0 (.bond "alice" [("ustake", 18446744073709551615)])).isOk = true ∧
    bigBonded.st.total = 18446744073709551615 ∧ weightOf bigBonded.st "alice" = some 18446744073709551615 ∧
    (tx bigBonded blk0 (.unbond "alice" 4)).tag = "overflow.u64" ∧
    stakeOf (step bigBonded blk0 (.unbond "alice" 4)).st "alice" = 18446744073709551615 ∧
    (tx bigBonded blk0 (.unbond "alice" 18446744073709551615)).isOk = true := by
  decide +kernel

/-- non-vacuity of `update_total_ok_of_room` / `update_total_overflow_of_no_room` on concrete states -/
example : updateMembership demoWorld.st 200 "alice" 17 = .ok (um demoWorld.st 200 "alice" (some 1)) :=
  update_total_ok_of_room (by rfl) (by decide) (by decide)
example : updateMembership bigBonded.st 200 "alice" 18446744073709551611 = .error "overflow.u64" :=
  update_total_overflow_of_no_room (new := some 18446744073709551611) (by rfl) (by decide) (by decide)

/-! # History-level ledgers

The theorems above are per transaction or about the books as a whole.  The ones below follow one address
through an arbitrary history: which claims it holds (`claims_ledger`), where every paid claim came from and
that its whole period had passed (`paid_after_period`), what happened to its balance (`balance_frame`), and
the exact accounting `paid out + unreleased claims + stake = bonded` (`value_conservation`).  Two assumptions
made above are also removed: the contract may hold funds before the history starts (`backing_from`), and the
`u128` bound of `claim_succeeds` is discharged from the token's supply (`supply_conserved`, `claim_succeeds_run`). -/

/-! ## backing from any backed world -/

/-- **C10 `backing`, any start**: from *any* backed world — in particular a contract that was funded
before or at its instantiation, `held = extra = e` — every history keeps the books backed.  (`backing` is
the instance `World.init`, where the contract starts with nothing.) -/
theorem backing_from {w : World} (hi : Backed w) (ops : List (Block × Op)) : Backed (run w ops) :=
  run_inv Backed (fun _ _ _ _ _ hi ht => backing_tx hi ht) hi ops

/-- **C10 `backing`, pre-funded contract**: holdings ≥ Σ stakes + Σ unreleased claims after every history
of a contract that started with any amount `e` of the stake token; the surplus is exactly `e` plus the
later plain transfers. -/
theorem backing_prefunded {m : InstMsg} {st : State} (h : instantiate m = .ok st) (e : Nat) (bal : AMap Addr Nat)
    (acc : List Addr) (ops : List (Block × Op)) :
    Backed (run (initFunded st e bal acc) ops) ∧
    stakeTotal (run (initFunded st e bal acc) ops).st + claimsTotal (run (initFunded st e bal acc) ops).st
      ≤ (run (initFunded st e bal acc) ops).held := by
  have := backing_from (backing_init h e bal acc) ops
  refine ⟨this, ?_⟩
  unfold Backed at this
  omega

/-! ## balance_frame, held_frame -/

/-- Stake tokens the transaction `op` sends to the contract as a plain transfer of `a`. -/
def donated (op : Op) (a : Addr) : Nat :=
  match op with
  | .donate snd amt => if snd = a then amt else 0
  | _ => 0

/-- What a `Claim` by `a` at `blk` pays to `a` (all its matured claims); 0 for every other transaction. -/
def claimDue (w : World) (blk : Block) (op : Op) (a : Addr) : Nat :=
  match op with
  | .claim snd => if snd = a then amountSum (matured blk (claimsOf w.st a)) else 0
  | _ => 0

theorem balOf_set (w : World) (k x : Addr) (v : Nat) :
    ((w.bal.set k v).get? x).getD 0 = if k = x then v else balOf w x := by
  rw [AMap.get?_set]; split <;> simp [balOf]

/-- **C10 `stake_frame`, the payer's side ("by exactly the amount")**: a successful transaction changes
the stake-token balance of an account `x` only when `x` itself signed it, and then by exactly the amount it
bonded (`Bond` / cw20 `Send`), transferred to the contract, or was paid by its own `Claim` (the sum of its
matured claims).  Nobody else's balance moves; unbonding moves no tokens. -/
theorem balance_frame {w w' : World} {blk : Block} {op : Op} {out : List Out}
    (h : tx w blk op = .ok (w', out)) (x : Addr) :
    balOf w' x + bonded op x + donated op x = balOf w x + claimDue w blk op x ∧
    bonded op x + donated op x ≤ balOf w x := by
  cases op with
  | bond _ _ | send _ _ _ _ =>
    obtain ⟨amt, ⟨new, hle, _, _, _, _, _, hbal, _⟩, hb⟩ := tx_deposited h rfl
    rw [hb]
    unfold balOf
    rw [hbal]
    exact AMap.getD_set_sub w.bal _ x hle
  | unbond snd amt =>
    obtain ⟨new, _, _, _, _, _, hb, _⟩ := tx_unbond_ok h
    simp [bonded, donated, claimDue, balOf, hb]
  | claim snd =>
    obtain ⟨_, _, _, _, _, hb, _⟩ := tx_claim_ok h
    simp only [bonded, donated, claimDue]
    unfold balOf at *
    rw [hb, AMap.get?_set]
    split
    · rename_i e; subst e; simp
    · simp
  | donate snd amt =>
    obtain ⟨hle, _, rfl⟩ := tx_donate_ok h
    simp only [bonded, claimDue, Nat.zero_add, Nat.add_zero]
    exact AMap.getD_set_sub w.bal snd x hle
  | receive _ _ _ _ | updateAdmin _ _ | addHook _ _ | removeHook _ _ =>
    obtain ⟨_, _, _, _, rfl⟩ := tx_quiet_ok h rfl; simp [bonded, donated, claimDue, balOf]

/-- **C10 `only_configured_token`, ledger form**: the contract's holdings in the stake token rise only by
what the signer bonded (one coin of the configured denom / a `Send` of the configured cw20 token — see
`only_configured_token`) or plainly transferred, and fall only by what a `Claim` pays its signer. -/
theorem held_frame {w w' : World} {blk : Block} {op : Op} {out : List Out}
    (h : tx w blk op = .ok (w', out)) :
    w'.held + claimDue w blk op (Op.sender op) =
      w.held + bonded op (Op.sender op) + donated op (Op.sender op) ∧
    claimDue w blk op (Op.sender op) ≤ w.held := by
  cases op with
  | bond _ _ | send _ _ _ _ =>
    obtain ⟨amt, hd, hb⟩ := tx_deposited h rfl
    have := (deposited_books hd).2.2.1
    simp [hb, donated, claimDue, this]
  | unbond snd amt =>
    obtain ⟨new, _, _, _, _, hh, _⟩ := tx_unbond_ok h
    simp [bonded, donated, claimDue, hh]
  | claim snd =>
    obtain ⟨_, hle, _, _, hh, _⟩ := tx_claim_ok h
    simp only [bonded, donated, claimDue, Op.sender, if_true]
    omega
  | donate snd amt =>
    obtain ⟨_, _, rfl⟩ := tx_donate_ok h
    simp [bonded, donated, claimDue, Op.sender]
  | receive _ _ _ _ | updateAdmin _ _ | addHook _ _ | removeHook _ _ =>
    obtain ⟨_, _, _, _, rfl⟩ := tx_quiet_ok h rfl; simp [bonded, donated, claimDue]

/-! ## supply_conserved, claim_succeeds_run -/

/-- `amt` tokens of `snd` go to the contract: nothing is created or destroyed. -/
theorem supply_pay_in (w : World) (snd : Addr) {amt : Nat} (hle : amt ≤ balOf w snd) :
    w.held + amt + AMap.sum (w.bal.set snd (balOf w snd - amt)) = w.held + AMap.sum w.bal := by
  have : AMap.sum (w.bal.set snd (balOf w snd - amt)) + balOf w snd = AMap.sum w.bal + (balOf w snd - amt) :=
    AMap.sum_set w.bal snd _
  omega

/-- `amt` tokens go from the contract to `snd`. -/
theorem supply_pay_out (w : World) (snd : Addr) {amt : Nat} (hle : amt ≤ w.held) :
    w.held - amt + AMap.sum (w.bal.set snd (balOf w snd + amt)) = w.held + AMap.sum w.bal := by
  have : AMap.sum (w.bal.set snd (balOf w snd + amt)) + balOf w snd = AMap.sum w.bal + (balOf w snd + amt) :=
    AMap.sum_set w.bal snd _
  omega

theorem supply_tx {w w' : World} {blk : Block} {op : Op} {out : List Out}
    (h : tx w blk op = .ok (w', out)) : w'.held + AMap.sum w'.bal = w.held + AMap.sum w.bal := by
  cases op with
  | bond _ _ | send _ _ _ _ =>
    obtain ⟨_, ⟨new, hle, _, _, _, _, hh, hb, _⟩, _⟩ := tx_deposited h rfl
    rw [hh, hb]; exact supply_pay_in w _ hle
  | unbond snd amt => obtain ⟨new, _, _, _, _, hh, hb, _⟩ := tx_unbond_ok h; rw [hh, hb]
  | claim snd =>
    obtain ⟨_, hle, _, _, hh, hb, _⟩ := tx_claim_ok h
    rw [hh, hb]; exact supply_pay_out w snd hle
  | donate snd amt => obtain ⟨hle, _, rfl⟩ := tx_donate_ok h; exact supply_pay_in w snd hle
  | receive _ _ _ _ | updateAdmin _ _ | addHook _ _ | removeHook _ _ => obtain ⟨_, _, _, _, rfl⟩ := tx_quiet_ok h rfl; rfl

/-- **C10 `backing`, the token side**: over every history the stake tokens held by the contract plus
those held by the users are constant — the contract neither mints nor burns; in particular its holdings
never exceed the supply it started from. -/
theorem supply_conserved (w : World) (ops : List (Block × Op)) :
    (run w ops).held + AMap.sum (run w ops).bal = w.held + AMap.sum w.bal :=
  run_inv (fun x => x.held + AMap.sum x.bal = w.held + AMap.sum w.bal)
    (fun _ _ _ _ _ hi ht => (supply_tx ht).trans hi) rfl ops

theorem claim_succeeds_from {w : World} (hi : Backed w) (hfit : w.held + AMap.sum w.bal ≤ U128_MAX)
    (ops : List (Block × Op)) (blk : Block) (a : Addr)
    (hdue : 0 < amountSum (matured blk (claimsOf (run w ops).st a))) :
    ∃ w' out, tx (run w ops) blk (.claim a) = .ok (w', out) := by
  have := supply_conserved w ops
  exact claim_succeeds (backing_from hi ops) (by omega) blk a hdue

/-- **C10 `claim_pays_matured_once`, paying direction over histories**: after any accepted instantiation
and any history, when the users' token balances at the start sum to at most `u128::MAX` (the supply of
the stake token fits `u128` — the stated assumption about the token), a `Claim` by an address with a
positive amount of matured claims succeeds: it can be refused neither for lack of funds nor by overflow.
(The hypothesis `hfit` of `claim_succeeds` is discharged here.) -/
theorem claim_succeeds_run {m : InstMsg} {st : State} (h : instantiate m = .ok st) (bal : AMap Addr Nat)
    (acc : List Addr) (hsupply : AMap.sum bal ≤ U128_MAX) (ops : List (Block × Op)) (blk : Block) (a : Addr)
    (hdue : 0 < amountSum (matured blk (claimsOf (run (World.init st bal acc) ops).st a))) :
    ∃ w' out, tx (run (World.init st bal acc) ops) blk (.claim a) = .ok (w', out) :=
  claim_succeeds_from (backing_init h 0 bal acc) (by simpa [initFunded] using hsupply) ops blk a hdue

/-! ## claims_ledger -/

/-- The effect of one transaction of the history on the claims of `a`: a *successful* `Unbond { amt }` of
`a` at block `blk` appends one claim of `amt` releasing at `period.after(blk)`, a *successful* `Claim` of
`a` at `blk` keeps exactly the claims not yet expired at `blk`; everything else (other senders, other
kinds, failed transactions) changes nothing. -/
def ledgerStep (cfg : Config) (ok : Bool) (blk : Block) (op : Op) (a : Addr) (l : List Claim) : List Claim :=
  match ok, op with
  | true, .unbond snd amt => if snd = a then l ++ [⟨amt, cfg.period.after blk⟩] else l
  | true, .claim snd => if snd = a then waiting blk l else l
  | _, _ => l

/-- The claims ledger of `a`: fold of `ledgerStep` along the history (success is that of `tx` in the world
reached so far). -/
def ledger (cfg : Config) (w : World) (ops : List (Block × Op)) (a : Addr) (l : List Claim) : List Claim :=
  match ops with
  | [] => l
  | o :: rest => ledger cfg (step w o.1 o.2) rest a (ledgerStep cfg (tx w o.1 o.2).isOk o.1 o.2 a l)

theorem cfg_step (w : World) (blk : Block) (op : Op) : (step w blk op).st.cfg = w.st.cfg :=
  cfg_run w [(blk, op)]

theorem claims_step (w : World) (blk : Block) (op : Op) (a : Addr) :
    claimsOf (step w blk op).st a = ledgerStep w.st.cfg (tx w blk op).isOk blk op a (claimsOf w.st a) := by
  rcases step_cases w blk op with ⟨w', out, ht, hs, _, hok⟩ | ⟨hs, _, hok⟩
  · rw [hs, hok, claims_frame ht a]
    cases op <;> rfl
  · rw [hs, hok]
    cases op <;> rfl

theorem claims_ledger_from (w : World) (ops : List (Block × Op)) (a : Addr) :
    claimsOf (run w ops).st a = ledger w.st.cfg w ops a (claimsOf w.st a) := by
  induction ops generalizing w with
  | nil => rfl
  | cons o rest ih =>
    rw [run_cons, ih, cfg_step, claims_step]
    rfl

/-- **C10 `claim_pays_matured_once` / `claim_not_early`, the claims ledger over histories**: after any
accepted instantiation and any history, the claims recorded for `a` are exactly the ledger of the history —
one claim `⟨amt, unbonding_period.after(block)⟩` appended per *successful* `Unbond { amt }` of `a`, in
order, the expired ones dropped at each *successful* `Claim` of `a`, nothing else.  So a claim is created
once per unbond, is removed (= paid, `claim_pays_matured_once`) at most once, and no claim appears that no
unbond created. -/
theorem claims_ledger {m : InstMsg} {st : State} (h : instantiate m = .ok st) (bal : AMap Addr Nat)
    (acc : List Addr) (ops : List (Block × Op)) (a : Addr) :
    claimsOf (run (World.init st bal acc) ops).st a = ledger st.cfg (World.init st bal acc) ops a [] := by
  rw [claims_ledger_from]
  obtain ⟨adm, rfl⟩ := instantiate_ok h
  rfl

/-! ## paid_after_period -/

/-- Every claim on the books was created by a *successful* unbond of its owner at an identified position
of the history. -/
def Origin (w0 : World) (ops : List (Block × Op)) (a : Addr) (c : Claim) : Prop :=
  ∃ pre b amt post, ops = pre ++ (b, Op.unbond a amt) :: post ∧
    (tx (run w0 pre) b (.unbond a amt)).isOk = true ∧ c = ⟨amt, w0.st.cfg.period.after b⟩

theorem origin_snoc {w0 : World} {ops : List (Block × Op)} {a : Addr} {c : Claim} (o : Block × Op)
    (h : Origin w0 ops a c) : Origin w0 (ops ++ [o]) a c := by
  obtain ⟨pre, b, amt, post, e, hok, hc⟩ := h
  exact ⟨pre, b, amt, post ++ [o], by simp [e], hok, hc⟩

theorem mem_ledgerStep {cfg : Config} {ok : Bool} {blk : Block} {op : Op} {a : Addr} {l : List Claim} {c : Claim}
    (hc : c ∈ ledgerStep cfg ok blk op a l) :
    c ∈ l ∨ ∃ amt, ok = true ∧ op = .unbond a amt ∧ c = ⟨amt, cfg.period.after blk⟩ := by
  unfold ledgerStep at hc
  split at hc
  · split at hc
    · rename_i e; subst e
      rcases List.mem_append.mp hc with hc | hc
      · exact .inl hc
      · exact .inr ⟨_, rfl, rfl, List.mem_singleton.mp hc⟩
    · exact .inl hc
  · split at hc
    · exact .inl (List.mem_filter.mp hc).1
    · exact .inl hc
  · exact .inl hc

theorem origin_run (w0 : World) (h0 : ∀ a, claimsOf w0.st a = []) (ops : List (Block × Op)) :
    ∀ a c, c ∈ claimsOf (run w0 ops).st a → Origin w0 ops a c := by
  induction ops using List.rev_induction with
  | nil => intro a c hc; simp [h0 a] at hc
  | snoc ops o ih =>
    intro a c hc
    obtain ⟨blk, op⟩ := o
    rw [run_append, run_cons, run_nil, claims_step, cfg_run] at hc
    rcases mem_ledgerStep hc with hc | ⟨amt, hok, rfl, hc⟩
    · exact origin_snoc _ (ih a c hc)
    · exact ⟨ops, blk, amt, [], rfl, hok, hc⟩

theorem init_claims {m : InstMsg} {st : State} (h : instantiate m = .ok st) (a : Addr) : claimsOf st a = [] := by
  obtain ⟨adm, rfl⟩ := instantiate_ok h
  rfl

/-- **C10 `claim_not_early` (histories)**: after any history, every unreleased claim of `a` was created by
an `Unbond { amt }` of `a` itself at some block `b` of that history, has that amount, and its `release_at`
is `unbonding_period.after(b)`; together with `claim_not_early` (a claim is paid only when
`release_at.is_expired`) and `after_isExpired` nothing is paid before the whole unbonding period has
passed since the unbond. -/
theorem claim_release_at {m : InstMsg} {st : State} (h : instantiate m = .ok st) (bal : AMap Addr Nat) (acc : List Addr)
    (ops : List (Block × Op)) (a : Addr) (c : Claim) (hc : c ∈ claimsOf (run (World.init st bal acc) ops).st a) :
    ∃ b amt, (b, Op.unbond a amt) ∈ ops ∧ c = ⟨amt, st.cfg.period.after b⟩ := by
  obtain ⟨pre, b, amt, post, e, _, hce⟩ := origin_run _ (init_claims h) ops a c hc
  exact ⟨b, amt, by rw [e]; exact List.mem_append_right _ (List.mem_cons_self ..), hce⟩

/-- The whole unbonding period has passed between block `b` and block `blk`. -/
def PeriodPassed (d : Duration) (b blk : Block) : Prop :=
  match d with
  | .height n => b.height + n ≤ blk.height
  | .time secs => b.time + secs * 1000000000 ≤ blk.time

/-- **C10 `claim_not_early`, end to end**: after any accepted instantiation and any history `ops`, when a
`Claim` by `a` at block `blk` succeeds, it pays `a` exactly the sum of the claims `c` that it removes, and
every one of them was created by a *successful* `Unbond { amt }` of `a` itself at an identified position
of the history, at a block `b`, has that amount, and the whole unbonding period (blocks or seconds, as
configured) has passed between `b` and `blk`.  Nothing is ever paid that was not unbonded by the payee,
and nothing before the delay. -/
theorem paid_after_period {m : InstMsg} {st : State} (h : instantiate m = .ok st) (bal : AMap Addr Nat)
    (acc : List Addr) (ops : List (Block × Op)) (blk : Block) (a : Addr) {w' : World} {out : List Out}
    (hc : tx (run (World.init st bal acc) ops) blk (.claim a) = .ok (w', out)) :
    out = [payout st.cfg.denom a (amountSum (matured blk (claimsOf (run (World.init st bal acc) ops).st a)))] ∧
    claimsOf w'.st a = waiting blk (claimsOf (run (World.init st bal acc) ops).st a) ∧
    ∀ c ∈ matured blk (claimsOf (run (World.init st bal acc) ops).st a),
      ∃ pre b amt post, ops = pre ++ (b, Op.unbond a amt) :: post ∧
        (tx (run (World.init st bal acc) pre) b (.unbond a amt)).isOk = true ∧
        c = ⟨amt, st.cfg.period.after b⟩ ∧ PeriodPassed st.cfg.period b blk := by
  obtain ⟨_, ho, hw, _⟩ := claim_pays_matured_once hc
  rw [cfg_run] at ho
  refine ⟨ho, hw, fun c hm => ?_⟩
  obtain ⟨hin, hexp⟩ := List.mem_filter.mp hm
  obtain ⟨pre, b, amt, post, e, hok, rfl⟩ := origin_run _ (init_claims h) ops a c hin
  exact ⟨pre, b, amt, post, e, hok, rfl, (after_isExpired st.cfg.period b blk).mp hexp⟩

/-! ## Per-user accounting over histories: stake ledger, claims ledger in value, balance ledger -/

/-- Stake tokens the messages `out` pay to `a` (bank sends / cw20 transfers addressed to `a`). -/
def paidTo (a : Addr) : List Out → Nat
  | [] => 0
  | .bank to amt _ :: rest => (if to = a then amt else 0) + paidTo a rest
  | .cw20Transfer _ to amt :: rest => (if to = a then amt else 0) + paidTo a rest
  | .hook _ _ _ _ :: rest => paidTo a rest

theorem paidTo_append (a : Addr) (x y : List Out) : paidTo a (x ++ y) = paidTo a x + paidTo a y := by
  induction x with
  | nil => simp [paidTo]
  | cons o rest ih => cases o <;> simp [paidTo, ih] <;> omega

theorem paidTo_hooks (a : Addr) {out : List Out} (hh : ∀ o ∈ out, ∃ hk k old nw, o = Out.hook hk k old nw) :
    paidTo a out = 0 := by
  induction out with
  | nil => rfl
  | cons o rest ih =>
    obtain ⟨hk, k, old, nw, rfl⟩ := hh o (by simp)
    simp [paidTo, ih (fun o ho => hh o (by simp [ho]))]

theorem paidTo_payout (a : Addr) (d : Denom) (to : Addr) (amt : Nat) :
    paidTo a [payout d to amt] = if to = a then amt else 0 := by
  cases d <;> simp [payout, paidTo]

/-- Σ of `f op a` over the *successful* transactions of a history (`f` = `bonded`, `unbonded`, `donated`). -/
def flow (f : Op → Addr → Nat) (a : Addr) (w : World) : List (Block × Op) → Nat
  | [] => 0
  | o :: rest => (if (tx w o.1 o.2).isOk then f o.2 a else 0) + flow f a (step w o.1 o.2) rest

theorem paid_tx {w w' : World} {blk : Block} {op : Op} {out : List Out}
    (h : tx w blk op = .ok (w', out)) (a : Addr) : paidTo a out = claimDue w blk op a := by
  cases op with
  | bond _ _ | send _ _ _ _ =>
    obtain ⟨_, ⟨new, _, _, _, hu, _⟩, _⟩ := tx_deposited h rfl
    rw [(um_pair hu).2, paidTo_hooks a (um_out_hooks _ _ _ _)]; rfl
  | unbond snd amt =>
    obtain ⟨new, _, _, hu, _⟩ := tx_unbond_ok h
    rw [(um_pair hu).2, paidTo_hooks a (um_out_hooks _ _ _ _)]; rfl
  | claim snd =>
    obtain ⟨_, _, ho, _⟩ := tx_claim_ok h
    rw [ho, paidTo_payout]
    simp only [claimDue]
    split
    · rename_i e; subst e; rfl
    · rfl
  | donate snd amt => obtain ⟨_, ho, _⟩ := tx_donate_ok h; rw [ho]; rfl
  | receive _ _ _ _ | updateAdmin _ _ | addHook _ _ | removeHook _ _ => rw [(tx_quiet_ok h rfl).1]; rfl

theorem claims_value_tx {w w' : World} {blk : Block} {op : Op} {out : List Out}
    (h : tx w blk op = .ok (w', out)) (a : Addr) :
    amountSum (claimsOf w'.st a) + claimDue w blk op a = amountSum (claimsOf w.st a) + unbonded op a := by
  rw [claims_frame h a]
  cases op with
  | unbond snd amt =>
    simp only [claimDue, unbonded]
    split
    · simp [amountSum]
    · rfl
  | claim snd =>
    simp only [claimDue, unbonded]
    split
    · have := amountSum_matured_waiting blk (claimsOf w.st a); omega
    · rfl
  | bond _ _ | send _ _ _ _ | receive _ _ _ _ | updateAdmin _ _ | addHook _ _ | removeHook _ _ | donate _ _ => rfl

/-- **C10 `stake_frame`, ledger over histories**: after any history from any world, the stake of `a` plus
everything `a` successfully unbonded equals its initial stake plus everything `a` successfully bonded
(native `Bond` or cw20 `Send`).  Failed transactions and other users' transactions contribute nothing. -/
theorem stake_ledger (a : Addr) (w : World) (ops : List (Block × Op)) :
    stakeOf (run w ops).st a + flow unbonded a w ops = stakeOf w.st a + flow bonded a w ops := by
  induction ops generalizing w with
  | nil => rfl
  | cons o rest ih =>
    have ih' := ih (step w o.1 o.2)
    simp only [run_cons, flow]
    rcases step_cases w o.1 o.2 with ⟨w', out, ht, hs, _, hok⟩ | ⟨hs, _, hok⟩
    · have := (stake_frame ht a).1
      rw [hs] at ih' ⊢; rw [hok]; simp only [if_true]; omega
    · rw [hs] at ih' ⊢; rw [hok]; simp only [Bool.false_eq_true, if_false]; omega

/-- **C10 `claim_pays_matured_once`, "once" in value**: after any history, everything paid out to `a` plus
`a`'s unreleased claims equals its initial claims plus everything `a` successfully unbonded: every unbonded
token is either still waiting as a claim or was paid out — exactly once. -/
theorem claims_value_ledger (a : Addr) (w : World) (ops : List (Block × Op)) :
    paidTo a (outs w ops) + amountSum (claimsOf (run w ops).st a)
      = amountSum (claimsOf w.st a) + flow unbonded a w ops := by
  induction ops generalizing w with
  | nil => simp [paidTo, flow]
  | cons o rest ih =>
    have ih' := ih (step w o.1 o.2)
    simp only [run_cons, outs_cons, flow, paidTo_append]
    rcases step_cases w o.1 o.2 with ⟨w', out, ht, hs, ho, hok⟩ | ⟨hs, ho, hok⟩
    · have h1 := claims_value_tx ht a
      have h2 := paid_tx ht a
      rw [hs] at ih' ⊢; rw [hok, ho]; simp only [if_true]; omega
    · rw [hs] at ih' ⊢; rw [hok, ho]; simp only [Bool.false_eq_true, if_false, paidTo]; omega

/-- **C10 `stake_frame`, the payer's side over histories**: the stake-token balance of `a` after any
history is its initial balance, minus what it successfully bonded and plainly transferred to the contract,
plus what the contract paid it. -/
theorem balance_ledger (a : Addr) (w : World) (ops : List (Block × Op)) :
    balOf (run w ops) a + flow bonded a w ops + flow donated a w ops = balOf w a + paidTo a (outs w ops) := by
  induction ops generalizing w with
  | nil => simp [paidTo, flow]
  | cons o rest ih =>
    have ih' := ih (step w o.1 o.2)
    simp only [run_cons, outs_cons, flow, paidTo_append]
    rcases step_cases w o.1 o.2 with ⟨w', out, ht, hs, ho, hok⟩ | ⟨hs, ho, hok⟩
    · have h1 := (balance_frame ht a).1
      have h2 := paid_tx ht a
      rw [hs] at ih' ⊢; rw [hok, ho]; simp only [if_true]; omega
    · rw [hs] at ih' ⊢; rw [hok, ho]; simp only [Bool.false_eq_true, if_false, paidTo]; omega

/-- **C10 value conservation per user** (`backing` and "exactly the amount", address by address): after any
accepted instantiation and any history, for every address
`paid out to a + unreleased claims of a + stake of a = everything a successfully bonded`.
Nobody gets out more than they put in, and nothing they put in disappears. -/
theorem value_conservation {m : InstMsg} {st : State} (h : instantiate m = .ok st) (bal : AMap Addr Nat)
    (acc : List Addr) (ops : List (Block × Op)) (a : Addr) :
    paidTo a (outs (World.init st bal acc) ops)
      + amountSum (claimsOf (run (World.init st bal acc) ops).st a)
      + stakeOf (run (World.init st bal acc) ops).st a
      = flow bonded a (World.init st bal acc) ops := by
  have h1 := stake_ledger a (World.init st bal acc) ops
  have h2 := claims_value_ledger a (World.init st bal acc) ops
  have h0 : stakeOf (World.init st bal acc).st a = 0 ∧ amountSum (claimsOf (World.init st bal acc).st a) = 0 := by
    obtain ⟨adm, rfl⟩ := instantiate_ok h
    exact ⟨rfl, rfl⟩
  omega

/-! ## Non-vacuity of the history-level theorems -/

theorem inst_cfgMsg : instantiate cfgMsg = .ok (stOf cfgMsg) := rfl

/-- cw20 stake token, unbonding period of 60 seconds -/
def cw20Msg : InstMsg := ⟨.cw20 "tok", 10, 20, .time 60, none⟩
theorem inst_cw20Msg : instantiate cw20Msg = .ok (stOf cw20Msg) := rfl
def tblk (secs : Nat) : Block := ⟨100 + secs, 1000 + secs * 1000000000⟩

/-- carol sends 50 of the configured cw20 token with `Bond {}`, tries the wrong token, a garbled payload and
a forged `Receive`, unbonds 30 at t = 0 s, claims too early at t = 59 s, claims at t = 60 s. -/
def cw20Ops : List (Block × Op) :=
  [(tblk 0, .send "carol" "tok" 50 true), (tblk 0, .send "carol" "other" 50 true),
   (tblk 0, .send "carol" "tok" 5 false), (tblk 0, .receive "carol" ⟨true, "carol"⟩ 1000 true),
   (tblk 0, .unbond "carol" 30), (tblk 59, .claim "carol"), (tblk 60, .claim "carol")]

def cw20World0 : World := World.init (stOf cw20Msg) [("carol", 80)] []
def cw20World : World := run cw20World0 cw20Ops

/-- cw20 + time-based configuration: only the configured token bonds, the claim is refused at 59 s and paid
at 60 s -/
example : stakeOf cw20World.st "carol" = 20 ∧ weightOf cw20World.st "carol" = some 2 ∧
    claimsOf cw20World.st "carol" = [] ∧ balOf cw20World "carol" = 60 ∧ cw20World.held = 20 ∧
    outs cw20World0 cw20Ops = [.cw20Transfer "tok" "carol" 30] := by decide +kernel
example : ((List.range 7).map (fun i => (tx (run cw20World0 (cw20Ops.take i)) (cw20Ops[i]!).1 (cw20Ops[i]!).2).isOk))
    = [true, false, false, false, true, false, true] := by decide +kernel

/-- `claims_ledger`, `paid_after_period`, `value_conservation` on the cw20 history (5 of 6 ops, then the
successful claim at 60 s). -/
example : claimsOf (run cw20World0 (cw20Ops.take 6)).st "carol"
    = ledger (stOf cw20Msg).cfg cw20World0 (cw20Ops.take 6) "carol" [] :=
  claims_ledger inst_cw20Msg _ _ _ _
example : ledger (stOf cw20Msg).cfg cw20World0 (cw20Ops.take 6) "carol" [] = [⟨30, .atTime 60000001000⟩] := by
  decide +kernel
example : ∃ w' out, tx (run cw20World0 (cw20Ops.take 6)) (tblk 60) (.claim "carol") = .ok (w', out) ∧
    ∀ c ∈ matured (tblk 60) (claimsOf (run cw20World0 (cw20Ops.take 6)).st "carol"),
      ∃ pre b amt post, cw20Ops.take 6 = pre ++ (b, Op.unbond "carol" amt) :: post ∧
        (tx (run cw20World0 pre) b (.unbond "carol" amt)).isOk = true ∧
        c = ⟨amt, (stOf cw20Msg).cfg.period.after b⟩ ∧ PeriodPassed (stOf cw20Msg).cfg.period b (tblk 60) := by
  obtain ⟨w', out, ht⟩ := claim_succeeds_run inst_cw20Msg [("carol", 80)] [] (by decide) (cw20Ops.take 6)
    (tblk 60) "carol" (by decide)
  exact ⟨w', out, ht, (paid_after_period inst_cw20Msg _ _ _ _ _ ht).2.2⟩
example : paidTo "carol" (outs cw20World0 cw20Ops) = 30 ∧ flow bonded "carol" cw20World0 cw20Ops = 50 ∧
    flow unbonded "carol" cw20World0 cw20Ops = 30 := by decide +kernel

/-- the native / height-based history `demoOps`: ledgers of alice and bob -/
example : paidTo "alice" (outs (World.init (stOf cfgMsg) [("alice", 100), ("bob", 5)] []) demoOps) = 20 ∧
    flow bonded "alice" (World.init (stOf cfgMsg) [("alice", 100), ("bob", 5)] []) demoOps = 57 ∧
    flow donated "bob" (World.init (stOf cfgMsg) [("alice", 100), ("bob", 5)] []) demoOps = 3 := by decide +kernel
example := value_conservation inst_cfgMsg [("alice", 100), ("bob", 5)] [] demoOps "alice"
example := balance_ledger "bob" (World.init (stOf cfgMsg) [("alice", 100), ("bob", 5)] []) demoOps

/-- a contract that already held 7 tokens when instantiated stays backed; its surplus is 7 + bob's 3 -/
example : (run (initFunded (stOf cfgMsg) 7 [("alice", 100), ("bob", 5)] []) demoOps).held = 47 ∧
    (run (initFunded (stOf cfgMsg) 7 [("alice", 100), ("bob", 5)] []) demoOps).extra = 10 := by decide +kernel
example := backing_prefunded inst_cfgMsg 7 [("alice", 100), ("bob", 5)] [] demoOps

/-- `balance_frame` / `held_frame` / `supply_tx` on alice's successful claim at height 109 -/
example : ∃ w' out, tx (run (World.init (stOf cfgMsg) [("alice", 100), ("bob", 5)] []) (demoOps.take 4)) blk9
    (.claim "alice") = .ok (w', out) ∧ balOf w' "alice" = 63 ∧ w'.held = 40 := by
  have due : claimDue (run (World.init (stOf cfgMsg) [("alice", 100), ("bob", 5)] []) (demoOps.take 4)) blk9
      (.claim "alice") "alice" = 20 := by decide +kernel
  obtain ⟨w', out, ht⟩ := claim_succeeds_run inst_cfgMsg [("alice", 100), ("bob", 5)] [] (by decide)
    (demoOps.take 4) blk9 "alice" (by decide)
  refine ⟨w', out, ht, ?_, ?_⟩
  · have := (balance_frame ht "alice").1
    have e : balOf (run (World.init (stOf cfgMsg) [("alice", 100), ("bob", 5)] []) (demoOps.take 4)) "alice" = 43 := by
      decide
    simp only [bonded, donated] at this
    omega
  · have := (held_frame ht).1
    have e : (run (World.init (stOf cfgMsg) [("alice", 100), ("bob", 5)] []) (demoOps.take 4)).held = 60 := by decide +kernel
    simp only [bonded, donated, Op.sender] at this
    omega

/-- `only_configured_token`, native configuration: a foreign denom, two coins, a zero coin and a cw20 `Send`
are all refused; exactly one coin of `ustake` is accepted — and the theorem applies to that transaction. -/
example :
    let w := World.init (stOf cfgMsg) [("alice", 100)] []
    (tx w blk0 (.bond "alice" [("uother", 5)])).isOk = false ∧
    (tx w blk0 (.bond "alice" [("ustake", 5), ("uother", 5)])).isOk = false ∧
    (tx w blk0 (.bond "alice" [("ustake", 0)])).isOk = false ∧
    (tx w blk0 (.bond "alice" [])).isOk = false ∧
    (tx w blk0 (.send "alice" "tok" 5 true)).isOk = false ∧
    (tx w blk0 (.bond "alice" [("ustake", 5)])).isOk = true := by decide +kernel
example : ∃ w' out, tx (World.init (stOf cfgMsg) [("alice", 100)] []) blk0 (.bond "alice" [("ustake", 5)]) = .ok (w', out) ∧
    ∃ d amt, (stOf cfgMsg).cfg.denom = .native d ∧ [("ustake", 5)] = [(d, amt)] ∧ amt ≠ 0 := by
  rcases step_cases (World.init (stOf cfgMsg) [("alice", 100)] []) blk0 (.bond "alice" [("ustake", 5)])
    with ⟨w', out, ht, _, _, _⟩ | ⟨_, _, hf⟩
  · exact ⟨w', out, ht, (only_configured_token ht).1 _ _ rfl⟩
  · exact absurd hf (by decide)

/-! ## "Once", claim by claim: created claims = paid claims + waiting claims (as multisets) -/

/-- The claims a transaction of the history pays to `a`: the matured ones, when it is a successful `Claim`
of `a`. -/
def paidStep (w : World) (blk : Block) (op : Op) (a : Addr) : List Claim :=
  match (tx w blk op).isOk, op with
  | true, .claim snd => if snd = a then matured blk (claimsOf w.st a) else []
  | _, _ => []

/-- The claim a transaction of the history creates for `a`: one, when it is a successful `Unbond` of `a`. -/
def createdStep (w : World) (blk : Block) (op : Op) (a : Addr) : List Claim :=
  match (tx w blk op).isOk, op with
  | true, .unbond snd amt => if snd = a then [⟨amt, w.st.cfg.period.after blk⟩] else []
  | _, _ => []

/-- All claims paid to `a` along a history, in order of payment. -/
def paidClaims (a : Addr) (w : World) : List (Block × Op) → List Claim
  | [] => []
  | o :: rest => paidStep w o.1 o.2 a ++ paidClaims a (step w o.1 o.2) rest

/-- All claims created for `a` along a history, in order of creation. -/
def createdClaims (a : Addr) (w : World) : List (Block × Op) → List Claim
  | [] => []
  | o :: rest => createdStep w o.1 o.2 a ++ createdClaims a (step w o.1 o.2) rest

theorem claims_perm_step (w : World) (blk : Block) (op : Op) (a : Addr) :
    (paidStep w blk op a ++ claimsOf (step w blk op).st a).Perm (claimsOf w.st a ++ createdStep w blk op a) := by
  rw [claims_step]
  unfold paidStep createdStep
  cases hok : (tx w blk op).isOk with
  | false => cases op <;> simp [ledgerStep]
  | true =>
    cases op with
    | unbond snd amt =>
      simp only [ledgerStep]
      split <;> simp
    | claim snd =>
      simp only [ledgerStep]
      split
      · simp only [List.append_nil, matured, waiting]
        exact List.filter_append_perm _ _
      · simp
    | bond _ _ | send _ _ _ _ | receive _ _ _ _ | updateAdmin _ _ | addHook _ _ | removeHook _ _ | donate _ _ =>
      simp [ledgerStep]

/-- **C10 `claim_pays_matured_once`, "once" claim by claim**: after any history from any world, the claims
paid to `a` together with the claims still waiting for `a` are — as multisets — exactly `a`'s initial claims
together with the claims created by `a`'s successful unbonds.  So every created claim is either still waiting
or was paid, never both, never twice, and none is lost; nothing is paid that was not created. -/
theorem claims_paid_once (a : Addr) (w : World) (ops : List (Block × Op)) :
    (paidClaims a w ops ++ claimsOf (run w ops).st a).Perm (claimsOf w.st a ++ createdClaims a w ops) := by
  induction ops generalizing w with
  | nil => simp [paidClaims, createdClaims]
  | cons o rest ih =>
    have h1 := (claims_perm_step w o.1 o.2 a).append_right (createdClaims a (step w o.1 o.2) rest)
    have h2 := (ih (step w o.1 o.2)).append_left (paidStep w o.1 o.2 a)
    simp only [paidClaims, createdClaims, run_cons, List.append_assoc] at h1 h2 ⊢
    exact h2.trans h1

/-- The tokens the contract's messages pay to `a` are exactly the amounts of the claims paid to `a`. -/
theorem paidTo_eq_paidClaims (a : Addr) (w : World) (ops : List (Block × Op)) :
    paidTo a (outs w ops) = amountSum (paidClaims a w ops) := by
  induction ops generalizing w with
  | nil => rfl
  | cons o rest ih =>
    simp only [outs_cons, paidTo_append, paidClaims, amountSum_append, ih]
    congr 1
    unfold paidStep
    rcases step_cases w o.1 o.2 with ⟨w', out, ht, _, ho, hok⟩ | ⟨_, ho, hok⟩
    · rw [ho, hok, paid_tx ht a]
      cases o.2 <;> simp [claimDue, amountSum]
      split <;> simp
    · rw [ho, hok]; simp [paidTo, amountSum]

/-- on `demoOps`: alice's one created claim `⟨20, height 105⟩` was paid once (at height 109), none waits -/
example : paidClaims "alice" (World.init (stOf cfgMsg) [("alice", 100), ("bob", 5)] []) demoOps = [⟨20, .atHeight 105⟩] ∧
    createdClaims "alice" (World.init (stOf cfgMsg) [("alice", 100), ("bob", 5)] []) demoOps = [⟨20, .atHeight 105⟩] := by
  decide +kernel

end CwPlus.Props.C10
