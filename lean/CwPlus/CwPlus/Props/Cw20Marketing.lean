import CwPlus.Props.C01
import CwPlus.Lemmas.Cw20Marketing
/-!
# cw20-base marketing info and logo

`UpdateMarketing`, `UploadLogo`, the marketing part of `instantiate`, `MarketingInfo`, `DownloadLogo`
and the logo validators are part of the model `CwPlus.Cw20`.  Proved here: the frame both ways (marketing messages
touch nothing else, token messages and `migrate` never touch `MARKETING_INFO` / `LOGO`); only the stored marketing
address changes them, and without one they are frozen over every history; every stored logo passes `verify_logo`
and `MarketingInfo.logo` describes it (`LogoInv`, over every history); absent keeps, blank clears, other text
replaces; what `verify_xml_preamble` accepts as a statement about the bytes.

Histories are `C01.run` (any senders, any messages, failed calls rolled back).
-/
namespace CwPlus.Props.Cw20Marketing
open CwPlus CwPlus.Cw20
open CwPlus.Props.C01 (run)

/-- The two marketing messages. -/
def isMarketingMsg : Msg → Bool
  | .updateMarketing .. => true
  | .uploadLogo _ => true
  | _ => false

/-- **Frame for C01/C02/C13/C19**: a successful `UpdateMarketing` / `UploadLogo` leaves the supply,
every balance, both allowance maps, the minter and the version untouched and emits no message. -/
theorem marketing_ops_frame {s s' : State} {blk : Block} {snd : Addr} {msg : Msg} {out : List Out}
    (hm : isMarketingMsg msg = true) (h : execute s blk snd msg = .ok (s', out)) :
    s'.supply = s.supply ∧ s'.balances = s.balances ∧ s'.allow = s.allow ∧ s'.allowSp = s.allowSp
      ∧ s'.mint = s.mint ∧ s'.version = s.version ∧ out = [] := by
  cases msg <;> simp [isMarketingMsg] at hm <;> simp only [execute] at h
  · obtain ⟨mk, rfl, rfl⟩ := execUpdateMarketing_frame h; simp
  · obtain ⟨mk, rfl, rfl⟩ := execUploadLogo_frame h; simp

/-- **Converse frame**: none of the ten token messages (transfers, sends, burns, mint, minter and
allowance updates, draws) changes `MARKETING_INFO` or `LOGO`. -/
theorem token_ops_frame {s s' : State} {blk : Block} {snd : Addr} {msg : Msg} {out : List Out}
    (hm : isMarketingMsg msg = false) (h : execute s blk snd msg = .ok (s', out)) :
    s'.marketing = s.marketing ∧ s'.logo = s.logo := by
  cases msg
  case updateMarketing | uploadLogo => cases hm
  all_goals exact (execute_frame h).1

/-- `migrate` (version bookkeeping, rebuild of the spender map) never touches marketing info or logo. -/
theorem migrate_frame {s s' : State} (h : migrate s = .ok s') :
    s'.marketing = s.marketing ∧ s'.logo = s.logo := by
  obtain ⟨_, _, rfl⟩ := migrate_ok.mp h
  exact ⟨rfl, rfl⟩

/-- The address allowed to change marketing info and logo: the `marketing` field of the stored
`MARKETING_INFO`, if both exist. -/
def marketingAddr (s : State) : Option Addr := s.marketing.bind (·.marketing)

/-- **Exactly when `UpdateMarketing` succeeds**: the sender is the stored marketing address and the
new marketing address, if one is given and not blank, validates. -/
theorem update_marketing_ok_iff {s : State} {snd : Addr} {p d : Option String} {m : Option AddrArg} :
    (∃ r, execUpdateMarketing s snd p d m = .ok r) ↔
      (marketingAddr s = some snd ∧ ∀ a, m = some a → isBlank a.text = false → a.valid = true) := by
  constructor
  · rintro ⟨r, h⟩
    obtain ⟨mi, addr, hs, hmk, ha, _⟩ := execUpdateMarketing_ok_iff.mp h
    exact ⟨by simp [marketingAddr, hs, hmk], updAddr_ok_iff.mp ⟨addr, ha⟩⟩
  · rintro ⟨hs, hv⟩
    obtain ⟨mi, hmi, hmk⟩ : ∃ mi, s.marketing = some mi ∧ mi.marketing = some snd := by
      simpa [marketingAddr, Option.bind_eq_some_iff] using hs
    obtain ⟨addr, ha⟩ := (updAddr_ok_iff (old := mi.marketing)).mpr hv
    exact ⟨_, execUpdateMarketing_ok_iff.mpr ⟨mi, addr, hmi, hmk, ha, rfl⟩⟩

/-- **Exactly when `UploadLogo` succeeds**: the sender is the stored marketing address and the logo
passes `verify_logo`. -/
theorem upload_logo_ok_iff {s : State} {snd : Addr} {l : Logo} :
    (∃ r, execUploadLogo s snd l = .ok r) ↔ (marketingAddr s = some snd ∧ verifyLogo l = .ok ()) := by
  constructor
  · rintro ⟨r, h⟩
    obtain ⟨mi, hs, hv, hmk, _⟩ := execUploadLogo_ok_iff.mp h
    exact ⟨by simp [marketingAddr, hs, hmk], hv⟩
  · rintro ⟨hs, hv⟩
    obtain ⟨mi, hmi, hmk⟩ : ∃ mi, s.marketing = some mi ∧ mi.marketing = some snd := by
      simpa [marketingAddr, Option.bind_eq_some_iff] using hs
    exact ⟨_, execUploadLogo_ok_iff.mpr ⟨mi, hmi, hv, hmk, rfl⟩⟩

/-- **Only the marketing address changes marketing info or logo**: if a successful call of any kind
by `snd` left `MARKETING_INFO` or `LOGO` different, the call was `UpdateMarketing` / `UploadLogo` and
`snd` was the stored marketing address at that moment. -/
theorem only_marketing_address {s s' : State} {blk : Block} {snd : Addr} {msg : Msg} {out : List Out}
    (h : execute s blk snd msg = .ok (s', out)) (hne : s'.marketing ≠ s.marketing ∨ s'.logo ≠ s.logo) :
    isMarketingMsg msg = true ∧ marketingAddr s = some snd := by
  cases hm : isMarketingMsg msg
  · obtain ⟨e1, e2⟩ := token_ops_frame hm h
    rcases hne with hne | hne <;> contradiction
  · refine ⟨rfl, ?_⟩
    cases msg <;> simp [isMarketingMsg] at hm <;> simp only [execute] at h
    · exact (update_marketing_ok_iff.mp ⟨_, h⟩).1
    · exact (upload_logo_ok_iff.mp ⟨_, h⟩).1

/-- **Frozen without a marketing address**: when no marketing address is stored (no marketing info at
all, or its `marketing` field is empty — e.g. after the marketing address cleared itself), no history
of calls by anybody ever changes marketing info or logo again. -/
theorem frozen_without_marketing_address {s : State} (hs : marketingAddr s = none)
    (ops : List (Block × Addr × Msg)) :
    (run s ops).marketing = s.marketing ∧ (run s ops).logo = s.logo := by
  refine run_preserves (P := fun t => t.marketing = s.marketing ∧ t.logo = s.logo) ?_ ops ⟨rfl, rfl⟩
  intro t t' blk snd msg out hi h
  by_cases hne : t'.marketing ≠ t.marketing ∨ t'.logo ≠ t.logo
  · have := (only_marketing_address h hne).2
    rw [marketingAddr, hi.1, ← marketingAddr, hs] at this
    cases this
  · exact ⟨(Classical.not_not.mp fun h => hne (.inl h)).trans hi.1,
      (Classical.not_not.mp fun h => hne (.inr h)).trans hi.2⟩

theorem updText_none (old : Option String) : updText old none = old := rfl

theorem updText_blank (old : Option String) {t : String} (h : isBlank t = true) : updText old (some t) = none := by
  simp [updText, h]

theorem updText_text (old : Option String) {t : String} (h : isBlank t = false) : updText old (some t) = some t := by
  simp [updText, h]

/-- **What a successful `UpdateMarketing` stores**: each text field follows `updText` (absent keeps,
blank — empty or only Unicode white space — clears, anything else replaces, untrimmed); the marketing
address follows the same rule with validation; the logo info is kept; and the whole item is removed
exactly when all four fields end up empty. -/
theorem update_marketing_exact {s s' : State} {snd : Addr} {p d : Option String} {m : Option AddrArg}
    {out : List Out} (h : execUpdateMarketing s snd p d m = .ok (s', out)) :
    ∃ mi addr, s.marketing = some mi ∧ updAddr mi.marketing m = .ok addr ∧
      queryMarketingInfo s' = ⟨updText mi.project p, updText mi.description d, addr, mi.logo⟩ ∧
      (s'.marketing = none ↔
        (updText mi.project p = none ∧ updText mi.description d = none ∧ addr = none ∧ mi.logo = none)) ∧
      s'.logo = s.logo := by
  obtain ⟨mi, addr, hmi, _, ha, hr⟩ := execUpdateMarketing_ok_iff.mp h
  cases hr
  refine ⟨mi, addr, hmi, ha, ?_, ?_, rfl⟩
  · simp only [queryMarketingInfo]
    split
    · -- all four fields are empty: the item is removed and the query answers the default, which is the same
      simp_all
    · rfl
  · simp [and_assoc]

/-- **What a successful `UploadLogo` stores**: the logo itself, and `Url(u)` / `Embedded` as logo
info; project, description and marketing address are kept. -/
theorem upload_logo_exact {s s' : State} {snd : Addr} {l : Logo} {out : List Out}
    (h : execUploadLogo s snd l = .ok (s', out)) :
    ∃ mi, s.marketing = some mi ∧ s'.logo = some l ∧
      s'.marketing = some { mi with logo := some (logoInfoOf l) } := by
  obtain ⟨mi, hmi, _, _, hr⟩ := execUploadLogo_ok_iff.mp h
  cases hr
  exact ⟨mi, hmi, rfl, rfl⟩

/-! ## Stored logos are valid -/

/-- The bytes of an embedded logo (`none` for a URL). -/
def embeddedBytes : Logo → Option Bytes
  | .svg d => some d
  | .png d => some d
  | .url _ => none

theorem verifyLogo_ok {l : Logo} (h : verifyLogo l = .ok ()) :
    match l with
    | .svg d => d.length ≤ LOGO_SIZE_CAP ∧ verifyXmlPreamble d = .ok ()
    | .png d => d.length ≤ LOGO_SIZE_CAP ∧ PNG_HEADER <+: d
    | .url _ => True := by
  cases l with
  | url u => trivial
  | svg d =>
    simp only [verifyLogo, verifyXmlLogo, Res.bind_ok] at h
    obtain ⟨_, h1, h2⟩ := h
    simp at h2
    exact ⟨h2, h1⟩
  | png d =>
    simp only [verifyLogo, verifyPngLogo, check_bind_ok] at h
    simp at h
    exact h

theorem verifyLogo_size {l : Logo} (h : verifyLogo l = .ok ()) :
    ∀ d, embeddedBytes l = some d → d.length ≤ LOGO_SIZE_CAP := by
  have := verifyLogo_ok h
  cases l <;> simp [embeddedBytes] <;> simp at this <;> exact this.1

/-- The invariant: the stored logo (if any) passes `verify_logo`, and the `logo` field of the
marketing info is exactly the description of the stored logo (none / `Url` / `Embedded`). -/
def LogoInv (s : State) : Prop :=
  (∀ l, s.logo = some l → verifyLogo l = .ok ()) ∧
  s.marketing.bind (·.logo) = s.logo.map logoInfoOf

theorem instMarketing_inv {mk : Option InstMarketing} {mi : Option MarketingInfo} {lg : Option Logo}
    (h : instMarketing mk = .ok (mi, lg)) :
    (∀ l, lg = some l → verifyLogo l = .ok ()) ∧ mi.bind (·.logo) = lg.map logoInfoOf := by
  unfold instMarketing at h
  split at h
  · simp at h; obtain ⟨rfl, rfl⟩ := h; simp
  · rename_i m
    simp only [Res.bind_ok] at h
    obtain ⟨_, hv, addr, _, h⟩ := h
    simp at h; obtain ⟨rfl, rfl⟩ := h
    refine ⟨?_, by simp⟩
    intro l hl
    rw [hl] at hv
    exact hv

theorem instantiate_logo_inv {m : InstMsg} {s : State} (h : instantiate m = .ok s) : LogoInv s := by
  obtain ⟨_, b, t, mk, lg, _, _, hm, rfl⟩ := instantiate_ok h
  exact instMarketing_inv hm

theorem execute_logo_inv {s s' : State} {blk : Block} {snd : Addr} {msg : Msg} {out : List Out}
    (hi : LogoInv s) (h : execute s blk snd msg = .ok (s', out)) : LogoInv s' := by
  cases hm : isMarketingMsg msg
  · obtain ⟨e1, e2⟩ := token_ops_frame hm h
    unfold LogoInv; rw [e1, e2]; exact hi
  · cases msg <;> simp [isMarketingMsg] at hm <;> simp only [execute] at h
    · obtain ⟨mi, addr, hmi, _, hq, hnone, hl⟩ := update_marketing_exact h
      obtain ⟨h1, h2⟩ := hi
      refine ⟨by rw [hl]; exact h1, ?_⟩
      rw [hl, ← h2, hmi]
      rcases hs' : s'.marketing with _ | mi'
      · have := hnone.mp hs'; simp [this.2.2.2]
      · simp [queryMarketingInfo, hs'] at hq; simp [hq]
    · obtain ⟨mi, hmi, hl, hmk⟩ := upload_logo_exact h
      have hv := (upload_logo_ok_iff.mp ⟨_, h⟩).2
      refine ⟨?_, by simp [hmk, hl]⟩
      intro l' hl'; rw [hl] at hl'; cases hl'; exact hv

/-- **Stored logos are valid, over all histories**: after any accepted instantiation and any finite
history of calls (failed ones rolled back), the logo invariant holds. -/
theorem reach_logo_inv {m : InstMsg} {s : State} (h : instantiate m = .ok s) (ops : List (Block × Addr × Msg)) :
    LogoInv (run s ops) :=
  run_preserves execute_logo_inv ops (instantiate_logo_inv h)

/-- … spelled out: whatever logo is stored passes `verifyLogo`; an embedded one is at most
`LOGO_SIZE_CAP` = 5120 bytes; an SVG has the XML preamble, a PNG the eight header bytes. -/
theorem stored_logo_valid {m : InstMsg} {s : State} (h : instantiate m = .ok s) (ops : List (Block × Addr × Msg))
    {l : Logo} (hl : (run s ops).logo = some l) :
    verifyLogo l = .ok () ∧ (∀ d, embeddedBytes l = some d → d.length ≤ 5120) ∧
    (∀ d, l = .svg d → verifyXmlPreamble d = .ok ()) ∧ (∀ d, l = .png d → PNG_HEADER <+: d) := by
  have hv := (reach_logo_inv h ops).1 l hl
  refine ⟨hv, verifyLogo_size hv, ?_, ?_⟩
  · intro d hd; subst hd; exact (verifyLogo_ok hv).2
  · intro d hd; subst hd; exact (verifyLogo_ok hv).2

/-- `MarketingInfo.logo` tells the truth about the stored logo, over all histories. -/
theorem logo_info_truthful {m : InstMsg} {s : State} (h : instantiate m = .ok s) (ops : List (Block × Addr × Msg)) :
    (queryMarketingInfo (run s ops)).logo = (run s ops).logo.map logoInfoOf := by
  have := (reach_logo_inv h ops).2
  rw [← this]
  unfold queryMarketingInfo
  cases (run s ops).marketing <;> rfl

/-- **`DownloadLogo`** answers exactly when an embedded logo is stored, with the stored bytes and the
matching mime type; it fails for a URL logo and when there is none. -/
theorem download_logo_iff (s : State) (mime : String) (d : Bytes) :
    queryDownloadLogo s = .ok (mime, d) ↔
      (s.logo = some (.svg d) ∧ mime = "image/svg+xml") ∨ (s.logo = some (.png d) ∧ mime = "image/png") := by
  unfold queryDownloadLogo
  rcases s.logo with _ | l
  · simp
  · cases l <;> simp [pure, Except.pure] <;> grind

/-! ## What `verify_xml_preamble` accepts -/

theorem firstSegment_no_gt {d : Bytes} (h : 62 ∉ d) : firstSegment d = d := by
  induction d with
  | nil => rfl
  | cons b rest ih =>
    simp at h
    simp [firstSegment, Ne.symm h.1, ih h.2]

theorem firstSegment_split (mid rest : Bytes) (h : 62 ∉ mid) :
    firstSegment (mid ++ 62 :: rest) = mid ++ [62] := by
  induction mid with
  | nil => simp [firstSegment]
  | cons b t ih =>
    simp at h
    simp [firstSegment, Ne.symm h.1, ih h.2]

/-- Every input splits as its first segment followed by the remainder; the segment holds at most
one `>`, at its end. -/
theorem firstSegment_spec (d : Bytes) :
    (62 ∉ d ∧ firstSegment d = d) ∨ (∃ mid rest, 62 ∉ mid ∧ d = mid ++ 62 :: rest ∧ firstSegment d = mid ++ [62]) := by
  by_cases h : 62 ∈ d
  · obtain ⟨mid, rest, rfl, hm⟩ := List.eq_append_cons_of_mem h
    exact .inr ⟨mid, rest, hm, rfl, firstSegment_split mid rest hm⟩
  · exact .inl ⟨h, firstSegment_no_gt h⟩

/-- **`verify_xml_preamble` as a statement about the bytes**: accepted exactly when the data is
`<?xml ` + text without `>` + `?>` + anything. -/
theorem xml_preamble_iff (d : Bytes) :
    verifyXmlPreamble d = .ok () ↔ ∃ mid rest, 62 ∉ mid ∧ d = XML_PREFIX ++ mid ++ XML_POSTFIX ++ rest := by
  constructor
  · intro h
    simp [verifyXmlPreamble] at h
    obtain ⟨⟨_, hp⟩, hs⟩ := h
    rcases firstSegment_spec d with ⟨h1, h2⟩ | ⟨seg, rest, h1, h2, h3⟩
    · -- no `>` at all: the suffix `?>` cannot match
      rw [h2] at hs
      obtain ⟨t, ht⟩ := hs
      exact absurd (by rw [← ht]; simp [XML_POSTFIX]) h1
    · rw [h3] at hp hs
      -- the segment ends with `?>`
      obtain ⟨u, hu⟩ := hs
      have hseg : seg = u ++ [63] :=
        (List.append_inj_left' (show u ++ [63] ++ [62] = seg ++ [62] by simpa [XML_POSTFIX] using hu) rfl).symm
      subst hseg
      -- the prefix ends with a blank, so it is over before the `?`
      have last : ∀ x l, x ≠ 32 → XML_PREFIX ≠ l ++ [x] := by
        intro x l hx e
        have := congrArg List.getLast? e
        simp [XML_PREFIX] at this
        exact hx this.symm
      rcases List.prefix_concat_iff.mp hp with e | hp
      · exact absurd e (last 62 _ (by decide))
      rcases List.prefix_concat_iff.mp hp with e | ⟨mid, hmid⟩
      · exact absurd e (last 63 _ (by decide))
      exact ⟨mid, rest, fun hm => h1 (by simp [← hmid, hm]), by rw [h2, ← hmid]; simp [XML_POSTFIX]⟩
  · rintro ⟨mid, rest, hm, rfl⟩
    have hseg : firstSegment (XML_PREFIX ++ mid ++ XML_POSTFIX ++ rest) = XML_PREFIX ++ mid ++ [63] ++ [62] := by
      have : XML_PREFIX ++ mid ++ XML_POSTFIX ++ rest = (XML_PREFIX ++ mid ++ [63]) ++ 62 :: rest := by
        simp [XML_POSTFIX]
      rw [this, firstSegment_split]
      simp [XML_PREFIX, hm]
    simp only [verifyXmlPreamble, hseg, check_ok, Bool.and_eq_true]
    refine ⟨⟨by simp [XML_PREFIX], ?_⟩, ?_⟩
    · exact List.isPrefixOf_iff_prefix.mpr ⟨mid ++ [63] ++ [62], by simp⟩
    · exact List.isSuffixOf_iff_suffix.mpr ⟨XML_PREFIX ++ mid, by simp [XML_POSTFIX]⟩

def exInst : InstMsg :=
  { name := "Token", symbol := "TKN", decimals := 6, initial := [(⟨true, "alice"⟩, 100)], mint := none,
    marketing := some { project := some "proj", description := none, marketing := some ⟨true, "mkt"⟩,
                        logo := some (.url "https://example.com/logo.svg") } }

/-- `<?xml ?><svg/>` -/
def exSvg : Bytes := [60, 63, 120, 109, 108, 32, 63, 62, 60, 115, 118, 103, 47, 62]

def exBlk : Block := ⟨100, 5000⟩

def exOps : List (Block × Addr × Msg) :=
  [ (exBlk, "mkt", .uploadLogo (.svg exSvg)),
    (exBlk, "alice", .uploadLogo (.png PNG_HEADER)),                      -- not the marketing address
    (exBlk, "mkt", .uploadLogo (.png [1, 2, 3])),                         -- bad header
    (exBlk, "alice", .transfer ⟨true, "bob"⟩ 40),
    (exBlk, "mkt", .updateMarketing (some " \t") (some "about") (some ⟨true, "mkt2"⟩)),
    (exBlk, "mkt", .updateMarketing (some "again") none none),            -- no longer the marketing address
    (exBlk, "mkt2", .updateMarketing none none (some ⟨false, ""⟩)) ]     -- clears the marketing address

example : ∃ s, instantiate exInst = .ok s ∧ marketingAddr s = some "mkt"
    ∧ queryMarketingInfo s = ⟨some "proj", none, some "mkt", some (.url "https://example.com/logo.svg")⟩
    ∧ (queryDownloadLogo s).isOk = false :=
  ⟨_, rfl, by decide +kernel, by decide +kernel, by rfl⟩

/-- The history uploads an SVG (two bad uploads fail), blanks the project, hands the marketing address
over and finally clears it; the transfer in between goes through. -/
example : ∃ s, instantiate exInst = .ok s ∧
    queryMarketingInfo (run s exOps) = ⟨none, some "about", none, some .embedded⟩ ∧
    queryDownloadLogo (run s exOps) = .ok ("image/svg+xml", exSvg) ∧
    bal (run s exOps) "bob" = 40 ∧ marketingAddr (run s exOps) = none :=
  ⟨_, rfl, by decide, by rfl, by decide, by decide⟩

example : verifyXmlPreamble exSvg = .ok () ∧ (verifyXmlPreamble [60, 115, 118, 103, 47, 62]).isOk = false
    ∧ (verifyLogo (.png (PNG_HEADER.take 7))).isOk = false ∧ verifyLogo (.png PNG_HEADER) = .ok () :=
  ⟨rfl, rfl, rfl, rfl⟩

/-- the witnesses of `xml_preamble_iff` for `exSvg`: empty attribute text, `<svg/>` as remainder -/
example : exSvg = XML_PREFIX ++ [] ++ XML_POSTFIX ++ [60, 115, 118, 103, 47, 62] := by decide +kernel

/-- all of marketing info disappears when the last field is cleared and no logo was ever stored -/
example : ∃ s', execUpdateMarketing { (default : State) with marketing := some ⟨some "p", none, some "m", none⟩ } "m"
      (some "") none (some ⟨false, " "⟩) = .ok (s', []) ∧ s'.marketing = none :=
  ⟨_, rfl, rfl⟩

end CwPlus.Props.Cw20Marketing
