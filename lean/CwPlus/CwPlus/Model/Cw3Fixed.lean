import CwPlus.Model.Cw3Core
/-!
# Model of `contracts/cw3-fixed-multisig`

Transcribed from `contract.rs` (`instantiate`, `execute_{propose,vote,execute,close}`, all eight
queries) and `state.rs` (`next_id`).  The proposal / ballot parts are the shared `Cw3Core`
instantiated with: voting weight = `VOTERS[sender]` (fixed at instantiation, independent of the
proposal), executor = anyone, deposit = none.

`World` + `tx` model the runtime (wasmd as implemented by cw-multi-test): run the handler, then
dispatch the returned messages depth-first; any failure aborts the whole transaction and
restores the whole world.
-/
namespace CwPlus.Cw3Fixed
open CwPlus CwPlus.Cw3 CwPlus.Cw3Core

structure Config where
  threshold : Threshold
  totalWeight : Nat
  maxVotingPeriod : Duration
  deriving Repr, DecidableEq, Inhabited

structure State where
  cfg : Config
  /-- `VOTERS` -/
  voters : AMap Addr Nat
  core : Core
  deriving Repr, DecidableEq, Inhabited

structure InstMsg where
  voters : List (AddrArg × Nat)
  threshold : Threshold
  maxVotingPeriod : Duration
  deriving Repr, Inhabited

/-- `msg.voters.iter().map(|v| v.weight).sum()` on `u64` (panics on overflow). -/
def sumWeights : List (AddrArg × Nat) → Nat → Res Nat
  | [], acc => .ok acc
  | (_, w) :: rest, acc => do
    let acc' ← addU64 acc w
    sumWeights rest acc'

/-- The `for voter in msg.voters.iter()` loop: validate, refuse an address that is already
stored (`DuplicateVoter`), save. -/
def addVoters : List (AddrArg × Nat) → AMap Addr Nat → Res (AMap Addr Nat)
  | [], m => .ok m
  | (a, w) :: rest, m => do
    check a.valid "addr"
    check (m.get? a.text).isNone "duplicate_voter"
    addVoters rest (m.set a.text w)

def instantiate (m : InstMsg) : Res State := do
  check (!m.voters.isEmpty) "no_voters"
  let total ← sumWeights m.voters 0
  m.threshold.validate total
  let voters ← addVoters m.voters []
  pure { cfg := ⟨m.threshold, total, m.maxVotingPeriod⟩, voters := voters, core := Core.empty }

inductive ExecMsg where
  | propose (title description : String) (msgs : List Msg) (latest : Option Expiration)
  | vote (id : Nat) (vote : Vote)
  | execute (id : Nat)
  | close (id : Nat)
  deriving Repr, DecidableEq, Inhabited

/-- `VOTERS.may_load(sender)?.ok_or(Unauthorized)` -/
def memberWeight (s : State) (a : Addr) : Res Nat :=
  match s.voters.get? a with
  | some w => .ok w
  | none => .error "unauthorized"

@[simp] theorem memberWeight_ok {s : State} {a : Addr} {w : Nat} : memberWeight s a = .ok w ↔ s.voters.get? a = some w := by
  unfold memberWeight; split <;> simp_all

@[simp high] theorem memberWeight_bind_ok {α : Type} {s : State} {a : Addr} (f : Nat → Res α) (r : α) :
    (memberWeight s a >>= f) = Except.ok r ↔ ∃ w, s.voters.get? a = some w ∧ f w = Except.ok r := by
  unfold memberWeight; split <;> simp_all [bind, Except.bind]

def execPropose (s : State) (blk : Block) (snd : Addr) (title description : String) (msgs : List Msg)
    (latest : Option Expiration) : Res (State × List Msg) := do
  let w ← memberWeight s snd
  let (c, _) ← Cw3Core.propose s.core blk snd w s.cfg.threshold s.cfg.totalWeight s.cfg.maxVotingPeriod
    title description msgs latest none
  pure ({ s with core := c }, [])

def execVote (s : State) (blk : Block) (snd : Addr) (id : Nat) (v : Vote) : Res (State × List Msg) := do
  let c ← Cw3Core.vote s.core blk snd id v (fun _ => s.voters.get? snd)
  pure ({ s with core := c }, [])

def execExecute (s : State) (blk : Block) (id : Nat) : Res (State × List Msg) := do
  let (c, out) ← Cw3Core.execute s.core blk id true
  pure ({ s with core := c }, out)

def execClose (s : State) (blk : Block) (id : Nat) : Res (State × List Msg) := do
  let c ← Cw3Core.close s.core blk id
  pure ({ s with core := c }, [])

def execute (s : State) (blk : Block) (snd : Addr) : ExecMsg → Res (State × List Msg)
  | .propose t d msgs latest => execPropose s blk snd t d msgs latest
  | .vote id v => execVote s blk snd id v
  | .execute id => execExecute s blk id
  | .close id => execClose s blk id

/-! ## queries -/

/-- `query_threshold`: `cfg.threshold.to_response(cfg.total_weight)` -/
def queryThreshold (s : State) : Threshold × Nat := (s.cfg.threshold, s.cfg.totalWeight)

def queryProposal (s : State) (blk : Block) (id : Nat) : Res ProposalView := Cw3Core.queryProposal s.core blk id
def listProposals (s : State) (blk : Block) (after limit : Option Nat) : Res (List ProposalView) :=
  Cw3Core.listProposals s.core blk after limit
def reverseProposals (s : State) (blk : Block) (before limit : Option Nat) : Res (List ProposalView) :=
  Cw3Core.reverseProposals s.core blk before limit
def queryVote (s : State) (id : Nat) (voter : AddrArg) : Res (Option Ballot) := Cw3Core.queryVote s.core id voter
def listVotes (s : State) (id : Nat) (after : Option String) (limit : Option Nat) : List (Addr × Ballot) :=
  Cw3Core.listVotes s.core id after limit

/-- `query_voter` -/
def queryVoter (s : State) (a : AddrArg) : Res (Option Nat) := do
  check a.valid "addr"
  pure (s.voters.get? a.text)

open Paginate in
/-- `list_voters` -/
def listVoters (s : State) (after : Option String) (limit : Option Nat) : List (Addr × Nat) :=
  page strLt (sortedEntries strLt s.voters) after limit

/-! ## the runtime: dispatch of returned messages, atomic transactions -/

/-- Ghost log of what happened inside committed transactions (rolled back with the world). -/
inductive Event where
  | proposed (id : Nat)
  | voted (id : Nat) (a : Addr)
  | executed (id : Nat)
  | closed (id : Nat)
  | sent (to : Addr) (amt : Nat) (denom : String)
  | called (tag : String)
  deriving Repr, DecidableEq, Inhabited

structure World where
  ms : State
  /-- the multisig's own address -/
  self : Addr
  /-- native balances keyed `(address, denom)` -/
  bank : AMap (Addr × String) Nat
  /-- does the external contract addressed by `Msg.other` currently accept calls -/
  sinkOk : Bool
  log : List Event
  deriving Repr, DecidableEq, Inhabited

def balance (w : World) (a : Addr) (denom : String) : Nat := (w.bank.get? (a, denom)).getD 0

/-- `BankMsg::Send` of one coin (cw-multi-test `BankKeeper::send`: zero amounts are refused,
debit must be covered, then credit). -/
def bankSend (bank : AMap (Addr × String) Nat) (frm to : Addr) (amt : Nat) (denom : String) :
    Res (AMap (Addr × String) Nat) := do
  check (decide (amt ≠ 0)) "bank.zero"
  let b ← subU128 ((bank.get? (frm, denom)).getD 0) amt
  let bank1 := bank.set (frm, denom) b
  let r ← addU128 ((bank1.get? (to, denom)).getD 0) amt
  pure (bank1.set (to, denom) r)

/-- The event a successful handler call leaves in the ghost log. -/
def eventOf (s : State) (snd : Addr) : ExecMsg → Event
  | .propose .. => .proposed (s.core.count + 1)
  | .vote id _ => .voted id snd
  | .execute id => .executed id
  | .close id => .closed id

/-- The `ExecuteMsg` a self-call message carries (`none`: not a self-call). -/
def selfCall : Msg → Option ExecMsg
  | .selfExecute id => some (.execute id)
  | .selfClose id => some (.close id)
  | .selfVote id v => some (.vote id v)
  | .selfPropose latest => some (.propose "self" "self" [] latest)
  | _ => none

/-- Dispatch of a message that is not a self-call. -/
def leaf (w : World) : Msg → Res World
  | .bank to amt denom => do
    let b ← bankSend w.bank w.self to amt denom
    pure { w with bank := b, log := w.log ++ [.sent to amt denom] }
  | .other tag => do
    check w.sinkOk "sink.refused"
    pure { w with log := w.log ++ [.called tag] }
  | _ => .error "no_contract"

/-- Dispatch a list of messages emitted by the multisig, in order, depth-first: the messages
returned by a nested handler call (sender = the multisig itself) are dispatched before the
next message of the list.  Any failure fails the whole dispatch (`ReplyOn::Never`).  `fuel`
bounds position + nesting depth. -/
def dispatch : Nat → World → Block → List Msg → Res World
  | _, w, _, [] => .ok w
  | 0, _, _, _ :: _ => .error "fuel"
  | fuel + 1, w, blk, m :: rest => do
    let w1 ← (match selfCall m with
      | some em => do
        let (s', out) ← execute w.ms blk w.self em
        dispatch fuel { w with ms := s', log := w.log ++ [eventOf w.ms w.self em] } blk out
      | none => leaf w m : Res World)
    dispatch fuel w1 blk rest

/-- One transaction: the handler, then its messages.  `.error` = the runtime discards every
change (`step` keeps the old world). -/
def tx (fuel : Nat) (w : World) (blk : Block) (snd : Addr) (m : ExecMsg) : Res World := do
  let (s', out) ← execute w.ms blk snd m
  dispatch fuel { w with ms := s', log := w.log ++ [eventOf w.ms snd m] } blk out

/-- What can happen between instantiation and the end of a history. -/
inductive Action where
  | exec (snd : Addr) (m : ExecMsg)
  /-- somebody sends native coins to the multisig -/
  | fund (amt : Nat) (denom : String)
  /-- the external contract starts / stops accepting calls -/
  | setSink (ok : Bool)
  deriving Repr, Inhabited

structure Op where
  blk : Block
  act : Action
  deriving Repr, Inhabited

def step (fuel : Nat) (w : World) (op : Op) : World :=
  match op.act with
  | .exec snd m =>
    match tx fuel w op.blk snd m with
    | .ok w' => w'
    | .error _ => w
  | .fund amt denom =>
    match addU128 (balance w w.self denom) amt with
    | .ok b => { w with bank := w.bank.set (w.self, denom) b }
    | .error _ => w
  | .setSink ok => { w with sinkOk := ok }

def run (fuel : Nat) (w : World) (ops : List Op) : World := ops.foldl (step fuel) w

/-- The world right after a successful instantiation. -/
def World.init (s : State) (self : Addr) (bank : AMap (Addr × String) Nat) (sinkOk : Bool) : World :=
  { ms := s, self, bank, sinkOk, log := [] }

end CwPlus.Cw3Fixed
