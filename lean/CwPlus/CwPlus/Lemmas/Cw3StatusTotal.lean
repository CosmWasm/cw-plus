import CwPlus.Lemmas.Cw3Status
import CwPlus.Lemmas.Cw3Flex
/-!
# cw3: a stored proposal whose tally fits `u64` has a status at every block

`current_status` can fail (the `u64` subtractions / additions of `is_passed`, `is_rejected`).  The handlers evaluate
it on the record they are about to store, at their own block, and store the result; this file shows that a record
stored that way has a status at *every* block, provided the four tally counters together fit `u64`
(`cs_stable`).  The proviso is needed for one case only: a `ThresholdQuorum` proposal without Yes weight whose
`Votes::total()` overflows is evaluated without the total while it is not expired and with it once it is.

`StatusInv` (every stored proposal whose tally fits has a status at every block) is an invariant of the four core
operations and hence of every reachable cw3-flex world (`Cw3Flex.reachable_statusInv`), whatever the group did —
the recorded total weight need not bound the tally (D3).  Used by `Props/C20Listings.lean` (the proposal listings
fail as a whole when one listed proposal has no status).
-/
namespace CwPlus.Cw3
open CwPlus

/-- The decision depends on the block only through "has the proposal expired". -/
theorem cs_congr_expired {t : Tally} {b b' : Block} (h : t.expires.isExpired b = t.expires.isExpired b') :
    currentStatus t b = currentStatus t b' :=
  Cw3Core.cs_congr h

theorem cs_ok_of_parts {t : Tally} {blk : Block} (hp : ∃ b, isPassed t blk = .ok b) (hr : ∃ r, isRejected t blk = .ok r) :
    ∃ st, currentStatus t blk = .ok st := by
  obtain ⟨b, hb⟩ := hp
  obtain ⟨r, hr⟩ := hr
  unfold currentStatus
  by_cases hs : t.status ≠ .open
  · rw [if_pos hs]; exact ⟨_, rfl⟩
  · rw [if_neg hs, hb, Res.ok_bind]
    cases b with
    | true => exact ⟨_, rfl⟩
    | false =>
      rw [hr]
      simp only [Bool.false_eq_true, if_false, Res.ok_bind]
      split <;> exact ⟨_, rfl⟩

/-- A record stored Open that was evaluated Open at some block (so: not expired there, `is_passed` and `is_rejected`
both returned `false`) has a status at every block, if its tally fits `u64`. -/
theorem cs_open_everywhere {t : Tally} {blk : Block} (hp : isPassed t blk = .ok false) {rej : Bool}
    (hr : isRejected t blk = .ok rej) (hexp : t.expires.isExpired blk = false)
    (hfit : t.votes.yes + t.votes.no + t.votes.abstain + t.votes.veto ≤ U64_MAX) (blk' : Block) :
    ∃ st, currentStatus t blk' = .ok st := by
  by_cases he : t.expires.isExpired blk' = false
  · refine cs_ok_of_parts ⟨false, ?_⟩ ⟨rej, ?_⟩
    · rw [← hp]; simp only [isPassed, he, hexp]
    · rw [← hr]; simp only [isRejected, he, hexp]
  · have he' : t.expires.isExpired blk' = true := by simpa using he
    cases hthr : t.threshold with
    | absoluteCount k =>
      refine cs_ok_of_parts ⟨false, ?_⟩ ⟨rej, ?_⟩
      · rw [← hp]; simp only [isPassed, hthr]
      · rw [← hr]; simp only [isRejected, hthr]
    | absolutePercentage a =>
      refine cs_ok_of_parts ⟨false, ?_⟩ ⟨rej, ?_⟩
      · rw [← hp]; simp only [isPassed, hthr]
      · rw [← hr]; simp only [isRejected, hthr]
    | thresholdQuorum thr q =>
      have htot : t.votes.total = .ok (t.votes.yes + t.votes.no + t.votes.abstain + t.votes.veto) := Props.C04.total_ok hfit
      have hab : t.votes.abstain ≤ t.votes.yes + t.votes.no + t.votes.abstain + t.votes.veto := by omega
      -- the un-expired evaluation of `is_rejected` went through `1 - threshold`
      have ha : thr ≤ DEC_ONE := by
        unfold isRejected at hr
        rw [hthr] at hr
        simp only [hexp, Bool.false_eq_true, if_false, Res.bind_ok] at hr
        obtain ⟨_, _, c, hc, _⟩ := hr
        unfold oneMinus at hc
        split at hc
        · assumption
        · cases hc
      refine cs_ok_of_parts ?_ ?_
      · unfold isPassed; rw [hthr]
        by_cases h0 : t.votes.yes = 0
        · rw [if_pos h0]; exact ⟨_, rfl⟩
        · simp only [h0, if_false, htot]
          rw [Res.ok_bind]
          split
          · exact ⟨_, rfl⟩
          · rw [subU64_bind_of_le hab]; exact ⟨_, rfl⟩
      · unfold isRejected; rw [hthr]
        simp only []
        rw [if_pos he', htot, Res.ok_bind, subU64_bind_of_le hab, oneMinus_bind_of_le ha]
        exact ⟨_, rfl⟩

/-- **A record stored with the status `current_status` returned for it has a status at every block**, if its tally
fits `u64`. -/
theorem cs_stable {t : Tally} {blk : Block} {st : Status} (h : currentStatus t blk = .ok st)
    (hfit : t.votes.yes + t.votes.no + t.votes.abstain + t.votes.veto ≤ U64_MAX) (blk' : Block) :
    ∃ st', currentStatus { t with status := st } blk' = .ok st' := by
  by_cases ho : t.status = .open
  · rcases Cw3Core.cs_of_open ho h with ⟨_, rfl⟩ | ⟨hp, rej, hr, ⟨_, rfl⟩ | ⟨⟨_, hexp⟩, rfl⟩⟩
    · exact ⟨_, Cw3Core.cs_of_ne_open (by simp)⟩
    · exact ⟨_, Cw3Core.cs_of_ne_open (by simp)⟩
    · have e : ({ t with status := .open } : Tally) = t := by rw [← ho]
      rw [e]
      exact cs_open_everywhere hp hr hexp hfit blk'
  · have e : st = t.status := by
      rw [Cw3Core.cs_of_ne_open ho] at h; cases h; rfl
    subst e
    exact ⟨_, Cw3Core.cs_of_ne_open ho⟩

end CwPlus.Cw3

namespace CwPlus.Cw3Core
open CwPlus CwPlus.Cw3

/-- The four tally counters together fit `u64` (so `Votes::total()` does not overflow). -/
def Proposal.Fits (p : Proposal) : Prop := p.votes.yes + p.votes.no + p.votes.abstain + p.votes.veto ≤ U64_MAX

/-- Every stored proposal whose tally fits `u64` has a status at every block. -/
def StatusInv (c : Core) : Prop :=
  ∀ id p, c.proposals.get? id = some p → p.Fits → ∀ blk, ∃ st, p.currentStatus blk = .ok st

/-- Every operation stores a record that `current_status` evaluated (or one that is no longer Open). -/
theorem statusOk_step {b : Block} {o : Option Proposal} {p' : Proposal}
    (hold : ∀ p, o = some p → p.Fits → ∀ blk, ∃ st, p.currentStatus blk = .ok st) (h : PropStep b o p') :
    p'.Fits → ∀ blk, ∃ st, p'.currentStatus blk = .ok st := by
  cases h with
  | same _ => exact hold _ rfl
  | created p st _ hst => exact fun hfit => cs_stable (t := p.tally) hst hfit
  | voted p v w votes st _ _ _ hst => exact fun hfit => cs_stable (t := Proposal.tally { p with votes := votes }) hst hfit
  | executed p _ => exact fun _ _ => ⟨_, cs_of_ne_open (t := Proposal.tally _) (by simp [Proposal.tally])⟩
  | closed p _ _ _ _ _ => exact fun _ _ => ⟨_, cs_of_ne_open (t := Proposal.tally _) (by simp [Proposal.tally])⟩

end CwPlus.Cw3Core

namespace CwPlus.Cw3Flex
open CwPlus CwPlus.Cw3 CwPlus.Cw3Core

theorem reachable_statusInv {ext : Ext} {fuel : Nat} {w : World} (h : Reachable ext fuel w) : StatusInv w.flex.core :=
  (reachable_state_inv (P := fun s => StatusInv s.core)
    (fun hi => instantiate_core hi ▸ allP_empty _)
    (fun hi hs he => allP_step hi.wf (fun _ _ _ hold hp => statusOk_step hold hp) hs (execute_coreStep he)) h).2

end CwPlus.Cw3Flex
