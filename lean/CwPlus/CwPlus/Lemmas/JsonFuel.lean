import CwPlus.Base.Json
/-!
The fuel of the JSON decoder is never exhausted: every loop iteration / recursive call of `parseFields`,
`skipValue`, `skipSeq`, `skipMap` is preceded by the consumption of at least one input byte, and `fuelFor` hands
out more than two units per byte (`decodePacketBytes_ne_fuel`; `decodeAckBytes` has no fuel at all).

Every parser gets one lemma `…_within`: its result is `Within rest n`, that is, no fuel error and fewer than `n`
bytes left.  The proofs go through the branches of the parser (`fun_cases`, the cases numbered in the order of the
branches in the definition): an error constant is not `fuel` (`nofun`), an error passed on or a rest handed back
comes from the lemma of the parser called (`Within.error` / `Within.ok`).
-/
namespace CwPlus.Json

theorem skipWs_length (bs : Bytes) : (skipWs bs).length ≤ bs.length := by
  fun_induction skipWs bs with
  | case1 => exact Nat.le_refl _
  | case2 b r _ ih => exact Nat.le_succ_of_le ih
  | case3 b r _ => exact Nat.le_refl _

theorem skipWs_cons_length {bs : Bytes} {b : UInt8} {r : Bytes} (h : skipWs bs = b :: r) : r.length < bs.length := by
  have := skipWs_length bs
  rwa [h] at this

theorem scanStr_length (e : Bool) (bs : Bytes) : ∀ p, scanStr e bs = some p → p.2.length < bs.length := by
  fun_induction scanStr e bs with
  | case1 => nofun
  | case3 => rintro _ ⟨⟩; exact Nat.lt_succ_self _
  | case2 r ih | case4 _ r _ ih | case5 _ _ r _ _ ih =>
    intro p h
    obtain ⟨q, hq, rfl⟩ := Option.map_eq_some_iff.1 h
    exact Nat.lt_succ_of_lt (ih q hq)

/-- `r` is not the fuel error, and on success fewer than `n` bytes are left; `rest` takes them out of the result -/
def Within {β : Type} (rest : β → Bytes) (n : Nat) (r : Except DecodeErr β) : Prop :=
  match r with
  | .ok v => (rest v).length < n
  | .error e => e ≠ .fuel

theorem Within.mono {β : Type} {rest : β → Bytes} {n m : Nat} {r : Except DecodeErr β} (h : Within rest n r)
    (hnm : n ≤ m) : Within rest m r := by
  cases r with
  | error e => exact h
  | ok v => exact Nat.lt_of_lt_of_le h hnm

theorem within_error {β : Type} {rest : β → Bytes} {n : Nat} {e : DecodeErr} :
    Within rest n (.error e) ↔ e ≠ .fuel := Iff.rfl

theorem within_ok {β : Type} {rest : β → Bytes} {n : Nat} {v : β} :
    Within rest n (.ok v) ↔ (rest v).length < n := Iff.rfl

theorem Within.error {β γ : Type} {rest : β → Bytes} {rest' : γ → Bytes} {n m : Nat} {r : Except DecodeErr β}
    {e : DecodeErr} (h : Within rest n r) (he : r = .error e) : Within rest' m (.error e) := by
  subst he; exact h

theorem Within.ok {β : Type} {rest : β → Bytes} {n : Nat} {r : Except DecodeErr β} {v : β}
    (h : Within rest n r) (hv : r = .ok v) : (rest v).length < n := by
  subst hv; exact h

/-- a parser that runs on what `skipWs` left -/
theorem Within.skipWs {β : Type} {rest : β → Bytes} {r : Except DecodeErr β} {bs l : Bytes}
    (h : Within rest l.length r) (hl : skipWs bs = l) : Within rest bs.length r :=
  h.mono (hl ▸ skipWs_length bs)

/-- `r` is not the fuel error -/
abbrev NoFuel {β : Type} (r : Except DecodeErr β) : Prop := Within (fun _ => []) 1 r

theorem NoFuel.ne {β : Type} {r : Except DecodeErr β} (h : NoFuel r) : r ≠ .error .fuel :=
  fun he => h.error (rest' := fun _ : Unit => []) (m := 0) he rfl

theorem ustep_noFuel (st : USt) (b : UInt8) : NoFuel (ustep st b) := by
  fun_cases ustep st b <;> simp [within_error, within_ok]

theorem unescapeGo_noFuel (st : USt) (bs : Bytes) : NoFuel (unescapeGo st bs) := by
  fun_induction unescapeGo st bs with
  | case1 | case2 => exact nofun
  | case3 | case6 => exact Nat.one_pos
  | case4 st b _ e he => exact (ustep_noFuel st b).error he
  | case5 _ _ _ _ _ _ e he ih => exact ih.error he

theorem strContent_noFuel (raw : Bytes) : NoFuel (strContent raw) := by
  fun_cases strContent raw
  · exact unescapeGo_noFuel {} raw
  · exact Nat.one_pos

theorem parseStrBytes_within (bs : Bytes) : Within Prod.snd bs.length (parseStrBytes bs) := by
  fun_cases parseStrBytes bs with
  | case1 => exact nofun
  | case2 raw _ _ e he => exact (strContent_noFuel raw).error he
  | case3 raw rest hs => exact scanStr_length false bs (raw, rest) hs

theorem parseStrTok_within (bs : Bytes) : Within Prod.snd bs.length (parseStrTok bs) := by
  have h := parseStrBytes_within bs
  fun_cases parseStrTok bs with
  | case1 e he => exact h.error he
  | case2 => exact nofun
  | case3 _ _ hp => exact h.ok hp

theorem parseStringValue_within (bs : Bytes) : Within Prod.snd bs.length (parseStringValue bs) := by
  fun_cases parseStringValue bs with
  | case1 | case3 => exact nofun
  | case2 r hw => exact ((parseStrTok_within r).mono (Nat.le_succ _)).skipWs hw

theorem parseColon_within (bs : Bytes) : Within id bs.length (parseColon bs) := by
  fun_cases parseColon bs with
  | case1 | case3 => exact nofun
  | case2 r hw => exact skipWs_cons_length hw

theorem parseAmountValue_within (bs : Bytes) : Within Prod.snd bs.length (parseAmountValue bs) := by
  fun_cases parseAmountValue bs with
  | case1 | case3 | case5 => exact nofun
  | case2 r e he hw => exact (parseStrBytes_within r).error he
  | case4 r _ rest hp _ _ hw =>
    exact Nat.lt_trans ((parseStrBytes_within r).ok hp) (skipWs_cons_length hw)

theorem parseIdent_within (ident bs : Bytes) : Within id (bs.length + 1) (parseIdent ident bs) := by
  fun_induction parseIdent ident bs with
  | case1 r => exact Nat.lt_succ_self _
  | case2 _ _ _ ih => exact ih.mono (Nat.le_succ _)
  | case3 | case4 => exact nofun

theorem parseOptStringValue_within (bs : Bytes) : Within Prod.snd bs.length (parseOptStringValue bs) := by
  fun_cases parseOptStringValue bs with
  | case1 => exact nofun
  | case2 r e he => exact (parseIdent_within _ r).error he
  | case3 r tl hp hw => exact Nat.lt_of_lt_of_le ((parseIdent_within _ r).ok hp) (skipWs_cons_length hw)
  | case4 b r hw _ e he => exact (parseStringValue_within (b :: r)).error he
  | case5 b r hw _ s rest hp => exact ((parseStringValue_within (b :: r)).skipWs hw).ok hp

theorem chomp_within (bs : Bytes) : Within id (bs.length + 1) (chomp bs) := by
  fun_induction chomp bs with
  | case1 => exact nofun
  | case2 => exact Nat.lt_succ_self _
  | case3 _ _ _ ih => exact ih.mono (Nat.le_succ _)

/-- what follows the opening quote of the next key, or the closing brace -/
def afterKey (p : Option Bytes × Bytes) : Bytes := p.1.getD (p.2.drop 1)

theorem keyAt_within (l : Bytes) : Within afterKey l.length (keyAt l) := by
  fun_cases keyAt l with
  | case1 | case3 | case4 => exact nofun
  | case2 r => exact Nat.lt_succ_self _

theorem nextKey_within (first : Bool) (bs : Bytes) : Within afterKey bs.length (nextKey first bs) := by
  fun_cases nextKey first bs with
  | case1 | case5 => exact nofun
  | case2 r hw => exact skipWs_cons_length hw
  | case3 b r hw => exact (((keyAt_within _).skipWs rfl).mono (Nat.le_succ _)).skipWs hw
  | case4 b r hw => exact (keyAt_within _).skipWs hw

theorem seqPos_within (first : Bool) (b : UInt8) (r : Bytes) : Within Prod.fst (r.length + 2) (seqPos first b r) := by
  fun_cases seqPos first b r with
  | case1 => exact Nat.lt_succ_of_le (Nat.le_succ_of_le (skipWs_length r))
  | case2 => exact Nat.lt_succ_self _
  | case3 => exact nofun

/-- a key and its colon take at least three bytes: the quotes and the colon -/
theorem key_colon_length {first : Bool} {bs r snd rest tl : Bytes} {key : String}
    (hk : nextKey first bs = .ok (some r, snd)) (hp : parseStrTok r = .ok (key, rest)) (hc : parseColon rest = .ok tl) :
    tl.length + 3 ≤ bs.length := by
  have : r.length < bs.length := (nextKey_within first bs).ok hk
  have : rest.length < r.length := (parseStrTok_within r).ok hp
  have : tl.length < rest.length := (parseColon_within rest).ok hc
  omega

/-- the three skipping functions: with enough fuel no fuel error, and the rest is no longer than the input -/
theorem skip_within (f : Nat) :
    (∀ d bs, 2 * bs.length + 1 ≤ f → Within id bs.length (skipValue f d bs)) ∧
    (∀ d first bs, 2 * bs.length + 2 ≤ f → Within id (bs.length + 1) (skipSeq f d first bs)) ∧
    (∀ d first bs, 2 * bs.length + 2 ≤ f → Within id (bs.length + 1) (skipMap f d first bs)) := by
  induction f using Nat.strongRecOn with | _ f ih => ?_
  refine ⟨fun d bs hf => ?_, fun d first bs hf => ?_, fun d first bs hf => ?_⟩
  · fun_cases skipValue f d bs with
    | case1 => omega
    | case2 | case5 | case7 | case9 => exact nofun
    | case3 _ _ _ r e he _ => exact (parseStrTok_within r).error he
    | case4 _ _ _ r _ _ hp hw => exact Nat.lt_trans ((parseStrTok_within r).ok hp) (skipWs_cons_length hw)
    | case6 fuel _ _ r _ hw _ =>
      have := skipWs_cons_length hw
      exact ((ih fuel (Nat.lt_succ_self _)).2.1 _ true r (by omega)).mono this
    | case8 fuel _ _ r _ hw _ _ =>
      have := skipWs_cons_length hw
      exact ((ih fuel (Nat.lt_succ_self _)).2.2 _ true r (by omega)).mono this
    | case10 _ _ _ _ r hw => exact (chomp_within r).mono (skipWs_cons_length hw)
  · fun_cases skipSeq f d first bs with
    | case1 => omega
    | case2 | case5 | case6 => exact nofun
    | case3 _ _ _ _ r hw => exact Nat.lt_succ_of_lt (skipWs_cons_length hw)
    | case4 _ _ _ _ b r _ _ e he => exact (seqPos_within first b r).error he
    | case7 fuel _ _ _ b r hw _ c r2 _ hp _ e he =>
      have := skipWs_cons_length hw
      have : (c :: r2).length < r.length + 2 := (seqPos_within first b r).ok hp
      exact ((ih fuel (Nat.lt_succ_self _)).1 d (c :: r2) (by omega)).error he
    | case8 fuel _ _ _ b r hw _ c r2 first' hp _ tl hv =>
      have := skipWs_cons_length hw
      have : (c :: r2).length < r.length + 2 := (seqPos_within first b r).ok hp
      have : tl.length < (c :: r2).length := ((ih fuel (Nat.lt_succ_self _)).1 d (c :: r2) (by omega)).ok hv
      exact ((ih fuel (Nat.lt_succ_self _)).2.1 d first' tl (by omega)).mono (by omega)
  · fun_cases skipMap f d first bs with
    | case1 => omega
    | case2 _ _ _ _ e he => exact (nextKey_within first bs).error he
    | case3 _ _ _ _ rest hk => exact Nat.lt_succ_of_lt ((nextKey_within first bs).ok hk)
    | case4 _ _ _ _ r _ _ e he => exact (parseStrTok_within r).error he
    | case5 _ _ _ _ _ _ _ _ rest _ e he => exact (parseColon_within rest).error he
    | case6 fuel _ _ _ r _ hk _ rest hp tl hc e he =>
      have := key_colon_length hk hp hc
      exact ((ih fuel (Nat.lt_succ_self _)).1 d tl (by omega)).error he
    | case7 fuel _ _ _ r _ hk _ rest hp tl hc tl' hv =>
      have := key_colon_length hk hp hc
      have : tl'.length < tl.length := ((ih fuel (Nat.lt_succ_self _)).1 d tl (by omega)).ok hv
      exact ((ih fuel (Nat.lt_succ_self _)).2.2 d false tl' (by omega)).mono (by omega)

theorem fieldValue_within (f d : Nat) (acc : Acc) (key : String) (bs : Bytes) (hf : 2 * bs.length + 1 ≤ f) :
    Within Prod.snd (bs.length + 1) (fieldValue f d acc key bs) := by
  have hA := (parseAmountValue_within bs).mono (Nat.le_succ _)
  have hS := (parseStringValue_within bs).mono (Nat.le_succ _)
  have hO := (parseOptStringValue_within bs).mono (Nat.le_succ _)
  have hV := ((skip_within f).1 d bs hf).mono (Nat.le_succ _)
  fun_cases fieldValue f d acc key bs with
  | case1 | case4 | case7 | case10 | case13 => exact nofun
  | case2 => exact hA.error ‹_›
  | case3 => exact hA.ok ‹_›
  | case5 | case8 | case11 => exact hS.error ‹_›
  | case6 | case9 | case12 => exact hS.ok ‹_›
  | case14 => exact hO.error ‹_›
  | case15 => exact hO.ok ‹_›
  | case16 => exact hV.error ‹_›
  | case17 => exact hV.ok ‹_›

theorem parseFields_noFuel (f d : Nat) (first : Bool) (acc : Acc) (bs : Bytes) (hf : 2 * bs.length + 2 ≤ f) :
    NoFuel (parseFields f d first acc bs) := by
  fun_induction parseFields f d first acc bs with
  | case1 => omega
  | case2 _ _ first _ bs e he => exact (nextKey_within first bs).error he
  | case3 => exact Nat.one_pos
  | case4 _ _ _ _ _ r _ _ e he => exact (parseStrTok_within r).error he
  | case5 _ _ _ _ _ _ _ _ _ rest _ e he => exact (parseColon_within rest).error he
  | case6 fuel d first acc bs r _ hk key rest hp tl hc e he =>
    have := key_colon_length hk hp hc
    exact (fieldValue_within fuel d acc key tl (by omega)).error he
  | case7 fuel d first acc bs r _ hk key rest hp tl hc acc' r5 hv ih =>
    have := key_colon_length hk hp hc
    have : r5.length < tl.length + 1 := (fieldValue_within fuel d acc key tl (by omega)).ok hv
    exact ih (by omega)

theorem decodePacketBytes_ne_fuel (bs : Bytes) : decodePacketBytes bs ≠ .error .fuel := by
  refine NoFuel.ne ?_
  fun_cases decodePacketBytes bs with
  | case1 | case4 | case5 | case6 => exact nofun
  | case2 r e he hw =>
    have := skipWs_cons_length hw
    exact (parseFields_noFuel _ 127 true {} r (by simp only [fuelFor]; omega)).error he
  | case3 => exact Nat.one_pos

end CwPlus.Json
