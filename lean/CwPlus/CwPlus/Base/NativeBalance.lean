import CwPlus.Base.Num
/-!
`cw_utils::NativeBalance` (cw-utils 2.0.0 `balance.rs`): a `Vec<Coin>` kept sorted by
denom by `add_assign`.  A coin is `(denom, amount)`.  The functions below are
transcribed without assuming sortedness / uniqueness: `find` returns the *first*
coin of a denom, `insert_pos` the first position whose denom is `>=`.

`total b d` (the sum of the amounts of all coins of denom `d`) is the measure the
C08 theorems use; on the lists the contract can produce (unique denoms: `UniqueDenoms`,
kept by the `unique_*` lemmas) it is the amount displayed for `d`.
-/
namespace CwPlus

abbrev Coin := String × Nat
abbrev NativeBalance := List (String × Nat)

namespace NativeBalance

/-- `find(denom)`: the amount of the first coin with that denom. -/
def find? : NativeBalance → String → Option Nat
  | [], _ => none
  | (d', a) :: rest, d => if d' = d then some a else find? rest d

/-- `self.0[i].amount = v` for the first coin `i` of denom `d`. -/
def setFirst : NativeBalance → String → Nat → NativeBalance
  | [], _, _ => []
  | (d', a) :: rest, d, v => if d' = d then (d', v) :: rest else (d', a) :: setFirst rest d v

/-- `self.0.remove(i)` for the first coin `i` of denom `d`. -/
def removeFirst : NativeBalance → String → NativeBalance
  | [], _ => []
  | (d', a) :: rest, d => if d' = d then rest else (d', a) :: removeFirst rest d

/-- `insert_pos` + `insert`/`push`: before the first coin whose denom is `>=`, else at the end. -/
def insertPos : NativeBalance → Coin → NativeBalance
  | [], c => [c]
  | (d', a) :: rest, c => if c.1 ≤ d' then c :: (d', a) :: rest else (d', a) :: insertPos rest c

/-- `AddAssign<Coin>`: `Uint128 + Uint128` panics on overflow. -/
def add (b : NativeBalance) (c : Coin) : Res NativeBalance :=
  match find? b c.1 with
  | some held => do
    let v ← addU128 held c.2
    pure (setFirst b c.1 v)
  | none => pure (insertPos b c)

/-- `Sub<Coin>`: error when the denom is missing or the amount insufficient; a coin
that reaches zero is removed. -/
def subCoin (b : NativeBalance) (c : Coin) : Res NativeBalance :=
  match find? b c.1 with
  | none => .error "sub.no_denom"
  | some held =>
    if c.2 ≤ held then
      (if held - c.2 = 0 then .ok (removeFirst b c.1) else .ok (setFirst b c.1 (held - c.2)))
    else .error "sub.underflow"

/-- `Sub<Vec<Coin>>`: coin by coin, the first failure fails the whole subtraction. -/
def subCoins (b : NativeBalance) : List Coin → Res NativeBalance
  | [] => .ok b
  | c :: cs => do
    let b' ← subCoin b c
    subCoins b' cs

/-- `sub_saturating`: removes the coin when `held <= amount`; error only when the denom is missing. -/
def subSaturating (b : NativeBalance) (c : Coin) : Res NativeBalance :=
  match find? b c.1 with
  | none => .error "sub.no_denom"
  | some held => if held ≤ c.2 then .ok (removeFirst b c.1) else .ok (setFirst b c.1 (held - c.2))

/-- `is_empty`: no coin with a non-zero amount. -/
def isEmpty (b : NativeBalance) : Bool := b.all (fun c => c.2 = 0)

/-- `has(required)` -/
def has (b : NativeBalance) (c : Coin) : Bool :=
  match find? b c.1 with
  | some held => decide (c.2 ≤ held)
  | none => false

/-- merge step of `normalize` on a denom-sorted list: equal neighbours are summed. -/
def mergeDups : NativeBalance → NativeBalance
  | [] => []
  | [c] => [c]
  | (d1, a1) :: (d2, a2) :: rest =>
    if d1 = d2 then mergeDups ((d1, a1 + a2) :: rest) else (d1, a1) :: mergeDups ((d2, a2) :: rest)

/-- `normalize` (used only by the test helpers `canonical()` of cw1-subkeys): drop zeros, sort by denom,
merge duplicates (the `+=` overflow panic is not modelled, this function is not on any handler path). -/
def normalize (b : NativeBalance) : NativeBalance :=
  mergeDups ((b.filter (fun c => c.2 ≠ 0)).mergeSort (fun x y => decide (x.1 ≤ y.1)))

/-- Sum of the amounts of all coins of denom `d`. -/
def total : NativeBalance → String → Nat
  | [], _ => 0
  | (d', a) :: rest, d => (if d' = d then a else 0) + total rest d

/-- Σ over a coin list of the amounts of denom `d` (a `BankMsg::Send.amount`). -/
abbrev coinsTotal (cs : List Coin) (d : String) : Nat := total cs d

def denoms (b : NativeBalance) : List String := b.map (·.1)

/-- No denom occurs twice. -/
def UniqueDenoms (b : NativeBalance) : Prop := (denoms b).Nodup

@[simp] theorem total_nil (d : String) : total [] d = 0 := rfl

theorem total_cons (c : Coin) (b : NativeBalance) (d : String) :
    total (c :: b) d = (if c.1 = d then c.2 else 0) + total b d := by
  obtain ⟨d', a⟩ := c; rfl

theorem total_append (a b : NativeBalance) (d : String) : total (a ++ b) d = total a d + total b d := by
  induction a with
  | nil => simp
  | cons c rest ih => rw [List.cons_append, total_cons, total_cons, ih]; omega

theorem isEmpty_total {b : NativeBalance} (h : b.isEmpty = true) (d : String) : total b d = 0 := by
  induction b with
  | nil => rfl
  | cons c rest ih =>
    obtain ⟨d', a⟩ := c
    simp only [isEmpty, List.all_cons, Bool.and_eq_true, decide_eq_true_eq] at h ih
    rw [total, h.1, ih h.2, ite_self]

theorem find?_none_total {b : NativeBalance} {d : String} (h : find? b d = none) : total b d = 0 := by
  induction b with
  | nil => rfl
  | cons c rest ih =>
    obtain ⟨d', a'⟩ := c
    by_cases e : d' = d
    · simp only [find?, e, if_true] at h; cases h
    · simp only [find?, total, e, if_false] at h ⊢
      rw [ih h]

theorem find?_none_iff {b : NativeBalance} {d : String} : find? b d = none ↔ d ∉ denoms b := by
  fun_induction find? b d <;> grind [denoms]

theorem total_setFirst {b : NativeBalance} {d : String} {a v : Nat} (h : find? b d = some a) (d2 : String) :
    total (setFirst b d v) d2 + (if d = d2 then a else 0) = total b d2 + (if d = d2 then v else 0) := by
  induction b with
  | nil => cases h
  | cons c rest ih =>
    obtain ⟨d', a'⟩ := c
    by_cases e : d' = d
    · subst e
      simp only [find?, setFirst, total, if_true] at h ⊢
      cases h; omega
    · simp only [find?, setFirst, total, e, if_false] at h ⊢
      rw [Nat.add_assoc, ih h, Nat.add_assoc]

theorem total_removeFirst {b : NativeBalance} {d : String} {a : Nat} (h : find? b d = some a) (d2 : String) :
    total (removeFirst b d) d2 + (if d = d2 then a else 0) = total b d2 := by
  induction b with
  | nil => cases h
  | cons c rest ih =>
    obtain ⟨d', a'⟩ := c
    by_cases e : d' = d
    · subst e
      simp only [find?, removeFirst, total, if_true] at h ⊢
      cases h; exact Nat.add_comm ..
    · simp only [find?, removeFirst, total, e, if_false] at h ⊢
      rw [Nat.add_assoc, ih h]

theorem find?_setFirst (b : NativeBalance) (d : String) (v : Nat) (d2 : String) :
    find? (setFirst b d v) d2 = if d = d2 then (find? b d).map (fun _ => v) else find? b d2 := by
  fun_induction setFirst b d v <;> grind [find?]

theorem find?_removeFirst_ne (b : NativeBalance) {d d2 : String} (h : d ≠ d2) :
    find? (removeFirst b d) d2 = find? b d2 := by
  fun_induction removeFirst b d <;> grind [find?]

theorem find?_removeFirst_self {b : NativeBalance} (hu : UniqueDenoms b) (d : String) :
    find? (removeFirst b d) d = none := by
  unfold UniqueDenoms at hu
  induction b with
  | nil => rfl
  | cons c rest ih =>
    obtain ⟨d', a⟩ := c
    simp only [denoms, List.map_cons, List.nodup_cons] at hu
    by_cases e : d' = d
    · subst e; simp only [removeFirst, if_true]; exact find?_none_iff.mpr hu.1
    · simp only [removeFirst, e, if_false, find?]; exact ih hu.2

theorem find?_le_total {b : NativeBalance} {d : String} {a : Nat} (h : find? b d = some a) : a ≤ total b d := by
  have := total_removeFirst h d
  rw [if_pos rfl] at this
  exact this ▸ Nat.le_add_left ..

theorem total_insertPos (b : NativeBalance) (c : Coin) (d2 : String) :
    total (insertPos b c) d2 = total b d2 + (if c.1 = d2 then c.2 else 0) := by
  induction b with
  | nil => exact Nat.add_comm ..
  | cons x rest ih =>
    obtain ⟨d', a'⟩ := x
    simp only [insertPos]
    split
    · exact Nat.add_comm ..
    · simp only [total, ih, Nat.add_assoc]

/-- Lowering the first coin of denom `d` from `a` to `v`, the coin being dropped when `v = 0`: what both `Sub<Coin>`
and `sub_saturating` do to the balance. -/
theorem total_lower {b : NativeBalance} {d : String} {a : Nat} (hf : find? b d = some a) (v : Nat) (d2 : String) :
    total (if v = 0 then removeFirst b d else setFirst b d v) d2 + (if d = d2 then a else 0)
      = total b d2 + (if d = d2 then v else 0) := by
  split
  · rename_i h0; rw [h0, ite_self, Nat.add_zero]; exact total_removeFirst hf d2
  · exact total_setFirst hf d2

theorem subCoin_ok_iff {b b' : NativeBalance} {c : Coin} :
    subCoin b c = .ok b' ↔ ∃ held, find? b c.1 = some held ∧ c.2 ≤ held ∧
      b' = if held - c.2 = 0 then removeFirst b c.1 else setFirst b c.1 (held - c.2) := by
  unfold subCoin
  cases find? b c.1 with
  | none => simp
  | some held =>
    by_cases hle : c.2 ≤ held <;> by_cases hz : held - c.2 = 0 <;>
      simp only [hle, hz, ↓reduceIte, Except.ok.injEq, Res.error_ne_ok, Option.some.injEq, exists_eq_left', true_and,
        false_and, @eq_comm _ _ b']

theorem subSaturating_ok_iff {b b' : NativeBalance} {c : Coin} :
    subSaturating b c = .ok b' ↔ ∃ held, find? b c.1 = some held ∧
      b' = if held - c.2 = 0 then removeFirst b c.1 else setFirst b c.1 (held - c.2) := by
  unfold subSaturating
  cases find? b c.1 with
  | none => simp
  | some held =>
    by_cases hle : held ≤ c.2 <;>
      simp only [hle, ↓reduceIte, Except.ok.injEq, Option.some.injEq, Nat.sub_eq_zero_iff_le, exists_eq_left',
        @eq_comm _ _ b']

/-- `add` raises the total of the coin's denom by exactly its amount and touches no other denom. -/
theorem total_add {b b' : NativeBalance} {c : Coin} (h : add b c = .ok b') (d : String) :
    total b' d = total b d + (if c.1 = d then c.2 else 0) := by
  unfold add at h
  split at h
  · rename_i held hf
    simp only [addU128_bind_ok, Res.pure_ok] at h
    obtain ⟨_, rfl⟩ := h
    have := total_setFirst (v := held + c.2) hf d
    by_cases e : c.1 = d <;> simp only [e, if_true, if_false] at this ⊢ <;> omega
  · cases h; exact total_insertPos b c d

/-- `subCoin` succeeds only if the first coin of the denom covers the amount; the total of that
denom drops by exactly the amount, other denoms are untouched. -/
theorem total_subCoin {b b' : NativeBalance} {c : Coin} (h : subCoin b c = .ok b') (d : String) :
    total b' d + (if c.1 = d then c.2 else 0) = total b d := by
  obtain ⟨held, hf, hle, hb⟩ := subCoin_ok_iff.mp h
  have := total_lower hf (held - c.2) d
  rw [← hb] at this
  by_cases e : c.1 = d
  · simp only [if_pos e] at this ⊢; omega
  · simp only [if_neg e] at this ⊢; exact this

theorem subCoin_le {b b' : NativeBalance} {c : Coin} (h : subCoin b c = .ok b') : c.2 ≤ total b c.1 := by
  have := total_subCoin h c.1
  simp at this; omega

theorem subCoins_nil_ok_iff {b b' : NativeBalance} : subCoins b [] = .ok b' ↔ b' = b :=
  ⟨fun h => (Except.ok.inj h).symm, fun h => h ▸ rfl⟩

theorem subCoins_cons_ok_iff {b b' : NativeBalance} {c : Coin} {cs : List Coin} :
    subCoins b (c :: cs) = .ok b' ↔ ∃ b1, subCoin b c = .ok b1 ∧ subCoins b1 cs = .ok b' :=
  Res.bind_ok ..

/-- Subtracting a concatenation is subtracting its parts one after the other. -/
theorem subCoins_append_ok_iff {b b' : NativeBalance} {cs ds : List Coin} :
    subCoins b (cs ++ ds) = .ok b' ↔ ∃ b1, subCoins b cs = .ok b1 ∧ subCoins b1 ds = .ok b' := by
  induction cs generalizing b with
  | nil => simp only [List.nil_append, subCoins_nil_ok_iff, exists_eq_left]
  | cons c rest ih =>
    simp only [List.cons_append, subCoins_cons_ok_iff, ih]
    exact ⟨fun ⟨b1, h1, b2, h2, h3⟩ => ⟨b2, ⟨b1, h1, h2⟩, h3⟩, fun ⟨b2, ⟨b1, h1, h2⟩, h3⟩ => ⟨b1, h1, b2, h2, h3⟩⟩

/-- `subCoins`: every denom's total drops by exactly the Σ of the subtracted coins of that denom. -/
theorem total_subCoins {b b' : NativeBalance} {cs : List Coin} (h : subCoins b cs = .ok b') (d : String) :
    total b' d + coinsTotal cs d = total b d := by
  induction cs generalizing b with
  | nil => rw [subCoins_nil_ok_iff.mp h]; rfl
  | cons c rest ih =>
    obtain ⟨b1, h1, h2⟩ := subCoins_cons_ok_iff.mp h
    have e1 := total_subCoin h1 d
    have e2 : total b' d + total rest d = total b1 d := ih h2
    show _ + total (c :: rest) d = _
    rw [total_cons]; omega

/-- `sub_saturating` never raises any total, lowers the coin's denom by at most the amount and
leaves the other denoms alone. -/
theorem total_subSaturating {b b' : NativeBalance} {c : Coin} (h : subSaturating b c = .ok b') (d : String) :
    total b' d ≤ total b d ∧ total b d ≤ total b' d + (if c.1 = d then c.2 else 0) := by
  obtain ⟨held, hf, hb⟩ := subSaturating_ok_iff.mp h
  have := total_lower hf (held - c.2) d
  rw [← hb] at this
  by_cases e : c.1 = d
  · simp only [if_pos e] at this ⊢; omega
  · simp only [if_neg e] at this ⊢
    exact ⟨Nat.le_of_eq this, Nat.le_of_eq this.symm⟩

theorem denoms_setFirst (b : NativeBalance) (d : String) (v : Nat) : denoms (setFirst b d v) = denoms b := by
  fun_induction setFirst b d v <;> grind [denoms]

theorem mem_denoms_removeFirst {b : NativeBalance} {d x : String} (h : x ∈ denoms (removeFirst b d)) : x ∈ denoms b := by
  fun_induction removeFirst b d <;> grind [denoms]

theorem unique_removeFirst {b : NativeBalance} {d : String} (h : UniqueDenoms b) : UniqueDenoms (removeFirst b d) := by
  unfold UniqueDenoms at *
  fun_induction removeFirst b d
  · simp [denoms]
  · simp [denoms] at h ⊢; exact h.2
  · rename_i d' a rest hne ih
    simp only [denoms, List.map_cons, List.nodup_cons] at h ⊢
    exact ⟨fun hm => h.1 (mem_denoms_removeFirst hm), ih h.2⟩

theorem mem_denoms_insertPos {b : NativeBalance} {c : Coin} {x : String} :
    x ∈ denoms (insertPos b c) ↔ (x = c.1 ∨ x ∈ denoms b) := by
  fun_induction insertPos b c <;> grind [denoms]

theorem unique_lower {b : NativeBalance} (hu : UniqueDenoms b) (d : String) (v : Nat) :
    UniqueDenoms (if v = 0 then removeFirst b d else setFirst b d v) := by
  split
  · exact unique_removeFirst hu
  · unfold UniqueDenoms; rw [denoms_setFirst]; exact hu

theorem unique_insertPos {b : NativeBalance} {c : Coin} (h : UniqueDenoms b) (hn : c.1 ∉ denoms b) :
    UniqueDenoms (insertPos b c) := by
  unfold UniqueDenoms at *
  fun_induction insertPos b c
  · simp [denoms]
  · simp only [denoms, List.map_cons, List.nodup_cons] at h hn ⊢
    exact ⟨hn, h⟩
  · rename_i d' a rest hle ih
    simp only [denoms, List.map_cons, List.nodup_cons, List.mem_cons, not_or] at h hn ⊢
    refine ⟨?_, ih h.2 hn.2⟩
    intro hm
    rcases mem_denoms_insertPos.mp hm with e | e
    · exact hn.1 e.symm
    · exact h.1 e

theorem unique_add {b b' : NativeBalance} {c : Coin} (hu : UniqueDenoms b) (h : add b c = .ok b') : UniqueDenoms b' := by
  unfold add at h
  split at h
  · simp at h; obtain ⟨_, rfl⟩ := h
    unfold UniqueDenoms; rw [denoms_setFirst]; exact hu
  · rename_i hf
    simp at h; subst h
    exact unique_insertPos hu (find?_none_iff.mp hf)

theorem unique_subCoin {b b' : NativeBalance} {c : Coin} (hu : UniqueDenoms b) (h : subCoin b c = .ok b') : UniqueDenoms b' := by
  obtain ⟨held, _, _, rfl⟩ := subCoin_ok_iff.mp h
  exact unique_lower hu _ _

theorem unique_subCoins {b b' : NativeBalance} {cs : List Coin} (hu : UniqueDenoms b) (h : subCoins b cs = .ok b') :
    UniqueDenoms b' := by
  induction cs generalizing b with
  | nil => rw [subCoins_nil_ok_iff.mp h]; exact hu
  | cons c rest ih =>
    obtain ⟨b1, h1, h2⟩ := subCoins_cons_ok_iff.mp h
    exact ih (unique_subCoin hu h1) h2

theorem unique_subSaturating {b b' : NativeBalance} {c : Coin} (hu : UniqueDenoms b) (h : subSaturating b c = .ok b') :
    UniqueDenoms b' := by
  obtain ⟨held, _, rfl⟩ := subSaturating_ok_iff.mp h
  exact unique_lower hu _ _

/-- With unique denoms the total of a denom is the amount of its (only) coin. -/
theorem total_eq_find?_of_unique {b : NativeBalance} (hu : UniqueDenoms b) (d : String) :
    total b d = (find? b d).getD 0 := by
  unfold UniqueDenoms at hu
  induction b with
  | nil => simp [find?]
  | cons c rest ih =>
    obtain ⟨d', a⟩ := c
    simp only [denoms, List.map_cons, List.nodup_cons] at hu
    by_cases e : d' = d
    · subst e
      have : find? rest d' = none := find?_none_iff.mpr hu.1
      simp [total, find?, find?_none_total this]
    · simp [total, find?, e, ih hu.2]

end NativeBalance
end CwPlus
