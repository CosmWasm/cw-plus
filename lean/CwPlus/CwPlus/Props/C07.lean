import CwPlus.Lemmas.Cw1
/-!
# C07 — cw1: the proxy relays exactly the submitted messages, only when authorised

`Wl.*` are about cw1-whitelist, `Sk.*` about cw1-subkeys.  All statements hold for
every state (hence after every history, see `Sk.execute_ok_iff_run`), every block,
every sender and every message list.
-/
namespace CwPlus.Props.C07
open CwPlus
open CwPlus.Cw1Whitelist (AddrArg CosmosMsg StakingKind DistrKind AdminList)
open CwPlus.Cw1Subkeys (Allowance Permissions)

/-- C07 (whitelist), "relayed exactly": a successful `Execute` returns the submitted messages,
in order, nothing added, altered or dropped, and leaves the state alone. -/
theorem Wl.relay_exact {s s' : Cw1Whitelist.State} {blk : Block} {snd : Addr} {msgs out : List CosmosMsg}
    (h : Cw1Whitelist.execute s blk snd (.execute msgs) = .ok (s', out)) : out = msgs ∧ s' = s :=
  let ⟨_, h1, h2⟩ := Cw1Whitelist.execute_execute_ok_iff.mp h; ⟨h2, h1⟩

/-- C07 (whitelist), "only when authorised": `Execute` succeeds exactly when the caller is a current admin,
whatever the messages. -/
theorem Wl.execute_ok_iff (s : Cw1Whitelist.State) (blk : Block) (snd : Addr) (msgs : List CosmosMsg) :
    (Cw1Whitelist.execute s blk snd (.execute msgs)).isOk = true ↔ snd ∈ s.admins := by
  simp [Res.isOk_iff_exists, Cw1Whitelist.execute_execute_ok_iff]

/-- C07 (whitelist): only `Execute` ever relays anything. -/
theorem Wl.only_execute_relays {s s' : Cw1Whitelist.State} {blk : Block} {snd : Addr} {m : Cw1Whitelist.Msg}
    {out : List CosmosMsg} (h : Cw1Whitelist.execute s blk snd m = .ok (s', out)) (hne : out ≠ []) :
    ∃ msgs, m = .execute msgs := by
  cases m with
  | execute msgs => exact ⟨msgs, rfl⟩
  | freeze => exact absurd (Cw1Whitelist.execute_freeze_ok_iff.mp h).2.2.2 hne
  | updateAdmins l => exact absurd (Cw1Whitelist.execute_updateAdmins_ok_iff.mp h).2.2.2.2 hne

/-- C07 (whitelist), "the whole call fails with nothing relayed": a failing call leaves the state
unchanged and relays nothing. -/
theorem Wl.fail_no_relay {s : Cw1Whitelist.State} {blk : Block} {snd : Addr} {m : Cw1Whitelist.Msg} {e : String}
    (h : Cw1Whitelist.execute s blk snd m = .error e) :
    Cw1Whitelist.step s blk snd m = s ∧ Cw1Whitelist.relayed s blk snd m = [] := by
  simp [Cw1Whitelist.step, Cw1Whitelist.relayed, h]

/-- Does the permission record allow this staking variant? -/
def stakingFlag (k : StakingKind) (p : Permissions) : Bool :=
  match k with
  | .delegate => p.delegate
  | .undelegate => p.undelegate
  | .redelegate => p.redelegate

/-- Does the permission record allow this distribution variant?  (`other` = any variant but
`SetWithdrawAddress` / `WithdrawDelegatorReward`: never.) -/
def distrFlag (k : DistrKind) (p : Permissions) : Bool :=
  match k with
  | .setWithdrawAddress => p.withdraw
  | .withdrawDelegatorReward => p.withdraw
  | .other => false

/-- "The caller's grants cover this message": for a bank send the allowance exists, is unexpired at
`blk` and holds every coin (coin by coin, cumulatively); for staking / distribution the permission
record exists and has the matching flag; nothing else is ever covered.  Returns the allowance that
remains afterwards. -/
def covers (perm : Option Permissions) (blk : Block) (al : Option Allowance) : CosmosMsg → Option (Option Allowance)
  | .bankSend _ coins =>
    match al with
    | some a =>
      if a.expires.isExpired blk then none
      else match a.balance.subCoins coins with
        | .ok b => some (some { a with balance := b })
        | .error _ => none
    | none => none
  | .staking k _ =>
    match perm with
    | some p => if stakingFlag k p then some al else none
    | none => none
  | .distribution k _ =>
    match perm with
    | some p => if distrFlag k p then some al else none
    | none => none
  | _ => none

/-- Every message of the list is covered, the allowance being threaded through the list. -/
def coveredFrom (perm : Option Permissions) (blk : Block) : Option Allowance → List CosmosMsg → Bool
  | _, [] => true
  | al, m :: ms =>
    match covers perm blk al m with
    | some al' => coveredFrom perm blk al' ms
    | none => false

/-- `coveredSeq s blk snd msgs`: the grants `snd` holds in state `s` cover the whole list at block `blk`. -/
def coveredSeq (s : Cw1Subkeys.State) (blk : Block) (snd : Addr) (msgs : List CosmosMsg) : Bool :=
  coveredFrom (s.permissions.get? snd) blk (s.allowances.get? snd) msgs

theorem checkStaking_eq_check (k : StakingKind) (p : Permissions) :
    ∃ tag, Cw1Subkeys.checkStaking k p = check (stakingFlag k p) tag := by
  cases k <;> exact ⟨_, rfl⟩

theorem checkDistribution_eq_check (k : DistrKind) (p : Permissions) :
    ∃ tag, Cw1Subkeys.checkDistribution k p = check (distrFlag k p) tag := by
  cases k <;> exact ⟨_, rfl⟩

/-- What one iteration of the permission loop does to the sender's allowance, in terms of `covers`: it succeeds
exactly on covered messages and leaves the allowance `covers` computes. -/
theorem checkMsg_covers (s : Cw1Subkeys.State) (blk : Block) (snd : Addr) (m : CosmosMsg) :
    (Cw1Subkeys.checkMsg s blk snd m).toOption.map (·.allowances.get? snd) =
      covers (s.permissions.get? snd) blk (s.allowances.get? snd) m := by
  cases m with
  | bankSend to coins =>
    simp only [Cw1Subkeys.checkMsg, covers]
    cases s.allowances.get? snd with
    | none => rfl
    | some a =>
      dsimp only
      cases hx : a.expires.isExpired blk
      · cases a.balance.subCoins coins <;> simp [check, bind, Except.bind, Except.toOption, pure, Except.pure]
      · simp [check, bind, Except.bind, Except.toOption]
  | staking k p =>
    simp only [Cw1Subkeys.checkMsg, covers]
    cases s.permissions.get? snd with
    | none => rfl
    | some q =>
      obtain ⟨tag, h⟩ := checkStaking_eq_check k q
      dsimp only
      rw [h]; cases stakingFlag k q <;> rfl
  | distribution k p =>
    simp only [Cw1Subkeys.checkMsg, covers]
    cases s.permissions.get? snd with
    | none => rfl
    | some q =>
      obtain ⟨tag, h⟩ := checkDistribution_eq_check k q
      dsimp only
      rw [h]; cases distrFlag k q <;> rfl
  | _ => rfl

/-- The loop threads the sender's allowance through `covers`: a relation between the allowance before, the messages
and the allowance after that holds of the empty list and extends over one covered message in front holds of every
successful run of the loop. -/
theorem checkMsgs_induction {R : Option Allowance → List CosmosMsg → Option Allowance → Prop}
    {s s' : Cw1Subkeys.State} {blk : Block} {snd : Addr} {msgs : List CosmosMsg}
    (h : Cw1Subkeys.checkMsgs s blk snd msgs = .ok s') (nil : ∀ al, R al [] al)
    (cons : ∀ {al al1 al' m ms}, covers (s.permissions.get? snd) blk al m = some al1 → R al1 ms al' → R al (m :: ms) al') :
    R (s.allowances.get? snd) msgs (s'.allowances.get? snd) := by
  induction msgs generalizing s with
  | nil => rw [Cw1Subkeys.checkMsgs_nil_ok_iff.mp h]; exact nil _
  | cons m ms ih =>
    obtain ⟨s1, h1, h2⟩ := Cw1Subkeys.checkMsgs_cons_ok_iff.mp h
    have hc := checkMsg_covers s blk snd m
    rw [h1] at hc
    have hp : s1.permissions = s.permissions := by
      rcases Cw1Subkeys.checkMsg_state h1 with rfl | ⟨a, rfl⟩ <;> rfl
    exact cons hc.symm (ih h2 (fun hc' hr => cons (hp ▸ hc') hr))

theorem checkMsgs_isOk (s : Cw1Subkeys.State) (blk : Block) (snd : Addr) (msgs : List CosmosMsg) :
    (Cw1Subkeys.checkMsgs s blk snd msgs).isOk = coveredSeq s blk snd msgs := by
  unfold coveredSeq
  induction msgs generalizing s with
  | nil => rfl
  | cons m ms ih =>
    have hc := checkMsg_covers s blk snd m
    simp only [Cw1Subkeys.checkMsgs, coveredFrom, ← hc]
    cases h1 : Cw1Subkeys.checkMsg s blk snd m with
    | error e => rfl
    | ok s1 =>
      have hp : s1.permissions = s.permissions := by
        rcases Cw1Subkeys.checkMsg_state h1 with rfl | ⟨a, rfl⟩ <;> rfl
      rw [← hp]; exact ih s1

/-- C07 (subkeys), "relayed exactly": a successful `Execute` returns the submitted messages, in order,
nothing added, altered or dropped — for admins and subkeys alike. -/
theorem Sk.relay_exact {s s' : Cw1Subkeys.State} {blk : Block} {snd : Addr} {msgs out : List CosmosMsg}
    (h : Cw1Subkeys.execute s blk snd (.execute msgs) = .ok (s', out)) : out = msgs :=
  (Cw1Subkeys.execute_execute_ok_iff.mp h).2

/-- C07 (subkeys), "only when authorised": `Execute` succeeds exactly when the caller is a current admin
or every message of the list is covered by the caller's grants (allowance threaded through the list). -/
theorem Sk.execute_ok_iff (s : Cw1Subkeys.State) (blk : Block) (snd : Addr) (msgs : List CosmosMsg) :
    (Cw1Subkeys.execute s blk snd (.execute msgs)).isOk = true ↔
      (s.cfg.isAdmin snd = true ∨ coveredSeq s blk snd msgs = true) := by
  rw [← checkMsgs_isOk]
  cases ha : s.cfg.isAdmin snd <;>
    simp [Res.isOk_iff_exists, Cw1Subkeys.execute_execute_ok_iff, ha]

theorem Sk.admin_execute_state {s s' : Cw1Subkeys.State} {blk : Block} {snd : Addr} {msgs out : List CosmosMsg}
    (ha : s.cfg.isAdmin snd = true) (h : Cw1Subkeys.execute s blk snd (.execute msgs) = .ok (s', out)) : s' = s := by
  rcases (Cw1Subkeys.execute_execute_ok_iff.mp h).1 with ⟨_, h⟩ | ⟨hna, _⟩
  · exact h
  · rw [ha] at hna; cases hna

theorem Sk.nonadmin_execute_checkMsgs {s s' : Cw1Subkeys.State} {blk : Block} {snd : Addr} {msgs out : List CosmosMsg}
    (hna : s.cfg.isAdmin snd = false) (h : Cw1Subkeys.execute s blk snd (.execute msgs) = .ok (s', out)) :
    Cw1Subkeys.checkMsgs s blk snd msgs = .ok s' := by
  rcases (Cw1Subkeys.execute_execute_ok_iff.mp h).1 with ⟨ha, _⟩ | ⟨_, h1⟩
  · rw [hna] at ha; cases ha
  · exact h1

/-- Message kinds that a grant can cover at all. -/
def grantable : CosmosMsg → Bool
  | .bankSend _ _ => true
  | .staking _ _ => true
  | .distribution .setWithdrawAddress _ => true
  | .distribution .withdrawDelegatorReward _ => true
  | _ => false

def isBankSend : CosmosMsg → Bool
  | .bankSend _ _ => true
  | _ => false

/-- The part of coverage that depends only on the message kind and the caller's permission record: a bank send
passes (its amounts are the allowance's business), a staking / distribution message needs a record with the
matching flag, every other kind fails. -/
def permOk (perm : Option Permissions) : CosmosMsg → Bool
  | .bankSend _ _ => true
  | .staking k _ => match perm with | some p => stakingFlag k p | none => false
  | .distribution k _ => match perm with | some p => distrFlag k p | none => false
  | _ => false

theorem covers_of_not_bank (perm : Option Permissions) (blk : Block) (al : Option Allowance) {m : CosmosMsg}
    (h : isBankSend m = false) : covers perm blk al m = if permOk perm m = true then some al else none := by
  cases m with
  | bankSend to cs => cases h
  | staking k p => cases perm <;> rfl
  | distribution k p => cases perm <;> rfl
  | _ => rfl

theorem covers_permOk {perm : Option Permissions} {blk : Block} {al al' : Option Allowance} {m : CosmosMsg}
    (h : covers perm blk al m = some al') : permOk perm m = true := by
  cases hb : isBankSend m
  · rw [covers_of_not_bank perm blk al hb] at h
    split at h
    · assumption
    · cases h
  · cases m <;> first | rfl | cases hb

theorem grantable_of_permOk {perm : Option Permissions} {m : CosmosMsg} (h : permOk perm m = true) :
    grantable m = true := by
  cases m with
  | distribution k p => cases k <;> first | rfl | (cases perm <;> cases h)
  | _ => first | rfl | cases h

/-- Coverage implies `permOk` for every message of the list (bank sends included). -/
theorem coveredFrom_permOk {perm : Option Permissions} {blk : Block} {al : Option Allowance} {msgs : List CosmosMsg}
    (h : coveredFrom perm blk al msgs = true) : ∀ m ∈ msgs, permOk perm m = true := by
  induction msgs generalizing al with
  | nil => intro m hm; cases hm
  | cons m ms ih =>
    simp only [coveredFrom] at h
    split at h
    · rename_i al' hc
      intro x hx
      rcases List.mem_cons.mp hx with rfl | hx
      · exact covers_permOk hc
      · exact ih h x hx
    · cases h

/-- C07 (subkeys), "any other message kind makes the whole call fail": for a non-admin a list containing a
bank burn, wasm, ibc, gov, custom/stargate/any message or a distribution variant other than the two
withdraw ones is rejected as a whole. -/
theorem Sk.other_kinds_rejected {s : Cw1Subkeys.State} {blk : Block} {snd : Addr} {msgs : List CosmosMsg}
    {m : CosmosMsg} (hna : s.cfg.isAdmin snd = false) (hm : m ∈ msgs) (hk : grantable m = false) :
    ∃ e, Cw1Subkeys.execute s blk snd (.execute msgs) = .error e := by
  rw [← Res.isOk_false_iff_exists]
  cases hr : (Cw1Subkeys.execute s blk snd (.execute msgs)).isOk with
  | false => rfl
  | true =>
    rcases (Sk.execute_ok_iff s blk snd msgs).mp hr with ha | hc
    · rw [hna] at ha; cases ha
    · rw [grantable_of_permOk (coveredFrom_permOk hc m hm)] at hk; cases hk

/-- C07 (subkeys): only `Execute` ever relays anything. -/
theorem Sk.only_execute_relays {s s' : Cw1Subkeys.State} {blk : Block} {snd : Addr} {m : Cw1Subkeys.Msg}
    {out : List CosmosMsg} (h : Cw1Subkeys.execute s blk snd m = .ok (s', out)) (hne : out ≠ []) :
    ∃ msgs, m = .execute msgs := by
  rcases Cw1Subkeys.execute_ok_cases h with ⟨msgs, rfl, _⟩ | ⟨ho, _⟩
  · exact ⟨msgs, rfl⟩
  · exact absurd ho hne

/-- C07 (subkeys), "the whole call fails with nothing relayed": a failing call leaves the state unchanged
(also when earlier messages of the list had already been charged to the allowance) and relays nothing. -/
theorem Sk.fail_no_relay {s : Cw1Subkeys.State} {blk : Block} {snd : Addr} {m : Cw1Subkeys.Msg} {e : String}
    (h : Cw1Subkeys.execute s blk snd m = .error e) :
    Cw1Subkeys.step s blk snd m = s ∧ Cw1Subkeys.relayed s blk snd m = [] := by
  simp [Cw1Subkeys.step, Cw1Subkeys.relayed, h]

/-- Histories: any list of (block, sender, message); failed calls roll back. -/
def Sk.run (s : Cw1Subkeys.State) (ops : List (Block × Addr × Cw1Subkeys.Msg)) : Cw1Subkeys.State :=
  ops.foldl (fun s op => Cw1Subkeys.step s op.1 op.2.1 op.2.2) s

/-- C07 (subkeys) after any history of admin, allowance and permission changes: the authorisation rule is
the one of the state the history leads to. -/
theorem Sk.execute_ok_iff_run (s : Cw1Subkeys.State) (ops : List (Block × Addr × Cw1Subkeys.Msg))
    (blk : Block) (snd : Addr) (msgs : List CosmosMsg) :
    (Cw1Subkeys.execute (Sk.run s ops) blk snd (.execute msgs)).isOk = true ↔
      ((Sk.run s ops).cfg.isAdmin snd = true ∨ coveredSeq (Sk.run s ops) blk snd msgs = true) :=
  Sk.execute_ok_iff _ _ _ _

/-- C07, "relayed exactly / only when authorised" as one equation (whitelist): what a transaction relays is
the submitted list if the message is `Execute` and the caller is a current admin, and nothing otherwise. -/
theorem Wl.relayed_eq (s : Cw1Whitelist.State) (blk : Block) (snd : Addr) (m : Cw1Whitelist.Msg) :
    Cw1Whitelist.relayed s blk snd m = match m with
      | .execute msgs => if snd ∈ s.admins then msgs else []
      | _ => [] := by
  unfold Cw1Whitelist.relayed
  cases hr : Cw1Whitelist.execute s blk snd m with
  | error e =>
    cases m with
    | execute msgs =>
      exact (if_neg fun h => Bool.noConfusion ((hr ▸ (Wl.execute_ok_iff s blk snd msgs).mpr h : Res.isOk (.error e) = true))).symm
    | _ => rfl
  | ok r =>
    obtain ⟨s', out⟩ := r
    cases m with
    | execute msgs =>
      obtain ⟨ha, _, rfl⟩ := Cw1Whitelist.execute_execute_ok_iff.mp hr
      exact (if_pos ha).symm
    | freeze => exact (Cw1Whitelist.execute_freeze_ok_iff.mp hr).2.2.2
    | updateAdmins l => exact (Cw1Whitelist.execute_updateAdmins_ok_iff.mp hr).2.2.2.2

/-- C07, "relayed exactly / only when authorised" as one equation (subkeys): what a transaction relays is the
submitted list if the message is `Execute` and the caller is a current admin or its grants cover the whole
list, and nothing in every other case (other handlers, failed calls). -/
theorem Sk.relayed_eq (s : Cw1Subkeys.State) (blk : Block) (snd : Addr) (m : Cw1Subkeys.Msg) :
    Cw1Subkeys.relayed s blk snd m = match m with
      | .execute msgs => if (s.cfg.isAdmin snd || coveredSeq s blk snd msgs) = true then msgs else []
      | _ => [] := by
  have hother : (∀ msgs, m ≠ Cw1Subkeys.Msg.execute msgs) → Cw1Subkeys.relayed s blk snd m = [] := by
    intro hm
    unfold Cw1Subkeys.relayed
    split
    · rename_i s' out hr
      exact Classical.byContradiction fun hne => (Sk.only_execute_relays hr hne).elim hm
    · rfl
  cases m with
  | execute msgs =>
    have hiff := Sk.execute_ok_iff s blk snd msgs
    simp only [Cw1Subkeys.relayed, Bool.or_eq_true]
    cases hr : Cw1Subkeys.execute s blk snd (.execute msgs) with
    | error e => rw [hr] at hiff; exact (if_neg fun h => Bool.noConfusion (hiff.mpr h)).symm
    | ok r =>
      obtain ⟨s', out⟩ := r
      rw [hr] at hiff; rw [if_pos (hiff.mp rfl), Sk.relay_exact hr]
  | _ => exact hother (fun _ h => nomatch h)

/-- Everything a history relays, in order. -/
def Sk.trace (s : Cw1Subkeys.State) : List (Block × Addr × Cw1Subkeys.Msg) → List CosmosMsg
  | [] => []
  | op :: rest => Cw1Subkeys.relayed s op.1 op.2.1 op.2.2 ++ Sk.trace (Cw1Subkeys.step s op.1 op.2.1 op.2.2) rest

theorem Sk.run_cons (s : Cw1Subkeys.State) (op : Block × Addr × Cw1Subkeys.Msg) (rest : List (Block × Addr × Cw1Subkeys.Msg)) :
    Sk.run s (op :: rest) = Sk.run (Cw1Subkeys.step s op.1 op.2.1 op.2.2) rest := rfl

theorem Sk.run_append (s : Cw1Subkeys.State) (a b : List (Block × Addr × Cw1Subkeys.Msg)) :
    Sk.run s (a ++ b) = Sk.run (Sk.run s a) b :=
  List.foldl_append ..

/-- C07 over whole histories: every message the proxy ever relays was submitted, in an `Execute` call of the
history, by a caller that at that point of the history was a current admin or held grants covering the whole
submitted list. -/
theorem Sk.trace_mem {s : Cw1Subkeys.State} {ops : List (Block × Addr × Cw1Subkeys.Msg)} {m : CosmosMsg}
    (h : m ∈ Sk.trace s ops) :
    ∃ pre blk snd msgs post, ops = pre ++ (blk, snd, .execute msgs) :: post ∧ m ∈ msgs ∧
      ((Sk.run s pre).cfg.isAdmin snd = true ∨ coveredSeq (Sk.run s pre) blk snd msgs = true) := by
  induction ops generalizing s with
  | nil => cases h
  | cons op rest ih =>
    simp only [Sk.trace, List.mem_append] at h
    rcases h with h | h
    · obtain ⟨blk, snd, mm⟩ := op
      rw [Sk.relayed_eq] at h
      cases mm with
      | execute msgs =>
        simp only at h
        split at h
        · rename_i hc
          exact ⟨[], blk, snd, msgs, rest, rfl, h, Bool.or_eq_true .. ▸ hc⟩
        · cases h
      | _ => cases h
    · obtain ⟨pre, blk, snd, msgs, post, he, hm, hc⟩ := ih h
      exact ⟨op :: pre, blk, snd, msgs, post, by rw [he]; rfl, hm, hc⟩

theorem covers_without_grants (blk : Block) (m : CosmosMsg) : covers none blk none m = none := by
  cases m <;> rfl

/-- C07 (subkeys), "any other caller fails": somebody who is neither a current admin nor holds an allowance or a
permission record cannot relay any non-empty list (the empty list relays nothing and succeeds for anybody, as in
the Rust code). -/
theorem Sk.stranger_rejected {s : Cw1Subkeys.State} {blk : Block} {snd : Addr} {msgs : List CosmosMsg}
    (hna : s.cfg.isAdmin snd = false) (hal : s.allowances.get? snd = none) (hp : s.permissions.get? snd = none)
    (hne : msgs ≠ []) : ∃ e, Cw1Subkeys.execute s blk snd (.execute msgs) = .error e := by
  rw [← Res.isOk_false_iff_exists]
  cases hr : (Cw1Subkeys.execute s blk snd (.execute msgs)).isOk with
  | false => rfl
  | true =>
    rcases (Sk.execute_ok_iff s blk snd msgs).mp hr with ha | hc
    · rw [hna] at ha; cases ha
    · cases msgs with
      | nil => exact absurd rfl hne
      | cons m ms =>
        simp [coveredSeq, coveredFrom, hal, hp, covers_without_grants] at hc

/-- A stranger relays nothing and changes nothing, whatever it submits. -/
theorem Sk.stranger_no_effect {s : Cw1Subkeys.State} {blk : Block} {snd : Addr} {msgs : List CosmosMsg}
    (hna : s.cfg.isAdmin snd = false) (hal : s.allowances.get? snd = none) (hp : s.permissions.get? snd = none) :
    Cw1Subkeys.relayed s blk snd (.execute msgs) = [] ∧ Cw1Subkeys.step s blk snd (.execute msgs) = s := by
  cases msgs with
  | nil =>
    have h : Cw1Subkeys.execute s blk snd (.execute []) = .ok (s, []) :=
      Cw1Subkeys.execute_execute_ok_iff.mpr ⟨.inr ⟨hna, rfl⟩, rfl⟩
    simp [Cw1Subkeys.relayed, Cw1Subkeys.step, h]
  | cons m ms =>
    obtain ⟨e, he⟩ := Sk.stranger_rejected (blk := blk) hna hal hp (List.cons_ne_nil m ms)
    exact ⟨(Sk.fail_no_relay he).2, (Sk.fail_no_relay he).1⟩

/-- For a list without bank sends coverage is just the permission flags, message by message: it depends neither on
the block nor on the allowance. -/
theorem coveredFrom_no_bank (perm : Option Permissions) (blk : Block) (al : Option Allowance) {msgs : List CosmosMsg}
    (h : ∀ m ∈ msgs, isBankSend m = false) : coveredFrom perm blk al msgs = msgs.all (permOk perm) := by
  induction msgs with
  | nil => rfl
  | cons m ms ih =>
    have hms : ∀ x ∈ ms, isBankSend x = false := fun x hx => h x (List.mem_cons_of_mem _ hx)
    simp only [coveredFrom, covers_of_not_bank perm blk al (h m List.mem_cons_self), List.all_cons]
    cases hp : permOk perm m
    · rfl
    · exact ih hms

/-- C07 (subkeys), permission flags for lists of any length: a non-admin's list of staking / distribution (or any
other non-bank) messages is accepted exactly when the caller has a permission record and every message of the list
is a staking / distribution message whose matching flag is set — whatever the block and whatever the allowances. -/
theorem Sk.flag_mapping_list (s : Cw1Subkeys.State) (blk : Block) (snd : Addr) (msgs : List CosmosMsg)
    (hna : s.cfg.isAdmin snd = false) (hnb : ∀ m ∈ msgs, isBankSend m = false) :
    (Cw1Subkeys.execute s blk snd (.execute msgs)).isOk = true ↔
      ∀ m ∈ msgs, permOk (s.permissions.get? snd) m = true := by
  rw [Sk.execute_ok_iff, coveredSeq, coveredFrom_no_bank _ _ _ hnb]
  simp [hna]

/-- C07 (subkeys), permission flags: a single staking / distribution message from a non-admin is accepted
exactly when the caller has a permission record whose matching flag is set (delegate → `delegate`,
undelegate → `undelegate`, redelegate → `redelegate`, both withdraw variants → `withdraw`). -/
theorem Sk.flag_mapping (s : Cw1Subkeys.State) (blk : Block) (snd : Addr) (hna : s.cfg.isAdmin snd = false) :
    (∀ k p, (Cw1Subkeys.execute s blk snd (.execute [.staking k p])).isOk = true ↔
        ∃ q, s.permissions.get? snd = some q ∧ stakingFlag k q = true) ∧
    (∀ k p, (Cw1Subkeys.execute s blk snd (.execute [.distribution k p])).isOk = true ↔
        ∃ q, s.permissions.get? snd = some q ∧ distrFlag k q = true) := by
  have one : ∀ m, isBankSend m = false →
      ((Cw1Subkeys.execute s blk snd (.execute [m])).isOk = true ↔ permOk (s.permissions.get? snd) m = true) :=
    fun m hm => (Sk.flag_mapping_list s blk snd _ hna (fun x hx => List.mem_singleton.mp hx ▸ hm)).trans
      List.forall_mem_singleton
  have flag : ∀ (perm : Option Permissions) (f : Permissions → Bool),
      (match perm with | some p => f p | none => false) = true ↔ ∃ q, perm = some q ∧ f q = true := by
    intro perm f
    cases perm with
    | none => exact ⟨nofun, fun ⟨_, h, _⟩ => nomatch h⟩
    | some q => exact ⟨fun h => ⟨_, rfl, h⟩, fun ⟨_, e, h⟩ => Option.some.inj e ▸ h⟩
  exact ⟨fun k p => (one _ rfl).trans (flag _ _), fun k p => (one _ rfl).trans (flag _ _)⟩

def exState : Cw1Subkeys.State :=
  { cfg := ⟨["admin"], true⟩,
    allowances := [("sub", ⟨[("ua", 10), ("ub", 5)], .atHeight 100⟩)],
    permissions := [("sub", ⟨true, false, false, true⟩)] }

def blk50 : Block := ⟨50, 0⟩
def blk100 : Block := ⟨100, 0⟩

/-- a subkey's mixed list within its grants is accepted and relayed unchanged; the allowance is charged
cumulatively (4 + 6 = 10 ua: the coin disappears) -/
example : (Cw1Subkeys.execute exState blk50 "sub"
      (.execute [.bankSend "x" [("ua", 4)], .staking .delegate "v/1ua", .bankSend "y" [("ua", 6), ("ub", 1)]])).toOption =
    some ({ exState with allowances := [("sub", ⟨[("ub", 4)], .atHeight 100⟩)] },
         [.bankSend "x" [("ua", 4)], .staking .delegate "v/1ua", .bankSend "y" [("ua", 6), ("ub", 1)]]) := by decide +kernel

example : coveredSeq exState blk50 "sub" [.bankSend "x" [("ua", 4)], .bankSend "y" [("ua", 6)]] = true := by decide +kernel
/-- cumulatively too much -/
example : coveredSeq exState blk50 "sub" [.bankSend "x" [("ua", 4)], .bankSend "y" [("ua", 7)]] = false := by decide +kernel
/-- expired at height 100 -/
example : coveredSeq exState blk100 "sub" [.bankSend "x" [("ua", 1)]] = false := by decide +kernel
/-- a later forbidden message fails the whole list -/
example : (Cw1Subkeys.execute exState blk50 "sub" (.execute [.bankSend "x" [("ua", 4)], .wasm "w"])).isOk = false := by decide +kernel
example : (Cw1Subkeys.execute exState blk50 "sub" (.execute [.staking .undelegate "v"])).isOk = false := by decide +kernel
/-- the admin relays anything, a stranger only the empty list -/
example : (Cw1Subkeys.execute exState blk50 "admin" (.execute [.wasm "w", .bankBurn [("ua", 1)]])).isOk = true := by decide +kernel
example : (Cw1Subkeys.execute exState blk50 "stranger" (.execute [])).isOk = true := by decide +kernel
example : (Cw1Subkeys.execute exState blk50 "stranger" (.execute [.bankSend "x" []])).isOk = false := by decide +kernel
example : (Cw1Whitelist.execute ⟨["a", "b"], false⟩ blk50 "b" (.execute [.gov "g"])).isOk = true := by decide +kernel
example : (Cw1Whitelist.execute ⟨["a", "b"], false⟩ blk50 "c" (.execute [])).isOk = false := by decide +kernel

/-- `relayed_eq` on the running example, a covered and an uncovered list -/
example : Cw1Subkeys.relayed exState blk50 "sub" (.execute [.bankSend "x" [("ua", 4)], .staking .delegate "v"])
    = [.bankSend "x" [("ua", 4)], .staking .delegate "v"] := by decide +kernel
example : Cw1Subkeys.relayed exState blk50 "sub" (.execute [.bankSend "x" [("ua", 4)], .staking .undelegate "v"]) = [] := by decide +kernel
/-- `stranger_rejected`: its hypotheses hold of "stranger" in the running example -/
example : ∃ e, Cw1Subkeys.execute exState blk50 "stranger" (.execute [.staking .delegate "v"]) = .error e :=
  Sk.stranger_rejected (by decide) (by decide) (by decide) (by simp)
/-- `flag_mapping_list`: two flagged messages pass, a third unflagged one fails the list -/
example : (Cw1Subkeys.execute exState blk50 "sub" (.execute [.staking .delegate "v", .distribution .setWithdrawAddress "w"])).isOk = true :=
  (Sk.flag_mapping_list exState blk50 "sub" _ (by decide) (by decide)).mpr (by decide)
example : (Cw1Subkeys.execute exState blk100 "sub" (.execute [.staking .delegate "v", .staking .redelegate "w"])).isOk = false := by decide +kernel
/-- `trace_mem`: a history that relays something -/
example : Sk.trace exState [(blk50, "sub", .execute [.bankSend "x" [("ua", 4)]]), (blk50, "stranger", .execute [.wasm "w"]),
    (blk50, "admin", .execute [.wasm "w2"])] = [.bankSend "x" [("ua", 4)], .wasm "w2"] := by decide +kernel

end CwPlus.Props.C07
