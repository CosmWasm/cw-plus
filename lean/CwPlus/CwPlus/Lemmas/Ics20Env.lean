import CwPlus.Lemmas.Ics20Migrate
/-!
# The environment assumptions of the cw20-ics20 model, made explicit

`World.exec` (Model/Ics20.lean) refuses three kinds of transactions that the environment never produces
(tags `impossible.self`, `impossible.token`) and represents denominations structurally.  This file states
those assumptions as a `structure EnvAssumptions` over a history, defines the transaction semantics
*without* the guards (`World.execRaw`: same handlers, same runtime, no `impossible.*` checks), proves that
both semantics agree on every history satisfying the assumptions, and proves what the structural
representation of denominations needs (`render` is injective on the stored keys).

* **E1 `hook_only_from_send`** — a real cw20 token contract calls `ExecuteMsg::Receive` only from its own
  `Send`, after crediting the ics20 contract: a *direct* `Receive` never has a real token as `info.sender`.
* **E2 `never_calls_itself`** — the ics20 contract never sends a message to itself (it emits only
  `IbcMsg::SendPacket`, `BankMsg::Send` and cw20 `Transfer`), so it is never the sender of a transfer.
* **E3 `native_not_cw20`** — no native (bank) denomination has the form `cw20:…`, so the storage key
  `Amount::denom()` of a native coin never collides with that of a cw20 token.
-/
namespace CwPlus.Ics20
open CwPlus

/-- E3 for one bank denomination: it is not of the form `"cw20:" ++ a`. -/
def NativeOk (d : String) : Prop := ∀ a, d ≠ "cw20:" ++ a

theorem cw20_prefix_toList : "cw20:".toList = ['c', 'w', '2', '0', ':'] := by decide

/-- A checkable criterion for E3: the first five characters are not `cw20:`. -/
theorem nativeOk_of_take {d : String} (h : d.toList.take 5 ≠ ['c', 'w', '2', '0', ':']) : NativeOk d := by
  intro a e
  apply h
  rw [e, String.toList_append, cw20_prefix_toList]
  simp

/-- The environment assumptions about a history run against a contract with address `me` in a world
whose real cw20 token contracts are `tokens`. -/
structure EnvAssumptions (me : Addr) (tokens : List Addr) (ops : List (Block × Op)) : Prop where
  /-- **E1**: a real token calls the receive hook only from `Send` (modelled by `Op.sendCw20`, which credits
  the contract first); a direct `Receive` (`Op.hook`) never comes from one of the real tokens. -/
  hook_only_from_send : ∀ blk snd funds sender amt msg,
    (blk, Op.hook snd funds sender amt msg) ∈ ops → tokens.contains snd = false
  /-- **E2**: the contract never calls itself: it is not the sender of a native transfer or of a cw20 `Send`. -/
  never_calls_itself :
    (∀ blk snd funds msg, (blk, Op.transferNative snd funds msg) ∈ ops → snd ≠ me) ∧
    (∀ blk snd token amt msg, (blk, Op.sendCw20 snd token amt msg) ∈ ops → snd ≠ me)
  /-- **E3**: no native denomination attached to a transfer starts with `cw20:`. -/
  native_not_cw20 : ∀ blk snd funds msg, (blk, Op.transferNative snd funds msg) ∈ ops → ∀ f ∈ funds, NativeOk f.1

theorem EnvAssumptions.tail {me : Addr} {tokens : List Addr} {o : Block × Op} {ops : List (Block × Op)}
    (h : EnvAssumptions me tokens (o :: ops)) : EnvAssumptions me tokens ops :=
  ⟨fun blk snd funds sender amt msg hm => h.hook_only_from_send blk snd funds sender amt msg (List.mem_cons_of_mem _ hm),
   ⟨fun blk snd funds msg hm => h.never_calls_itself.1 blk snd funds msg (List.mem_cons_of_mem _ hm),
    fun blk snd token amt msg hm => h.never_calls_itself.2 blk snd token amt msg (List.mem_cons_of_mem _ hm)⟩,
   fun blk snd funds msg hm => h.native_not_cw20 blk snd funds msg (List.mem_cons_of_mem _ hm)⟩

/-! ## The transaction semantics without the environment guards -/

/-- `World.exec` without the `impossible.self` / `impossible.token` guards: any account — including the
contract itself and real token contracts — may send any of the three transfer transactions.  The three
branches repeat those of `World.exec` (Model/Ics20.lean) line by line, less the two `check`s: the guards sit
inside the branches there, so the unguarded semantics cannot be had by calling `exec`.  A change to a transfer
branch of `World.exec` is to be made here too; `execRaw_eq_exec` fails to check otherwise. -/
def World.execRaw (w : World) (blk : Block) : Op → Res (World × Outcome)
  | .transferNative snd funds msg => do
    let w1 ← (match funds with
      | [(d, amt)] =>
        (if amt = 0 then .error "bank.empty" else
          match w.bankSend snd w.self d amt with
          | some w1 => .ok w1
          | none => .error "bank.insufficient")
      | [] => .ok w
      | _ => .error "multipledenoms" : Res World)
    let (s, out) ← execTransferNative w1.st blk snd funds msg
    pure ({ w1 with st := s }, { sent := [out] })
  | .sendCw20 snd token amt msg => do
    check (w.tokens.contains token) "notoken"
    let w1 ← (match w.tokSend token snd w.self amt with
      | some w1 => .ok w1
      | none => .error "cw20.insufficient" : Res World)
    let (s, out) ← execReceive w1.st blk token [] ⟨true, snd⟩ amt msg
    pure ({ w1 with st := s }, { sent := [out] })
  | .hook snd funds sender amt msg => do
    check funds.isEmpty "nonpayable"
    let (s, out) ← execReceive w.st blk snd funds sender amt msg
    pure ({ w with st := s }, { sent := [out] })
  | op => w.exec blk op

def World.stepRaw (w : World) (blk : Block) (op : Op) : World :=
  match w.execRaw blk op with
  | .ok (w', _) => w'
  | .error _ => w

/-- Histories under the unguarded semantics. -/
def runRaw (w : World) (ops : List (Block × Op)) : World := ops.foldl (fun w o => w.stepRaw o.1 o.2) w

theorem stepRaw_cases {P : World → Prop} {w : World} (blk : Block) (op : Op) (h0 : P w)
    (hstep : ∀ w' o, w.execRaw blk op = .ok (w', o) → P w') : P (w.stepRaw blk op) := by
  unfold World.stepRaw
  split
  · rename_i w' o h; exact hstep w' o h
  · exact h0

theorem runRaw_induction {P : World → Prop}
    (hstep : ∀ w blk op w' o, P w → w.execRaw blk op = .ok (w', o) → P w') (ops : List (Block × Op)) {w : World}
    (h0 : P w) : P (runRaw w ops) :=
  foldl_invariant P (fun w hw op _ => stepRaw_cases op.1 op.2 hw (fun w' o h => hstep w op.1 op.2 w' o hw h)) h0

/-- A transfer of the unguarded semantics, whoever sends it, only rewrites the books. -/
theorem execRaw_books {w w' : World} {blk : Block} {op : Op} {o : Outcome} (hop : op.isTransfer = true)
    (h : w.execRaw blk op = .ok (w', o)) : ∃ ch, w'.st = { w.st with chan := ch } := by
  cases op with
  | transferNative snd funds msg =>
    simp only [World.execRaw, Res.bind_ok] at h
    obtain ⟨w1, hw1, ⟨s, out⟩, hs, h⟩ := h
    cases h
    obtain ⟨d, amt, rfl, ht⟩ := execTransferNative_ok hs
    have e : w1.st = w.st := by
      simp only at hw1
      split at hw1
      · cases hw1
      · split at hw1
        · cases hw1; exact (bankSend_frame ‹_›).1
        · cases hw1
    rw [e] at ht
    obtain ⟨ch, _, rfl, _⟩ := execTransfer_ok ht
    exact ⟨ch, rfl⟩
  | sendCw20 snd token amt msg =>
    simp only [World.execRaw, Res.bind_ok] at h
    obtain ⟨_, _, w1, hw1, ⟨s, out⟩, hs, h⟩ := h
    cases h
    obtain ⟨m, rfl, ht⟩ := execReceive_ok hs
    have e : w1.st = w.st := by
      split at hw1
      · cases hw1; exact (tokSend_frame ‹_›).1
      · cases hw1
    rw [e] at ht
    obtain ⟨ch, _, rfl, _⟩ := execTransfer_ok ht
    exact ⟨ch, rfl⟩
  | hook snd funds sender amt msg =>
    simp only [World.execRaw, Res.bind_ok] at h
    obtain ⟨_, _, ⟨s, out⟩, hs, h⟩ := h
    cases h
    obtain ⟨m, rfl, ht⟩ := execReceive_ok hs
    obtain ⟨ch, _, rfl, _⟩ := execTransfer_ok ht
    exact ⟨ch, rfl⟩
  | _ => cases hop
/-- The unguarded semantics does to the contract state what the guarded one does. -/
theorem execRaw_st {w w' : World} {blk : Block} {op : Op} {o : Outcome} (h : w.execRaw blk op = .ok (w', o)) :
    StStep w.st w.holdings op w'.st := by
  by_cases hop : op.isTransfer = true
  · obtain ⟨ch, e⟩ := execRaw_books hop h
    exact Or.inr (Or.inr (Or.inr (Or.inr ⟨ch, w.st.replyArgs, e⟩)))
  · have : w.execRaw blk op = w.exec blk op := by cases op <;> first | rfl | exact absurd rfl hop
    exact exec_st (this ▸ h)

/-- The guard of one transaction (what E1 and E2 say about it). -/
def guardOk (w : World) : Op → Prop
  | .transferNative snd _ _ => snd ≠ w.self
  | .sendCw20 snd _ _ _ => snd ≠ w.self
  | .hook snd _ _ _ _ => w.tokens.contains snd = false
  | _ => True

/-- Under its guard a transaction behaves the same with and without the guards. -/
theorem execRaw_eq_exec {w : World} {blk : Block} {op : Op} (hg : guardOk w op) : w.execRaw blk op = w.exec blk op := by
  cases op with
  | transferNative snd funds msg =>
    have hs : snd ≠ w.self := hg
    simp [World.execRaw, World.exec, check, hs]
    rfl
  | sendCw20 snd token amt msg =>
    have hs : snd ≠ w.self := hg
    simp [World.execRaw, World.exec, check, hs]
    rfl
  | hook snd funds sender amt msg =>
    have ht : snd ∉ w.tokens := by simpa [guardOk] using hg
    simp [World.execRaw, World.exec, check, ht]
    rfl
  | _ => rfl

theorem exec_self_tokens {w w' : World} {blk : Block} {op : Op} {o : Outcome} (h : w.exec blk op = .ok (w', o)) :
    w'.self = w.self ∧ w'.tokens = w.tokens := by
  cases exec_tx h with
  | quiet s' hw _ _ _ _ _ _ _ => subst hw; exact ⟨rfl, rfl⟩
  | migrate gas s' _ _ hw _ => subst hw; exact ⟨rfl, rfl⟩
  | escrow w1 out ch _ _ _ _ _ hw hfr _ _ _ _ => subst hw; exact hfr
  | redeem p rv tv f d amt ch sub _ _ _ _ hpay _ _ => have f := payout_frame hpay; exact ⟨f.2.1, f.2.2.1⟩
  | refund chan p sv tv f ch sub _ _ _ _ hpay _ =>
    rcases hpay with ⟨hp, _⟩ | ⟨rfl, _⟩
    · have f := payout_frame hp; exact ⟨f.2.1, f.2.2.1⟩
    · exact ⟨rfl, rfl⟩
  | acked chan p sv tv f _ hw _ => subst hw; exact ⟨rfl, rfl⟩

theorem step_self_tokens (w : World) (blk : Block) (op : Op) :
    (w.step blk op).self = w.self ∧ (w.step blk op).tokens = w.tokens :=
  step_cases (P := fun w' => w'.self = w.self ∧ w'.tokens = w.tokens) blk op ⟨rfl, rfl⟩ (fun _ _ h => exec_self_tokens h)

/-- What E1 and E2 say about the head of a history is the guard of its first transaction. -/
theorem EnvAssumptions.head_guard {w : World} {o : Block × Op} {ops : List (Block × Op)}
    (h : EnvAssumptions w.self w.tokens (o :: ops)) : guardOk w o.2 := by
  obtain ⟨blk, op⟩ := o
  cases op <;> simp only [guardOk]
  · exact h.never_calls_itself.1 blk _ _ _ (List.mem_cons_self ..)
  · exact h.never_calls_itself.2 blk _ _ _ _ (List.mem_cons_self ..)
  · exact h.hook_only_from_send blk _ _ _ _ _ (List.mem_cons_self ..)

/-- On every history satisfying the environment assumptions the unguarded semantics and the model's
(guarded) semantics coincide. -/
theorem runRaw_eq_run (w : World) (ops : List (Block × Op)) (henv : EnvAssumptions w.self w.tokens ops) :
    runRaw w ops = ops.foldl (fun w o => w.step o.1 o.2) w := by
  induction ops generalizing w with
  | nil => rfl
  | cons o rest ih =>
    have hstep : w.stepRaw o.1 o.2 = w.step o.1 o.2 := by
      unfold World.stepRaw World.step
      rw [execRaw_eq_exec henv.head_guard]
      rfl
    simp only [runRaw, List.foldl_cons] at ih ⊢
    rw [hstep]
    apply ih
    obtain ⟨e1, e2⟩ := step_self_tokens w o.1 o.2
    rw [e1, e2]
    exact henv.tail

/-! ## E3: the structural denominations are faithful to the string storage keys -/

/-- A denomination whose storage key cannot collide: a cw20 token, or a native denomination satisfying E3. -/
def DenomOk : Denom → Prop
  | .native d => NativeOk d
  | .cw20 _ => True

/-- `Amount::denom()` is injective on denominations satisfying E3. -/
theorem render_inj {d d' : Denom} (h : DenomOk d) (h' : DenomOk d') (e : d.render = d'.render) : d = d' := by
  cases d with
  | native x =>
    cases d' with
    | native y => simp [Denom.render] at e; rw [e]
    | cw20 b => exact absurd e (h b)
  | cw20 a =>
    cases d' with
    | native y => exact absurd e.symm (h' a)
    | cw20 b =>
      simp only [Denom.render] at e
      rw [(String.append_right_inj "cw20:").mp e]

/-- Without E3 it is not: the native denomination `cw20:T1` and the token `T1` share a storage key. -/
theorem render_collision : (Denom.native "cw20:T1").render = (Denom.cw20 "T1").render := by decide

/-- Every stored key has a denomination satisfying E3. -/
def KeysFaithful (m : ChanMap) : Prop := ∀ k ∈ AMap.keys m, DenomOk k.2

theorem keysFaithful_set {m : ChanMap} (hk : KeysFaithful m) (k : Key) (v : ChanState)
    (h : k ∈ AMap.keys m ∨ DenomOk k.2) : KeysFaithful (m.set k v) := by
  intro x hx
  rcases AMap.mem_keys_set.mp hx with hx | rfl
  · exact hk x hx
  · rcases h with h | h
    · exact hk x h
    · exact h

theorem keysFaithful_increase {m ch : ChanMap} {c : String} {d : Denom} {amt : Nat} (hk : KeysFaithful m)
    (hinc : increaseBalance m c d amt = .ok ch) (hd : DenomOk d) : KeysFaithful ch := by
  simp [increaseBalance] at hinc
  obtain ⟨_, _, rfl⟩ := hinc
  exact keysFaithful_set hk (c, d) _ (Or.inr hd)

theorem keysFaithful_reduce {m ch : ChanMap} {c : String} {d : Denom} {amt : Nat} (hk : KeysFaithful m)
    (hred : reduceBalance m c d amt = .ok ch) : KeysFaithful ch := by
  obtain ⟨cs, hg, _, rfl, _, _⟩ := reduceBalance_ok hred
  exact keysFaithful_set hk (c, d) _ (Or.inl (mem_keys_of_get? hg))

/-- Every successful transaction whose attached native funds satisfy E3 keeps the stored keys faithful. -/
theorem exec_keysFaithful {w w' : World} {blk : Block} {op : Op} {o : Outcome} (hk : KeysFaithful w.st.chan)
    (he : ∀ snd funds msg, op = .transferNative snd funds msg → ∀ f ∈ funds, NativeOk f.1)
    (h : w.exec blk op = .ok (w', o)) : KeysFaithful w'.st.chan := by
  cases exec_tx h with
  | quiet s' hw hchan _ _ _ _ _ _ => subst hw; exact hchan ▸ hk
  | migrate gas s' _ hm hw _ =>
    subst hw
    intro k hkm
    rw [migrate_keys hm] at hkm
    exact hk k hkm
  | escrow w1 out ch _ hinc _ _ _ hw _ _ _ hden _ =>
    subst hw
    refine keysFaithful_increase hk hinc ?_
    -- the denomination of the packet: a cw20 token, or the attached native coin
    rcases hden with ⟨t, e⟩ | ⟨snd, d, amt, msg, rfl, e⟩ <;> rw [e]
    · trivial
    · exact he snd _ msg rfl (d, amt) (List.mem_singleton.mpr rfl)
  | redeem p rv tv f d amt ch sub _ _ hred _ _ hst _ => rw [hst]; exact keysFaithful_reduce hk hred
  | refund chan p sv tv f ch sub _ hred _ _ _ hst => rw [hst]; exact keysFaithful_reduce hk hred
  | acked chan p sv tv f _ hw _ => subst hw; exact hk

/-- Both invariants hold after every unguarded history that satisfies the environment assumptions. -/
theorem runRaw_keysFaithful (w : World) (ops : List (Block × Op)) (henv : EnvAssumptions w.self w.tokens ops)
    (hwf : WellFormed w.st) (hk : KeysFaithful w.st.chan) :
    WellFormed (runRaw w ops).st ∧ KeysFaithful (runRaw w ops).st.chan := by
  rw [runRaw_eq_run w ops henv]
  refine run_induction_mem (P := fun w => WellFormed w.st ∧ KeysFaithful w.st.chan) ops
    (fun w blk op w' o hm hI h => ⟨exec_wellFormed hI.1 h, exec_keysFaithful hI.2 ?_ h⟩) ⟨hwf, hk⟩
  intro snd funds msg hop
  exact henv.native_not_cw20 blk snd funds msg (hop ▸ hm)

/-- With distinct, faithful keys two entries of the books under the same *storage* key
`(channel, denom string)` are the same entry: the structural model has exactly one entry per storage key. -/
theorem entries_eq_of_same_storage_key {m : ChanMap} (hnd : AMap.NodupKeys m) (hk : KeysFaithful m)
    {e e' : Key × ChanState} (he : e ∈ m) (he' : e' ∈ m) (hc : e.1.1 = e'.1.1)
    (hr : e.1.2.render = e'.1.2.render) : e = e' := by
  have hd : e.1.2 = e'.1.2 :=
    render_inj (hk e.1 (List.mem_map_of_mem (f := (·.1)) he)) (hk e'.1 (List.mem_map_of_mem (f := (·.1)) he')) hr
  have hkey : e.1 = e'.1 := Prod.ext hc hd
  have h1 := (AMap.get?_eq_some_iff hnd).mpr he
  have h2 := (AMap.get?_eq_some_iff hnd).mpr he'
  rw [hkey, h2] at h1
  exact Prod.ext hkey (Option.some.inj h1).symm

/-! ## Ghost histories under the unguarded semantics -/

def stepGRaw (wg : World × Ghost) (blk : Block) (op : Op) : World × Ghost :=
  if admissible wg.2 op then
    match wg.1.execRaw blk op with
    | .ok (w', o) => (w', wg.2.update w' op o)
    | .error _ => wg
  else wg

/-- Histories with ghosts under the unguarded semantics. -/
def runGRaw (wg : World × Ghost) (ops : List (Block × Op)) : World × Ghost :=
  ops.foldl (fun wg o => stepGRaw wg o.1 o.2) wg

theorem stepG_self_tokens (wg : World × Ghost) (blk : Block) (op : Op) :
    (stepG wg blk op).1.self = wg.1.self ∧ (stepG wg blk op).1.tokens = wg.1.tokens :=
  stepG_cases (P := fun wg' => wg'.1.self = wg.1.self ∧ wg'.1.tokens = wg.1.tokens) blk op ⟨rfl, rfl⟩
    (fun _ _ h => exec_self_tokens h)

/-- On every history satisfying the environment assumptions the ghost histories of both semantics coincide. -/
theorem runGRaw_eq_runG (wg : World × Ghost) (ops : List (Block × Op))
    (henv : EnvAssumptions wg.1.self wg.1.tokens ops) : runGRaw wg ops = runG wg ops := by
  induction ops generalizing wg with
  | nil => rfl
  | cons o rest ih =>
    have hstep : stepGRaw wg o.1 o.2 = stepG wg o.1 o.2 := by
      unfold stepGRaw stepG
      rw [execRaw_eq_exec henv.head_guard]
      rfl
    simp only [runGRaw, runG, List.foldl_cons] at ih ⊢
    rw [hstep]
    apply ih
    obtain ⟨e1, e2⟩ := stepG_self_tokens wg o.1 o.2
    rw [e1, e2]
    exact henv.tail

end CwPlus.Ics20
