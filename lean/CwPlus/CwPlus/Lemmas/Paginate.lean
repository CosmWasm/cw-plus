import CwPlus.Base.Paginate
/-!
# Generic pagination theorems (core only)

Everything a list query of the suite needs, proved once for an arbitrary key type `κ` with a strict total order
given as a Boolean `lt`.  A page has at most `effLimit` items (default 10, max 30) and is a contiguous part of the
sorted listing, strictly after the cursor.  One induction over the client loop (`fetchAll_pages`) gives: from any
cursor the loop returns exactly the items after it, each once, in order.  The same is then had for a query function
that is a page up to a projection (the form the models have), for the descending and the filtered listings (the
reversed order, the filtered list), and for the sorted entries of a map, the storage iteration order.
-/
namespace CwPlus.Paginate
open CwPlus

variable {κ ν : Type}

structure StrictTotal (lt : κ → κ → Bool) : Prop where
  irrefl : ∀ a, lt a a = false
  trans : ∀ a b c, lt a b = true → lt b c = true → lt a c = true
  total : ∀ a b, a ≠ b → lt a b = true ∨ lt b a = true

def Sorted (lt : κ → κ → Bool) (xs : List (κ × ν)) : Prop :=
  xs.Pairwise (fun a b => lt a.1 b.1 = true)

namespace StrictTotal
variable {lt : κ → κ → Bool}

theorem asymm (h : StrictTotal lt) {a b : κ} (hab : lt a b = true) : lt b a = false := by
  cases hba : lt b a with
  | false => rfl
  | true => have := h.trans a b a hab hba; rw [h.irrefl] at this; cases this

theorem ne (h : StrictTotal lt) {a b : κ} (hab : lt a b = true) : a ≠ b := by
  intro e; subst e; rw [h.irrefl] at hab; cases hab

theorem flip (h : StrictTotal lt) : StrictTotal (fun a b => lt b a) where
  irrefl := h.irrefl
  trans := fun a b c hab hbc => h.trans c b a hbc hab
  total := fun a b hne => (h.total a b hne).symm

end StrictTotal

@[simp] theorem effLimit_none : effLimit none = 10 := rfl

theorem effLimit_some (n : Nat) : effLimit (some n) = min n 30 := rfl

theorem effLimit_le_max (limit : Option Nat) : effLimit limit ≤ 30 := by
  unfold effLimit MAX_LIMIT; omega

theorem effLimit_le_requested (n : Nat) : effLimit (some n) ≤ n := by
  unfold effLimit MAX_LIMIT; simp; omega

/-- The effective limit is positive unless the caller asked for `limit = 0`. -/
theorem effLimit_pos {limit : Option Nat} (h : limit ≠ some 0) : 1 ≤ effLimit limit := by
  cases limit with
  | none => simp
  | some n =>
    have : n ≠ 0 := fun e => h (by rw [e])
    rw [effLimit_some]; omega

theorem effLimit_pos_iff {limit : Option Nat} : 1 ≤ effLimit limit ↔ limit ≠ some 0 := by
  refine ⟨?_, effLimit_pos⟩
  intro h e; subst e; simp [effLimit_some] at h

theorem page_length_le (lt : κ → κ → Bool) (xs : List (κ × ν)) (after : Option κ) (limit : Option Nat) :
    (page lt xs after limit).length ≤ effLimit limit := by
  unfold page; rw [List.length_take]; omega

theorem page_length_le_max (lt : κ → κ → Bool) (xs : List (κ × ν)) (after : Option κ) (limit : Option Nat) :
    (page lt xs after limit).length ≤ 30 :=
  Nat.le_trans (page_length_le lt xs after limit) (effLimit_le_max limit)

theorem page_length_le_requested (lt : κ → κ → Bool) (xs : List (κ × ν)) (after : Option κ) (n : Nat) :
    (page lt xs after (some n)).length ≤ n :=
  Nat.le_trans (page_length_le lt xs after (some n)) (effLimit_le_requested n)

theorem page_length_le_default (lt : κ → κ → Bool) (xs : List (κ × ν)) (after : Option κ) :
    (page lt xs after none).length ≤ 10 := by
  have := page_length_le lt xs after none; simpa using this

@[simp] theorem page_zero (lt : κ → κ → Bool) (xs : List (κ × ν)) (after : Option κ) :
    page lt xs after (some 0) = [] := by
  simp [page, effLimit_some]

/-- A page is full whenever enough items remain: the limit is reached, not merely respected. -/
theorem page_length_eq (lt : κ → κ → Bool) (xs : List (κ × ν)) (after : Option κ) (limit : Option Nat) :
    (page lt xs after limit).length = min (effLimit limit) (afterCursor lt xs after).length := by
  unfold page; rw [List.length_take]

theorem afterCursor_sublist (lt : κ → κ → Bool) (xs : List (κ × ν)) (after : Option κ) :
    (afterCursor lt xs after).Sublist xs := by
  cases after with
  | none => exact List.Sublist.refl _
  | some c => exact List.filter_sublist

theorem page_prefix (lt : κ → κ → Bool) (xs : List (κ × ν)) (after : Option κ) (limit : Option Nat) :
    page lt xs after limit <+: afterCursor lt xs after :=
  List.take_prefix _ _

theorem page_sublist (lt : κ → κ → Bool) (xs : List (κ × ν)) (after : Option κ) (limit : Option Nat) :
    (page lt xs after limit).Sublist xs :=
  (page_prefix lt xs after limit).sublist.trans (afterCursor_sublist lt xs after)

theorem page_sorted {lt : κ → κ → Bool} {xs : List (κ × ν)} (h : Sorted lt xs) (after : Option κ) (limit : Option Nat) :
    Sorted lt (page lt xs after limit) :=
  List.Pairwise.sublist (page_sublist lt xs after limit) h

theorem page_gt_cursor (lt : κ → κ → Bool) (xs : List (κ × ν)) (c : κ) (limit : Option Nat) :
    ∀ x ∈ page lt xs (some c) limit, lt c x.1 = true := by
  intro x hx
  have := (page_prefix lt xs (some c) limit).sublist.subset hx
  simp [afterCursor] at this
  exact this.2

/-- On a sorted listing the items at or below a cursor and the items above it partition the listing, in this
order: what a client skipped plus what the loop from `c` returns is everything. -/
theorem filter_le_append_filter_gt {lt : κ → κ → Bool} (ht : StrictTotal lt) (c : κ) :
    ∀ {xs : List (κ × ν)}, Sorted lt xs →
      xs.filter (fun x => !lt c x.1) ++ xs.filter (fun x => lt c x.1) = xs
  | [], _ => rfl
  | x :: rest, h => by
    have h' := List.pairwise_cons.mp h
    by_cases hc : lt c x.1 = true
    · -- `x` is above the cursor, hence so is everything after it
      have hall : ∀ a ∈ x :: rest, lt c a.1 = true := by
        intro a ha
        rcases List.mem_cons.mp ha with rfl | ha
        · exact hc
        · exact ht.trans _ _ _ hc (h'.1 a ha)
      rw [List.filter_eq_self.mpr hall, List.filter_eq_nil_iff.mpr (fun a ha => by simp [hall a ha])]
      rfl
    · rw [List.filter_cons_of_pos (by simpa using hc), List.filter_cons_of_neg (by simpa using hc),
        List.cons_append, filter_le_append_filter_gt ht c h'.2]

theorem afterCursor_suffix {lt : κ → κ → Bool} (ht : StrictTotal lt) {xs : List (κ × ν)} (h : Sorted lt xs)
    (after : Option κ) : afterCursor lt xs after <:+ xs := by
  cases after with
  | none => exact List.suffix_refl _
  | some c => exact ⟨_, filter_le_append_filter_gt ht c h⟩

theorem page_infix {lt : κ → κ → Bool} (ht : StrictTotal lt) {xs : List (κ × ν)} (h : Sorted lt xs)
    (after : Option κ) (limit : Option Nat) : page lt xs after limit <:+: xs :=
  (page_prefix lt xs after limit).isInfix.trans (afterCursor_suffix ht h after).isInfix

/-- Keys of a sorted list are pairwise distinct: "every item exactly once". -/
theorem Sorted.nodupKeys {lt : κ → κ → Bool} (ht : StrictTotal lt) {xs : List (κ × ν)} (h : Sorted lt xs) :
    (xs.map (·.1)).Nodup := by
  unfold List.Nodup
  rw [List.pairwise_map]
  exact List.Pairwise.imp (fun hab => ht.ne hab) h

theorem Sorted.filter {lt : κ → κ → Bool} {xs : List (κ × ν)} (p : κ × ν → Bool) (h : Sorted lt xs) :
    Sorted lt (xs.filter p) :=
  List.Pairwise.filter p h

/-- The cursor a client holds after having received the items `pre`: the key of the last one. -/
def cursorOf (pre : List (κ × ν)) : Option κ := pre.getLast?.map (·.1)

@[simp] theorem cursorOf_nil : cursorOf ([] : List (κ × ν)) = none := rfl

theorem cursorOf_append_of_getLast? {pre p : List (κ × ν)} {last : κ × ν} (h : p.getLast? = some last) :
    cursorOf (pre ++ p) = some last.1 := by
  unfold cursorOf
  rw [List.getLast?_append, h]; rfl

theorem afterCursor_cursorOf {lt : κ → κ → Bool} (ht : StrictTotal lt) {pre suf : List (κ × ν)}
    (h : Sorted lt (pre ++ suf)) : afterCursor lt (pre ++ suf) (cursorOf pre) = suf := by
  rcases List.eq_nil_or_concat pre with rfl | ⟨ini, l, rfl⟩
  · rfl
  · rw [List.concat_eq_append] at h ⊢
    have hc : cursorOf (ini ++ [l] : List (κ × ν)) = some l.1 := by simp [cursorOf]
    rw [hc]
    simp only [afterCursor]
    obtain ⟨hpre, _, hcross⟩ := List.pairwise_append.mp h
    obtain ⟨_, _, hini⟩ := List.pairwise_append.mp hpre
    rw [List.filter_append]
    have e1 : (ini ++ [l]).filter (fun x => lt l.1 x.1) = [] := by
      rw [List.filter_eq_nil_iff]
      intro a ha
      rcases List.mem_append.mp ha with ha | ha
      · have := ht.asymm (hini a ha l (by simp)); simp [this]
      · simp at ha; subst ha; simp [ht.irrefl]
    have e2 : suf.filter (fun x => lt l.1 x.1) = suf := by
      rw [List.filter_eq_self]
      intro a ha; exact hcross l (by simp) a ha
    rw [e1, e2]; rfl

/-- The one induction behind every completeness statement.  The client holds a cursor `c` that leaves exactly the
suffix `suf` of the sorted listing `pre ++ suf`; if `suf` fits into `k` pages, `k + 1` requests return `suf`
(the last one sees the empty page). -/
theorem fetchAll_pages {lt : κ → κ → Bool} (ht : StrictTotal lt) {limit : Option Nat} (hl : 1 ≤ effLimit limit) :
    ∀ (k : Nat) (pre suf : List (κ × ν)) (c : Option κ), Sorted lt (pre ++ suf) →
      afterCursor lt (pre ++ suf) c = suf → suf.length ≤ k * effLimit limit →
      fetchAll lt (pre ++ suf) limit c (k + 1) = suf
  | 0, pre, suf, c, _, hc, hk => by
    have : suf = [] := List.eq_nil_of_length_eq_zero (by omega)
    subst this
    rw [fetchAll]
    simp only [page, hc, List.take_nil]
    rfl
  | k + 1, pre, suf, c, h, hc, hk => by
    rw [fetchAll]
    simp only [page, hc]
    cases hlast : (suf.take (effLimit limit)).getLast? with
    | none =>
      rcases List.take_eq_nil_iff.mp (List.getLast?_eq_none_iff.mp hlast) with h0 | h0
      · omega
      · simp [h0]
    | some last =>
      simp only []
      -- the next request continues after `pre ++` this page, with the rest of `suf` remaining
      have hx : pre ++ suf = (pre ++ suf.take (effLimit limit)) ++ suf.drop (effLimit limit) := by
        rw [List.append_assoc, List.take_append_drop]
      have hlen : (suf.drop (effLimit limit)).length ≤ k * effLimit limit := by
        rw [List.length_drop]
        rw [Nat.succ_mul] at hk
        omega
      have ih := fetchAll_pages ht hl k (pre ++ suf.take (effLimit limit)) (suf.drop (effLimit limit))
        (some last.1) (hx ▸ h)
        (by rw [← cursorOf_append_of_getLast? hlast]; exact afterCursor_cursorOf ht (hx ▸ h)) hlen
      rw [← hx] at ih
      rw [ih, List.take_append_drop]

/-- Completeness from any cursor whatsoever (none, a key of the listing, any other value of the key type):
the client loop returns exactly the items after the cursor, each once, in key order, for every page size ≥ 1,
provided it is allowed enough requests (one more than there are items always suffices; more make no difference). -/
theorem fetchAll_eq_afterCursor {lt : κ → κ → Bool} (ht : StrictTotal lt) {xs : List (κ × ν)} (h : Sorted lt xs)
    {limit : Option Nat} (hl : 1 ≤ effLimit limit) (c : Option κ) {fuel : Nat}
    (hf : (afterCursor lt xs c).length + 1 ≤ fuel) : fetchAll lt xs limit c fuel = afterCursor lt xs c := by
  obtain ⟨pre, hpre⟩ := afterCursor_suffix ht h c
  obtain ⟨k, rfl⟩ : ∃ k, fuel = k + 1 := ⟨fuel - 1, by omega⟩
  have := fetchAll_pages ht hl k pre _ c (hpre ▸ h) (by rw [hpre])
    (Nat.le_trans (by omega) (Nat.le_mul_of_pos_right k hl))
  rwa [hpre] at this

/-- Completeness from a cursor obtained from earlier pages: if the client has received the prefix `pre` of the
sorted listing `pre ++ suf` and continues with the last key as cursor, it receives exactly `suf`. -/
theorem fetchAll_from {lt : κ → κ → Bool} (ht : StrictTotal lt) {limit : Option Nat} (hl : 1 ≤ effLimit limit) :
    ∀ (fuel : Nat) (pre suf : List (κ × ν)), Sorted lt (pre ++ suf) → suf.length + 1 ≤ fuel →
      fetchAll lt (pre ++ suf) limit (cursorOf pre) fuel = suf := by
  intro fuel pre suf h hf
  have := fetchAll_eq_afterCursor ht h hl (cursorOf pre) (fuel := fuel)
  rw [afterCursor_cursorOf ht h] at this
  exact this hf

/-- `fetchAll_eq_afterCursor` from a given cursor `c`. -/
theorem fetchAll_after {lt : κ → κ → Bool} (ht : StrictTotal lt) {xs : List (κ × ν)} (h : Sorted lt xs)
    {limit : Option Nat} (hl : 1 ≤ effLimit limit) (c : κ) {fuel : Nat}
    (hf : (xs.filter (fun x => lt c x.1)).length + 1 ≤ fuel) :
    fetchAll lt xs limit (some c) fuel = xs.filter (fun x => lt c x.1) :=
  fetchAll_eq_afterCursor ht h hl (some c) hf

/-- **Pagination is complete**: starting without cursor and repeatedly requesting pages with the
last returned key as cursor returns the whole sorted listing — every item exactly once, in key
order — and terminates, for every page size except `limit = 0`. -/
theorem fetchAll_complete {lt : κ → κ → Bool} (ht : StrictTotal lt) {xs : List (κ × ν)} (h : Sorted lt xs)
    {limit : Option Nat} (hl : 1 ≤ effLimit limit) {fuel : Nat} (hf : xs.length + 1 ≤ fuel) :
    fetchAll lt xs limit none fuel = xs :=
  fetchAll_eq_afterCursor ht h hl none hf

theorem fetchAll_complete' {lt : κ → κ → Bool} (ht : StrictTotal lt) {xs : List (κ × ν)} (h : Sorted lt xs)
    {limit : Option Nat} (hl : 1 ≤ effLimit limit) :
    fetchAll lt xs limit none (xs.length + 1) = xs :=
  fetchAll_complete ht h hl (Nat.le_refl _)

/-- With `limit = 0` every page is empty and the client gets nothing (the reason for the
hypothesis `1 ≤ effLimit limit` above). -/
theorem fetchAll_zero (lt : κ → κ → Bool) (xs : List (κ × ν)) (c : Option κ) (fuel : Nat) :
    fetchAll lt xs (some 0) c fuel = [] := by
  cases fuel <;> simp [fetchAll]

/-- The loop needs one request per full page plus the final empty (or short) one: if the remaining items fit
into `k` pages, `k + 1` requests suffice. -/
theorem fetchAll_from_pages {lt : κ → κ → Bool} (ht : StrictTotal lt) {limit : Option Nat} (hl : 1 ≤ effLimit limit) :
    ∀ (k : Nat) (pre suf : List (κ × ν)), Sorted lt (pre ++ suf) → suf.length ≤ k * effLimit limit →
      fetchAll lt (pre ++ suf) limit (cursorOf pre) (k + 1) = suf :=
  fun k pre suf h hk => fetchAll_pages ht hl k pre suf _ h (afterCursor_cursorOf ht h) hk

theorem fetchAll_complete_pages {lt : κ → κ → Bool} (ht : StrictTotal lt) {xs : List (κ × ν)} (h : Sorted lt xs)
    {limit : Option Nat} (hl : 1 ≤ effLimit limit) :
    fetchAll lt xs limit none (xs.length / effLimit limit + 2) = xs := by
  have hk : xs.length ≤ (xs.length / effLimit limit + 1) * effLimit limit := by
    have h1 := Nat.div_add_mod xs.length (effLimit limit)
    have h2 := Nat.mod_lt xs.length (show 0 < effLimit limit by omega)
    rw [Nat.succ_mul, Nat.mul_comm]
    omega
  have := fetchAll_from_pages ht hl (xs.length / effLimit limit + 1) [] xs (by simpa using h) hk
  simpa using this

/-- If a query is `page lt xs · limit` up to a projection `f` of the items that keeps the key
recoverable, the client loop against the query is the projection of `fetchAll`. -/
theorem fetchLoop_eq_fetchAll {α : Type} {lt : κ → κ → Bool} {xs : List (κ × ν)} {limit : Option Nat}
    {q : Option κ → List α} {key : α → κ} {f : κ × ν → α}
    (hq : ∀ c, q c = (page lt xs c limit).map f) (hk : ∀ x, key (f x) = x.1) :
    ∀ (fuel : Nat) (c : Option κ), fetchLoop q key c fuel = (fetchAll lt xs limit c fuel).map f
  | 0, _ => rfl
  | fuel + 1, c => by
    rw [fetchLoop, fetchAll]
    simp only [hq c, List.getLast?_map]
    cases (page lt xs c limit).getLast? with
    | none => rfl
    | some last =>
      simp only [Option.map_some, List.map_append, hk]
      rw [fetchLoop_eq_fetchAll hq hk fuel]

/-- **The client loop against a query that is a page of a sorted listing** (up to a projection `f` of the items
that keeps the key recoverable), started at any cursor — none, a key of the listing, any other value: it returns
exactly the items after the cursor, each once, in key order. -/
theorem fetchLoop_page {α : Type} {lt : κ → κ → Bool} (ht : StrictTotal lt) {xs : List (κ × ν)}
    (h : Sorted lt xs) {limit : Option Nat} (hl : limit ≠ some 0)
    {q : Option κ → List α} {key : α → κ} {f : κ × ν → α}
    (hq : ∀ c, q c = (page lt xs c limit).map f) (hk : ∀ x, key (f x) = x.1) (c : Option κ)
    {fuel : Nat} (hf : xs.length + 1 ≤ fuel) :
    fetchLoop q key c fuel = (afterCursor lt xs c).map f := by
  rw [fetchLoop_eq_fetchAll hq hk, fetchAll_eq_afterCursor ht h (effLimit_pos hl) c]
  have := (afterCursor_sublist lt xs c).length_le
  omega

theorem sortedEntries_perm (lt : κ → κ → Bool) (m : AMap κ ν) : (sortedEntries lt m).Perm m :=
  List.mergeSort_perm _ _

@[simp] theorem sortedEntries_length (lt : κ → κ → Bool) (m : AMap κ ν) : (sortedEntries lt m).length = m.length :=
  (sortedEntries_perm lt m).length_eq

theorem mem_sortedEntries {lt : κ → κ → Bool} {m : AMap κ ν} {x : κ × ν} : x ∈ sortedEntries lt m ↔ x ∈ m :=
  (sortedEntries_perm lt m).mem_iff

section
variable [DecidableEq κ]
set_option linter.unusedSectionVars false

theorem sortedEntries_nodupKeys {lt : κ → κ → Bool} {m : AMap κ ν} (hm : AMap.NodupKeys m) :
    AMap.NodupKeys (sortedEntries lt m) := by
  unfold AMap.NodupKeys AMap.keys at *
  exact (((sortedEntries_perm lt m).map (·.1)).nodup_iff).mpr hm

theorem sortedEntries_sorted {lt : κ → κ → Bool} {m : AMap κ ν} (hm : AMap.NodupKeys m) (ht : StrictTotal lt) :
    Sorted lt (sortedEntries lt m) := by
  have hle : (sortedEntries lt m).Pairwise (fun a b => (!(lt b.1 a.1)) = true) := by
    unfold sortedEntries
    apply List.pairwise_mergeSort (le := fun (a b : κ × ν) => !(lt b.1 a.1))
    · intro a b c hab hbc
      simp only [Bool.not_eq_true'] at *
      cases hca : lt c.1 a.1 with
      | false => rfl
      | true =>
        by_cases e : a.1 = b.1
        · rw [← e, hca] at hbc; cases hbc
        · rcases ht.total _ _ e with h1 | h1
          · rw [ht.trans _ _ _ hca h1] at hbc; cases hbc
          · rw [h1] at hab; cases hab
    · intro a b
      cases hba : lt b.1 a.1 with
      | false => simp
      | true => simp [ht.asymm hba]
  have hne : (sortedEntries lt m).Pairwise (fun a b => a.1 ≠ b.1) := by
    have := sortedEntries_nodupKeys (lt := lt) hm
    unfold AMap.NodupKeys AMap.keys List.Nodup at this
    exact List.pairwise_map.mp this
  refine List.Pairwise.imp ?_ (hle.and hne)
  intro a b ⟨h1, h2⟩
  rcases ht.total _ _ h2 with h | h
  · exact h
  · rw [h] at h1; cases h1

end

theorem Sorted.eq_of_perm {lt : κ → κ → Bool} (ht : StrictTotal lt) {xs ys : List (κ × ν)}
    (hx : Sorted lt xs) (hy : Sorted lt ys) (hp : xs.Perm ys) : xs = ys := by
  refine List.Perm.eq_of_pairwise (le := fun (a b : κ × ν) => lt a.1 b.1 = true) ?_ hx hy hp
  intro a b _ _ hab hba
  rw [ht.asymm hab] at hba; cases hba

/-- Sorting an already sorted list of entries changes nothing. -/
theorem sortedEntries_of_sorted {lt : κ → κ → Bool} (ht : StrictTotal lt) {m : AMap κ ν} (h : Sorted lt m) :
    sortedEntries lt m = m := by
  unfold sortedEntries
  apply List.mergeSort_of_pairwise
  exact List.Pairwise.imp (fun hab => by simp [ht.asymm hab]) h

/-- Sorting the entries does not change what a point query sees. -/
theorem get?_sortedEntries [DecidableEq κ] (lt : κ → κ → Bool) {m : AMap κ ν} (hm : AMap.NodupKeys m) (k : κ) :
    AMap.get? (sortedEntries lt m) k = AMap.get? m k :=
  AMap.get?_perm (sortedEntries_perm lt m) hm k

theorem mem_sortedEntries_iff_get? [DecidableEq κ] (lt : κ → κ → Bool) {m : AMap κ ν} (hm : AMap.NodupKeys m)
    (k : κ) (v : ν) : (k, v) ∈ sortedEntries lt m ↔ AMap.get? m k = some v := by
  rw [mem_sortedEntries, AMap.get?_eq_some_iff hm]

theorem sum_sortedEntries [DecidableEq κ] (lt : κ → κ → Bool) (m : AMap κ Nat) :
    AMap.sum (sortedEntries lt m) = AMap.sum m := by
  unfold AMap.sum
  exact ((sortedEntries_perm lt m).map (·.2)).sum_nat

theorem strictTotal_strLt : StrictTotal strLt where
  irrefl := fun a => by simp [strLt, String.lt_irrefl]
  trans := fun a b c hab hbc => by
    simp only [strLt, decide_eq_true_eq] at *
    exact String.lt_trans hab hbc
  total := fun a b hne => by
    simp only [strLt, decide_eq_true_eq]
    by_cases h1 : a < b
    · exact Or.inl h1
    · by_cases h2 : b < a
      · exact Or.inr h2
      · exact absurd (String.le_antisymm (String.not_lt.mp h2) (String.not_lt.mp h1)) hne

theorem strictTotal_natLt : StrictTotal natLt where
  irrefl := fun a => by simp [natLt]
  trans := fun a b c hab hbc => by
    simp only [natLt, decide_eq_true_eq] at *; omega
  total := fun a b hne => by
    simp only [natLt, decide_eq_true_eq]; omega

/-- The client loop of a descending listing is the ascending one on the flipped order, by definition. -/
theorem fetchAllDesc_eq (lt : κ → κ → Bool) (xs : List (κ × ν)) (limit : Option Nat) (c : Option κ) (fuel : Nat) :
    fetchAllDesc lt xs limit c fuel = fetchAll (fun a b => lt b a) xs limit c fuel := rfl

theorem pageDesc_length_le (lt : κ → κ → Bool) (xs : List (κ × ν)) (before : Option κ) (limit : Option Nat) :
    (pageDesc lt xs before limit).length ≤ effLimit limit :=
  page_length_le _ xs before limit

theorem pageDesc_lt_cursor (lt : κ → κ → Bool) (xs : List (κ × ν)) (c : κ) (limit : Option Nat) :
    ∀ x ∈ pageDesc lt xs (some c) limit, lt x.1 c = true :=
  page_gt_cursor (fun a b => lt b a) xs c limit

theorem fetchAllDesc_complete {lt : κ → κ → Bool} (ht : StrictTotal lt) {xs : List (κ × ν)}
    (h : Sorted (fun a b => lt b a) xs) {limit : Option Nat} (hl : 1 ≤ effLimit limit) {fuel : Nat}
    (hf : xs.length + 1 ≤ fuel) : fetchAllDesc lt xs limit none fuel = xs :=
  fetchAll_complete ht.flip h hl hf

theorem sortedEntriesDesc_sorted [DecidableEq κ] {lt : κ → κ → Bool} {m : AMap κ ν} (hm : AMap.NodupKeys m)
    (ht : StrictTotal lt) : Sorted (fun a b => lt b a) (sortedEntriesDesc lt m) :=
  sortedEntries_sorted hm ht.flip

/-- A strictly ascending list reversed is strictly descending. -/
theorem Sorted.reverse {lt : κ → κ → Bool} {xs : List (κ × ν)} (h : Sorted lt xs) :
    Sorted (fun a b => lt b a) xs.reverse :=
  List.pairwise_reverse.mpr h

theorem sortedEntriesDesc_eq_reverse [DecidableEq κ] {lt : κ → κ → Bool} {m : AMap κ ν} (hm : AMap.NodupKeys m)
    (ht : StrictTotal lt) : sortedEntriesDesc lt m = (sortedEntries lt m).reverse :=
  Sorted.eq_of_perm ht.flip (sortedEntriesDesc_sorted hm ht) (sortedEntries_sorted hm ht).reverse
    ((sortedEntries_perm _ m).trans ((List.reverse_perm _).trans (sortedEntries_perm lt m)).symm)

theorem afterCursor_filter (lt : κ → κ → Bool) (xs : List (κ × ν)) (p : κ × ν → Bool) (after : Option κ) :
    (afterCursor lt xs after).filter p = afterCursor lt (xs.filter p) after := by
  cases after with
  | none => rfl
  | some c => simp only [afterCursor, List.filter_filter]; congr 1; funext x; exact Bool.and_comm _ _

/-- `range(after).filter(p).take(n)` is a page of the filtered listing. -/
theorem pageFiltered_eq (lt : κ → κ → Bool) (p : κ × ν → Bool) (xs : List (κ × ν)) (after : Option κ)
    (limit : Option Nat) : pageFiltered lt p xs after limit = page lt (xs.filter p) after limit := by
  unfold pageFiltered page; rw [afterCursor_filter]

theorem fetchAll_filter_complete {lt : κ → κ → Bool} (ht : StrictTotal lt) {xs : List (κ × ν)} (h : Sorted lt xs)
    (p : κ × ν → Bool) {limit : Option Nat} (hl : 1 ≤ effLimit limit) {fuel : Nat}
    (hf : (xs.filter p).length + 1 ≤ fuel) : fetchAll lt (xs.filter p) limit none fuel = xs.filter p :=
  fetchAll_complete ht (h.filter p) hl hf

/-! ## The listing of a map without duplicate keys

One line per list query of the models: a query that is `page lt (sortedEntries lt m) · limit` up to a projection
returns, from any cursor `c`, the entries of the map after `c`.  `c = none` gives the whole listing; the
descending listings are the case of the reversed order, the filtered ones the case `xs.filter p`. -/

section Listing
variable [DecidableEq κ] {α : Type} {lt : κ → κ → Bool} (ht : StrictTotal lt) {m : AMap κ ν} (hm : AMap.NodupKeys m)
  (p : κ × ν → Bool) {limit : Option Nat} (hl : limit ≠ some 0) {q : Option κ → List α} {key : α → κ} {f : κ × ν → α}
include ht hm hl

theorem fetchLoop_listing
    (hq : ∀ c, q c = (page lt (sortedEntries lt m) c limit).map f) (hk : ∀ x, key (f x) = x.1) (c : Option κ)
    {fuel : Nat} (hf : m.length + 1 ≤ fuel) :
    fetchLoop q key c fuel = (afterCursor lt (sortedEntries lt m) c).map f :=
  fetchLoop_page ht (sortedEntries_sorted hm ht) hl hq hk c (by simpa using hf)

theorem fetchLoop_listing_id {q : Option κ → List (κ × ν)}
    (hq : ∀ c, q c = page lt (sortedEntries lt m) c limit) (c : Option κ)
    {fuel : Nat} (hf : m.length + 1 ≤ fuel) :
    fetchLoop q (·.1) c fuel = afterCursor lt (sortedEntries lt m) c :=
  (fetchLoop_listing ht hm hl (f := id) (fun c => by rw [hq c, List.map_id]) (fun _ => rfl) c hf).trans
    (List.map_id _)

/-- Filtered listings (`pageFiltered lt p (sortedEntries lt m) · limit`), any cursor: exactly the entries
satisfying `p` after the cursor, each once, in key order. -/
theorem fetchLoop_listing_filtered
    (hq : ∀ c, q c = (pageFiltered lt p (sortedEntries lt m) c limit).map f) (hk : ∀ x, key (f x) = x.1)
    (c : Option κ) {fuel : Nat} (hf : m.length + 1 ≤ fuel) :
    fetchLoop q key c fuel = (afterCursor lt ((sortedEntries lt m).filter p) c).map f := by
  refine fetchLoop_page ht ((sortedEntries_sorted hm ht).filter p) hl
    (fun c => by rw [hq c, pageFiltered_eq]) hk c ?_
  have := List.length_filter_le p (sortedEntries lt m)
  rw [sortedEntries_length] at this
  omega

end Listing

end CwPlus.Paginate
