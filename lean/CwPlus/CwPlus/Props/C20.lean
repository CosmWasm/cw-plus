import CwPlus.Model.Cw20
import CwPlus.Lemmas.Paginate
import CwPlus.Lemmas.Cw20Nodup
/-!
# C20 — all list queries paginate completely: every item once, in order, within limits

The theorems are generic (any key type with a strict total order, any map without duplicate
keys, any limit, any cursor taken from a previous page, any number of items); the proofs are in
`Lemmas/Paginate.lean`.  This file re-exports them under the property's names and instantiates
them for the three listings of cw20-base.

## How to instantiate the generic theorem for a new listing (one line per listing)

A model's list query is *defined* as `Paginate.page lt (Paginate.sortedEntries lt m) after limit`
(possibly followed by a `.map f` that keeps the key recoverable, possibly wrapped in `Res`).
Let `q : Option κ → List α` be the query as a function of the cursor only (all other arguments
fixed; unwrap `Res` with `okItems`).  Then

```
open CwPlus CwPlus.Paginate CwPlus.Props.C20

-- query returns the entries `(key, value)` themselves:
theorem proposals_complete {s : State} (hs : AMap.NodupKeys s.proposals) (limit : Option Nat) (hl : limit ≠ some 0) :
    fetchLoop (fun c => queryListProposals s c limit) (·.1) none (s.proposals.length + 1)
      = sortedEntries natLt s.proposals :=
  listing_complete_id strictTotal_natLt hs hl (fun c => by simp [queryListProposals]) (Nat.le_refl _)

-- query returns a projection of the entries (here: keys only), wrapped in `Res`:
theorem voterNames_complete {s : State} (hs : AMap.NodupKeys s.voters) (limit : Option Nat) (hl : limit ≠ some 0) :
    fetchLoop (fun c => okItems (queryVoterNames s c limit)) id none (s.voters.length + 1)
      = (sortedEntries strLt s.voters).map (·.1) :=
  listing_complete strictTotal_strLt hs hl (f := (·.1)) (key := id)
    (fun c => by simp [queryVoterNames, okItems, pure, Except.pure]) (fun _ => rfl) (Nat.le_refl _)

-- descending (`pageDesc natLt (sortedEntriesDesc natLt s.proposals) before limit`):
  listing_complete_desc_id strictTotal_natLt hs hl (fun c => by simp [queryReverseProposals]) (Nat.le_refl _)
      -- : fetchLoop (fun c => queryReverseProposals s c limit) (·.1) none _ = (sortedEntries natLt s.proposals).reverse
-- filtered (`pageFiltered strLt p (sortedEntries strLt s.allowances) after limit`):
  listing_complete_filtered_id strictTotal_strLt hs p hl (fun c => by simp [queryAllAllowances]) (Nat.le_refl _)
      -- : fetchLoop (fun c => queryAllAllowances s c limit) (·.1) none _ = (sortedEntries strLt s.allowances).filter p
```

* `lt`-instances: `strictTotal_strLt` (addresses, denoms), `strictTotal_natLt` (proposal ids);
  for pair keys prove a `StrictTotal` instance once (three fields).
* `hq` (the `fun c => by simp [query…]` argument) must close
  `q c = (page lt (sortedEntries lt m) c limit).map f` (`…_id` variants: without `.map f`); if the
  query has guards, first prove `query… = if guard then .ok (page …) else .error _`
  (see `queryOwnerAllowances_eq`) and `simp` with it and the guard hypothesis.
* `hk : ∀ x, key (f x) = x.1` says how the client reads the cursor off the last item.
* `NodupKeys` of the map is an invariant of the model (`AMap.nodup_set`, `AMap.nodup_erase`;
  see `Lemmas/Cw20Nodup.lean` for the pattern: established by `instantiate`, preserved by `execute`).
* Descending listings (`ReverseProposals`): define the query as
  `pageDesc lt (sortedEntriesDesc lt m) before limit` and use `listing_complete_desc`
  (`sortedEntriesDesc_eq_reverse` relates it to the reversed ascending listing).
* Filtered listings: state the query as `pageFiltered lt p (sortedEntries lt m) after limit` and use
  `listing_complete_filtered_id`.  Subkeys `AllAllowances` is defined as `page lt ((sortedEntries lt m).filter p)`;
  `pageFiltered_eq` says the two are the same
  (`Paginate.fetchLoop_listing_filtered` if the query returns a projection of the entries).
* Size bounds need no instantiation: `page_len`, `max_is_30`, `default_is_10` hold for every `page`.
-/
namespace CwPlus.Props.C20
open CwPlus CwPlus.Paginate CwPlus.Cw20

variable {κ ν : Type}

/-! ## Size bounds (generic) -/

/-- "No page exceeds the requested limit or the maximum of 30": a page has at most
`effLimit limit = min (limit or 10) 30` items. -/
theorem page_len (lt : κ → κ → Bool) (xs : List (κ × ν)) (after : Option κ) (limit : Option Nat) :
    (page lt xs after limit).length ≤ effLimit limit :=
  page_length_le lt xs after limit

/-- `effLimit (some n) = min n 30`: the requested limit, capped at 30. -/
theorem requested_limit (n : Nat) : effLimit (some n) = min n 30 := effLimit_some n

/-- No page exceeds the requested limit. -/
theorem page_len_requested (lt : κ → κ → Bool) (xs : List (κ × ν)) (after : Option κ) (n : Nat) :
    (page lt xs after (some n)).length ≤ n :=
  page_length_le_requested lt xs after n

/-- "The default page size is 10." -/
theorem default_is_10 : effLimit none = 10 := effLimit_none

/-- Without a limit a page has at most 10 items. -/
theorem page_len_default (lt : κ → κ → Bool) (xs : List (κ × ν)) (after : Option κ) :
    (page lt xs after none).length ≤ 10 :=
  page_length_le_default lt xs after

/-- "… or the maximum of 30": whatever the requested limit. -/
theorem max_is_30 (lt : κ → κ → Bool) (xs : List (κ × ν)) (after : Option κ) (limit : Option Nat) :
    effLimit limit ≤ 30 ∧ (page lt xs after limit).length ≤ 30 :=
  ⟨effLimit_le_max limit, page_length_le_max lt xs after limit⟩

/-- The bound is tight: a page is full whenever enough items remain after the cursor
(so the default really is 10 and the maximum really is 30, not less). -/
theorem page_len_exact (lt : κ → κ → Bool) (xs : List (κ × ν)) (after : Option κ) (limit : Option Nat) :
    (page lt xs after limit).length = min (effLimit limit) (afterCursor lt xs after).length :=
  page_length_eq lt xs after limit

/-- `limit = 0` yields the empty page. -/
theorem limit_zero_empty (lt : κ → κ → Bool) (xs : List (κ × ν)) (after : Option κ) :
    page lt xs after (some 0) = [] :=
  page_zero lt xs after

/-! ## Shape of one page (generic) -/

/-- A page is a contiguous block of the sorted listing (nothing skipped inside a page). -/
theorem page_contiguous {lt : κ → κ → Bool} (ht : StrictTotal lt) {xs : List (κ × ν)} (h : Sorted lt xs)
    (after : Option κ) (limit : Option Nat) : page lt xs after limit <:+: xs :=
  page_infix ht h after limit

/-- A page is in ascending key order. -/
theorem page_ascending {lt : κ → κ → Bool} {xs : List (κ × ν)} (h : Sorted lt xs) (after : Option κ)
    (limit : Option Nat) : Sorted lt (page lt xs after limit) :=
  page_sorted h after limit

/-- The cursor is exclusive: every returned key is strictly greater than `start_after`. -/
theorem page_after_cursor (lt : κ → κ → Bool) (xs : List (κ × ν)) (c : κ) (limit : Option Nat) :
    ∀ x ∈ page lt xs (some c) limit, lt c x.1 = true :=
  page_gt_cursor lt xs c limit

/-- A page is exactly the next `effLimit limit` items after what the client already holds:
with the key of the last item of a prefix `pre` as cursor, the page is `suf.take (effLimit limit)`. -/
theorem page_next {lt : κ → κ → Bool} (ht : StrictTotal lt) {pre suf : List (κ × ν)} (h : Sorted lt (pre ++ suf))
    (limit : Option Nat) : page lt (pre ++ suf) (cursorOf pre) limit = suf.take (effLimit limit) := by
  unfold page; rw [afterCursor_cursorOf ht h]

/-! ## Completeness (generic) -/

/-- **"Repeatedly requesting pages with the last returned key as cursor returns every current
item exactly once in key order, whatever the page size."**  For a strictly sorted listing `xs`,
any limit other than 0 (absent, 1, …, above 30), the client loop returns `xs` itself and
terminates: `xs.length + 1` requests always suffice and more change nothing. -/
theorem paginate_complete {lt : κ → κ → Bool} (ht : StrictTotal lt) {xs : List (κ × ν)} (h : Sorted lt xs)
    {limit : Option Nat} (hl : limit ≠ some 0) {fuel : Nat} (hf : xs.length + 1 ≤ fuel) :
    fetchAll lt xs limit none fuel = xs :=
  fetchAll_complete ht h (effLimit_pos hl) hf

/-- Completeness from **every cursor taken from a previous page**: a client that has received the
prefix `pre` and continues from its last key receives exactly the remaining items `suf`. -/
theorem paginate_complete_from {lt : κ → κ → Bool} (ht : StrictTotal lt) {pre suf : List (κ × ν)}
    (h : Sorted lt (pre ++ suf)) {limit : Option Nat} (hl : limit ≠ some 0) {fuel : Nat}
    (hf : suf.length + 1 ≤ fuel) :
    fetchAll lt (pre ++ suf) limit (cursorOf pre) fuel = suf :=
  fetchAll_from ht (effLimit_pos hl) fuel pre suf h hf

/-- "Exactly once": the keys of the result of the client loop are pairwise distinct. -/
theorem paginate_once {lt : κ → κ → Bool} (ht : StrictTotal lt) {xs : List (κ × ν)} (h : Sorted lt xs)
    {limit : Option Nat} (hl : limit ≠ some 0) :
    ((fetchAll lt xs limit none (xs.length + 1)).map (·.1)).Nodup := by
  rw [paginate_complete ht h hl (Nat.le_refl _)]
  exact Sorted.nodupKeys ht h

/-- With `limit = 0` the loop returns nothing (hence the hypothesis `limit ≠ some 0`). -/
theorem paginate_zero (lt : κ → κ → Bool) (xs : List (κ × ν)) (c : Option κ) (fuel : Nat) :
    fetchAll lt xs (some 0) c fuel = [] :=
  fetchAll_zero lt xs c fuel

/-- Descending variant (`ReverseProposals`, exclusive `start_before`): for a strictly descending
listing the loop returns the whole listing, every item once, in descending order. -/
theorem paginate_complete_desc {lt : κ → κ → Bool} (ht : StrictTotal lt) {xs : List (κ × ν)}
    (h : Sorted (fun a b => lt b a) xs) {limit : Option Nat} (hl : limit ≠ some 0) {fuel : Nat}
    (hf : xs.length + 1 ≤ fuel) : fetchAllDesc lt xs limit none fuel = xs :=
  fetchAllDesc_complete ht h (effLimit_pos hl) hf

/-- Descending pages respect the same bound and the cursor is exclusive from above. -/
theorem page_desc_len_and_cursor (lt : κ → κ → Bool) (xs : List (κ × ν)) (c : κ) (limit : Option Nat) :
    (pageDesc lt xs (some c) limit).length ≤ effLimit limit ∧ ∀ x ∈ pageDesc lt xs (some c) limit, lt x.1 c = true :=
  ⟨pageDesc_length_le lt xs (some c) limit, pageDesc_lt_cursor lt xs c limit⟩

/-- Filtered variant (subkeys `AllAllowances`: `range(after).filter(p).take(limit)`): a filtered
page is a page of the filtered listing, which is again sorted, so the loop returns exactly the
items satisfying `p`, each once, in key order. -/
theorem paginate_complete_filtered {lt : κ → κ → Bool} (ht : StrictTotal lt) {xs : List (κ × ν)}
    (h : Sorted lt xs) (p : κ × ν → Bool) {limit : Option Nat} (hl : limit ≠ some 0) {fuel : Nat}
    (hf : (xs.filter p).length + 1 ≤ fuel) :
    (∀ c, pageFiltered lt p xs c limit = page lt (xs.filter p) c limit) ∧
    fetchAll lt (xs.filter p) limit none fuel = xs.filter p :=
  ⟨fun c => pageFiltered_eq lt p xs c limit, fetchAll_filter_complete ht h p (effLimit_pos hl) hf⟩

/-! ## The listing of a map (generic; this is what each model instantiates) -/

/-- The storage iteration order of a map without duplicate keys is strictly ascending and
contains exactly the entries of the map ("every *current* item"). -/
theorem listing_sorted [DecidableEq κ] {lt : κ → κ → Bool} (ht : StrictTotal lt) {m : AMap κ ν}
    (hm : AMap.NodupKeys m) :
    Sorted lt (sortedEntries lt m) ∧ (sortedEntries lt m).Perm m ∧
      ∀ k v, (k, v) ∈ sortedEntries lt m ↔ AMap.get? m k = some v :=
  ⟨sortedEntries_sorted hm ht, sortedEntries_perm lt m, mem_sortedEntries_iff_get? lt hm⟩

/-- **Generic instantiation lemma**: if a query, as a function `q` of the cursor, *is*
`page lt (sortedEntries lt m) · limit` (up to a projection `f` of the items from which the key can
still be read by `key`), then the client loop against `q` returns the complete sorted listing. -/
theorem listing_complete [DecidableEq κ] {α : Type} {lt : κ → κ → Bool} (ht : StrictTotal lt)
    {m : AMap κ ν} (hm : AMap.NodupKeys m) {limit : Option Nat} (hl : limit ≠ some 0)
    {q : Option κ → List α} {key : α → κ} {f : κ × ν → α}
    (hq : ∀ c, q c = (page lt (sortedEntries lt m) c limit).map f) (hk : ∀ x, key (f x) = x.1)
    {fuel : Nat} (hf : m.length + 1 ≤ fuel) :
    fetchLoop q key none fuel = (sortedEntries lt m).map f :=
  fetchLoop_listing ht hm hl hq hk none hf

theorem listing_complete_desc [DecidableEq κ] {α : Type} {lt : κ → κ → Bool} (ht : StrictTotal lt)
    {m : AMap κ ν} (hm : AMap.NodupKeys m) {limit : Option Nat} (hl : limit ≠ some 0)
    {q : Option κ → List α} {key : α → κ} {f : κ × ν → α}
    (hq : ∀ c, q c = (pageDesc lt (sortedEntriesDesc lt m) c limit).map f) (hk : ∀ x, key (f x) = x.1)
    {fuel : Nat} (hf : m.length + 1 ≤ fuel) :
    fetchLoop q key none fuel = (sortedEntriesDesc lt m).map f ∧
      sortedEntriesDesc lt m = (sortedEntries lt m).reverse :=
  ⟨fetchLoop_listing ht.flip hm hl hq hk none hf, sortedEntriesDesc_eq_reverse hm ht⟩

theorem listing_complete_id [DecidableEq κ] {lt : κ → κ → Bool} (ht : StrictTotal lt)
    {m : AMap κ ν} (hm : AMap.NodupKeys m) {limit : Option Nat} (hl : limit ≠ some 0)
    {q : Option κ → List (κ × ν)} (hq : ∀ c, q c = page lt (sortedEntries lt m) c limit)
    {fuel : Nat} (hf : m.length + 1 ≤ fuel) :
    fetchLoop q (·.1) none fuel = sortedEntries lt m :=
  fetchLoop_listing_id ht hm hl hq none hf

/-- `listing_complete_desc` for a query that returns the entries themselves: the loop returns the
ascending listing reversed. -/
theorem listing_complete_desc_id [DecidableEq κ] {lt : κ → κ → Bool} (ht : StrictTotal lt)
    {m : AMap κ ν} (hm : AMap.NodupKeys m) {limit : Option Nat} (hl : limit ≠ some 0)
    {q : Option κ → List (κ × ν)} (hq : ∀ c, q c = pageDesc lt (sortedEntriesDesc lt m) c limit)
    {fuel : Nat} (hf : m.length + 1 ≤ fuel) :
    fetchLoop q (·.1) none fuel = (sortedEntries lt m).reverse :=
  (fetchLoop_listing_id ht.flip hm hl hq none hf).trans (sortedEntriesDesc_eq_reverse hm ht)

theorem listing_complete_filtered_id [DecidableEq κ] {lt : κ → κ → Bool} (ht : StrictTotal lt)
    {m : AMap κ ν} (hm : AMap.NodupKeys m) (p : κ × ν → Bool) {limit : Option Nat} (hl : limit ≠ some 0)
    {q : Option κ → List (κ × ν)} (hq : ∀ c, q c = pageFiltered lt p (sortedEntries lt m) c limit)
    {fuel : Nat} (hf : m.length + 1 ≤ fuel) :
    fetchLoop q (·.1) none fuel = (sortedEntries lt m).filter p :=
  (fetchLoop_listing_filtered ht hm p hl (f := id) (fun c => by rw [hq c, List.map_id]) (fun _ => rfl) none hf).trans
    (List.map_id _)

/-- The key orders used by the suite are strict total orders (addresses/denoms: lexicographic
string order; proposal ids: `<` on numbers). -/
theorem orders_strict_total : StrictTotal strLt ∧ StrictTotal natLt :=
  ⟨strictTotal_strLt, strictTotal_natLt⟩

/-! ## cw20-base: `AllAccounts`, `AllAllowances`, `AllSpenderAllowances` -/

/-- The items of a successful list query, nothing for a failed one. -/
def okItems {α : Type} : Res (List α) → List α
  | .ok l => l
  | .error _ => []

/-- Histories: any list of (block, sender, message); failed calls roll back. -/
def run (s : State) (ops : List (Block × Addr × Msg)) : State :=
  ops.foldl (fun s op => step s op.1 op.2.1 op.2.2) s

theorem reach_nodup {m : InstMsg} {s0 : State} (h : instantiate m = .ok s0) (ops : List (Block × Addr × Msg)) :
    NodupInv (run s0 ops) :=
  run_nodup ops (instantiate_nodup h)

theorem queryOwnerAllowances_eq (s : State) (owner : AddrArg) (after : Option String) (limit : Option Nat) :
    queryOwnerAllowances s owner after limit =
      if owner.valid then .ok (page strLt (sortedEntries strLt (ownerPrefix s owner.text)) after limit)
      else .error "addr" := by
  cases hv : owner.valid <;> simp [queryOwnerAllowances, hv, check, Functor.map, Except.map]

theorem querySpenderAllowances_eq (s : State) (spender : AddrArg) (after : Option String) (limit : Option Nat) :
    querySpenderAllowances s spender after limit =
      if spender.valid then .ok (page strLt (sortedEntries strLt (spenderPrefix s spender.text)) after limit)
      else .error "addr" := by
  cases hv : spender.valid <;> simp [querySpenderAllowances, hv, check, Functor.map, Except.map]

/-- Page bounds of the three cw20 listings, for every state, cursor and limit. -/
theorem cw20_page_len (s : State) (a : AddrArg) (after : Option String) (limit : Option Nat) :
    (queryAllAccounts s after limit).length ≤ effLimit limit ∧
    (okItems (queryOwnerAllowances s a after limit)).length ≤ effLimit limit ∧
    (okItems (querySpenderAllowances s a after limit)).length ≤ effLimit limit := by
  refine ⟨?_, ?_, ?_⟩
  · simp only [queryAllAccounts, List.length_map]; exact page_length_le _ _ _ _
  · rw [queryOwnerAllowances_eq]
    cases a.valid
    · simp [okItems]
    · exact page_length_le _ _ _ _
  · rw [querySpenderAllowances_eq]
    cases a.valid
    · simp [okItems]
    · exact page_length_le _ _ _ _

/-- `AllAccounts` from any cursor (`none`: from the start): iterating `queryAllAccounts` with the last returned
address as `start_after` yields exactly the addresses of `BALANCES` after the cursor, ascending, each once. -/
theorem all_accounts_from {s : State} (hs : AMap.NodupKeys s.balances) (limit : Option Nat)
    (hl : limit ≠ some 0) (c : Option String) {fuel : Nat} (hf : s.balances.length + 1 ≤ fuel) :
    fetchLoop (fun c => queryAllAccounts s c limit) id c fuel
      = (afterCursor strLt (sortedEntries strLt s.balances) c).map (·.1) :=
  fetchLoop_listing strictTotal_strLt hs hl (f := (·.1)) (key := id) (fun _ => rfl) (fun _ => rfl) c hf

/-- `AllAccounts` from the start. -/
theorem all_accounts_complete {s : State} (hs : AMap.NodupKeys s.balances) (limit : Option Nat)
    (hl : limit ≠ some 0) {fuel : Nat} (hf : s.balances.length + 1 ≤ fuel) :
    fetchLoop (fun c => queryAllAccounts s c limit) id none fuel
      = (sortedEntries strLt s.balances).map (·.1) :=
  all_accounts_from hs limit hl none hf

/-- The complete `AllAccounts` listing is strictly ascending, has no duplicates, and an address is
listed iff it has a balance entry (what the point query `Balance` reads). -/
theorem all_accounts_exact {s : State} (hs : AMap.NodupKeys s.balances) :
    ((sortedEntries strLt s.balances).map (·.1)).Pairwise (fun a b => strLt a b = true) ∧
    ((sortedEntries strLt s.balances).map (·.1)).Nodup ∧
    ∀ a, a ∈ (sortedEntries strLt s.balances).map (·.1) ↔ s.balances.get? a ≠ none := by
  have hsort := sortedEntries_sorted hs strictTotal_strLt
  refine ⟨List.pairwise_map.mpr hsort, Sorted.nodupKeys strictTotal_strLt hsort, ?_⟩
  intro a
  rw [ne_eq, not_congr AMap.get?_eq_none_iff, Classical.not_not]
  exact ((sortedEntries_perm strLt s.balances).map (·.1)).mem_iff

/-- `AllAllowances { owner }` from any cursor: exactly the allowances granted by `owner` to spenders after the
cursor, ascending by spender, each once. -/
theorem owner_allowances_from {s : State} (hs : AMap.NodupKeys s.allow) (owner : AddrArg)
    (hv : owner.valid = true) (limit : Option Nat) (hl : limit ≠ some 0) (c : Option String) {fuel : Nat}
    (hf : (ownerPrefix s owner.text).length + 1 ≤ fuel) :
    fetchLoop (fun c => okItems (queryOwnerAllowances s owner c limit)) (·.1) c fuel
      = afterCursor strLt (sortedEntries strLt (ownerPrefix s owner.text)) c :=
  fetchLoop_listing_id strictTotal_strLt (ownerPrefix_nodup hs owner.text) hl
    (fun c => by simp [queryOwnerAllowances_eq, hv, okItems]) c hf

/-- `AllSpenderAllowances { spender }` from any cursor: same, ascending by owner. -/
theorem spender_allowances_from {s : State} (hs : AMap.NodupKeys s.allowSp) (spender : AddrArg)
    (hv : spender.valid = true) (limit : Option Nat) (hl : limit ≠ some 0) (c : Option String) {fuel : Nat}
    (hf : (spenderPrefix s spender.text).length + 1 ≤ fuel) :
    fetchLoop (fun c => okItems (querySpenderAllowances s spender c limit)) (·.1) c fuel
      = afterCursor strLt (sortedEntries strLt (spenderPrefix s spender.text)) c :=
  fetchLoop_listing_id strictTotal_strLt (spenderPrefix_nodup hs spender.text) hl
    (fun c => by simp [querySpenderAllowances_eq, hv, okItems]) c hf

theorem owner_allowances_complete {s : State} (hs : AMap.NodupKeys s.allow) (owner : AddrArg)
    (hv : owner.valid = true) (limit : Option Nat) (hl : limit ≠ some 0) {fuel : Nat}
    (hf : (ownerPrefix s owner.text).length + 1 ≤ fuel) :
    fetchLoop (fun c => okItems (queryOwnerAllowances s owner c limit)) (·.1) none fuel
      = sortedEntries strLt (ownerPrefix s owner.text) :=
  owner_allowances_from hs owner hv limit hl none hf

theorem spender_allowances_complete {s : State} (hs : AMap.NodupKeys s.allowSp) (spender : AddrArg)
    (hv : spender.valid = true) (limit : Option Nat) (hl : limit ≠ some 0) {fuel : Nat}
    (hf : (spenderPrefix s spender.text).length + 1 ≤ fuel) :
    fetchLoop (fun c => okItems (querySpenderAllowances s spender c limit)) (·.1) none fuel
      = sortedEntries strLt (spenderPrefix s spender.text) :=
  spender_allowances_from hs spender hv limit hl none hf

/-- The owner listing shows exactly the `ALLOWANCES` entries of that owner: `(spender, a)` is listed
iff the point lookup `ALLOWANCES[(owner, spender)]` is `a`. -/
theorem owner_allowances_exact {s : State} (hs : AMap.NodupKeys s.allow) (owner spender : Addr) (a : Allowance) :
    (spender, a) ∈ sortedEntries strLt (ownerPrefix s owner) ↔ s.allow.get? (owner, spender) = some a := by
  rw [mem_sortedEntries_iff_get? strLt (ownerPrefix_nodup hs owner), ownerPrefix_get?]

/-- The spender listing shows exactly the `ALLOWANCES_SPENDER` entries of that spender. -/
theorem spender_allowances_exact {s : State} (hs : AMap.NodupKeys s.allowSp) (owner spender : Addr) (a : Allowance) :
    (owner, a) ∈ sortedEntries strLt (spenderPrefix s spender) ↔ s.allowSp.get? (spender, owner) = some a := by
  rw [mem_sortedEntries_iff_get? strLt (spenderPrefix_nodup hs spender), spenderPrefix_get?]

/-- **All three cw20 listings from any cursor**, in a state where no map holds a key twice: any owner/spender, any
limit other than 0, any `start_after` (none, taken from an earlier page, or any other string). -/
theorem cw20_listings_from {s : State} (hi : NodupInv s) (a : AddrArg) (hv : a.valid = true) (limit : Option Nat)
    (hl : limit ≠ some 0) (c : Option String) :
    fetchLoop (fun c => queryAllAccounts s c limit) id c (s.balances.length + 1)
        = (afterCursor strLt (sortedEntries strLt s.balances) c).map (·.1) ∧
    fetchLoop (fun c => okItems (queryOwnerAllowances s a c limit)) (·.1) c ((ownerPrefix s a.text).length + 1)
        = afterCursor strLt (sortedEntries strLt (ownerPrefix s a.text)) c ∧
    fetchLoop (fun c => okItems (querySpenderAllowances s a c limit)) (·.1) c ((spenderPrefix s a.text).length + 1)
        = afterCursor strLt (sortedEntries strLt (spenderPrefix s a.text)) c :=
  ⟨all_accounts_from hi.balances limit hl c (Nat.le_refl _),
    owner_allowances_from hi.allow a hv limit hl c (Nat.le_refl _),
    spender_allowances_from hi.allowSp a hv limit hl c (Nat.le_refl _)⟩

/-- All three cw20 listings are complete in every reachable state, for every limit ≠ 0:
any accepted instantiation, any history of execute messages, any owner/spender. -/
theorem cw20_listings_complete {m : InstMsg} {s0 : State} (h : instantiate m = .ok s0)
    (ops : List (Block × Addr × Msg)) (a : AddrArg) (hv : a.valid = true) (limit : Option Nat)
    (hl : limit ≠ some 0) :
    let s := run s0 ops
    fetchLoop (fun c => queryAllAccounts s c limit) id none (s.balances.length + 1)
        = (sortedEntries strLt s.balances).map (·.1) ∧
    fetchLoop (fun c => okItems (queryOwnerAllowances s a c limit)) (·.1) none ((ownerPrefix s a.text).length + 1)
        = sortedEntries strLt (ownerPrefix s a.text) ∧
    fetchLoop (fun c => okItems (querySpenderAllowances s a c limit)) (·.1) none ((spenderPrefix s a.text).length + 1)
        = sortedEntries strLt (spenderPrefix s a.text) := by
  exact cw20_listings_from (reach_nodup h ops) a hv limit hl none

/-! ## Completeness from every cursor (generic, and the three cw20 listings)

The property also quantifies over "every cursor taken from a previous page".  The theorems below start the loop
at an **arbitrary** cursor `c` (a key taken from an earlier page, a key that has meanwhile been removed, or any
other string/number): the loop returns exactly the current items whose key is strictly beyond `c`, each once, in
key order.  Together with `listing_split_at_cursor` (the items up to `c` followed by the items beyond `c` are the
whole listing) this is the statement for every cursor a client can hold.  For the three cw20 listings they are
`all_accounts_from` / `cw20_listings_from` at `some c`. -/

/-- **Completeness from any cursor (generic, `fetchAll`)**: on a strictly sorted listing, for every limit
other than 0 and every cursor `c`, the client loop started at `c` returns exactly the items with key above
`c`.  Subsumes `paginate_complete_from` (there `c` is the last key of a received prefix). -/
theorem paginate_complete_after {lt : κ → κ → Bool} (ht : StrictTotal lt) {xs : List (κ × ν)} (h : Sorted lt xs)
    {limit : Option Nat} (hl : limit ≠ some 0) (c : κ) {fuel : Nat} (hf : xs.length + 1 ≤ fuel) :
    fetchAll lt xs limit (some c) fuel = xs.filter (fun x => lt c x.1) := by
  apply fetchAll_after ht h (effLimit_pos hl) c
  have := List.length_filter_le (fun x : κ × ν => lt c x.1) xs
  omega

/-- What the client already has (keys up to the cursor) followed by what the loop from the cursor returns
(keys beyond it) is the complete listing: nothing is skipped and nothing repeated at the seam. -/
theorem listing_split_at_cursor {lt : κ → κ → Bool} (ht : StrictTotal lt) {xs : List (κ × ν)} (h : Sorted lt xs)
    (c : κ) : xs.filter (fun x => !lt c x.1) ++ xs.filter (fun x => lt c x.1) = xs :=
  filter_le_append_filter_gt ht c h

/-- **Generic instantiation lemma, any cursor**: if a query, as a function `q` of the cursor, is
`page lt (sortedEntries lt m) · limit` up to a projection `f`, the client loop started at any cursor `c`
returns exactly the entries of the map with key above `c`, ascending, each once. -/
theorem listing_complete_after [DecidableEq κ] {α : Type} {lt : κ → κ → Bool} (ht : StrictTotal lt)
    {m : AMap κ ν} (hm : AMap.NodupKeys m) {limit : Option Nat} (hl : limit ≠ some 0)
    {q : Option κ → List α} {key : α → κ} {f : κ × ν → α}
    (hq : ∀ c, q c = (page lt (sortedEntries lt m) c limit).map f) (hk : ∀ x, key (f x) = x.1) (c : κ)
    {fuel : Nat} (hf : m.length + 1 ≤ fuel) :
    fetchLoop q key (some c) fuel = ((sortedEntries lt m).filter (fun x => lt c x.1)).map f :=
  fetchLoop_listing ht hm hl hq hk (some c) hf

theorem listing_complete_desc_after [DecidableEq κ] {α : Type} {lt : κ → κ → Bool} (ht : StrictTotal lt)
    {m : AMap κ ν} (hm : AMap.NodupKeys m) {limit : Option Nat} (hl : limit ≠ some 0)
    {q : Option κ → List α} {key : α → κ} {f : κ × ν → α}
    (hq : ∀ c, q c = (pageDesc lt (sortedEntriesDesc lt m) c limit).map f) (hk : ∀ x, key (f x) = x.1) (c : κ)
    {fuel : Nat} (hf : m.length + 1 ≤ fuel) :
    fetchLoop q key (some c) fuel = (((sortedEntries lt m).reverse).filter (fun x => lt x.1 c)).map f := by
  rw [← sortedEntriesDesc_eq_reverse hm ht]
  exact fetchLoop_listing ht.flip hm hl hq hk (some c) hf

theorem listing_complete_after_id [DecidableEq κ] {lt : κ → κ → Bool} (ht : StrictTotal lt)
    {m : AMap κ ν} (hm : AMap.NodupKeys m) {limit : Option Nat} (hl : limit ≠ some 0)
    {q : Option κ → List (κ × ν)} (hq : ∀ c, q c = page lt (sortedEntries lt m) c limit) (c : κ)
    {fuel : Nat} (hf : m.length + 1 ≤ fuel) :
    fetchLoop q (·.1) (some c) fuel = (sortedEntries lt m).filter (fun x => lt c x.1) :=
  fetchLoop_listing_id ht hm hl hq (some c) hf

theorem listing_complete_filtered_after_id [DecidableEq κ] {lt : κ → κ → Bool} (ht : StrictTotal lt)
    {m : AMap κ ν} (hm : AMap.NodupKeys m) (p : κ × ν → Bool) {limit : Option Nat} (hl : limit ≠ some 0)
    {q : Option κ → List (κ × ν)} (hq : ∀ c, q c = pageFiltered lt p (sortedEntries lt m) c limit) (c : κ)
    {fuel : Nat} (hf : m.length + 1 ≤ fuel) :
    fetchLoop q (·.1) (some c) fuel = ((sortedEntries lt m).filter p).filter (fun x => lt c x.1) :=
  (fetchLoop_listing_filtered ht hm p hl (f := id) (fun c => by rw [hq c, List.map_id]) (fun _ => rfl) (some c) hf).trans
    (List.map_id _)

/-- `AllAccounts` from any `start_after = c`: exactly the addresses above `c`, ascending, each once. -/
theorem all_accounts_complete_after {s : State} (hs : AMap.NodupKeys s.balances) (limit : Option Nat)
    (hl : limit ≠ some 0) (c : String) {fuel : Nat} (hf : s.balances.length + 1 ≤ fuel) :
    fetchLoop (fun c => queryAllAccounts s c limit) id (some c) fuel
      = ((sortedEntries strLt s.balances).filter (fun x => strLt c x.1)).map (·.1) :=
  all_accounts_from hs limit hl (some c) hf

/-- `AllAllowances { owner }` from any `start_after = c`: exactly the owner's allowances to spenders above `c`. -/
theorem owner_allowances_complete_after {s : State} (hs : AMap.NodupKeys s.allow) (owner : AddrArg)
    (hv : owner.valid = true) (limit : Option Nat) (hl : limit ≠ some 0) (c : String) {fuel : Nat}
    (hf : (ownerPrefix s owner.text).length + 1 ≤ fuel) :
    fetchLoop (fun c => okItems (queryOwnerAllowances s owner c limit)) (·.1) (some c) fuel
      = (sortedEntries strLt (ownerPrefix s owner.text)).filter (fun x => strLt c x.1) :=
  owner_allowances_from hs owner hv limit hl (some c) hf

/-- `AllSpenderAllowances { spender }` from any `start_after = c`. -/
theorem spender_allowances_complete_after {s : State} (hs : AMap.NodupKeys s.allowSp) (spender : AddrArg)
    (hv : spender.valid = true) (limit : Option Nat) (hl : limit ≠ some 0) (c : String) {fuel : Nat}
    (hf : (spenderPrefix s spender.text).length + 1 ≤ fuel) :
    fetchLoop (fun c => okItems (querySpenderAllowances s spender c limit)) (·.1) (some c) fuel
      = (sortedEntries strLt (spenderPrefix s spender.text)).filter (fun x => strLt c x.1) :=
  spender_allowances_from hs spender hv limit hl (some c) hf

/-- **All three cw20 listings, every cursor, every reachable state**: any accepted instantiation, any history
of execute messages, any owner/spender, any limit other than 0 and any `start_after` string `c` (taken from
an earlier page or not): the loop returns exactly the current items beyond `c`. -/
theorem cw20_listings_complete_after {m : InstMsg} {s0 : State} (h : instantiate m = .ok s0)
    (ops : List (Block × Addr × Msg)) (a : AddrArg) (hv : a.valid = true) (limit : Option Nat)
    (hl : limit ≠ some 0) (c : String) :
    let s := run s0 ops
    fetchLoop (fun c => queryAllAccounts s c limit) id (some c) (s.balances.length + 1)
        = ((sortedEntries strLt s.balances).filter (fun x => strLt c x.1)).map (·.1) ∧
    fetchLoop (fun c => okItems (queryOwnerAllowances s a c limit)) (·.1) (some c) ((ownerPrefix s a.text).length + 1)
        = (sortedEntries strLt (ownerPrefix s a.text)).filter (fun x => strLt c x.1) ∧
    fetchLoop (fun c => okItems (querySpenderAllowances s a c limit)) (·.1) (some c) ((spenderPrefix s a.text).length + 1)
        = (sortedEntries strLt (spenderPrefix s a.text)).filter (fun x => strLt c x.1) := by
  exact cw20_listings_from (reach_nodup h ops) a hv limit hl (some c)

/-- A page shorter than the effective limit is the last one: the request that continues from its last key
returns the empty page (the termination test real clients use).  For a sorted listing. -/
theorem short_page_is_last {lt : κ → κ → Bool} (ht : StrictTotal lt) {xs : List (κ × ν)} (h : Sorted lt xs)
    (c : Option κ) (limit : Option Nat) {last : κ × ν}
    (hlast : (page lt xs c limit).getLast? = some last)
    (hshort : (page lt xs c limit).length < effLimit limit) :
    page lt xs (some last.1) limit = [] := by
  -- the short page is everything after `c`, so its last item is the last item of `xs`
  have hlen := page_length_eq lt xs c limit
  have hall : page lt xs c limit = afterCursor lt xs c := List.take_of_length_le (by omega)
  obtain ⟨pre, hpre⟩ := afterCursor_suffix ht h c
  have hc : cursorOf xs = some last.1 := by
    rw [← hpre, ← hall]; exact cursorOf_append_of_getLast? hlast
  have := page_next ht (pre := xs) (suf := []) (by rwa [List.append_nil]) limit
  rwa [List.append_nil, hc, List.take_nil] at this

/-- **How many requests**: for a listing of `n` items and effective page size `e = min (limit or 10) 30`, the
client loop is complete after `⌊n / e⌋ + 2` requests (the full pages, possibly one short page, and the empty page
that ends it) — e.g. 3 requests for 35 items at the maximum page size.  (`length + 1` of the other theorems is the
bound for page size 1.) -/
theorem paginate_complete_pages {lt : κ → κ → Bool} (ht : StrictTotal lt) {xs : List (κ × ν)} (h : Sorted lt xs)
    {limit : Option Nat} (hl : limit ≠ some 0) :
    fetchAll lt xs limit none (xs.length / effLimit limit + 2) = xs :=
  fetchAll_complete_pages ht h (effLimit_pos hl)

/-- The same for a model query (`page` of `sortedEntries` up to a projection). -/
theorem listing_complete_pages [DecidableEq κ] {α : Type} {lt : κ → κ → Bool} (ht : StrictTotal lt)
    {m : AMap κ ν} (hm : AMap.NodupKeys m) {limit : Option Nat} (hl : limit ≠ some 0)
    {q : Option κ → List α} {key : α → κ} {f : κ × ν → α}
    (hq : ∀ c, q c = (page lt (sortedEntries lt m) c limit).map f) (hk : ∀ x, key (f x) = x.1) :
    fetchLoop q key none (m.length / effLimit limit + 2) = (sortedEntries lt m).map f := by
  rw [fetchLoop_eq_fetchAll hq hk, ← sortedEntries_length lt m,
    fetchAll_complete_pages ht (sortedEntries_sorted hm ht) (effLimit_pos hl)]

/-- `AllAccounts` with the tight request bound. -/
theorem all_accounts_complete_pages {s : State} (hs : AMap.NodupKeys s.balances) (limit : Option Nat)
    (hl : limit ≠ some 0) :
    fetchLoop (fun c => queryAllAccounts s c limit) id none (s.balances.length / effLimit limit + 2)
      = (sortedEntries strLt s.balances).map (·.1) :=
  listing_complete_pages strictTotal_strLt hs hl (f := (·.1)) (key := id) (fun _ => rfl) (fun _ => rfl)

/-! ## Non-vacuity: concrete listings with more than 30 items -/

/-- 35 items with keys 0, 2, …, 68. -/
def xs35 : List (Nat × Nat) := (List.range 35).map (fun i => (2 * i, i))

theorem xs35_sorted : Sorted natLt xs35 := by unfold Sorted; decide +kernel
example : Sorted natLt xs35 := xs35_sorted
example : fetchAll natLt xs35 none none 36 = xs35 := by decide +kernel          -- 10+10+10+5, then an empty page
example : fetchAll natLt xs35 (some 1) none 36 = xs35 := by decide +kernel      -- 35 pages of one item
example : fetchAll natLt xs35 (some 31) none 36 = xs35 := by decide +kernel     -- capped: 30+5
example : fetchAll natLt xs35 (some 31) none 3 = xs35 := by decide +kernel      -- three requests suffice
example : fetchAll natLt xs35 (some 0) none 36 = [] := by decide +kernel        -- limit 0: nothing (excluded case)
example : (page natLt xs35 none none).length = 10 := by decide +kernel
example : (page natLt xs35 none (some 31)).length = 30 := by decide +kernel
example : (page natLt xs35 none (some 7)).length = 7 := by decide +kernel
example : page natLt xs35 (some 58) none = [(60, 30), (62, 31), (64, 32), (66, 33), (68, 34)] := by decide +kernel
example : page natLt xs35 (some 59) (some 2) = [(60, 30), (62, 31)] := by decide +kernel   -- cursor need not be a key
example : fetchAllDesc natLt xs35.reverse (some 4) none 36 = xs35.reverse := by decide +kernel
example : pageDesc natLt xs35.reverse (some 6) (some 5) = [(4, 2), (2, 1), (0, 0)] := by decide +kernel
example : fetchAll natLt (xs35.filter (fun x => x.2 % 3 == 0)) (some 5) none 36
    = xs35.filter (fun x => x.2 % 3 == 0) := by decide +kernel

/-- A cw20 state with 12 accounts and 3 allowances (two owners). -/
def sEx : State :=
  { supply := 78, mint := none,
    balances := [("m", 1), ("c", 2), ("a", 3), ("k", 4), ("b", 5), ("z", 6), ("d", 7), ("y", 8), ("e", 9),
                 ("x", 10), ("f", 11), ("g", 12)],
    allow := [(("a", "s2"), ⟨5, .never⟩), (("b", "s1"), ⟨6, .never⟩), (("a", "s1"), ⟨7, .never⟩)],
    allowSp := [(("s2", "a"), ⟨5, .never⟩), (("s1", "b"), ⟨6, .never⟩), (("s1", "a"), ⟨7, .never⟩)],
    version := ⟨CONTRACT_NAME, 2, 0, 0, none⟩ }

theorem sEx_nodup : NodupInv sEx :=
  ⟨by unfold AMap.NodupKeys AMap.keys; decide, by unfold AMap.NodupKeys AMap.keys; decide,
   by unfold AMap.NodupKeys AMap.keys; decide⟩

/-- `sortedEntries` is `List.mergeSort`, which the kernel does not evaluate: its value is identified as the sorted
permutation of the map. -/
theorem sEx_accounts : sortedEntries strLt sEx.balances = [("a", 3), ("b", 5), ("c", 2), ("d", 7), ("e", 9), ("f", 11),
      ("g", 12), ("k", 4), ("m", 1), ("x", 10), ("y", 8), ("z", 6)] :=
  Sorted.eq_of_perm strictTotal_strLt (sortedEntries_sorted sEx_nodup.balances strictTotal_strLt)
    (by unfold Sorted; decide +kernel) ((sortedEntries_perm _ _).trans (by decide +kernel))

example : queryAllAccounts sEx none none = ["a", "b", "c", "d", "e", "f", "g", "k", "m", "x"] := by
  simp only [queryAllAccounts, sEx_accounts]; decide +kernel


/-! ### Non-vacuity of the any-cursor theorems -/

example : fetchAll natLt xs35 (some 7) (some 41) 36 = xs35.filter (fun x => natLt 41 x.1) := by decide +kernel  -- cursor not a key
example : fetchAll natLt xs35 (some 7) (some 40) 36 = xs35.drop 21 := by decide +kernel                         -- cursor is a key
example : fetchAll natLt xs35 none (some 100) 36 = [] := by decide +kernel                                      -- beyond the end
example : xs35.filter (fun x => !natLt 41 x.1) ++ xs35.filter (fun x => natLt 41 x.1) = xs35 := by decide +kernel
example : fetchAll natLt xs35 (some 7) (some 41) 36 = xs35.filter (fun x => natLt 41 x.1) :=
  paginate_complete_after strictTotal_natLt xs35_sorted (by decide +kernel) 41 (by decide +kernel)
/-- `short_page_is_last`: the page after key 58 with limit 10 has 5 < 10 items; continuing from its last key 68
returns nothing. -/
example : (page natLt xs35 (some 58) none).length = 5 ∧ page natLt xs35 (some 68) none = [] := by decide +kernel
/-- `all_accounts_complete_after` on the 12-account state: from the non-existing cursor "ea" with pages of 4 the
loop returns the seven addresses above it. -/
example : fetchLoop (fun c => queryAllAccounts sEx c (some 4)) id (some "ea") 13 = ["f", "g", "k", "m", "x", "y", "z"] := by
  rw [all_accounts_complete_after sEx_nodup.balances (some 4) (by decide +kernel) "ea" (by decide +kernel), sEx_accounts]
  decide +kernel
/-- `owner_allowances_complete_after` / `spender_allowances_exact` on the same state. -/
example : fetchLoop (fun c => okItems (queryOwnerAllowances sEx ⟨true, "a"⟩ c (some 1))) (·.1) (some "s1") 3
    = [("s2", ⟨5, .never⟩)] := by
  have h : sortedEntries strLt (ownerPrefix sEx "a") = [("s1", ⟨7, .never⟩), ("s2", ⟨5, .never⟩)] :=
    (Sorted.eq_of_perm strictTotal_strLt
      (sortedEntries_sorted (ownerPrefix_nodup sEx_nodup.allow "a") strictTotal_strLt)
      (by unfold Sorted; decide +kernel) ((sortedEntries_perm _ _).trans (by decide +kernel)))
  rw [owner_allowances_complete_after sEx_nodup.allow ⟨true, "a"⟩ rfl (some 1) (by decide +kernel) "s1" (by decide +kernel), h]
  decide +kernel
example : ("b", ⟨6, .never⟩) ∈ sortedEntries strLt (spenderPrefix sEx "s1") :=
  (spender_allowances_exact sEx_nodup.allowSp "b" "s1" ⟨6, .never⟩).mpr (by decide +kernel)


/-- `paginate_complete_pages`: 35 items, page size 30: 35 / 30 + 2 = 3 requests; page size 10: 5 requests. -/
example : fetchAll natLt xs35 (some 31) none (xs35.length / effLimit (some 31) + 2) = xs35 :=
  paginate_complete_pages strictTotal_natLt xs35_sorted (by decide +kernel)
example : xs35.length / effLimit (some 31) + 2 = 3 ∧ xs35.length / effLimit none + 2 = 5 := by decide +kernel
example : fetchAll natLt xs35 (some 31) none 1 ≠ xs35 := by decide +kernel   -- one request is not enough (two already return all 35 items; the third sees the empty page)

end CwPlus.Props.C20
