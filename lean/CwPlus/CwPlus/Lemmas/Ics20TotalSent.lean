import CwPlus.Lemmas.Ics20Migrate
/-!
The ghost ledger `sent` of C11/C12 moves in lock step with the contract's own `total_sent` counter — also
across a migration, where `sent` is re-baselined: `v2::update_balances` adds the same difference to
`outstanding` and to `total_sent`.
-/
namespace CwPlus.Ics20
open CwPlus

/-- `migrate` (any stored version) on distinct keys: per key, `outstanding` does not decrease and
`total_sent` grows by exactly the growth of `outstanding`. -/
theorem migrate_delta {s s' : State} {gas : Option Nat} {hold : Denom → Option Nat}
    (hnd : AMap.NodupKeys s.chan) (h : migrate s gas hold = .ok s') (k : Key) :
    outAt s.chan k ≤ outAt s'.chan k ∧ totAt s'.chan k + outAt s.chan k = totAt s.chan k + outAt s'.chan k := by
  rcases (migrate_books h).2 with e | ⟨_, ch, _, hm⟩
  · rw [e]; exact ⟨Nat.le_refl _, rfl⟩
  · obtain ⟨r1, r2⟩ := updateDenoms_full hnd hm
    by_cases hk : k ∈ AMap.keys s.chan ∧ k.1 = ch
    · obtain ⟨hk1, hk2⟩ := hk
      obtain ⟨c, d⟩ := k
      simp only at hk2; subst hk2
      cases hg : s.chan.get? (c, d) with
      | none => exact absurd hk1 (AMap.get?_eq_none_iff.mp hg)
      | some cs =>
        obtain ⟨bal, _, hle, hget⟩ := r1 d cs hg
        simp only [outAt, totAt, hg, hget]
        omega
    · have : k ∉ AMap.keys s.chan ∨ k.1 ≠ ch := by
        by_cases h1 : k ∈ AMap.keys s.chan
        · right; intro h2; exact hk ⟨h1, h2⟩
        · left; exact h1
      have e := r2 k this
      simp only [outAt, totAt, e]
      exact ⟨Nat.le_refl _, trivial⟩

/-- One transaction: `total_sent` and the ghost `sent` move by the same amount, for every key. -/
theorem exec_totSent {w w' : World} {g : Ghost} {blk : Block} {op : Op} {o : Outcome}
    (hnd : AMap.NodupKeys w.st.chan) (hi : LedgerInv (w, g)) (h : w.exec blk op = .ok (w', o)) (k : Key) :
    totAt w'.st.chan k + g.sent k = totAt w.st.chan k + (g.update w' op o).sent k := by
  have inc : ∀ {ch : ChanMap} {c d amt}, increaseBalance w.st.chan c d amt = .ok ch →
      totAt ch k + g.sent k = totAt w.st.chan k + bump g.sent (c, d) amt k := by
    intro ch c d amt hinc
    obtain ⟨_, ht, _⟩ := increaseBalance_ok hinc
    rw [ht k, bump_apply]
    split <;> omega
  have red : ∀ {ch : ChanMap} {c d amt}, reduceBalance w.st.chan c d amt = .ok ch → totAt ch k = totAt w.st.chan k := by
    intro ch c d amt hred
    obtain ⟨_, _, _, _, _, ht⟩ := reduceBalance_ok hred
    exact ht k
  cases exec_tx h with
  | quiet s' hw hchan _ _ _ hg _ _ =>
    subst hw; rw [hg]
    show totAt s'.chan k + _ = _
    rw [hchan]
  | migrate gas s' hop hm hw _ =>
    subst hop hw
    obtain ⟨h1, h2⟩ := migrate_delta hnd hm k
    have := hi.1 k
    simp only at this
    simp only [Ghost.update]
    omega
  | escrow w1 out ch hop hinc _ _ _ hw _ _ _ _ ho => subst hw ho; rw [Ghost.update_transfer hop]; exact inc hinc
  | redeem p rv tv f d amt ch sub hop _ hred _ _ hst ho =>
    subst hop
    simp only [Ghost.update, ho.1, ho.2, hst, red hred]
  | refund chan p sv tv f ch sub hop hred _ _ _ hst =>
    rw [Ghost.update_refund hop, (failure_fields g chan p o).1, hst]
    simp only
    rw [red hred]
  | acked chan p sv tv f hop hw _ => subst hop hw; rfl

/-- The ghost `sent` and the contract's `total_sent` differ by a constant along every history: `t0`, `o0` are
`total_sent` and `outstanding` of the start state (`Ghost.init` starts `sent` at the outstanding balance). -/
def TotInv (t0 o0 : Key → Nat) (wg : World × Ghost) : Prop :=
  ∀ k, totAt wg.1.st.chan k + o0 k = wg.2.sent k + t0 k

/-- One transaction keeps the storage well-formed, the ledger consistent and `sent` in lock step with
`total_sent` (the three travel together: the lock step at a migration needs the other two). -/
theorem exec_totInv {t0 o0 : Key → Nat} {w w' : World} {g : Ghost} {blk : Block} {op : Op} {o : Outcome}
    (hI : WellFormed w.st ∧ LedgerInv (w, g) ∧ TotInv t0 o0 (w, g)) (h : w.exec blk op = .ok (w', o)) :
    WellFormed w'.st ∧ LedgerInv (w', g.update w' op o) ∧ TotInv t0 o0 (w', g.update w' op o) := by
  obtain ⟨hwf, hi, ht⟩ := hI
  refine ⟨exec_wellFormed hwf h, exec_ledger hi h, fun k => ?_⟩
  have := exec_totSent hwf.1 hi h k
  have := ht k
  simp only at *
  omega

theorem runG_totInv {t0 o0 : Key → Nat} {wg : World × Ghost} (ops : List (Block × Op))
    (hwf : WellFormed wg.1.st) (hi : LedgerInv wg) (ht : TotInv t0 o0 wg) : TotInv t0 o0 (runG wg ops) :=
  (runG_induction (P := fun wg => WellFormed wg.1.st ∧ LedgerInv wg ∧ TotInv t0 o0 wg)
    (fun _ _ _ _ _ _ hI h => exec_totInv hI h) ops ⟨hwf, hi, ht⟩).2.2

/-- Ghosts of a start state with packets already in flight (sent by an earlier history, e.g. under the
old code before a migration): as `Ghost.init`, but IBC core may still deliver one acknowledgement or
timeout for each packet of `fl`. -/
def Ghost.initWith (w : World) (fl : List (String × Packet)) : Ghost := { Ghost.init w with inflight := fl }

theorem Ghost.initWith_nil (w : World) : Ghost.initWith w [] = Ghost.init w := rfl

theorem ledgerInv_initWith (w : World) (fl : List (String × Packet)) : LedgerInv (w, Ghost.initWith w fl) := by
  constructor <;> intro k <;> simp [Ghost.init, Ghost.initWith]

end CwPlus.Ics20
