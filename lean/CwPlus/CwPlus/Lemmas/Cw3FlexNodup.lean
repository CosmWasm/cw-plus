import CwPlus.Lemmas.Cw3Flex
import CwPlus.Lemmas.Cw3CoreNodup
import CwPlus.Lemmas.Cw4GroupNodup
/-!
# cw3-flex-multisig: `PROPOSALS` never holds an id twice; the group's members stay distinct

* `reachable_nodup`: in every reachable world the proposals map of the multisig holds every id at most once;
* `run_group_nodup`: the group contract of the world keeps `AMap.NodupKeys group.members.cur` along every
  history of the world (the group is written by `Action.group` transactions and by proposals that call
  `UpdateMembers`), provided it held initially — `Reachable` starts from an *arbitrary* group state, so the
  initial group must itself come from an accepted `Cw4Group.instantiate` and a history of group calls
  (`Cw4Group.instantiate_nodup`, `Cw4Group.run_nodup`).
-/
namespace CwPlus.Cw3Flex
open CwPlus CwPlus.Cw3 CwPlus.Cw3Core

theorem execute_nodup {s s' : State} {g : Cw4Group.State} {self : Addr} {blk : Block} {snd : Addr} {funds : List Coin}
    {m : ExecMsg} {out : List Out} (hn : AMap.NodupKeys s.core.proposals)
    (h : execute s g self blk snd funds m = .ok (s', out)) : AMap.NodupKeys s'.core.proposals := by
  cases execute_coreStep h with
  | propose _ _ _ _ _ _ _ _ _ _ _ hp => exact propose_nodup hp hn
  | vote _ _ _ _ hv => exact vote_nodup hv hn
  | execute _ _ _ he => exact Cw3Core.execute_nodup he hn
  | close _ hcl => exact close_nodup hcl hn
  | same e => exact e ▸ hn

theorem reachable_nodup {ext : Ext} {fuel : Nat} {w : World} (h : Reachable ext fuel w) :
    AMap.NodupKeys w.flex.core.proposals :=
  (reachable_state_inv (P := fun s => AMap.NodupKeys s.core.proposals)
    (fun hi => instantiate_core hi ▸ Cw3Core.nodup_empty) (fun _ hn he => execute_nodup hn he) h).2

theorem run_group_nodup (ext : Ext) (fuel : Nat) (ops : List Op) (w : World)
    (hg : AMap.NodupKeys w.group.members.cur) : AMap.NodupKeys (run ext fuel w ops).group.members.cur :=
  run_inv ext (fun w => AMap.NodupKeys w.group.members.cur) fuel
    (fun w op hq => step_inv ext (fun w => AMap.NodupKeys w.group.members.cur) fuel w op
      (fun _ _ _ _ _ _ hq _ => hq)
      (fun _ _ _ _ _ hq hc => Cw4Group.execute_nodup hq hc)
      (fun _ _ hq => hq) (fun _ _ hq => hq) hq) ops w hg

end CwPlus.Cw3Flex
