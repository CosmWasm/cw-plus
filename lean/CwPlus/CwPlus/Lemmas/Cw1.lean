import CwPlus.Lemmas.History
import CwPlus.Model.Cw1Subkeys
/-!
# cw1-whitelist and cw1-subkeys: what each handler does

One characterisation per handler of the two models (`execute … (.ctor …) = .ok (s', out) ↔ …`) and the fact that
cw1-subkeys acts on its embedded admin list exactly as cw1-whitelist does (`Cw1Subkeys.step_cfg`).  The property
files use these and do not unfold the handlers again.  Core only.
-/
namespace CwPlus

namespace Cw1Whitelist

theorem isAdmin_iff {c : AdminList} {a : String} : c.isAdmin a = true ↔ a ∈ c.admins := by
  simp [AdminList.isAdmin]

theorem canModify_iff {c : AdminList} {a : String} : c.canModify a = true ↔ c.mutable = true ∧ a ∈ c.admins := by
  simp [AdminList.canModify, isAdmin_iff]

/-- `map_validate` succeeds exactly when every entry validates, and then returns the submitted strings as they
are: same order, duplicates kept. -/
theorem mapValidate_ok_iff (l : List AddrArg) (a : List Addr) :
    mapValidate l = .ok a ↔ (∀ x ∈ l, x.valid = true) ∧ a = l.map (·.text) := by
  -- the model computes `pure x`, so `simp` arrives at `x = a`; `@eq_comm _ _ a` turns exactly these equations round
  -- (plain `eq_comm` would loop).  The same device orients `s'` and `out` in the handler lemmas below.
  induction l generalizing a with
  | nil => simp [mapValidate, @eq_comm _ _ a]
  | cons x rest ih => simp [mapValidate, ih, and_assoc, @eq_comm _ _ a]

theorem instantiate_ok_iff (m0 : InstMsg) (s0 : State) :
    instantiate m0 = .ok s0 ↔ (∀ x ∈ m0.admins, x.valid = true) ∧ s0 = ⟨m0.admins.map (·.text), m0.mutable⟩ := by
  simp [instantiate, mapValidate_ok_iff, and_assoc, @eq_comm _ _ s0]

variable {s s' : State} {blk : Block} {snd : Addr} {out : List CosmosMsg}

theorem execute_execute_ok_iff {msgs : List CosmosMsg} :
    execute s blk snd (.execute msgs) = .ok (s', out) ↔ snd ∈ s.admins ∧ s' = s ∧ out = msgs := by
  simp [execute, execExecute, isAdmin_iff, @eq_comm _ _ s', @eq_comm _ _ out]

theorem execute_freeze_ok_iff :
    execute s blk snd .freeze = .ok (s', out) ↔
      s.mutable = true ∧ snd ∈ s.admins ∧ s' = { s with mutable := false } ∧ out = [] := by
  simp only [execute, execFreeze, bind_pure_comp, check_map_ok, canModify_iff, Prod.mk.injEq, and_assoc,
    @eq_comm _ _ s', @eq_comm _ _ out]

theorem execute_updateAdmins_ok_iff {l : List AddrArg} :
    execute s blk snd (.updateAdmins l) = .ok (s', out) ↔
      s.mutable = true ∧ snd ∈ s.admins ∧ (∀ x ∈ l, x.valid = true) ∧
        s' = { s with admins := l.map (·.text) } ∧ out = [] := by
  simp only [execute, execUpdateAdmins, bind_pure_comp, check_bind_ok, canModify_iff, Res.map_ok, mapValidate_ok_iff,
    Prod.mk.injEq, and_assoc, exists_and_left, exists_eq_left, @eq_comm _ _ s', @eq_comm _ _ out]

/-- A transaction leaves the state as it is, unless it is a `Freeze` or an `UpdateAdmins` of validated entries sent
by a current admin while the contract is mutable. -/
theorem step_cases (s : State) (blk : Block) (snd : Addr) (m : Msg) :
    step s blk snd m = s ∨ (s.mutable = true ∧ snd ∈ s.admins ∧
      ((m = .freeze ∧ step s blk snd m = { s with mutable := false }) ∨
       ∃ l, m = .updateAdmins l ∧ (∀ x ∈ l, x.valid = true) ∧ step s blk snd m = { s with admins := l.map (·.text) })) := by
  unfold step
  split
  · rename_i s' out he
    cases m with
    | execute msgs => exact .inl (execute_execute_ok_iff.mp he).2.1
    | freeze =>
      obtain ⟨hm, ha, rfl, _⟩ := execute_freeze_ok_iff.mp he
      exact .inr ⟨hm, ha, .inl ⟨rfl, rfl⟩⟩
    | updateAdmins l =>
      obtain ⟨hm, ha, hv, rfl, _⟩ := execute_updateAdmins_ok_iff.mp he
      exact .inr ⟨hm, ha, .inr ⟨l, rfl, hv, rfl⟩⟩
  · exact .inl rfl

/-- Nobody who may not modify the admin list changes anything: a frozen contract and a contract without admins are the
two ways in which that holds of every sender. -/
theorem step_of_not_canModify {s : State} {snd : Addr} (h : s.canModify snd = false) (blk : Block) (m : Msg) :
    step s blk snd m = s := by
  rcases step_cases s blk snd m with e | ⟨hm, ha, _⟩
  · exact e
  · rw [canModify_iff.mpr ⟨hm, ha⟩] at h; cases h

end Cw1Whitelist

namespace Cw1Subkeys
open Cw1Whitelist (AddrArg CosmosMsg AdminList)

theorem instantiate_ok_iff (m0 : InstMsg) (s0 : State) :
    instantiate m0 = .ok s0 ↔
      (∀ x ∈ m0.admins, x.valid = true) ∧
      s0 = { cfg := ⟨m0.admins.map (·.text), m0.mutable⟩, allowances := [], permissions := [],
             cw2 := some ⟨CONTRACT_NAME, some CONTRACT_VERSION⟩ } := by
  simp [instantiate, Cw1Whitelist.instantiate_ok_iff, and_assoc, @eq_comm _ _ s0]

/-- `migrate` succeeds exactly when the cw2 item exists and its version parses; it then stores the current name
and version over a strictly older version and changes nothing otherwise. -/
theorem migrate_eq_ok_iff {s s' : State} :
    migrate s = .ok s' ↔ ∃ c v, s.cw2 = some c ∧ c.version = some v ∧
      s' = if SemVer.lt v CONTRACT_VERSION then { s with cw2 := some ⟨CONTRACT_NAME, some CONTRACT_VERSION⟩ } else s := by
  unfold migrate
  cases s.cw2 with
  | none => simp
  | some c =>
    cases hv : c.version with
    | none =>
      simp only [hv, Res.error_ne_ok, Option.some.injEq, exists_and_left, exists_eq_left', reduceCtorEq, false_and,
        exists_const]
    | some v =>
      by_cases hl : SemVer.lt v CONTRACT_VERSION = true <;>
        simp only [hv, hl, Bool.false_eq_true, ↓reduceIte, Res.pure_ok, Option.some.injEq, exists_and_left,
          exists_eq_left', @eq_comm _ _ s']

variable {s s' : State} {blk : Block} {snd : Addr} {out : List CosmosMsg}

theorem checkMsgs_nil_ok_iff : checkMsgs s blk snd [] = .ok s' ↔ s' = s := by
  simp [checkMsgs, @eq_comm _ _ s']

theorem checkMsgs_cons_ok_iff {m : CosmosMsg} {ms : List CosmosMsg} :
    checkMsgs s blk snd (m :: ms) = .ok s' ↔ ∃ s1, checkMsg s blk snd m = .ok s1 ∧ checkMsgs s1 blk snd ms = .ok s' := by
  simp only [checkMsgs, Res.bind_ok]

/-- One iteration leaves the state alone or rewrites the sender's entry of `ALLOWANCES`. -/
theorem checkMsg_state {m : CosmosMsg} (h : checkMsg s blk snd m = .ok s') :
    s' = s ∨ ∃ a, s' = { s with allowances := s.allowances.set snd a } := by
  unfold checkMsg at h
  split at h
  · split at h
    · cases h
    · simp at h; exact .inl h.2.symm
  · split at h
    · cases h
    · simp at h; exact .inl h.2.symm
  · split at h
    · cases h
    · simp at h; obtain ⟨_, b, _, rfl⟩ := h; exact .inr ⟨{ ‹Allowance› with balance := b }, rfl⟩
  · cases h

/-- What every iteration keeps, the loop keeps. -/
theorem checkMsgs_invariant {P : State → Prop} {msgs : List CosmosMsg} (h : checkMsgs s blk snd msgs = .ok s')
    (h0 : P s) (hstep : ∀ s1 s2 m, P s1 → checkMsg s1 blk snd m = .ok s2 → P s2) : P s' := by
  induction msgs generalizing s with
  | nil => rw [checkMsgs_nil_ok_iff.mp h]; exact h0
  | cons m ms ih =>
    obtain ⟨s1, h1, h2⟩ := checkMsgs_cons_ok_iff.mp h
    exact ih h2 (hstep s s1 m h0 h1)

/-- The loop touches nothing but the sender's allowance. -/
theorem checkMsgs_frame {msgs : List CosmosMsg} (h : checkMsgs s blk snd msgs = .ok s') :
    s'.cfg = s.cfg ∧ s'.permissions = s.permissions ∧ s'.cw2 = s.cw2 ∧
      ∀ x, x ≠ snd → s'.allowances.get? x = s.allowances.get? x := by
  refine checkMsgs_invariant (P := fun s1 => s1.cfg = s.cfg ∧ s1.permissions = s.permissions ∧ s1.cw2 = s.cw2 ∧
    ∀ x, x ≠ snd → s1.allowances.get? x = s.allowances.get? x) h ⟨rfl, rfl, rfl, fun _ _ => rfl⟩ fun s1 s2 m hi h1 => ?_
  rcases checkMsg_state h1 with rfl | ⟨a, rfl⟩
  · exact hi
  · exact ⟨hi.1, hi.2.1, hi.2.2.1, fun x hx => (AMap.get?_set_ne _ _ _ _ (Ne.symm hx)).trans (hi.2.2.2 x hx)⟩

/-- `Execute`: an admin's list is relayed as it is; anybody else's goes through the permission loop. -/
theorem execute_execute_ok_iff {msgs : List CosmosMsg} :
    execute s blk snd (.execute msgs) = .ok (s', out) ↔
      ((s.cfg.isAdmin snd = true ∧ s' = s) ∨ (s.cfg.isAdmin snd = false ∧ checkMsgs s blk snd msgs = .ok s')) ∧
        out = msgs := by
  cases ha : s.cfg.isAdmin snd
  · simp only [execute, execExecute, ha, Bool.false_eq_true, if_false, Res.bind_ok, Res.pure_ok, Prod.mk.injEq]
    constructor
    · rintro ⟨_, h, rfl, rfl⟩; exact ⟨.inr ⟨trivial, h⟩, rfl⟩
    · rintro ⟨⟨h, _⟩ | ⟨_, h⟩, rfl⟩
      · cases h
      · exact ⟨_, h, rfl, rfl⟩
  · simp [execute, execExecute, ha, @eq_comm _ _ s', @eq_comm _ _ out]

/-- `Freeze` is the whitelist's `Freeze` on the embedded admin list. -/
theorem execute_freeze_ok_iff :
    execute s blk snd .freeze = .ok (s', out) ↔
      ∃ c, Cw1Whitelist.execute s.cfg blk snd .freeze = .ok (c, out) ∧ s' = { s with cfg := c } := by
  simp only [execute, execFreeze, Cw1Whitelist.execute, bind_pure_comp, Res.map_ok, Prod.mk.injEq, Prod.exists,
    exists_eq_right_right', @eq_comm _ _ s', @eq_comm _ _ out]

/-- `UpdateAdmins` is the whitelist's `UpdateAdmins` on the embedded admin list. -/
theorem execute_updateAdmins_ok_iff {l : List AddrArg} :
    execute s blk snd (.updateAdmins l) = .ok (s', out) ↔
      ∃ c, Cw1Whitelist.execute s.cfg blk snd (.updateAdmins l) = .ok (c, out) ∧ s' = { s with cfg := c } := by
  simp only [execute, execUpdateAdmins, Cw1Whitelist.execute, bind_pure_comp, Res.map_ok, Prod.mk.injEq, Prod.exists,
    exists_eq_right_right', @eq_comm _ _ s', @eq_comm _ _ out]

theorem execute_freeze_isOk :
    (execute s blk snd .freeze).isOk = (Cw1Whitelist.execute s.cfg blk snd .freeze).isOk := by
  simp only [execute, execFreeze, Cw1Whitelist.execute]
  cases Cw1Whitelist.execFreeze s.cfg snd <;> rfl

theorem execute_updateAdmins_isOk {l : List AddrArg} :
    (execute s blk snd (.updateAdmins l)).isOk = (Cw1Whitelist.execute s.cfg blk snd (.updateAdmins l)).isOk := by
  simp only [execute, execUpdateAdmins, Cw1Whitelist.execute]
  cases Cw1Whitelist.execUpdateAdmins s.cfg snd l <;> rfl

theorem execute_increase_ok_iff {sp : AddrArg} {c : Coin} {e : Option Expiration} :
    execute s blk snd (.increaseAllowance sp c e) = .ok (s', out) ↔
      s.cfg.isAdmin snd = true ∧ sp.valid = true ∧ sp.text ≠ snd ∧
        ∃ a, incFn blk c e (s.allowances.get? sp.text) = .ok a ∧
          s' = { s with allowances := s.allowances.set sp.text a } ∧ out = [] := by
  simp only [execute, execIncreaseAllowance, ne_eq, decide_not, bind_pure_comp, check_bind_ok, Bool.not_eq_eq_eq_not,
    Bool.not_true, decide_eq_false_iff_not, Res.map_ok, Prod.mk.injEq, @eq_comm _ _ s', @eq_comm _ _ out]

theorem execute_decrease_ok_iff {sp : AddrArg} {c : Coin} {e : Option Expiration} :
    execute s blk snd (.decreaseAllowance sp c e) = .ok (s', out) ↔
      s.cfg.isAdmin snd = true ∧ sp.valid = true ∧ sp.text ≠ snd ∧
        ∃ a, decFn blk c e (s.allowances.get? sp.text) = .ok a ∧
          s' = { s with allowances :=
            if a.balance.isEmpty then s.allowances.erase sp.text else s.allowances.set sp.text a } ∧ out = [] := by
  simp only [execute, execDecreaseAllowance, check_bind_ok, decide_eq_true_eq]
  refine and_congr_right fun _ => and_congr_right fun _ => and_congr_right fun _ => ?_
  rw [Res.bind_ok]
  refine exists_congr fun a => and_congr_right fun _ => ?_
  split <;> simp [*, @eq_comm _ _ s', @eq_comm _ _ out]

theorem execute_setPermissions_ok_iff {sp : AddrArg} {p : Permissions} :
    execute s blk snd (.setPermissions sp p) = .ok (s', out) ↔
      s.cfg.isAdmin snd = true ∧ sp.valid = true ∧ sp.text ≠ snd ∧
        s' = { s with permissions := s.permissions.set sp.text p } ∧ out = [] := by
  simp [execute, execSetPermissions, @eq_comm _ _ s', @eq_comm _ _ out]

/-- What a successful call relays and writes: `Execute` relays the list and at most charges the sender's allowance;
every other call relays nothing, comes from an admin and writes one of the three fields. -/
theorem execute_ok_cases {m : Msg} (h : execute s blk snd m = .ok (s', out)) :
    (∃ msgs, m = .execute msgs ∧ out = msgs ∧
      (s' = s ∨ s.cfg.isAdmin snd = false ∧ checkMsgs s blk snd msgs = .ok s')) ∨
    out = [] ∧ s.cfg.isAdmin snd = true ∧
      ((∃ c, s' = { s with cfg := c } ∧ (m = .freeze ∨ ∃ l, m = .updateAdmins l)) ∨
       (∃ sp c e al, (m = .increaseAllowance sp c e ∨ m = .decreaseAllowance sp c e) ∧ sp.valid = true ∧
          sp.text ≠ snd ∧ s' = { s with allowances := al } ∧ ∀ y, sp.text ≠ y → al.get? y = s.allowances.get? y) ∨
       (∃ sp p, m = .setPermissions sp p ∧ sp.valid = true ∧ sp.text ≠ snd ∧
          s' = { s with permissions := s.permissions.set sp.text p })) := by
  cases m with
  | execute msgs =>
    obtain ⟨hs, rfl⟩ := execute_execute_ok_iff.mp h
    exact .inl ⟨_, rfl, rfl, hs.imp (·.2) id⟩
  | freeze =>
    obtain ⟨c, hc, rfl⟩ := execute_freeze_ok_iff.mp h
    obtain ⟨_, ha, _, rfl⟩ := Cw1Whitelist.execute_freeze_ok_iff.mp hc
    exact .inr ⟨rfl, Cw1Whitelist.isAdmin_iff.mpr ha, .inl ⟨c, rfl, .inl rfl⟩⟩
  | updateAdmins l =>
    obtain ⟨c, hc, rfl⟩ := execute_updateAdmins_ok_iff.mp h
    obtain ⟨_, ha, _, _, rfl⟩ := Cw1Whitelist.execute_updateAdmins_ok_iff.mp hc
    exact .inr ⟨rfl, Cw1Whitelist.isAdmin_iff.mpr ha, .inl ⟨c, rfl, .inr ⟨l, rfl⟩⟩⟩
  | increaseAllowance sp c e =>
    obtain ⟨ha, hv, hne, a, _, rfl, rfl⟩ := execute_increase_ok_iff.mp h
    exact .inr ⟨rfl, ha, .inr (.inl ⟨sp, c, e, _, .inl rfl, hv, hne, rfl, fun y hy => AMap.get?_set_ne _ _ _ _ hy⟩)⟩
  | decreaseAllowance sp c e =>
    obtain ⟨ha, hv, hne, a, _, rfl, rfl⟩ := execute_decrease_ok_iff.mp h
    refine .inr ⟨rfl, ha, .inr (.inl ⟨sp, c, e, _, .inr rfl, hv, hne, rfl, fun y hy => ?_⟩)⟩
    split
    · exact AMap.get?_erase_ne _ _ _ hy
    · exact AMap.get?_set_ne _ _ _ _ hy
  | setPermissions sp p =>
    obtain ⟨ha, hv, hne, rfl, rfl⟩ := execute_setPermissions_ok_iff.mp h
    exact .inr ⟨rfl, ha, .inr (.inr ⟨sp, p, rfl, hv, hne, rfl⟩)⟩

/-- The whitelist message that acts on the embedded admin list as `m` does (`Execute []` changes nothing). -/
def adminMsg : Msg → Cw1Whitelist.Msg
  | .freeze => .freeze
  | .updateAdmins l => .updateAdmins l
  | _ => .execute []

theorem adminMsg_eq_freeze {m : Msg} (h : adminMsg m = .freeze) : m = .freeze := by
  cases m <;> first | rfl | cases h

theorem adminMsg_eq_updateAdmins {m : Msg} {l : List AddrArg} (h : adminMsg m = .updateAdmins l) :
    m = .updateAdmins l := by
  cases m <;> first | (cases h; rfl) | cases h

/-- The admin-list part of a cw1-subkeys transaction is a cw1-whitelist transaction. -/
theorem step_cfg (s : State) (blk : Block) (snd : Addr) (m : Msg) :
    (step s blk snd m).cfg = Cw1Whitelist.step s.cfg blk snd (adminMsg m) := by
  have hex : ∀ msgs, Cw1Whitelist.step s.cfg blk snd (.execute msgs) = s.cfg := fun msgs => by
    rcases Cw1Whitelist.step_cases s.cfg blk snd (.execute msgs) with h | ⟨_, _, ⟨h, _⟩ | ⟨_, h, _⟩⟩
    · exact h
    · cases h
    · cases h
  cases m with
  | freeze =>
    simp only [step, Cw1Whitelist.step, execute, Cw1Whitelist.execute, execFreeze, adminMsg]
    cases Cw1Whitelist.execFreeze s.cfg snd <;> rfl
  | updateAdmins l =>
    simp only [step, Cw1Whitelist.step, execute, Cw1Whitelist.execute, execUpdateAdmins, adminMsg]
    cases Cw1Whitelist.execUpdateAdmins s.cfg snd l <;> rfl
  | _ =>
    -- the other four kinds leave the admin list alone, as `Execute []` does in the whitelist
    show _ = Cw1Whitelist.step s.cfg blk snd (.execute []); rw [hex]; unfold step; split
    · rename_i s' out he
      rcases execute_ok_cases he with ⟨_, _, _, rfl | ⟨_, h1⟩⟩ |
        ⟨_, _, ⟨_, _, hm | ⟨_, hm⟩⟩ | ⟨_, _, _, _, _, _, _, rfl, _⟩ | ⟨_, _, _, _, _, rfl⟩⟩
      · rfl
      · exact (checkMsgs_frame h1).1
      · cases hm
      · cases hm
      · rfl
      · rfl
    · rfl

end Cw1Subkeys
end CwPlus
